import MuscleModel.Containers.TabInv

/-! What the operations do to the content and to the iteration order.  With `F` the keys other than `k`, every move of
`k` yields `F.take i ++ k :: F.drop i` for the position `i` the operation names (`keys_toPos`); the early exits of the
`MoveTo…Aux` functions are the cases where `k` is there already.  `Put` leaves `F` alone in every kind of table
(`erase_putAux`), so a positional put is its move. -/

namespace Muscle.Containers
variable {K V : Type} [DecidableEq K]

namespace Tab
variable (lt? : Option (K × V → K × V → Bool))

theorem reposition_perm {tb : Tab K V} (k : K) : (tb.reposition lt? k).m.Perm tb.m := by
  cases lt? with
  | none => exact List.Perm.refl _
  | some lt => rw [m_reposition]; exact repositionM_perm lt tb.m k

theorem valueChanged_perm {tb : Tab K V} (k : K) : (tb.valueChanged lt? k).m.Perm tb.m := by
  unfold valueChanged
  split
  · exact List.Perm.refl _
  · exact reposition_perm lt? k

theorem putAux_perm {tb : Tab K V} (k : K) (v : V) :
    (tb.putAux lt? k v).m.Perm (if has tb.m k then setVal tb.m k v else (k, v) :: tb.m) := by
  by_cases hh : has tb.m k = true
  · rw [putAux_of_has lt? v hh, if_pos hh]; exact valueChanged_perm lt? k
  · rw [putAux_of_not_has lt? v hh, if_neg hh]; exact linkNew_perm lt? tb k v

theorem get_putAux {tb : Tab K V} (k : K) (v : V) (hn : (keys tb.m).Nodup) (k' : K) :
    get (tb.putAux lt? k v).m k' = if k = k' then some v else get tb.m k' := by
  have hp := putAux_perm lt? (tb := tb) k v
  by_cases hh : has tb.m k = true
  · rw [if_pos hh] at hp
    rw [get_perm hp.symm (by rw [keys_setVal]; exact hn) k']
    by_cases hk : k = k'
    · rw [if_pos hk, ← hk]; exact get_setVal_same v (has_iff.mp hh)
    · rw [if_neg hk]; exact get_setVal_other _ v (Ne.symm hk)
  · rw [if_neg hh] at hp
    rw [get_perm hp.symm (List.nodup_cons.mpr ⟨fun hm => hh (has_iff.mpr hm), hn⟩) k']
    rfl

theorem length_putAux {tb : Tab K V} (k : K) (v : V) :
    (tb.putAux lt? k v).m.length = if has tb.m k then tb.m.length else tb.m.length + 1 := by
  have hp := (putAux_perm lt? (tb := tb) k v).length_eq
  by_cases hh : has tb.m k = true
  · rw [if_pos hh] at hp ⊢; simpa using hp
  · rw [if_neg hh] at hp ⊢; simpa using hp

theorem length_removeKey {tb : Tab K V} (k : K) (hn : (keys tb.m).Nodup) :
    (tb.removeKey k).m.length = if has tb.m k then tb.m.length - 1 else tb.m.length := by
  by_cases hh : has tb.m k = true
  · rw [removeKey_of_has hh, if_pos hh]
    have := length_erase hn (has_iff.mp hh)
    show (erase tb.m k).length = _
    omega
  · rw [removeKey_of_not_has hh, if_neg hh]

theorem putAux_plain (tb : Tab K V) (k : K) (v : V) :
    tb.putAux none k v = { tb with m := if has tb.m k then setVal tb.m k v else tb.m ++ [(k, v)] } := by
  unfold putAux valueChanged reposition linkNew
  by_cases hh : has tb.m k = true <;> simp [hh]

theorem keys_putAux_plain (tb : Tab K V) (k : K) (v : V) :
    keys (tb.putAux none k v).m = if k ∈ keys tb.m then keys tb.m else keys tb.m ++ [k] := by
  rw [putAux_plain]
  by_cases hk : k ∈ keys tb.m
  · rw [if_pos hk, if_pos (has_iff.mpr hk)]; exact keys_setVal _ _ _
  · rw [if_neg hk, if_neg (fun hh => hk (has_iff.mp hh))]; exact keys_append _ _

theorem erase_putAux (tb : Tab K V) (k : K) (v : V) : erase (tb.putAux lt? k v).m k = erase tb.m k := by
  by_cases hh : has tb.m k = true
  · rw [putAux_of_has lt? v hh, valueChanged]
    split
    · exact erase_setVal _ _ _
    · cases lt? with
      | none => exact erase_setVal _ _ _
      | some lt => rw [m_reposition, erase_repositionM]; exact erase_setVal _ _ _
  · rw [putAux_of_not_has lt? v hh]
    have happ : erase (tb.m ++ [(k, v)]) k = erase tb.m k := by
      rw [erase, List.filter_append, List.filter_cons_of_neg (by simp), List.filter_nil, List.append_nil]; rfl
    unfold linkNew
    cases lt? with
    | none => exact happ
    | some lt =>
      simp only
      split
      · exact erase_insertInOrder lt (k, v) tb.m
      · exact happ

theorem filter_keys_putAux (tb : Tab K V) (k : K) (v : V) :
    (keys (tb.putAux lt? k v).m).filter (fun x => x ≠ k) = (keys tb.m).filter (fun x => x ≠ k) := by
  rw [← keys_erase, ← keys_erase, erase_putAux]

theorem mem_keys_putAux {tb : Tab K V} {k : K} (v : V) {x : K} :
    x ∈ keys (tb.putAux lt? k v).m ↔ x = k ∨ x ∈ keys tb.m := by
  rw [(keys_perm (putAux_perm lt? k v)).mem_iff]
  split
  · rename_i hh
    rw [keys_setVal]
    exact ⟨Or.inr, fun h => h.elim (fun e => e ▸ has_iff.mp hh) id⟩
  · exact List.mem_cons

theorem nodup_putAux {tb : Tab K V} (k : K) (v : V) (hn : (keys tb.m).Nodup) : (keys (tb.putAux lt? k v).m).Nodup := by
  refine nodup_perm (putAux_perm lt? k v).symm ?_
  split
  · rw [keys_setVal]; exact hn
  · rename_i hh; exact List.nodup_cons.mpr ⟨fun hm => hh (has_iff.mpr hm), hn⟩

theorem keys_moveFrontAux {tb : Tab K V} {k : K} (hn : (keys tb.m).Nodup) (h : k ∈ keys tb.m) :
    keys (tb.moveFrontAux k).m = k :: (keys tb.m).filter (fun x => x ≠ k) := by
  unfold moveFrontAux
  by_cases hc : (keys tb.m).head? = some k
  · obtain ⟨t, ht⟩ := List.head?_eq_some_iff.mp hc
    rw [if_pos (Or.inl hc), ht, filter_ne_cons (ht ▸ hn)]
  · rw [if_neg (not_or.mpr ⟨hc, by rw [has_iff.mpr h]; exact Bool.false_ne_true⟩)]
    rw [toFront_eq_toPos]; exact keys_toPos h 0

theorem keys_moveBackAux {tb : Tab K V} {k : K} (hn : (keys tb.m).Nodup) (h : k ∈ keys tb.m) :
    keys (tb.moveBackAux k).m = (keys tb.m).filter (fun x => x ≠ k) ++ [k] := by
  unfold moveBackAux
  by_cases hc : (keys tb.m).getLast? = some k
  · obtain ⟨t, ht⟩ := List.getLast?_eq_some_iff.mp hc
    rw [if_pos (Or.inl hc), ht, filter_ne_middle (ht ▸ hn), List.append_nil]
  · rw [if_neg (not_or.mpr ⟨hc, by rw [has_iff.mpr h]; exact Bool.false_ne_true⟩)]
    exact keys_toBack h

/-- `MoveToPositionAux(k, idx)`: `k` becomes the `idx`-th entry (the last one when `idx` is too big) -/
theorem keys_movePosAux {tb : Tab K V} {k : K} (idx : Nat) (hn : (keys tb.m).Nodup) (h : k ∈ keys tb.m) :
    keys (tb.movePosAux k idx).m =
      ((keys tb.m).filter (fun x => x ≠ k)).take idx ++ k :: ((keys tb.m).filter (fun x => x ≠ k)).drop idx := by
  have hlen := length_filter_keys_ne hn h
  unfold movePosAux
  by_cases h0 : idx = 0
  · rw [if_pos h0, h0]; exact keys_moveFrontAux hn h
  · rw [if_neg h0]
    by_cases h1 : idx ≥ tb.m.length
    · rw [if_pos h1, List.take_of_length_le (by omega), List.drop_of_length_le (by omega)]
      exact keys_moveBackAux hn h
    · rw [if_neg h1]; exact keys_toPos h idx

/-- `MoveToBefore(k, f)`: everything else keeps its relative order and `k` sits immediately before `f` -/
theorem keys_moveBeforeAux {tb : Tab K V} {k f : K} (hn : (keys tb.m).Nodup) (hk : k ∈ keys tb.m) (hf : f ∈ keys tb.m)
    (hne : k ≠ f) :
    ∃ a b, (keys tb.m).filter (fun x => x ≠ k) = a ++ f :: b ∧ keys (tb.moveBeforeAux k f).m = a ++ k :: f :: b := by
  unfold moveBeforeAux
  by_cases hc : nbr tb.m false k = some f
  · obtain ⟨x, y, hxy, -⟩ := succIn_split (show succIn (keys tb.m) k = some f from hc)
    rw [if_pos hc, hxy]
    exact ⟨x, y, filter_ne_middle (hxy ▸ hn), rfl⟩
  · rw [if_neg hc]
    obtain ⟨a, b, hab⟩ := List.append_of_mem
      (show f ∈ (keys tb.m).filter (fun x => x ≠ k) from List.mem_filter.mpr ⟨hf, decide_eq_true (Ne.symm hne)⟩)
    have hfa : f ∉ a := (nodup_middle_not_mem (hab ▸ hn.filter _)).1
    have : keys (toBefore tb.m k f) = _ := toBefore_eq_toPos tb.m k f ▸ keys_toPos hk _
    rw [indexOf_eq (by rw [keys_erase]; exact hab) hfa, hab, List.take_left, List.drop_left] at this
    exact ⟨a, b, hab, this⟩

theorem keys_moveBehindAux {tb : Tab K V} {k d : K} (hn : (keys tb.m).Nodup) (hk : k ∈ keys tb.m) (hd : d ∈ keys tb.m)
    (hne : k ≠ d) :
    ∃ a b, (keys tb.m).filter (fun x => x ≠ k) = a ++ d :: b ∧ keys (tb.moveBehindAux k d).m = a ++ d :: k :: b := by
  unfold moveBehindAux
  by_cases hc : nbr tb.m true k = some d
  · obtain ⟨x, y, hxy, -⟩ := succIn_split (show succIn (keys tb.m).reverse k = some d from hc)
    have hl : keys tb.m = (y.reverse ++ [d]) ++ k :: x.reverse := by
      rw [← List.reverse_reverse (keys tb.m), hxy]; simp
    rw [if_pos hc, hl]
    exact ⟨y.reverse, x.reverse, by rw [filter_ne_middle (hl ▸ hn), List.append_assoc]; rfl,
      by rw [List.append_assoc]; rfl⟩
  · rw [if_neg hc]
    obtain ⟨a, b, hab⟩ := List.append_of_mem
      (show d ∈ (keys tb.m).filter (fun x => x ≠ k) from List.mem_filter.mpr ⟨hd, decide_eq_true (Ne.symm hne)⟩)
    have hda : d ∉ a := (nodup_middle_not_mem (hab ▸ hn.filter _)).1
    have : keys (toBehind tb.m k d) = _ := toBehind_eq_toPos tb.m k d ▸ keys_toPos hk _
    rw [indexOf_eq (by rw [keys_erase]; exact hab) hda, hab, List.take_length_add_append, List.drop_length_add_append,
      List.append_assoc] at this
    exact ⟨a, b, hab, this⟩

theorem length_putAux_plain_pos (tb : Tab K V) (k : K) (v : V) : 0 < (tb.putAux none k v).m.length := by
  rw [← length_keys]
  exact List.length_pos_of_mem ((mem_keys_putAux none v).mpr (Or.inl rfl))

theorem keys_putAtFront {tb : Tab K V} (k : K) (v : V) (hn : (keys tb.m).Nodup) :
    keys (tb.putAtFront lt? k v).m = k :: (keys tb.m).filter (fun x => x ≠ k) := by
  rw [← filter_keys_putAux lt? tb k v]
  exact keys_moveFrontAux (nodup_putAux lt? k v hn) ((mem_keys_putAux lt? v).mpr (Or.inl rfl))

theorem keys_putAtBack {tb : Tab K V} (k : K) (v : V) (hn : (keys tb.m).Nodup) :
    keys (tb.putAtBack lt? k v).m = (keys tb.m).filter (fun x => x ≠ k) ++ [k] := by
  rw [← filter_keys_putAux lt? tb k v]
  exact keys_moveBackAux (nodup_putAux lt? k v hn) ((mem_keys_putAux lt? v).mpr (Or.inl rfl))

theorem keys_putAtPosition {tb : Tab K V} (k : K) (idx : Nat) (v : V) (hn : (keys tb.m).Nodup) :
    keys (tb.putAtPosition lt? k idx v).m =
      ((keys tb.m).filter (fun x => x ≠ k)).take idx ++ k :: ((keys tb.m).filter (fun x => x ≠ k)).drop idx := by
  rw [← filter_keys_putAux lt? tb k v]
  exact keys_movePosAux idx (nodup_putAux lt? k v hn) ((mem_keys_putAux lt? v).mpr (Or.inl rfl))

theorem length_filter_putAux {tb : Tab K V} (k : K) (v : V) (hn : (keys tb.m).Nodup) :
    ((keys tb.m).filter (fun x => x ≠ k)).length + 1 = (tb.putAux lt? k v).m.length := by
  rw [← filter_keys_putAux lt? tb k v]
  exact length_filter_keys_ne (nodup_putAux lt? k v hn) ((mem_keys_putAux lt? v).mpr (Or.inl rfl))

theorem keys_putBefore {tb : Tab K V} (k f : K) (v : V) (hn : (keys tb.m).Nodup) (hf : f ∈ keys tb.m) (hne : k ≠ f) :
    ∃ a b, (keys tb.m).filter (fun x => x ≠ k) = a ++ f :: b ∧ keys (tb.putBefore lt? k f v).m = a ++ k :: f :: b := by
  have hf' : f ∈ keys (tb.putAux lt? k v).m := (mem_keys_putAux lt? v).mpr (Or.inr hf)
  rw [← filter_keys_putAux lt? tb k v, putBefore, if_pos ⟨has_iff.mpr hf', hne⟩]
  exact keys_moveBeforeAux (nodup_putAux lt? k v hn) ((mem_keys_putAux lt? v).mpr (Or.inl rfl)) hf' hne

theorem keys_putBehind {tb : Tab K V} (k d : K) (v : V) (hn : (keys tb.m).Nodup) (hd : d ∈ keys tb.m) (hne : k ≠ d) :
    ∃ a b, (keys tb.m).filter (fun x => x ≠ k) = a ++ d :: b ∧ keys (tb.putBehind lt? k d v).m = a ++ d :: k :: b := by
  have hd' : d ∈ keys (tb.putAux lt? k v).m := (mem_keys_putAux lt? v).mpr (Or.inr hd)
  rw [← filter_keys_putAux lt? tb k v, putBehind, if_pos ⟨has_iff.mpr hd', hne⟩]
  exact keys_moveBehindAux (nodup_putAux lt? k v hn) ((mem_keys_putAux lt? v).mpr (Or.inl rfl)) hd' hne

theorem putBefore_eq_put (lt? : Option (K × V → K × V → Bool)) (tb : Tab K V) (k f : K) (v : V)
    (h : f ∉ keys (tb.putAux lt? k v).m ∨ k = f) : tb.putBefore lt? k f v = tb.putAux lt? k v := by
  unfold putBefore
  rcases h with h | h
  · simp [has_false_iff.mpr h]
  · simp [h]

end Tab

end Muscle.Containers
