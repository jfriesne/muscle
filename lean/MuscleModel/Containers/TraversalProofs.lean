import MuscleModel.Containers.TabOrder
import MuscleModel.Containers.Traversal

/-! Traversal under mutation.  `TSt.pending` is the list of keys the iterator would still bring into view; `adv` moves
its head into view, `remove k` filters `k` out of it, `put` appends at most the new key, and completeness and absence of
duplicates are inductions over the run on these three facts. -/

namespace Muscle.Containers
variable {K V : Type} [DecidableEq K]

def TSt.WF (st : TSt K V) : Prop := st.toTab.Inv

omit [DecidableEq K] in
theorem TSt.wf_iff (st : TSt K V) : st.WF ↔ (keys st.m).Nodup ∧ st.it.Ok st.m := by
  unfold TSt.WF Tab.Inv TSt.toTab
  simp

theorem step_put (st : TSt K V) (k : K) (v : V) :
    st.step (.put k v) = { st with m := if has st.m k then setVal st.m k v else st.m ++ [(k, v)] } :=
  congrArg (fun t : Tab K V => ({ st with m := t.m } : TSt K V)) (Tab.putAux_plain st.toTab k v)

theorem step_toTab (st : TSt K V) (ev : Ev K V) : (st.step ev).toTab = Tab.apply none st.toTab ev.toOp := by
  cases ev with
  | adv => simp [TSt.step, TSt.toTab, Ev.toOp, Tab.apply, Tab.itNext, Tab.itModify]
  | put k v => rw [step_put]; exact (Tab.putAux_plain st.toTab k v).symm
  | remove k =>
    simp only [TSt.step, Ev.toOp, Tab.apply, Tab.removeKey]
    by_cases hh : has st.m k = true
    · simp [hh, TSt.toTab, Tab.patch]
    · simp [hh, TSt.toTab]

theorem wf_step {st : TSt K V} (ev : Ev K V) (h : st.WF) : (st.step ev).WF := by
  unfold TSt.WF
  rw [step_toTab]
  exact Tab.inv_apply none _ h

theorem shown_eq {st : TSt K V} (h : st.WF) :
    st.shown = match st.it.scratch with | some p => some p.1 | none => st.it.cur := by
  obtain ⟨_, ho⟩ := (TSt.wf_iff st).mp h
  unfold TSt.shown Iter.peek
  cases hs : st.it.scratch with
  | some p => simp
  | none =>
    cases hc : st.it.cur with
    | none => simp
    | some c =>
      obtain ⟨v, hv⟩ := exists_get_of_mem (ho c hc)
      simp [hv]

theorem pending_subset {st : TSt K V} (h : st.WF) : ∀ x ∈ st.pending, x ∈ keys st.m := by
  obtain ⟨_, ho⟩ := (TSt.wf_iff st).mp h
  intro x hx
  unfold TSt.pending at hx
  cases hc : st.it.cur with
  | none => simp [hc] at hx
  | some c =>
    simp only [hc] at hx
    split at hx
    · rcases List.mem_cons.mp hx with rfl | hx
      · exact ho _ hc
      · exact mem_dirKeys.mp (mem_of_mem_after hx)
    · exact mem_dirKeys.mp (mem_of_mem_after hx)

theorem pending_nodup {st : TSt K V} (h : st.WF) : st.pending.Nodup := by
  obtain ⟨hn, _⟩ := (TSt.wf_iff st).mp h
  have hd := nodup_dirKeys st.it.back hn
  unfold TSt.pending
  cases hc : st.it.cur with
  | none => simp
  | some c =>
    simp only
    have hs : (after (dirKeys st.m st.it.back) c).Nodup := List.Nodup.sublist (after_sublist _ _) hd
    split
    · rw [List.nodup_cons]; exact ⟨not_mem_after_self hd, hs⟩
    · exact hs

theorem pending_nil_of_shown_none {st : TSt K V} (h : st.WF) (hs : st.shown = none) : st.pending = [] := by
  rw [shown_eq h] at hs
  unfold TSt.pending
  cases hsc : st.it.scratch with
  | some p => simp [hsc] at hs
  | none => simp only [hsc] at hs; simp [hs]

theorem adv_pending {st : TSt K V} (h : st.WF) :
    st.pending = (st.step .adv).shown.toList ++ (st.step .adv).pending := by
  obtain ⟨hn, ho⟩ := (TSt.wf_iff st).mp h
  have hd := nodup_dirKeys st.it.back hn
  rw [shown_eq (wf_step .adv h)]
  obtain ⟨m, ⟨cur, scratch, back⟩⟩ := st
  simp only at hn ho hd
  cases scratch with
  | some p => cases cur <;> simp [TSt.pending, TSt.step, Iter.next]
  | none =>
    cases cur with
    | none => simp [TSt.pending, TSt.step, Iter.next]
    | some c =>
      cases hsu : nbr m back c with
      | none =>
        simp [TSt.pending, TSt.step, Iter.next, hsu]
        exact after_of_succ_none hsu
      | some c' =>
        simp [TSt.pending, TSt.step, Iter.next, hsu]
        exact after_succ hd hsu

theorem remove_spec {st : TSt K V} (k : K) (h : st.WF) :
    (st.step (.remove k)).pending = st.pending.filter (fun x => x ≠ k) := by
  obtain ⟨hn, ho⟩ := (TSt.wf_iff st).mp h
  have hd := nodup_dirKeys st.it.back hn
  by_cases hh : has st.m k = true
  · obtain ⟨m, ⟨cur, scratch, back⟩⟩ := st
    simp only at hn ho hd
    rw [show TSt.step ⟨m, ⟨cur, scratch, back⟩⟩ (.remove k) = ⟨erase m k, Iter.onRemove m k ⟨cur, scratch, back⟩⟩ from
      if_pos hh]
    cases cur with
    | none => rfl
    | some c =>
      by_cases hck : c = k
      · -- the cursor moves on; the entry it stood on is kept as (or stays behind) the scratch copy
        subst hck
        obtain ⟨v, hv⟩ := exists_get_of_mem (has_iff.mp hh)
        have hnk : c ∉ after (dirKeys m back) c := not_mem_after_self hd
        have e : (match nbr m back c with
            | none => []
            | some c' => c' :: after (dirKeys (erase m c) back) c') = after (dirKeys m back) c := by
          rw [dirKeys_erase]; exact after_remove_cur hd c
        cases scratch with
        | none =>
          rw [show Iter.onRemove m c ⟨some c, none, back⟩ = ⟨nbr m back c, some (c, v), back⟩ from by
            rw [Iter.onRemove, if_pos rfl, hv]; rfl]
          exact e.trans (filter_ne_of_not_mem hnk).symm
        | some p =>
          rw [show Iter.onRemove m c ⟨some c, some p, back⟩ = ⟨nbr m back c, some p, back⟩ from by
            rw [Iter.onRemove, if_pos rfl]]
          exact e.trans ((List.filter_cons_of_neg (by simp)).trans (filter_ne_of_not_mem hnk)).symm
      · rw [show Iter.onRemove m k ⟨some c, scratch, back⟩ = ⟨some c, scratch, back⟩ from
          if_neg (fun e => hck (Option.some.inj e))]
        simp only [TSt.pending, dirKeys_erase, after_filter hck]
        cases scratch.isSome
        · rfl
        · rw [if_pos rfl, if_pos rfl, List.filter_cons_of_pos (p := fun x => decide (x ≠ k)) (a := c) (decide_eq_true hck)]
  · rw [show st.step (.remove k) = st from if_neg hh]
    exact (filter_ne_of_not_mem fun hm => hh (has_iff.mpr (pending_subset h k hm))).symm

theorem put_spec {st : TSt K V} (k : K) (v : V) (h : st.WF) :
    ∃ e, (st.step (.put k v)).pending = st.pending ++ e ∧ ∀ x ∈ e, x = k ∧ k ∉ keys st.m := by
  obtain ⟨hn, ho⟩ := (TSt.wf_iff st).mp h
  rw [step_put]
  by_cases hh : has st.m k = true
  · rw [if_pos hh]
    exact ⟨[], by simp only [TSt.pending, dirKeys_setVal, List.append_nil], fun _ hx => nomatch hx⟩
  · have hk : k ∉ keys st.m := fun hm => hh (has_iff.mpr hm)
    rw [if_neg hh]
    obtain ⟨m, ⟨cur, scratch, back⟩⟩ := st
    cases cur with
    | none => exact ⟨[], rfl, fun _ hx => nomatch hx⟩
    | some c =>
      have hcm : c ∈ dirKeys m back := mem_dirKeys.mpr (ho c rfl)
      have hkc : k ≠ c := fun e => hk (e ▸ ho c rfl)
      simp only [TSt.pending, dirKeys_append_new]
      cases back with
      | false =>
        refine ⟨[k], ?_, fun x hx => ⟨List.mem_singleton.mp hx, hk⟩⟩
        rw [if_neg Bool.false_ne_true, after_append_single hcm]
        cases scratch.isSome <;> rfl
      | true =>
        refine ⟨[], ?_, fun _ hx => nomatch hx⟩
        rw [if_pos rfl, after, if_neg hkc, List.append_nil]

theorem m_step_remove (st : TSt K V) (k : K) : (st.step (.remove k)).m = erase st.m k :=
  (congrArg Tab.m (step_toTab st (.remove k))).trans (Tab.m_removeKey st.toTab k)

/-- completeness: a pending key that is not removed has been visited when the iterator reports the end -/
theorem complete_aux (evs : List (Ev K V)) : ∀ (st : TSt K V) (x : K), st.WF → x ∈ st.pending →
    (∀ e ∈ evs, ∀ k, e = Ev.remove k → k ≠ x) → (runFinal st evs).shown = none → x ∈ visitedFrom st evs := by
  induction evs with
  | nil =>
    intro st x h hx _ hend
    rw [pending_nil_of_shown_none h hend] at hx
    cases hx
  | cons e r ih =>
    intro st x h hx hnr hend
    have hnr' : ∀ e' ∈ r, ∀ k, e' = Ev.remove k → k ≠ x := fun e' he' => hnr e' (List.mem_cons_of_mem _ he')
    cases e with
    | adv =>
      rw [adv_pending h] at hx
      rcases List.mem_append.mp hx with hx | hx
      · exact List.mem_append_left _ hx
      · exact List.mem_append_right _ (ih _ x (wf_step .adv h) hx hnr' hend)
    | put k v =>
      obtain ⟨e, he, -⟩ := put_spec k v h
      exact ih _ x (wf_step _ h) (he ▸ List.mem_append_left _ hx) hnr' hend
    | remove k =>
      have hkx : k ≠ x := hnr (Ev.remove k) List.mem_cons_self k rfl
      exact ih _ x (wf_step _ h)
        (remove_spec k h ▸ List.mem_filter.mpr ⟨hx, decide_eq_true fun e => hkx e.symm⟩) hnr' hend

/-- no key comes into view twice; `R` is the keys removed before -/
theorem visited_aux (evs : List (Ev K V)) : ∀ (st : TSt K V) (R : List K), st.WF → NoReinsert R evs →
    (visitedFrom st evs).Nodup ∧ ∀ x ∈ visitedFrom st evs, x ∈ st.pending ∨ (x ∉ keys st.m ∧ x ∉ R) := by
  induction evs with
  | nil => intro st R _ _; exact ⟨List.nodup_nil, fun _ hx => nomatch hx⟩
  | cons e r ih =>
    intro st R h hnr
    cases e with
    | adv =>
      obtain ⟨i1, i2⟩ := ih (st.step .adv) R (wf_step .adv h) hnr
      have hp := adv_pending h
      have hpn := pending_nodup h
      rw [hp] at hpn
      obtain ⟨hn1, -, hdis⟩ := List.nodup_append.mp hpn
      refine ⟨List.nodup_append.mpr ⟨hn1, i1, ?_⟩, fun x hx => ?_⟩
      · -- the key that comes into view is in the table and no longer pending
        intro s hs y hy e
        subst e
        rcases i2 s hy with h1 | h1
        · exact hdis s hs s h1 rfl
        · exact h1.1 (pending_subset h s (hp ▸ List.mem_append_left _ hs))
      · rcases List.mem_append.mp hx with hx | hx
        · exact Or.inl (hp ▸ List.mem_append_left _ hx)
        · exact (i2 x hx).imp (fun h1 => hp ▸ List.mem_append_right _ h1) id
    | put k v =>
      obtain ⟨i1, i2⟩ := ih (st.step (.put k v)) R (wf_step _ h) hnr.2
      obtain ⟨e, he, hps⟩ := put_spec k v h
      refine ⟨i1, fun x hx => ?_⟩
      rcases i2 x hx with h1 | h1
      · rcases List.mem_append.mp (he ▸ h1) with h2 | h2
        · exact Or.inl h2
        · obtain ⟨rfl, hkm⟩ := hps x h2
          exact Or.inr ⟨hkm, hnr.1⟩
      · exact Or.inr ⟨fun hm => h1.1 ((Tab.mem_keys_putAux none (tb := st.toTab) v).mpr (Or.inr hm)), h1.2⟩
    | remove k =>
      obtain ⟨i1, i2⟩ := ih (st.step (.remove k)) (k :: R) (wf_step _ h) hnr
      refine ⟨i1, fun x hx => ?_⟩
      rcases i2 x hx with h1 | h1
      · exact Or.inl (List.mem_filter.mp (remove_spec k h ▸ h1)).1
      · have hxk : x ≠ k := fun e => h1.2 (e ▸ List.mem_cons_self)
        rw [m_step_remove] at h1
        exact Or.inr ⟨fun hm => h1.1 (mem_keys_erase.mpr ⟨hm, hxk⟩), fun hR => h1.2 (List.mem_cons_of_mem _ hR)⟩

/-- the state right after `GetIterator(flags)` -/
def TSt.start (m : OMap K V) (back : Bool) : TSt K V := { m := m, it := Iter.start m back }

theorem wf_start {m : OMap K V} (back : Bool) (hn : (keys m).Nodup) : (TSt.start m back).WF :=
  (TSt.wf_iff _).mpr ⟨hn, Iter.ok_start m back⟩

theorem start_view {m : OMap K V} (back : Bool) (hn : (keys m).Nodup) :
    (TSt.start m back).shown.toList ++ (TSt.start m back).pending = dirKeys m back := by
  rw [shown_eq (wf_start back hn)]
  simp only [TSt.start, Iter.start, TSt.pending]
  cases dirKeys m back with
  | nil => rfl
  | cons c t => simp [after]

end Muscle.Containers
