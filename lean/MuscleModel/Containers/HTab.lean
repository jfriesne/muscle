import MuscleModel.Containers.OMap

/-!
# A Hashtable with its registry of live iterators (util/Hashtable.h, util/HashtableIterator.h)

`Iter` is the observable state of a `HashtableIteratorImp`: `cur` = key of the entry `_iterCookie`
points at (`none` = NULL cookie), `scratch` = `_scratchKeyAndValue` when constructed, `back` =
`HTIT_FLAG_BACKWARDS`.  `Tab` = iteration list + the iterators registered in `_iterList` + the
`_autoSortEnabled` flag.  `lt?` is the entry comparison of the table kind: `none` for `Hashtable`,
`some (Compare(e1,e2) < 0)` for `OrderedKeysHashtable` / `OrderedValuesHashtable`.

Reallocation (`EnsureSize`, growth inside `PutAux`) re-points every registered iterator at the clone
of its entry and keeps the order, so it is the identity at this level.  An iterator whose table was
cleared/destroyed (`_owner = NULL`) and an unregistered one (`HTIT_FLAG_NOREGISTER` set because the
start cookie was NULL) both behave as `cur = none` for ever; they are represented that way.
-/

namespace Muscle.Containers

structure Iter (K V : Type) where
  cur : Option K
  scratch : Option (K × V)
  back : Bool
deriving Repr

structure Tab (K V : Type) where
  m : OMap K V
  its : List (Iter K V)
  autoSort : Bool
  /-- code-version switch (finding R3): `false` = `OrderedHashtable::MoveIterationEntryToCorrectPositionAux` ignores
      `_autoSortEnabled` (util/Hashtable.h before commit 30c01e9: `Put` on an existing key re-positions the entry even
      when auto-sort is off); `true` = it returns immediately when auto-sort is off (util/Hashtable.h:2144 since then).  The
      correspondence harness probes the real code and passes the answer on the `init` line. -/
  respectFlag : Bool := false

section
variable {K V : Type} [DecidableEq K]

namespace Iter

/-- `HasData()/GetKey()/GetValue()` via `UpdateKeyAndValuePointers`: the scratch pair if constructed,
    else the entry under the cookie -/
def peek (m : OMap K V) (it : Iter K V) : Option (K × V) :=
  match it.scratch with
  | some p => some p
  | none => match it.cur with
    | some k => (get m k).map (fun v => (k, v))
    | none => none

/-- what `RemoveIterationEntry(e)` does to one registered iterator (`e` has key `k` in `m`) -/
def onRemove (m : OMap K V) (k : K) (it : Iter K V) : Iter K V :=
  if it.cur = some k then
    { cur := nbr m it.back k
      scratch := match it.scratch with
        | some p => some p
        | none => (get m k).map (fun v => (k, v))
      back := it.back }
  else it

/-- what `Clear()` (also `~HashtableBase`) does to one registered iterator: `SetScratchValues` from the
    cookie (overwriting an existing scratch pair), `_owner = _iterCookie = NULL` -/
def onClear (m : OMap K V) (it : Iter K V) : Iter K V :=
  { cur := none
    scratch := match it.cur with
      | some k => (match get m k with | some v => some (k, v) | none => it.scratch)
      | none => it.scratch
    back := it.back }

/-- `operator++(int)`: drop the scratch pair if there is one, else follow the link in the iterator's direction -/
def next (m : OMap K V) (it : Iter K V) : Iter K V :=
  match it.scratch with
  | some _ => { it with scratch := none }
  | none => { it with cur := it.cur.bind (nbr m it.back) }

/-- `operator--(int)`: `SetBackwards(!b); (*this)++; SetBackwards(b)` -/
def prev (m : OMap K V) (it : Iter K V) : Iter K V :=
  match it.scratch with
  | some _ => { it with scratch := none }
  | none => { it with cur := it.cur.bind (nbr m (!it.back)) }

/-- `HashtableIteratorImp(table, flags)` via `InitializeIterator` -/
def start (m : OMap K V) (back : Bool) : Iter K V :=
  { cur := (dirKeys m back).head?, scratch := none, back := back }

/-- `HashtableIteratorImp(table, startAt, flags)` via `InitializeIteratorAt` -/
def startAt (m : OMap K V) (k : K) (back : Bool) : Iter K V :=
  { cur := if has m k then some k else none, scratch := none, back := back }

end Iter

namespace Tab
variable (lt? : Option (K × V → K × V → Bool))

def empty : Tab K V := { m := [], its := [], autoSort := true }

/-- `RemoveIterationEntry(e)`'s loop over `_iterList` -/
def patch (tb : Tab K V) (k : K) : Tab K V := { tb with its := tb.its.map (Iter.onRemove tb.m k) }

/-- `RemoveEntry` -/
def removeKey (tb : Tab K V) (k : K) : Tab K V :=
  if has tb.m k then { (tb.patch k) with m := erase tb.m k } else tb

/-- `MoveToFrontAux` (no-op when already first) -/
def moveFrontAux (tb : Tab K V) (k : K) : Tab K V :=
  if (keys tb.m).head? = some k ∨ !has tb.m k then tb else { (tb.patch k) with m := toFront tb.m k }

/-- `MoveToBackAux` (no-op when already last) -/
def moveBackAux (tb : Tab K V) (k : K) : Tab K V :=
  if (keys tb.m).getLast? = some k ∨ !has tb.m k then tb else { (tb.patch k) with m := toBack tb.m k }

/-- `MoveToBeforeAux(e, f)` (no-op when `e` is already just before `f`) -/
def moveBeforeAux (tb : Tab K V) (k f : K) : Tab K V :=
  if nbr tb.m false k = some f then tb else { (tb.patch k) with m := toBefore tb.m k f }

/-- `MoveToBehindAux(e, d)` (no-op when `e` is already just behind `d`) -/
def moveBehindAux (tb : Tab K V) (k d : K) : Tab K V :=
  if nbr tb.m true k = some d then tb else { (tb.patch k) with m := toBehind tb.m k d }

/-- `MoveToPositionAux` -/
def movePosAux (tb : Tab K V) (k : K) (idx : Nat) : Tab K V :=
  if idx = 0 then tb.moveFrontAux k
  else if idx ≥ tb.m.length then tb.moveBackAux k
  else { (tb.patch k) with m := toPos tb.m k idx }

/-- `OrderedHashtable::MoveIterationEntryToCorrectPositionAux` (empty for `Hashtable`) -/
def reposition (tb : Tab K V) (k : K) : Tab K V :=
  match lt? with
  | none => tb
  | some lt =>
    let r := repositionM lt tb.m k
    if r.2 then { (tb.patch k) with m := r.1 } else tb

/-- the CRTP hook `MoveIterationEntryToCorrectPositionAux(e)` as `PutAux` (and a repaired `SwapWithTable`) call it
    after giving the existing entry `k` a new value -/
def valueChanged (tb : Tab K V) (k : K) : Tab K V :=
  if tb.respectFlag && !tb.autoSort then tb else tb.reposition lt? k

/-- `InsertIterationEntryAux` of the table kind -/
def linkNew (tb : Tab K V) (k : K) (v : V) : OMap K V :=
  match lt? with
  | none => tb.m ++ [(k, v)]
  | some lt => if tb.autoSort then insertInOrder lt (k, v) tb.m else tb.m ++ [(k, v)]

/-- `HashtableMid::PutAux` (growth is invisible here) -/
def putAux (tb : Tab K V) (k : K) (v : V) : Tab K V :=
  if has tb.m k then valueChanged lt? { tb with m := setVal tb.m k v } k
  else { tb with m := linkNew lt? tb k v }

def putAtFront (tb : Tab K V) (k : K) (v : V) : Tab K V := (putAux lt? tb k v).moveFrontAux k
def putAtBack (tb : Tab K V) (k : K) (v : V) : Tab K V := (putAux lt? tb k v).moveBackAux k

/-- `PutBefore(key, placeBeforeMe, v)` -/
def putBefore (tb : Tab K V) (k f : K) (v : V) : Tab K V :=
  let t1 := putAux lt? tb k v
  if has t1.m f ∧ k ≠ f then t1.moveBeforeAux k f else t1

/-- `PutBehind(key, placeBehindMe, v)` -/
def putBehind (tb : Tab K V) (k d : K) (v : V) : Tab K V :=
  let t1 := putAux lt? tb k v
  if has t1.m d ∧ k ≠ d then t1.moveBehindAux k d else t1

def putAtPosition (tb : Tab K V) (k : K) (idx : Nat) (v : V) : Tab K V := (putAux lt? tb k v).movePosAux k idx

/-- `Clear()` / destructor: every registered iterator is detached -/
def clear (tb : Tab K V) : Tab K V := { tb with m := [], its := tb.its.map (Iter.onClear tb.m) }

/-- `SortByKey/SortByValue/Sort`: links are rewritten in place, iterators are not touched -/
def sort (tb : Tab K V) (lt : K × V → K × V → Bool) : Tab K V := { tb with m := sortBy lt tb.m }

/-- one step of `CopyFromAux`: existing key ⇒ overwrite the value in place, else link at the tail -/
def copyOne (m : OMap K V) (p : K × V) : OMap K V := if has m p.1 then setVal m p.1 p.2 else m ++ [p]

/-- `HashtableMid::CopyFrom(rhs, clearFirst)` for `rhs ≠ *this` (`SortAux` at the end for ordered kinds).
    (`CopyFromAux` skips the lookup when the table was empty; `rhs` has no duplicate keys, so that is
    the same function.) -/
def copyFrom (tb : Tab K V) (src : OMap K V) (clearFirst : Bool) : Tab K V :=
  let t1 := if clearFirst then tb.clear else tb
  if src.isEmpty then t1
  else
    let m2 := src.foldl copyOne t1.m
    { t1 with m := match lt? with | some lt => sortBy lt m2 | none => m2 }

/-- `Remove(const HashtableBase & pairs)` for `pairs ≠ *this` -/
def removeAll (tb : Tab K V) (ks : List K) : Tab K V := ks.foldl removeKey tb

/-- `Intersect(pairs)`: walk our own list, remove what `pairs` lacks -/
def intersect (tb : Tab K V) (other : OMap K V) : Tab K V :=
  ((keys tb.m).filter (fun k => !has other k)).foldl removeKey tb

/-- `OrderedHashtable::SetAutoSortEnabled(enabled, sortNow)` -/
def setAutoSort (tb : Tab K V) (en sortNow : Bool) : Tab K V :=
  if en = tb.autoSort then tb
  else
    let t1 := { tb with autoSort := en }
    match lt? with
    | some lt => if sortNow && en then t1.sort lt else t1
    | none => t1

/- iterator life cycle -/
def itNew (tb : Tab K V) (back : Bool) : Tab K V := { tb with its := tb.its ++ [Iter.start tb.m back] }
def itAt (tb : Tab K V) (k : K) (back : Bool) : Tab K V := { tb with its := tb.its ++ [Iter.startAt tb.m k back] }
def itModify (tb : Tab K V) (i : Nat) (f : Iter K V → Iter K V) : Tab K V := { tb with its := tb.its.modify i f }
def itNext (tb : Tab K V) (i : Nat) : Tab K V := tb.itModify i (Iter.next tb.m)
def itPrev (tb : Tab K V) (i : Nat) : Tab K V := tb.itModify i (Iter.prev tb.m)
def itSetBack (tb : Tab K V) (i : Nat) (b : Bool) : Tab K V := tb.itModify i (fun it => { it with back := b })
def itDrop (tb : Tab K V) (i : Nat) : Tab K V := { tb with its := tb.its.eraseIdx i }
def itCopy (tb : Tab K V) (i : Nat) : Tab K V :=
  match tb.its[i]? with
  | some it => { tb with its := tb.its ++ [it] }
  | none => tb

end Tab

/-- every state-changing operation of one table (parameters already resolved to values) -/
inductive Op (K V : Type) where
  | put (k : K) (v : V)
  | putAtFront (k : K) (v : V)
  | putAtBack (k : K) (v : V)
  | putBefore (k f : K) (v : V)
  | putBehind (k d : K) (v : V)
  | putAtPosition (k : K) (idx : Nat) (v : V)
  | remove (k : K)
  | removeAll (ks : List K)
  | intersect (other : OMap K V)
  | clear
  | moveToFront (k : K)
  | moveToBack (k : K)
  | moveToBefore (k f : K)
  | moveToBehind (k d : K)
  | moveToPosition (k : K) (idx : Nat)
  | reposition (k : K)
  | sortBy (lt : K × V → K × V → Bool)
  | setAutoSort (en sortNow : Bool)
  | copyFrom (src : OMap K V) (clearFirst : Bool)
  | realloc                       -- EnsureSize / ShrinkToFit / EnsureCanPut / growth
  | itNew (back : Bool)
  | itAt (k : K) (back : Bool)
  | itNext (i : Nat)
  | itPrev (i : Nat)
  | itSetBack (i : Nat) (b : Bool)
  | itDrop (i : Nat)
  | itCopy (i : Nat)

/-- the public mutators (`MoveToFront` … return an error and change nothing when a key is missing) -/
def Tab.apply (lt? : Option (K × V → K × V → Bool)) (tb : Tab K V) : Op K V → Tab K V
  | .put k v => tb.putAux lt? k v
  | .putAtFront k v => tb.putAtFront lt? k v
  | .putAtBack k v => tb.putAtBack lt? k v
  | .putBefore k f v => tb.putBefore lt? k f v
  | .putBehind k d v => tb.putBehind lt? k d v
  | .putAtPosition k i v => tb.putAtPosition lt? k i v
  | .remove k => tb.removeKey k
  | .removeAll ks => tb.removeAll ks
  | .intersect o => tb.intersect o
  | .clear => tb.clear
  | .moveToFront k => tb.moveFrontAux k
  | .moveToBack k => tb.moveBackAux k
  | .moveToBefore k f => if has tb.m k ∧ has tb.m f ∧ k ≠ f then tb.moveBeforeAux k f else tb
  | .moveToBehind k d => if has tb.m k ∧ has tb.m d ∧ k ≠ d then tb.moveBehindAux k d else tb
  | .moveToPosition k i => if has tb.m k then tb.movePosAux k i else tb
  | .reposition k => tb.reposition lt? k
  | .sortBy lt => tb.sort lt
  | .setAutoSort en now => tb.setAutoSort lt? en now
  | .copyFrom src cf => tb.copyFrom lt? src cf
  | .realloc => tb
  | .itNew b => tb.itNew b
  | .itAt k b => tb.itAt k b
  | .itNext i => tb.itNext i
  | .itPrev i => tb.itPrev i
  | .itSetBack i b => tb.itSetBack i b
  | .itDrop i => tb.itDrop i
  | .itCopy i => tb.itCopy i

end
end Muscle.Containers
