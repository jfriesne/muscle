import MuscleModel.Containers.QInner

/-! Lemmas for C16: the operations that look at item values and ReverseItemOrdering; their loops are specified on the visible list. -/

set_option linter.unusedSectionVars false

namespace Muscle.Containers
variable {α : Type} [DecidableEq α] (c : ItemCfg α)

theorem findUp_spec (n : Nat) (q : Ring α) (v : α) (i : Nat) (h : i + n ≤ q.count) :
    Ring.findUp c q v i n = ((((q.abs c).drop i).take n).findIdx? (fun x => decide (x = v))).map (· + i) := by
  induction n generalizing i with
  | zero => simp [Ring.findUp]
  | succ n ih =>
    have hi : i < (q.abs c).length := by simp; omega
    rw [List.drop_eq_getElem_cons hi, List.take_succ_cons, List.findIdx?_cons, abs_getElem]
    simp only [Ring.findUp]
    by_cases e : q.get c i = v
    · simp [e]
    · simp only [e, if_false, decide_false, Bool.false_eq_true]
      rw [ih (i + 1) (by omega), Option.map_map]
      congr 1; funext k; simp; omega

theorem findDown_spec (n : Nat) (q : Ring α) (v : α) (lo : Nat) (h : lo + n ≤ q.count) :
    Ring.findDown c q v lo n =
      ((((q.abs c).drop lo).take n).reverse.findIdx? (fun x => decide (x = v))).map (fun k => lo + (n - 1 - k)) := by
  induction n with
  | zero => simp [Ring.findDown]
  | succ n ih =>
    have hl : n < ((q.abs c).drop lo).length := by simp; omega
    rw [List.take_succ_eq_append_getElem hl, List.reverse_append, List.reverse_singleton, List.singleton_append,
      List.findIdx?_cons, List.getElem_drop, abs_getElem]
    simp only [Ring.findDown]
    by_cases e : q.get c (lo + n) = v
    · simp [e]
    · simp only [e, if_false, decide_false, Bool.false_eq_true]
      rw [ih (by omega), Option.map_map]
      congr 1; funext k; simp; omega

section
variable {c} {q : Ring α} {l : List α}

namespace Rep

theorem indexOf (h : Rep c q l) (v : α) (s e : Nat) : q.indexOf c v s e = Spec.indexOf l v s e := by
  obtain ⟨_, rfl⟩ := h
  unfold Ring.indexOf Spec.indexOf
  simp only [abs_length]
  by_cases h : s ≥ q.count
  · simp [h]
  · simp only [h, if_false]
    exact findUp_spec c _ q v s (by omega)

theorem lastIndexOf (h : Rep c q l) (v : α) (s e : Nat) : q.lastIndexOf c v s e = Spec.lastIndexOf l v s e := by
  obtain ⟨_, rfl⟩ := h
  unfold Ring.lastIndexOf Spec.lastIndexOf
  simp only [abs_length]
  by_cases h : e ≥ q.count
  · simp [h]
  · simp only [h, if_false]
    exact findDown_spec c _ q v e (by omega)

theorem removeFirst (h : Rep c q l) (v : α) :
    Rep c (q.removeFirst c v).1 (Spec.removeFirst l v).1 ∧ (q.removeFirst c v).2 = (Spec.removeFirst l v).2 := by
  unfold Ring.removeFirst Spec.removeFirst
  rw [findUp_spec c q.count q v 0 (by omega), List.drop_zero, h.shows, h.count, List.take_length]
  cases l.findIdx? (fun x => decide (x = v)) with
  | none => exact ⟨h, rfl⟩
  | some i => exact h.removeItemAt (i + 0)

theorem removeLast (h : Rep c q l) (v : α) :
    Rep c (q.removeLast c v).1 (Spec.removeLast l v).1 ∧ (q.removeLast c v).2 = (Spec.removeLast l v).2 := by
  unfold Ring.removeLast Spec.removeLast
  rw [findDown_spec c q.count q v 0 (by omega), List.drop_zero, h.shows, h.count, List.take_length]
  cases l.reverse.findIdx? (fun x => decide (x = v)) with
  | none => exact ⟨h, rfl⟩
  | some k =>
    simp only [Option.map_some, Nat.zero_add]
    exact h.removeItemAt _

theorem insertSortedPos (h : Rep c q l) (lt : α → α → Bool) (v : α) :
    Rep c (q.insertSortedPos c lt v).1 (Spec.insertSortedPos lt c.junk l v).1 ∧
    (q.insertSortedPos c lt v).2 = (Spec.insertSortedPos lt c.junk l v).2 := by
  have h1 := h.addHead v
  have hi := fun k => h.insertItemAt k v
  obtain ⟨_, rfl⟩ := h
  unfold Ring.insertSortedPos Spec.insertSortedPos
  rw [abs_length]
  have hf : (List.range q.count).reverse.find? (fun k => ! lt v (q.get c k)) =
      (List.range q.count).reverse.find? (fun k => ! lt v ((q.abs c).getD k c.junk)) := by
    apply find?_congr'
    intro k hk
    rw [abs_getD c q k (by simpa using hk)]
  by_cases h : q.count > 0 ∧ ¬ lt v (q.get c 0) = true
  · have h' : q.count > 0 ∧ ¬ lt v ((q.abs c).getD 0 c.junk) = true := by rw [abs_getD c q 0 h.1]; exact h
    rw [if_pos h, if_pos h', hf]
    cases (List.range q.count).reverse.find? (fun k => ! lt v ((q.abs c).getD k c.junk)) with
    | none => exact ⟨h1, rfl⟩
    | some k => exact ⟨hi (k + 1), rfl⟩
  · have h' : ¬ (q.count > 0 ∧ ¬ lt v ((q.abs c).getD 0 c.junk) = true) := by
      intro x; apply h; refine ⟨x.1, ?_⟩; rw [← abs_getD c q 0 x.1 c.junk]; exact x.2
    rw [if_neg h, if_neg h']
    exact ⟨h1, rfl⟩

/-! `RemoveAllInstancesOf` and `RemoveSortedDuplicateItems` are two compacting loops: both read behind a part `G` of items already
dealt with and write behind the part `K` of items kept so far.  The sequence is `K ++ (G ++ R)` throughout, `R` the items not read yet. -/

/-- one step of either loop: the item `x` at the read position is kept, i.e. copied to the write position unless it is there already.
    `p` is the loop's own test for that (`readFrom > writeTo` in `collapse`, `written ≠ i` in `dedupLoop`) -/
theorem keep {K G R : List α} {x : α} (h : Rep c q (K ++ (G ++ x :: R))) (p : Prop) [Decidable p] (hp : p ↔ 0 < G.length) :
    ∃ G', G'.length = G.length ∧
      Rep c (if p then q.put K.length (q.get c (K.length + G.length)) else q) (K ++ x :: (G' ++ R)) := by
  cases G with
  | nil =>
    rw [if_neg (fun a => Nat.lt_irrefl 0 (hp.1 a))]
    exact ⟨[], rfl, h⟩
  | cons g G1 =>
    rw [if_pos (hp.2 (Nat.succ_pos _))]
    refine ⟨G1 ++ [x], by rw [List.length_append, List.length_singleton, List.length_cons], ?_⟩
    rw [← List.append_cons, List.length_cons]
    exact h.copyDown

end Rep

end

theorem collapse_count (n : Nat) (q : Ring α) (v : α) (r w : Nat) : (Ring.collapse c q v r w n).1.count = q.count := by
  induction n generalizing q r w with
  | zero => rfl
  | succ n ih =>
    rw [Ring.collapse]
    split
    · exact ih _ _ _
    · rw [ih]; split <;> rfl

section
variable {c} {q : Ring α} {l : List α}

namespace Rep

/-- what lies behind the items kept, `G'`, is cut off by the caller -/
theorem collapse (v : α) {K G R : List α} (h : Rep c q (K ++ (G ++ R))) :
    ∃ G', Rep c (Ring.collapse c q v (K.length + G.length) K.length R.length).1 (K ++ (R.filter (fun x => decide (x ≠ v)) ++ G')) ∧
      (Ring.collapse c q v (K.length + G.length) K.length R.length).2 = (K ++ R.filter (fun x => decide (x ≠ v))).length := by
  induction R generalizing q K G with
  | nil => exact ⟨G, by rw [List.append_nil] at h; exact h, by rw [List.filter_nil, List.append_nil]; rfl⟩
  | cons x R ih =>
    have hx : q.get c (K.length + G.length) = x := by
      have := (show Rep c q ((K ++ G) ++ x :: R) by rw [List.append_assoc]; exact h).getAt
      rwa [List.length_append] at this
    rw [List.length_cons, Ring.collapse, hx]
    by_cases e : x = v
    · rw [if_pos e, List.filter_cons_of_neg (by simpa using e)]
      have := ih (K := K) (G := G ++ [x]) (by rw [← List.append_cons]; exact h)
      rwa [List.length_append, List.length_singleton, ← Nat.add_assoc] at this
    · rw [if_neg e, List.filter_cons_of_pos (by simpa using e)]
      obtain ⟨G1, hG, g⟩ := h.keep (K.length + G.length > K.length) (by omega)
      rw [hx] at g
      have := ih (K := K ++ [x]) (G := G1) (by rw [← List.append_cons]; exact g)
      rw [List.length_append, List.length_singleton, hG, Nat.add_right_comm] at this
      simp only [← List.append_cons] at this
      exact this

theorem removeAll (h : Rep c q l) (v : α) :
    Rep c (q.removeAll c v).1 (Spec.removeAll l v).1 ∧ (q.removeAll c v).2 = (Spec.removeAll l v).2 := by
  have hc := h.count
  unfold Ring.removeAll Spec.removeAll
  dsimp only
  obtain ⟨G', g, hw⟩ : ∃ G', Rep c (Ring.collapse c q v 0 0 l.length).1 (l.filter (fun x => decide (x ≠ v)) ++ G') ∧
      (Ring.collapse c q v 0 0 l.length).2 = (l.filter (fun x => decide (x ≠ v))).length := collapse v (K := []) (G := []) h
  have hq := collapse_count c l.length q v 0 0
  rw [hc]
  generalize Ring.collapse c q v 0 0 l.length = res at *
  obtain ⟨q1, w⟩ := res
  have hw : w = (l.filter (fun x => decide (x ≠ v))).length := hw
  have hq : q1.count = q.count := hq
  have a := g.iter_truncate (w := w) (by rw [List.length_append, hw]; omega)
  rw [hq, hc, List.take_left' hw.symm] at a
  exact ⟨a, by rw [hw]⟩

theorem dedupLoop {K G R : List α} {L : α} (h : Rep c q (K ++ L :: (G ++ R))) :
    ∃ G', Rep c (Ring.dedupLoop c q (K.length + (G.length + 1)) (K.length + 1) R.length).1 (K ++ L :: (Spec.dedupFrom L R ++ G')) ∧
      (Ring.dedupLoop c q (K.length + (G.length + 1)) (K.length + 1) R.length).2 = (K ++ L :: Spec.dedupFrom L R).length := by
  induction R generalizing q K G L with
  | nil =>
    exact ⟨G, by rw [List.append_nil] at h; exact h, by rw [Spec.dedupFrom, List.length_append, List.length_singleton]; rfl⟩
  | cons x R ih =>
    have hW : (K ++ [L]).length = K.length + 1 := by rw [List.length_append, List.length_singleton]
    have hx : q.get c (K.length + (G.length + 1)) = x := by
      have := (show Rep c q ((K ++ L :: G) ++ x :: R) by rw [List.append_assoc]; exact h).getAt
      rwa [List.length_append, List.length_cons] at this
    rw [List.length_cons, Ring.dedupLoop, Nat.add_sub_cancel, h.getAt, hx, Spec.dedupFrom]
    by_cases e : x = L
    · rw [if_pos e, if_pos e]
      have := ih (K := K) (G := G ++ [x]) (L := L) (by rw [← List.append_cons]; exact h)
      rwa [List.length_append, List.length_singleton] at this
    · rw [if_neg e, if_neg e]
      obtain ⟨G1, hG, g⟩ := (show Rep c q ((K ++ [L]) ++ (G ++ x :: R)) by rw [← List.append_cons]; exact h).keep
        (K.length + 1 ≠ K.length + (G.length + 1)) (by omega)
      rw [hW, Nat.add_assoc, Nat.add_comm 1, hx] at g
      have := ih (K := K ++ [L]) (G := G1) (L := x) g
      rw [hW, hG, Nat.add_right_comm K.length 1] at this
      simp only [← List.append_cons] at this
      exact this

theorem removeSortedDups (h : Rep c q l) :
    Rep c (q.removeSortedDups c).1 (Spec.removeSortedDups l).1 ∧ (q.removeSortedDups c).2 = (Spec.removeSortedDups l).2 := by
  have hc := h.count
  unfold Ring.removeSortedDups Spec.removeSortedDups
  cases l with
  | nil => rw [if_pos (show q.count = 0 from hc)]; exact ⟨h, rfl⟩
  | cons x t =>
    rw [List.length_cons] at hc
    rw [if_neg (by omega), hc, Nat.add_sub_cancel]
    obtain ⟨G', g, hw⟩ : ∃ G', Rep c (Ring.dedupLoop c q 1 1 t.length).1 (Spec.dedupAdj (x :: t) ++ G') ∧
        (Ring.dedupLoop c q 1 1 t.length).2 = (Spec.dedupAdj (x :: t)).length := dedupLoop (K := []) (G := []) (L := x) h
    generalize Ring.dedupLoop c q 1 1 t.length = res at *
    obtain ⟨q1, w⟩ := res
    have hw : w = (Spec.dedupAdj (x :: t)).length := hw
    have e1 := (g.ensureSizeAux w true 0 false).1
    rw [Spec.ensureSize, if_pos rfl, if_neg (by rw [List.length_append]; omega), List.take_left' hw.symm] at e1
    exact ⟨e1, by rw [hw]; rfl⟩

theorem removeDups (h : Rep c q l) (lt : α → α → Bool) :
    Rep c (q.removeDups c lt).1 (Spec.removeSortedDups (Spec.sort (stableSort lt) l 0 l.length)).1 ∧
    (q.removeDups c lt).2 = (Spec.removeSortedDups (Spec.sort (stableSort lt) l 0 l.length)).2 := by
  have := (h.sort lt 0 q.count).removeSortedDups
  rw [show Spec.sort (stableSort lt) l 0 q.count = Spec.sort (stableSort lt) l 0 l.length by rw [h.count]] at this
  exact this

end Rep

end

theorem revLoop_of_ge (q : Ring α) (fuel a b : Nat) (h : ¬ a < b) : Ring.revLoop c q fuel a b = q := by
  cases fuel
  · rfl
  · rw [Ring.revLoop, if_neg h]

section
variable {c} {q : Ring α} {l : List α}

namespace Rep

theorem swapAt {A M C : List α} {x y : α} (h : Rep c q (A ++ x :: (M ++ y :: C))) :
    Rep c (q.swap c A.length (A.length + (M.length + 1))) (A ++ y :: (M ++ x :: C)) := by
  have h1 : Rep c (q.put A.length (q.get c (A.length + (M.length + 1)))) ((A ++ y :: M) ++ y :: C) := by
    rw [List.append_assoc, List.cons_append]; exact h.copyDown
  have h2 := h1.putAt x
  unfold Ring.swap
  rw [h.getAt]
  rwa [List.length_append, List.length_cons, List.append_assoc, List.cons_append] at h2

theorem revLoop (fuel : Nat) {A M C : List α} (h : Rep c q (A ++ (M ++ C))) {b : Nat} (hb : A.length + M.length = b + 1)
    (hf : b ≤ fuel) : Rep c (Ring.revLoop c q fuel A.length b) (A ++ (M.reverse ++ C)) := by
  induction fuel generalizing q A M C b with
  | zero =>
    match M, hb with
    | [], _ => exact h
    | [x], _ => exact h
    | x :: z :: M1, hb => rw [List.length_cons, List.length_cons] at hb; omega
  | succ f ih =>
    match M, hb, hf with
    | [], hb, _ => rw [revLoop_of_ge c q _ _ _ (by rw [List.length_nil] at hb; omega)]; exact h
    | [x], hb, _ => rw [revLoop_of_ge c q _ _ _ (by rw [List.length_singleton] at hb; omega)]; exact h
    | x :: z :: M1, hb, hf =>
      obtain ⟨M', y, e⟩ := exists_snoc (List.cons_ne_nil z M1)
      rw [e] at h hb ⊢
      rw [List.length_cons, List.length_append, List.length_singleton] at hb
      have hb : A.length + (M'.length + 1) = b := by omega
      subst hb
      rw [Ring.revLoop, if_pos (by omega)]
      have h1 : Rep c q (A ++ x :: (M' ++ y :: C)) := by
        simpa only [List.append_assoc, List.cons_append, List.singleton_append, List.nil_append] using h
      have h2 : Rep c (q.swap c A.length (A.length + (M'.length + 1))) ((A ++ [y]) ++ (M' ++ x :: C)) := by
        rw [List.append_assoc]; exact h1.swapAt
      have := ih h2 (b := A.length + (M'.length + 1) - 1) (by rw [List.length_append, List.length_singleton]; omega) (by omega)
      rw [List.length_append, List.length_singleton] at this
      simpa only [List.reverse_nil, List.reverse_cons, List.reverse_append, List.reverse_singleton, List.append_assoc, List.cons_append,
        List.singleton_append, List.nil_append] using this

theorem reverse (h : Rep c q l) (from_ to : Nat) : Rep c (q.reverse c from_ to) (Spec.reverse l from_ to) := by
  unfold Ring.reverse Spec.reverse
  rw [h.count]
  by_cases h1 : from_ < to ∧ 0 < l.length
  · have hs : (if from_ < to then l.length else 0) = l.length := if_pos h1.1
    rw [hs, if_pos h1.2]
    -- the last index of the range, as one number: `to = t + 1`, `length = n + 1`, the index is `min t n`
    obtain ⟨t, rfl⟩ : ∃ t, to = t + 1 := ⟨to - 1, (Nat.sub_add_cancel (Nat.lt_of_le_of_lt (Nat.zero_le _) h1.1)).symm⟩
    obtain ⟨n, hn⟩ : ∃ n, l.length = n + 1 := ⟨l.length - 1, (Nat.sub_add_cancel h1.2).symm⟩
    obtain ⟨hi, hhi, hto, hlt⟩ : ∃ hi, min (t + 1 - 1) (l.length - 1) = hi ∧
        (if t + 1 - 1 ≥ l.length then l.length - 1 else t + 1 - 1) = hi ∧ hi < l.length := by
      rw [hn, Nat.add_sub_cancel, Nat.add_sub_cancel]
      by_cases htn : t ≤ n
      · exact ⟨t, Nat.min_eq_left htn, if_neg (Nat.not_le.2 (Nat.lt_succ_of_le htn)), Nat.lt_succ_of_le htn⟩
      · exact ⟨n, Nat.min_eq_right (Nat.le_of_not_le htn), if_pos (Nat.not_le.1 htn), Nat.lt_succ_self n⟩
    simp only [hto, hhi]
    by_cases h2 : from_ < hi
    · rw [if_pos ⟨h1.1, h1.2, h2⟩]
      have hab : from_ ≤ hi + 1 := by omega
      have hA : (l.take from_).length = from_ := List.length_take_of_le (by omega)
      have hb : (l.take from_).length + ((l.drop from_).take (hi + 1 - from_)).length = hi + 1 := by
        rw [← List.length_append, cut3_take l hab, List.length_take_of_le hlt]
      have := revLoop l.length (by rw [← cut3 l hab]; exact h) hb (Nat.le_of_lt hlt)
      rwa [hA, ← List.append_assoc] at this
    · rw [if_neg (fun x => h2 x.2.2), revLoop_of_ge c q _ _ _ h2]
      exact h
  · have n : ¬ (from_ < to ∧ 0 < l.length ∧ from_ < min (to - 1) (l.length - 1)) := fun x => h1 ⟨x.1, x.2.1⟩
    have hs : ¬ ((if from_ < to then l.length else 0) > 0) := by split <;> omega
    rw [if_neg n, if_neg hs]
    exact h

end Rep

end

end Muscle.Containers
