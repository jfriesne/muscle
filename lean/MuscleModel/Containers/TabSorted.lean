import MuscleModel.Containers.TabOrder

/-! Auto-sorting tables stay sorted under the operations that respect the order (`SortSafe`).  The work is in
`Put`: a replaced entry is moved by `repositionM`, which puts it between neighbours it is not out of order with
(`repositionM_place`), and that is enough when the rest is sorted (`sorted_between`). -/

-- every lemma of this file takes `[DecidableEq K]`, also the few that do not compare keys
set_option linter.unusedSectionVars false

namespace Muscle.Containers
variable {K V : Type} [DecidableEq K]

/-- what the comparison functor of an ordered table must satisfy (`Compare(a,b) < 0` as `lt a b`) -/
structure StrictWeak {α : Type} (lt : α → α → Bool) : Prop where
  asymm : ∀ a b, lt a b = true → lt b a = false
  negTrans : ∀ a b c, lt a c = true → lt a b = true ∨ lt b c = true

def Sorted {α : Type} (lt : α → α → Bool) (l : List α) : Prop := l.Pairwise (fun a b => lt b a = false)

section
variable {α : Type} {lt : α → α → Bool}

theorem StrictWeak.false_of (sw : StrictWeak lt) {a b c : α} (h1 : lt a b = false) (h2 : lt b c = false) : lt a c = false := by
  cases h : lt a c with
  | false => rfl
  | true =>
    rcases sw.negTrans a b c h with h' | h'
    · rw [h1] at h'; cases h'
    · rw [h2] at h'; cases h'

/-- `Compare(a, b) <= 0` is the order the merge sort runs on -/
theorem StrictWeak.le_trans (sw : StrictWeak lt) (a b c : α) (h1 : (!lt b a) = true) (h2 : (!lt c b) = true) :
    (!lt c a) = true := by
  rw [Bool.not_eq_true'] at h1 h2 ⊢
  exact sw.false_of h2 h1

theorem StrictWeak.le_total (sw : StrictWeak lt) (a b : α) : (!lt b a || !lt a b) = true := by
  cases h : lt a b with
  | false => exact Bool.or_true _
  | true => rw [sw.asymm a b h]; rfl

theorem sorted_assemble {A B : List α} {e : α} (hs : Sorted lt (A ++ B)) (ha : ∀ a ∈ A, lt e a = false) (hb : ∀ b ∈ B, lt b e = false) :
    Sorted lt (A ++ e :: B) := by
  unfold Sorted at hs ⊢
  rw [List.pairwise_append] at hs ⊢
  refine ⟨hs.1, ?_, ?_⟩
  · rw [List.pairwise_cons]; exact ⟨hb, hs.2.1⟩
  · intro a haA b hbB
    rcases List.mem_cons.mp hbB with rfl | hbB
    · exact ha a haA
    · exact hs.2.2 a haA b hbB

end

section
variable {lt : K × V → K × V → Bool}
theorem sorted_all_le_of_last (sw : StrictWeak lt) {l : List (K × V)} {e : K × V} (hl : lastSat (fun b => lt e b) l = false) (hs : Sorted lt l) :
    ∀ a ∈ l, lt e a = false := by
  rcases List.eq_nil_or_concat l with rfl | ⟨t, z, rfl⟩
  · intro a ha; cases ha
  · rw [List.concat_eq_append] at hl hs ⊢
    simp only [lastSat, List.getLast?_append, List.getLast?_singleton, Option.some_or] at hl
    intro a ha
    rcases List.mem_append.mp ha with ha | ha
    · have hz : lt z a = false := (List.pairwise_append.mp hs).2.2 a ha z (by simp)
      exact sw.false_of hl hz
    · simp at ha; subst ha; exact hl

theorem sorted_all_ge_of_head (sw : StrictWeak lt) {l : List (K × V)} {e : K × V} (hl : headSat (fun b => lt b e) l = false) (hs : Sorted lt l) :
    ∀ b ∈ l, lt b e = false := by
  cases l with
  | nil => intro b hb; cases hb
  | cons z t =>
    simp only [headSat, List.head?_cons] at hl
    intro b hb
    rcases List.mem_cons.mp hb with rfl | hb
    · exact hl
    · have hz : lt b z = false := (List.pairwise_cons.mp hs).1 b hb
      exact sw.false_of hz hl

theorem sorted_between (sw : StrictWeak lt) {A B : List (K × V)} {e : K × V} (hs : Sorted lt (A ++ B))
    (ha : lastSat (fun a => lt e a) A = false) (hb : headSat (fun b => lt b e) B = false) : Sorted lt (A ++ e :: B) :=
  sorted_assemble hs (sorted_all_le_of_last sw ha (List.pairwise_append.mp hs).1) (sorted_all_ge_of_head sw hb (List.pairwise_append.mp hs).2.1)

end


variable {lt : K × V → K × V → Bool}

theorem sorted_sortBy (sw : StrictWeak lt) (m : OMap K V) : Sorted lt (sortBy lt m) :=
  (List.pairwise_mergeSort (le := fun a b => !lt b a) sw.le_trans sw.le_total m).imp
    (fun h => (Bool.not_eq_true' _).mp h)

theorem sorted_erase {m : OMap K V} (k : K) (h : Sorted lt m) : Sorted lt (erase m k) := List.Pairwise.filter _ h

theorem pairwise_not_lt_insRev (sw : StrictWeak lt) (e : K × V) {r : List (K × V)} (h : r.Pairwise (fun a b => lt a b = false)) :
    (insRev lt e r).Pairwise (fun a b => lt a b = false) := by
  induction r with
  | nil => exact List.pairwise_singleton _ _
  | cons x t ih =>
    obtain ⟨h1, h2⟩ := List.pairwise_cons.mp h
    rw [insRev]
    by_cases hx : lt e x = true
    · rw [if_pos hx]
      refine List.pairwise_cons.mpr ⟨fun y hy => ?_, ih h2⟩
      rcases List.mem_cons.mp ((insRev_perm lt e t).mem_iff.mp hy) with rfl | hy
      · exact sw.asymm _ _ hx
      · exact h1 y hy
    · rw [if_neg hx]
      have hx' := Bool.eq_false_iff.mpr hx
      exact List.pairwise_cons.mpr
        ⟨fun y hy => (List.mem_cons.mp hy).elim (fun e' => e' ▸ hx') fun hy => sw.false_of hx' (h1 y hy), h⟩

theorem sorted_insertInOrder (sw : StrictWeak lt) (e : K × V) {m : OMap K V} (h : Sorted lt m) :
    Sorted lt (insertInOrder lt e m) := by
  unfold insertInOrder
  cases m with
  | nil => exact List.pairwise_singleton _ _
  | cons hd t =>
    simp only
    by_cases hl : lt e hd = true
    · rw [if_pos hl]
      exact sorted_between sw (A := []) h rfl (sw.asymm e hd hl)
    · rw [if_neg hl]
      exact List.pairwise_reverse.mpr (pairwise_not_lt_insRev sw e (List.pairwise_reverse.mpr h))

/-- `MoveIterationEntryToCorrectPosition` puts the one entry that may be out of place where it belongs -/
theorem sorted_repositionM (sw : StrictWeak lt) {m : OMap K V} (k : K) (hn : (keys m).Nodup) (h : Sorted lt (erase m k)) :
    Sorted lt (repositionM lt m k).1 := by
  rcases repositionM_place lt m k with ⟨hk, e⟩ | ⟨pre, e, post, A, B, mv, hm, he, hab, hr, -, hord⟩
  · rw [e, ← erase_of_not_mem hk]; exact h
  · subst hm he
    rw [erase_middle hn, ← hab] at h
    rw [hr]
    exact sorted_between sw h (hord sw.asymm).1 (hord sw.asymm).2

namespace Tab

theorem sorted_reposition (sw : StrictWeak lt) {tb : Tab K V} (k : K) (hn : (keys tb.m).Nodup)
    (h : Sorted lt (erase tb.m k)) : Sorted lt (tb.reposition (some lt) k).m := by
  rw [m_reposition]; exact sorted_repositionM sw k hn h

theorem sorted_putAux (sw : StrictWeak lt) {tb : Tab K V} (k : K) (v : V) (hn : (keys tb.m).Nodup) (ha : tb.autoSort = true)
    (h : Sorted lt tb.m) : Sorted lt (tb.putAux (some lt) k v).m := by
  by_cases hh : has tb.m k = true
  · rw [putAux_of_has _ v hh, valueChanged, if_neg (by rw [ha]; simp)]
    exact sorted_reposition sw k (by rw [keys_setVal]; exact hn) (by rw [erase_setVal]; exact sorted_erase k h)
  · rw [putAux_of_not_has _ v hh]
    simp only [linkNew, ha, if_true]
    exact sorted_insertInOrder sw _ h

theorem sorted_copyFrom (sw : StrictWeak lt) (tb : Tab K V) (src : OMap K V) (cf : Bool) (h : Sorted lt tb.m) :
    Sorted lt (tb.copyFrom (some lt) src cf).m := by
  simp only [copyFrom]
  by_cases he : src.isEmpty = true
  · rw [if_pos he]
    cases cf
    · exact h
    · exact List.Pairwise.nil
  · rw [if_neg he]; exact sorted_sortBy sw _

theorem autoSort_putAux (lt? : Option (K × V → K × V → Bool)) (tb : Tab K V) (k : K) (v : V) :
    (tb.putAux lt? k v).autoSort = tb.autoSort := by
  by_cases hh : has tb.m k = true
  · rw [putAux_of_has lt? v hh, valueChanged]
    by_cases hf : (tb.respectFlag && !tb.autoSort) = true
    · rw [if_pos hf]
    · rw [if_neg hf]
      cases lt? with
      | none => rfl
      | some lt =>
        simp only [reposition]
        by_cases hr : (repositionM lt (setVal tb.m k v) k).2 = true
        · rw [if_pos hr]; rfl
        · rw [if_neg hr]
  · rw [putAux_of_not_has lt? v hh]

theorem autoSort_copyFrom (lt? : Option (K × V → K × V → Bool)) (tb : Tab K V) (src : OMap K V) (cf : Bool) :
    (tb.copyFrom lt? src cf).autoSort = tb.autoSort := by
  simp only [copyFrom]
  by_cases he : src.isEmpty = true
  · rw [if_pos he]; cases cf <;> rfl
  · rw [if_neg he]; cases cf <;> rfl

/-- operations after which an `OrderedKeysHashtable`/`OrderedValuesHashtable` with auto-sort on is still sorted
    (the positional puts and the `MoveTo…` family are documented as breaking the order; `SortByKey/SortByValue`
    with a foreign comparison and switching auto-sort off are excluded as well) -/
def SortSafe (lt : K × V → K × V → Bool) : Op K V → Prop
  | .put _ _ | .remove _ | .removeAll _ | .intersect _ | .clear | .copyFrom _ _ | .realloc => True
  | .sortBy lt' => lt' = lt
  | .setAutoSort en _ => en = true
  | .itNew _ | .itAt _ _ | .itNext _ | .itPrev _ | .itSetBack _ _ | .itDrop _ | .itCopy _ => True
  | .reposition _ => False   -- restores the order only if at most that one entry is out of place: see `sorted_reposition`
  | _ => False

def SortedInv (lt : K × V → K × V → Bool) (tb : Tab K V) : Prop := tb.Inv ∧ Sorted lt tb.m ∧ tb.autoSort = true

theorem sortedInv_apply {lt : K × V → K × V → Bool} (sw : StrictWeak lt) {tb : Tab K V} (op : Op K V)
    (hs : SortSafe lt op) (h : SortedInv lt tb) : SortedInv lt (tb.apply (some lt) op) := by
  obtain ⟨hi, hsrt, ha⟩ := h
  refine ⟨inv_apply (some lt) op hi, ?_⟩
  have hrm : ∀ (tb : Tab K V) k, Sorted lt tb.m ∧ tb.autoSort = true →
      Sorted lt (tb.removeKey k).m ∧ (tb.removeKey k).autoSort = true :=
    fun tb k h => ⟨(m_removeKey tb k).symm ▸ sorted_erase k h.1, (autoSort_removeKey tb k).trans h.2⟩
  cases op with
  | put k v => exact ⟨sorted_putAux sw k v hi.nodup ha hsrt, (autoSort_putAux _ tb k v).trans ha⟩
  | remove k => exact hrm tb k ⟨hsrt, ha⟩
  | removeAll ks => exact foldl_inv (fun tb => Sorted lt tb.m ∧ tb.autoSort = true) _ hrm ks tb ⟨hsrt, ha⟩
  | intersect o => exact foldl_inv (fun tb => Sorted lt tb.m ∧ tb.autoSort = true) _ hrm _ tb ⟨hsrt, ha⟩
  | clear => exact ⟨List.Pairwise.nil, ha⟩
  | copyFrom src cf => exact ⟨sorted_copyFrom sw tb src cf hsrt, (autoSort_copyFrom _ tb src cf).trans ha⟩
  | sortBy lt' => exact ⟨(show lt' = lt from hs) ▸ sorted_sortBy sw _, ha⟩
  | setAutoSort en now =>
    -- switched on while it is on: nothing happens
    have e : (tb.apply (some lt) (.setAutoSort en now)) = tb := by
      rw [show en = true from hs]; exact if_pos ha.symm
    rw [e]; exact ⟨hsrt, ha⟩
  | itCopy i =>
    show Sorted lt (tb.itCopy i).m ∧ (tb.itCopy i).autoSort = true
    unfold itCopy; split <;> exact ⟨hsrt, ha⟩
  | realloc | itNew b | itAt k b | itNext i | itPrev i | itSetBack i b | itDrop i => exact ⟨hsrt, ha⟩
  | _ => exact hs.elim

end Tab

end Muscle.Containers
