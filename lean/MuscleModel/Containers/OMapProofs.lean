import MuscleModel.Containers.OMap
import MuscleModel.Base.Lists

/-! The association-list layer (`OMap`) and the key lists (`after`, `succIn`, `dirKeys`) the iterators walk.  The `MoveTo…`
primitives but `toBack` are `toPos`, and auto-sorting re-positions by `repositionM`: the entry is taken out and put back, the rest
keeps its order (`keys_toPos`, `repositionM_place`). -/

-- every lemma of this file takes `[DecidableEq K]`, also the few that do not compare keys
set_option linter.unusedSectionVars false

namespace Muscle.Containers
variable {K V : Type} [DecidableEq K]

@[simp] theorem keys_nil : keys ([] : OMap K V) = [] := rfl
@[simp] theorem keys_cons (p : K × V) (m : OMap K V) : keys (p :: m) = p.1 :: keys m := rfl
@[simp] theorem keys_append (a b : OMap K V) : keys (a ++ b) = keys a ++ keys b := by simp [keys]
@[simp] theorem length_keys (m : OMap K V) : (keys m).length = m.length := by simp [keys]

theorem get_cons (p : K × V) (r : OMap K V) (k : K) : get (p :: r) k = if p.1 = k then some p.2 else get r k := by
  cases p; rfl
theorem erase_cons_eq {p : K × V} {k : K} (r : OMap K V) (h : p.1 = k) : erase (p :: r) k = erase r k := by
  simp [erase, h]
theorem erase_cons_ne {p : K × V} {k : K} (r : OMap K V) (h : p.1 ≠ k) : erase (p :: r) k = p :: erase r k := by
  simp [erase, h]
theorem setVal_cons_eq {p : K × V} {k : K} (v : V) (r : OMap K V) (h : p.1 = k) : setVal (p :: r) k v = (k, v) :: setVal r k v := by
  simp [setVal, h]
theorem setVal_cons_ne {p : K × V} {k : K} (v : V) (r : OMap K V) (h : p.1 ≠ k) : setVal (p :: r) k v = p :: setVal r k v := by
  simp [setVal, h]

theorem get_eq_none_iff {m : OMap K V} {k : K} : get m k = none ↔ k ∉ keys m := by
  induction m with
  | nil => exact ⟨fun _ h => (nomatch h), fun _ => rfl⟩
  | cons p r ih =>
    rw [get_cons, keys_cons, List.mem_cons, not_or]
    by_cases h : p.1 = k
    · rw [if_pos h]; exact ⟨fun e => (nomatch e), fun e => absurd h.symm e.1⟩
    · rw [if_neg h, ih]; exact ⟨fun hh => ⟨fun e => h e.symm, hh⟩, fun hh => hh.2⟩

theorem has_iff {m : OMap K V} {k : K} : has m k = true ↔ k ∈ keys m := by
  rw [has, Option.isSome_iff_ne_none, Ne, get_eq_none_iff, Decidable.not_not]

theorem has_false_iff {m : OMap K V} {k : K} : has m k = false ↔ k ∉ keys m :=
  Bool.eq_false_iff.trans (not_congr has_iff)

theorem exists_get_of_mem {m : OMap K V} {k : K} (h : k ∈ keys m) : ∃ v, get m k = some v := by
  cases hg : get m k with
  | none => exact absurd h (get_eq_none_iff.mp hg)
  | some v => exact ⟨v, rfl⟩

theorem mem_of_get {m : OMap K V} {k : K} {v : V} (h : get m k = some v) : (k, v) ∈ m := by
  induction m with
  | nil => cases h
  | cons p r ih =>
    rw [get_cons] at h
    by_cases hk : p.1 = k
    · rw [if_pos hk, Option.some.injEq] at h
      exact List.mem_cons.mpr (Or.inl (by rw [← hk, ← h]))
    · rw [if_neg hk] at h; exact List.mem_cons_of_mem _ (ih h)

theorem get_of_mem {m : OMap K V} {k : K} {v : V} (hn : (keys m).Nodup) (h : (k, v) ∈ m) : get m k = some v := by
  induction m with
  | nil => cases h
  | cons p r ih =>
    rw [keys_cons, List.nodup_cons] at hn
    rw [get_cons]
    rcases List.mem_cons.mp h with h | h
    · rw [← h, if_pos rfl]
    · rw [if_neg (fun (e : p.1 = k) => hn.1 (e ▸ List.mem_map.mpr ⟨(k, v), h, rfl⟩)), ih hn.2 h]

theorem mem_iff_get {m : OMap K V} {k : K} {v : V} (hn : (keys m).Nodup) : (k, v) ∈ m ↔ get m k = some v :=
  ⟨get_of_mem hn, mem_of_get⟩

theorem get_perm {m m' : OMap K V} (hp : m.Perm m') (hn : (keys m).Nodup) (k : K) : get m' k = get m k := by
  have hn' : (keys m').Nodup := (List.Perm.nodup_iff (hp.map (fun p : K × V => p.1))).mp hn
  apply Option.ext
  intro v
  rw [← mem_iff_get hn, ← mem_iff_get hn']
  exact hp.symm.mem_iff

theorem keys_perm {m m' : OMap K V} (hp : m.Perm m') : (keys m).Perm (keys m') := hp.map _

theorem nodup_perm {m m' : OMap K V} (hp : m.Perm m') (hn : (keys m).Nodup) : (keys m').Nodup :=
  (keys_perm hp).nodup_iff.mp hn

theorem keys_erase (m : OMap K V) (k : K) : keys (erase m k) = (keys m).filter (fun x => x ≠ k) := by
  unfold keys erase; rw [List.filter_map]; rfl

theorem nodup_erase {m : OMap K V} (k : K) (hn : (keys m).Nodup) : (keys (erase m k)).Nodup := by
  rw [keys_erase]; exact hn.filter _

theorem mem_keys_erase {m : OMap K V} {k x : K} : x ∈ keys (erase m k) ↔ x ∈ keys m ∧ x ≠ k := by
  rw [keys_erase]; simp

theorem get_erase_same (m : OMap K V) (k : K) : get (erase m k) k = none :=
  get_eq_none_iff.mpr fun h => (mem_keys_erase.mp h).2 rfl

theorem get_erase_other (m : OMap K V) {k k' : K} (h : k' ≠ k) : get (erase m k) k' = get m k' := by
  induction m with
  | nil => rfl
  | cons p r ih =>
    by_cases hp : p.1 = k
    · rw [erase_cons_eq r hp, ih, get_cons, if_neg (fun (e : p.1 = k') => h (e ▸ hp))]
    · rw [erase_cons_ne r hp, get_cons, get_cons, ih]

theorem erase_of_not_mem {m : OMap K V} {k : K} (h : k ∉ keys m) : erase m k = m := by
  unfold erase
  apply List.filter_eq_self.mpr
  intro p hp
  simp
  intro e
  exact h (List.mem_map.mpr ⟨p, hp, e⟩)

@[simp] theorem keys_setVal (m : OMap K V) (k : K) (v : V) : keys (setVal m k v) = keys m := by
  unfold keys setVal
  rw [List.map_map]
  exact List.map_congr_left fun p _ => by simp only [Function.comp]; split <;> rfl

@[simp] theorem length_setVal (m : OMap K V) (k : K) (v : V) : (setVal m k v).length = m.length := by simp [setVal]

theorem get_setVal_same {m : OMap K V} {k : K} (v : V) (h : k ∈ keys m) : get (setVal m k v) k = some v := by
  induction m with
  | nil => cases h
  | cons p r ih =>
    by_cases hp : p.1 = k
    · rw [setVal_cons_eq v r hp, get_cons, if_pos rfl]
    · rw [setVal_cons_ne v r hp, get_cons, if_neg hp,
        ih ((List.mem_cons.mp h).resolve_left fun e => hp e.symm)]

theorem get_setVal_other (m : OMap K V) {k k' : K} (v : V) (h : k' ≠ k) : get (setVal m k v) k' = get m k' := by
  induction m with
  | nil => rfl
  | cons p r ih =>
    by_cases hp : p.1 = k
    · rw [setVal_cons_eq v r hp, get_cons, get_cons, ih, if_neg (Ne.symm h), if_neg (fun (e : p.1 = k') => h (e ▸ hp))]
    · rw [setVal_cons_ne v r hp, get_cons, get_cons, ih]

theorem erase_setVal (m : OMap K V) (k : K) (v : V) : erase (setVal m k v) k = erase m k := by
  induction m with
  | nil => rfl
  | cons p r ih =>
    by_cases hp : p.1 = k
    · rw [setVal_cons_eq v r hp, erase_cons_eq _ rfl, erase_cons_eq r hp, ih]
    · rw [setVal_cons_ne v r hp, erase_cons_ne _ hp, erase_cons_ne r hp, ih]

theorem get_append_new_same {m : OMap K V} {k : K} (v : V) (h : k ∉ keys m) : get (m ++ [(k, v)]) k = some v := by
  induction m with
  | nil => exact if_pos rfl
  | cons p r ih =>
    rw [keys_cons, List.mem_cons, not_or] at h
    rw [List.cons_append, get_cons, if_neg (fun (e : p.1 = k) => h.1 e.symm), ih h.2]

theorem get_append_other (m : OMap K V) {k k' : K} (v : V) (h : k' ≠ k) : get (m ++ [(k, v)]) k' = get m k' := by
  induction m with
  | nil => exact if_neg (Ne.symm h)
  | cons p r ih => rw [List.cons_append, get_cons, get_cons, ih]

theorem nodup_append_new {m : OMap K V} {k : K} (v : V) (hn : (keys m).Nodup) (h : k ∉ keys m) :
    (keys (m ++ [(k, v)])).Nodup :=
  nodup_perm (m := (k, v) :: m) (List.perm_append_singleton _ _).symm (List.nodup_cons.mpr ⟨h, hn⟩)

theorem keys_insertAt (m : OMap K V) (i : Nat) (p : K × V) :
    keys (insertAt m i p) = (keys m).take i ++ p.1 :: (keys m).drop i := by
  simp [insertAt, keys, List.map_take, List.map_drop]

theorem insertAt_perm (m : OMap K V) (i : Nat) (p : K × V) : (insertAt m i p).Perm (p :: m) := by
  unfold insertAt
  have h : (m.take i ++ p :: m.drop i).Perm (p :: (m.take i ++ m.drop i)) := List.perm_middle
  rwa [List.take_append_drop] at h

@[simp] theorem length_insertAt (m : OMap K V) (i : Nat) (p : K × V) : (insertAt m i p).length = m.length + 1 :=
  (insertAt_perm m i p).length_eq

theorem erase_middle {pre post : OMap K V} {e : K × V} (hn : (keys (pre ++ e :: post)).Nodup) :
    erase (pre ++ e :: post) e.1 = pre ++ post := by
  have hnn : (keys pre ++ e.1 :: keys post).Nodup := by simpa using hn
  obtain ⟨h1, h2⟩ := nodup_middle_not_mem hnn
  have e1 : erase (pre ++ e :: post) e.1 = erase pre e.1 ++ erase (e :: post) e.1 := by simp [erase]
  rw [e1, erase_cons_eq post rfl, erase_of_not_mem h1, erase_of_not_mem h2]

theorem erase_cons_perm {m : OMap K V} {k : K} {v : V} (hn : (keys m).Nodup) (h : get m k = some v) :
    ((k, v) :: erase m k).Perm m := by
  obtain ⟨s, t, rfl⟩ := List.append_of_mem (mem_of_get h)
  rw [erase_middle (e := (k, v)) hn]
  exact List.perm_middle.symm

theorem length_erase {m : OMap K V} {k : K} (hn : (keys m).Nodup) (h : k ∈ keys m) : (erase m k).length + 1 = m.length := by
  obtain ⟨v, hv⟩ := exists_get_of_mem h
  exact (erase_cons_perm hn hv).length_eq

theorem length_filter_keys_ne {m : OMap K V} {k : K} (hn : (keys m).Nodup) (h : k ∈ keys m) :
    ((keys m).filter (fun x => x ≠ k)).length + 1 = m.length := by
  rw [← keys_erase, length_keys]; exact length_erase hn h

theorem keys_toPos {m : OMap K V} {k : K} (h : k ∈ keys m) (i : Nat) :
    keys (toPos m k i) = ((keys m).filter (fun x => x ≠ k)).take i ++ k :: ((keys m).filter (fun x => x ≠ k)).drop i := by
  obtain ⟨v, hv⟩ := exists_get_of_mem h
  simp only [toPos, hv, keys_insertAt, keys_erase]

theorem keys_toBack {m : OMap K V} {k : K} (h : k ∈ keys m) : keys (toBack m k) = (keys m).filter (fun x => x ≠ k) ++ [k] := by
  obtain ⟨v, hv⟩ := exists_get_of_mem h
  simp only [toBack, hv, keys_append, keys_erase, keys_cons, keys_nil]

theorem indexOf_eq {m : OMap K V} {a b : List K} {f : K} (h : keys m = a ++ f :: b) (hf : f ∉ a) : indexOf m f = a.length := by
  induction m generalizing a with
  | nil => cases a <;> cases h
  | cons p r ih =>
    obtain ⟨x, y⟩ := p
    cases a with
    | nil => rw [indexOf, if_pos (List.cons.inj h).1]; rfl
    | cons a0 a' =>
      obtain ⟨h1, h2⟩ := List.cons.inj h
      rw [indexOf, if_neg (fun e => hf (by rw [← e, ← h1]; exact List.mem_cons_self)),
        ih h2 (fun hm => hf (List.mem_cons_of_mem _ hm))]
      rfl

theorem after_append_of_not_mem {x : List K} {c : K} (r : List K) (h : c ∉ x) : after (x ++ c :: r) c = r := by
  induction x with
  | nil => simp [after]
  | cons a t ih =>
    simp only [List.mem_cons, not_or] at h
    have : a ≠ c := fun e => h.1 e.symm
    simp only [List.cons_append, after, this, if_false]
    exact ih h.2

theorem after_of_not_mem {l : List K} {c : K} (h : c ∉ l) : after l c = [] := by
  induction l with
  | nil => rfl
  | cons a t ih =>
    simp only [List.mem_cons, not_or] at h
    have : a ≠ c := fun e => h.1 e.symm
    simp only [after, this, if_false]
    exact ih h.2

theorem after_split {l : List K} {c : K} (h : c ∈ l) : ∃ x, l = x ++ c :: after l c ∧ c ∉ x := by
  induction l with
  | nil => cases h
  | cons a t ih =>
    unfold after
    by_cases ha : a = c
    · rw [if_pos ha, ha]; exact ⟨[], rfl, List.not_mem_nil⟩
    · rw [if_neg ha]
      obtain ⟨x, hx, hcx⟩ := ih ((List.mem_cons.mp h).resolve_left (Ne.symm ha))
      exact ⟨a :: x, congrArg (a :: ·) hx, fun hm => (List.mem_cons.mp hm).elim (fun e => ha e.symm) hcx⟩

theorem after_sublist (l : List K) (c : K) : (after l c).Sublist l := by
  by_cases h : c ∈ l
  · obtain ⟨x, hx, -⟩ := after_split h
    conv => rhs; rw [hx]
    exact (List.sublist_cons_self _ _).trans (List.sublist_append_right _ _)
  · rw [after_of_not_mem h]; exact List.nil_sublist _

theorem mem_of_mem_after {l : List K} {k x : K} (h : x ∈ after l k) : x ∈ l := (after_sublist l k).subset h

theorem not_mem_after_self {l : List K} {k : K} (hn : l.Nodup) : k ∉ after l k := by
  by_cases h : k ∈ l
  · obtain ⟨x, hx, -⟩ := after_split h
    exact (nodup_middle_not_mem (hx ▸ hn)).2
  · rw [after_of_not_mem h]; exact List.not_mem_nil

theorem after_of_succ_none {l : List K} {c : K} (h : succIn l c = none) : after l c = [] := by
  unfold succIn at h
  cases ha : after l c with
  | nil => rfl
  | cons a t => simp [ha] at h

theorem succIn_mem_after {l : List K} {k x : K} (h : succIn l k = some x) : x ∈ after l k := by
  unfold succIn at h
  cases ha : after l k with
  | nil => simp [ha] at h
  | cons y t => simp [ha] at h; simp [h]

theorem succIn_ne {l : List K} {k x : K} (hn : l.Nodup) (h : succIn l k = some x) : x ≠ k :=
  fun e => not_mem_after_self hn (e ▸ succIn_mem_after h)

theorem succIn_split {l : List K} {k f : K} (h : succIn l k = some f) : ∃ x y, l = x ++ k :: f :: y ∧ k ∉ x := by
  obtain ⟨t, ht⟩ := List.head?_eq_some_iff.mp (show (after l k).head? = some f from h)
  have hk : k ∈ l := Decidable.byContradiction fun hn => by rw [after_of_not_mem hn] at ht; cases ht
  obtain ⟨x, hx, hkx⟩ := after_split hk
  exact ⟨x, t, ht ▸ hx, hkx⟩

theorem after_succ {l : List K} {c c' : K} (hn : l.Nodup) (h : succIn l c = some c') : after l c = c' :: after l c' := by
  obtain ⟨x, y, hxy, hcx⟩ := succIn_split h
  subst hxy
  rw [after_append_of_not_mem _ hcx]
  have h2 : x ++ c :: c' :: y = (x ++ [c]) ++ c' :: y := by simp
  have hn2 : ((x ++ [c]) ++ c' :: y).Nodup := by rw [← h2]; exact hn
  rw [h2, after_append_of_not_mem _ (nodup_middle_not_mem hn2).1]

theorem after_filter {l : List K} {c k : K} (h : c ≠ k) :
    after (l.filter (fun x => x ≠ k)) c = (after l c).filter (fun x => x ≠ k) := by
  by_cases hc : c ∈ l
  · obtain ⟨x, hx, hcx⟩ := after_split hc
    conv => lhs; rw [hx, List.filter_append, List.filter_cons_of_pos (p := fun x => decide (x ≠ k)) (decide_eq_true h)]
    exact after_append_of_not_mem _ fun hm => hcx (List.mem_filter.mp hm).1
  · rw [after_of_not_mem hc, after_of_not_mem fun hm => hc (List.mem_filter.mp hm).1]; rfl

/-- the entry under the cursor goes: what was behind it is what is behind its successor, the successor included -/
theorem after_remove_cur {l : List K} (hn : l.Nodup) (c : K) :
    (match succIn l c with
      | none => []
      | some c' => c' :: after (l.filter (fun x => x ≠ c)) c') = after l c := by
  cases hsu : succIn l c with
  | none => exact (after_of_succ_none hsu).symm
  | some c' =>
    show c' :: after (l.filter (fun x => x ≠ c)) c' = after l c
    have e := after_succ hn hsu
    have hc : c ∉ after l c' := fun hm => not_mem_after_self hn (e ▸ List.mem_cons_of_mem _ hm)
    rw [e, after_filter (succIn_ne hn hsu), filter_ne_of_not_mem hc]

theorem after_append_single {l : List K} {c k : K} (h : c ∈ l) : after (l ++ [k]) c = after l c ++ [k] := by
  obtain ⟨x, hx, hcx⟩ := after_split h
  conv => lhs; rw [hx, List.append_assoc, List.cons_append]
  exact after_append_of_not_mem _ hcx

theorem mem_dirKeys {m : OMap K V} {b : Bool} {x : K} : x ∈ dirKeys m b ↔ x ∈ keys m := by
  unfold dirKeys; cases b <;> simp

theorem nodup_dirKeys {m : OMap K V} (b : Bool) (hn : (keys m).Nodup) : (dirKeys m b).Nodup := by
  unfold dirKeys; cases b
  · simpa using hn
  · simpa using (List.Perm.nodup_iff (List.reverse_perm (keys m))).mpr hn

theorem nbr_mem {m : OMap K V} {b : Bool} {k x : K} (h : nbr m b k = some x) : x ∈ keys m :=
  mem_dirKeys.mp (mem_of_mem_after (succIn_mem_after h))

theorem nbr_ne {m : OMap K V} {b : Bool} {k x : K} (hn : (keys m).Nodup) (h : nbr m b k = some x) : x ≠ k :=
  succIn_ne (nodup_dirKeys b hn) h

theorem dirKeys_erase (m : OMap K V) (k : K) (b : Bool) : dirKeys (erase m k) b = (dirKeys m b).filter (fun x => x ≠ k) := by
  unfold dirKeys
  cases b
  · simp [keys_erase]
  · simp [keys_erase, List.filter_reverse]

theorem dirKeys_setVal (m : OMap K V) (k : K) (v : V) (b : Bool) : dirKeys (setVal m k v) b = dirKeys m b := by
  unfold dirKeys; simp

theorem dirKeys_append_new (m : OMap K V) (k : K) (v : V) (b : Bool) :
    dirKeys (m ++ [(k, v)]) b = if b then k :: dirKeys m b else dirKeys m b ++ [k] := by
  cases b <;> simp [dirKeys]

theorem toPos_perm {m : OMap K V} (k : K) (i : Nat) (hn : (keys m).Nodup) : (toPos m k i).Perm m := by
  unfold toPos
  cases hg : get m k with
  | none => exact List.Perm.refl _
  | some v => exact (insertAt_perm _ _ _).trans (erase_cons_perm hn hg)

/-- `toFront`, `toBefore`, `toBehind` are `toPos` at a computed position (`insertAt l 0 p` reduces to `p :: l`). -/
theorem toFront_eq_toPos (m : OMap K V) (k : K) : toFront m k = toPos m k 0 := rfl
theorem toBefore_eq_toPos (m : OMap K V) (k f : K) : toBefore m k f = toPos m k (indexOf (erase m k) f) := rfl
theorem toBehind_eq_toPos (m : OMap K V) (k d : K) : toBehind m k d = toPos m k (indexOf (erase m k) d + 1) := rfl

theorem toBack_perm {m : OMap K V} (k : K) (hn : (keys m).Nodup) : (toBack m k).Perm m := by
  unfold toBack
  cases hg : get m k with
  | none => exact List.Perm.refl _
  | some v => exact (List.perm_append_singleton _ _).trans (erase_cons_perm hn hg)

theorem sortBy_perm (lt : K × V → K × V → Bool) (m : OMap K V) : (sortBy lt m).Perm m := List.mergeSort_perm _ _

theorem insRev_perm (lt : K × V → K × V → Bool) (e : K × V) (l : List (K × V)) : (insRev lt e l).Perm (e :: l) := by
  induction l with
  | nil => exact List.Perm.refl _
  | cons x r ih =>
    unfold insRev
    by_cases h : lt e x
    · simp only [h, if_true]
      exact (ih.cons x).trans (List.Perm.swap _ _ _)
    · simp only [h]; exact List.Perm.refl _

theorem insertInOrder_perm (lt : K × V → K × V → Bool) (e : K × V) (m : OMap K V) : (insertInOrder lt e m).Perm (e :: m) := by
  unfold insertInOrder
  cases m with
  | nil => exact List.Perm.refl _
  | cons h t =>
    simp only
    by_cases hl : lt e h
    · simp only [hl, if_true]; exact List.Perm.refl _
    · simp only [hl]
      exact (List.reverse_perm _).trans ((insRev_perm lt e _).trans ((List.reverse_perm _).cons e))

theorem erase_insRev (lt : K × V → K × V → Bool) (e : K × V) (l : List (K × V)) : erase (insRev lt e l) e.1 = erase l e.1 := by
  induction l with
  | nil => exact erase_cons_eq [] rfl
  | cons x r ih =>
    rw [insRev]
    split
    · by_cases hx : x.1 = e.1
      · rw [erase_cons_eq _ hx, erase_cons_eq _ hx, ih]
      · rw [erase_cons_ne _ hx, erase_cons_ne _ hx, ih]
    · exact erase_cons_eq _ rfl

theorem erase_reverse (m : OMap K V) (k : K) : erase m.reverse k = (erase m k).reverse := List.filter_reverse

theorem erase_insertInOrder (lt : K × V → K × V → Bool) (e : K × V) (m : OMap K V) :
    erase (insertInOrder lt e m) e.1 = erase m e.1 := by
  unfold insertInOrder
  cases m with
  | nil => exact erase_cons_eq [] rfl
  | cons h t =>
    simp only
    split
    · exact erase_cons_eq _ rfl
    · rw [erase_reverse, erase_insRev, erase_reverse, List.reverse_reverse]

theorem splitAtKey_spec (m : OMap K V) (k : K) :
    match splitAtKey m k with
    | none => k ∉ keys m
    | some (pre, e, post) => m = pre ++ e :: post ∧ e.1 = k := by
  induction m with
  | nil => exact List.not_mem_nil
  | cons p r ih =>
    unfold splitAtKey
    by_cases hp : p.1 = k
    · rw [if_pos hp]; exact ⟨rfl, hp⟩
    · rw [if_neg hp]
      cases hs : splitAtKey r k with
      | none =>
        rw [hs] at ih
        exact fun hm => (List.mem_cons.mp hm).elim (fun e => hp e.symm) ih
      | some t =>
        obtain ⟨a, e', b⟩ := t
        rw [hs] at ih
        exact ⟨congrArg (p :: ·) ih.1, ih.2⟩

theorem headSat_dropWhile (p : K × V → Bool) (l : List (K × V)) : headSat p (l.dropWhile p) = false := by
  have h := List.head?_dropWhile_not p l
  unfold headSat
  cases hd : (l.dropWhile p).head? with
  | none => rfl
  | some x => rw [hd] at h; exact h

theorem lastSat_reverse (p : K × V → Bool) (l : List (K × V)) : lastSat p l.reverse = headSat p l := by
  simp [lastSat, headSat, List.getLast?_reverse]

theorem ne_nil_of_headSat {p : K × V → Bool} {l : List (K × V)} (h : headSat p l = true) : l ≠ [] := by
  rintro rfl; cases h

theorem ne_nil_of_lastSat {p : K × V → Bool} {l : List (K × V)} (h : lastSat p l = true) : l ≠ [] := by
  rintro rfl; cases h

theorem headSat_append {p : K × V → Bool} {A : List (K × V)} (B : List (K × V)) (h : A ≠ []) :
    headSat p (A ++ B) = headSat p A := by
  cases A with
  | nil => exact absurd rfl h
  | cons a t => rfl

theorem lastSat_append {p : K × V → Bool} (A : List (K × V)) {B : List (K × V)} (h : B ≠ []) :
    lastSat p (A ++ B) = lastSat p B := by
  simp only [lastSat, List.getLast?_append, List.getLast?_eq_some_getLast h, Option.some_or]

theorem headSat_false_of_forall {q : K × V → Bool} {l : List (K × V)} (h : ∀ x ∈ l, q x = false) : headSat q l = false := by
  cases l with
  | nil => rfl
  | cons a t => exact h a List.mem_cons_self

theorem lastSat_false_of_forall {q : K × V → Bool} {l : List (K × V)} (h : ∀ x ∈ l, q x = false) : lastSat q l = false := by
  rw [← List.reverse_reverse l, lastSat_reverse]
  exact headSat_false_of_forall fun x hx => h x (List.mem_reverse.mp hx)

theorem headSat_excl {p q : K × V → Bool} {l : List (K × V)} (h : headSat p l = true) (hpq : ∀ x, p x = true → q x = false) :
    headSat q l = false := by
  cases l with
  | nil => rfl
  | cons a t => exact hpq a h

theorem lastSat_excl {p q : K × V → Bool} {l : List (K × V)} (h : lastSat p l = true) (hpq : ∀ x, p x = true → q x = false) :
    lastSat q l = false := by
  rw [← List.reverse_reverse l, lastSat_reverse] at h ⊢
  exact headSat_excl h hpq

theorem takeWhile_ne_nil {p : K × V → Bool} {l : List (K × V)} (h : headSat p l = true) : l.takeWhile p ≠ [] := by
  cases l with
  | nil => cases h
  | cons a t => rw [List.takeWhile_cons, if_pos (show p a = true from h)]; exact List.cons_ne_nil _ _

theorem repositionM_place (lt : K × V → K × V → Bool) (m : OMap K V) (k : K) :
    (k ∉ keys m ∧ repositionM lt m k = (m, false)) ∨
    ∃ pre e post A B moved, m = pre ++ e :: post ∧ e.1 = k ∧ A ++ B = pre ++ post ∧
      repositionM lt m k = (A ++ e :: B, moved) ∧ (moved = false → A = pre ∧ B = post) ∧
      ((∀ a b, lt a b = true → lt b a = false) →
        lastSat (fun a => lt e a) A = false ∧ headSat (fun b => lt b e) B = false) := by
  have hsp := splitAtKey_spec m k
  unfold repositionM
  cases hs : splitAtKey m k with
  | none => rw [hs] at hsp; exact Or.inl ⟨hsp, rfl⟩
  | some t =>
    obtain ⟨pre, e, post⟩ := t
    rw [hs] at hsp
    obtain ⟨hm, he⟩ := hsp
    refine Or.inr ⟨pre, e, post, ?_⟩
    simp only
    by_cases c1 : lastSat (fun b => lt e b) pre = true
    · rw [if_pos c1]
      by_cases c2 : headSat (fun h => lt e h) pre = true
      · rw [if_pos c2]
        exact ⟨[], pre ++ post, true, hm, he, rfl, rfl, (nomatch ·), fun asym =>
          ⟨rfl, (headSat_append post (ne_nil_of_headSat c2)).trans (headSat_excl c2 fun x => asym e x)⟩⟩
      · rw [if_neg c2]
        have hsplit := takeWhile_rev_split (fun x => lt e x) pre
        have hne : (pre.reverse.takeWhile fun x => lt e x).reverse ≠ [] := fun hx =>
          takeWhile_ne_nil (by rw [← lastSat_reverse, List.reverse_reverse]; exact c1) (List.reverse_eq_nil_iff.mp hx)
        refine ⟨_, _, true, hm, he, by rw [← List.append_assoc, hsplit], rfl, (nomatch ·), fun asym =>
          ⟨by rw [lastSat_reverse]; exact headSat_dropWhile _ _, ?_⟩⟩
        exact (headSat_append post hne).trans (headSat_false_of_forall fun b hb =>
          asym e b (mem_takeWhile_imp (List.mem_reverse.mp hb)))
    · rw [if_neg c1]
      by_cases c3 : headSat (fun b => lt b e) post = true
      · rw [if_pos c3]
        by_cases c4 : lastSat (fun t => lt t e) post = true
        · rw [if_pos c4]
          exact ⟨pre ++ post, [], true, hm, he, List.append_nil _, by rw [List.append_assoc], (nomatch ·),
            fun asym => ⟨(lastSat_append pre (ne_nil_of_lastSat c4)).trans (lastSat_excl c4 fun x => asym x e), rfl⟩⟩
        · rw [if_neg c4]
          refine ⟨pre ++ post.takeWhile (fun x => lt x e), post.dropWhile (fun x => lt x e), true, hm, he,
            by rw [List.append_assoc, List.takeWhile_append_dropWhile], by rw [List.append_assoc], (nomatch ·),
            fun asym => ⟨?_, headSat_dropWhile _ _⟩⟩
          exact (lastSat_append pre (takeWhile_ne_nil c3)).trans (lastSat_false_of_forall fun b hb =>
            asym b e (mem_takeWhile_imp (p := fun x => lt x e) hb))
      · rw [if_neg c3]
        exact ⟨pre, post, false, hm, he, rfl, by rw [hm], fun _ => ⟨rfl, rfl⟩, fun _ =>
          ⟨Bool.eq_false_iff.mpr c1, Bool.eq_false_iff.mpr c3⟩⟩

theorem repositionM_perm (lt : K × V → K × V → Bool) (m : OMap K V) (k : K) : (repositionM lt m k).1.Perm m := by
  rcases repositionM_place lt m k with ⟨-, e⟩ | ⟨pre, e, post, A, B, mv, hm, -, hab, hr, -, -⟩
  · rw [e]
  · rw [hr, hm]
    exact List.perm_middle.trans (by rw [hab]; exact List.perm_middle.symm)

theorem repositionM_snd_false (lt : K × V → K × V → Bool) (m : OMap K V) (k : K) (h : (repositionM lt m k).2 = false) :
    (repositionM lt m k).1 = m := by
  rcases repositionM_place lt m k with ⟨-, e⟩ | ⟨pre, e, post, A, B, mv, hm, -, -, hr, hmv, -⟩
  · rw [e]
  · rw [hr] at h ⊢
    obtain ⟨rfl, rfl⟩ := hmv h
    exact hm.symm

theorem erase_repositionM (lt : K × V → K × V → Bool) (m : OMap K V) (k : K) : erase (repositionM lt m k).1 k = erase m k := by
  rcases repositionM_place lt m k with ⟨-, e⟩ | ⟨pre, e, post, A, B, mv, hm, he, hab, hr, -, -⟩
  · rw [e]
  · subst hm he
    have hmid : ∀ X Y : OMap K V, erase (X ++ e :: Y) e.1 = erase (X ++ Y) e.1 := fun X Y => by
      simp [erase, List.filter_append]
    rw [hr, hmid, hmid, hab]

end Muscle.Containers
