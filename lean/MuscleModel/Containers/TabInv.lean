import MuscleModel.Containers.HTab
import MuscleModel.Containers.OMapProofs

/-! The table invariant: no duplicate keys, and no registered iterator's cookie refers to a key that is
not in the table. -/

-- every lemma of this file takes `[DecidableEq K]`, also the few that do not compare keys
set_option linter.unusedSectionVars false

namespace Muscle.Containers
variable {K V : Type} [DecidableEq K]

/-- the iterator's cookie is NULL or points at an entry of the table -/
def Iter.Ok (m : OMap K V) (it : Iter K V) : Prop := ∀ k, it.cur = some k → k ∈ keys m

def Tab.Inv (tb : Tab K V) : Prop := (keys tb.m).Nodup ∧ ∀ it ∈ tb.its, it.Ok tb.m

theorem Tab.Inv.nodup {tb : Tab K V} (h : tb.Inv) : (keys tb.m).Nodup := h.1
theorem Tab.Inv.iterOk {tb : Tab K V} (h : tb.Inv) {it : Iter K V} (hi : it ∈ tb.its) : it.Ok tb.m := h.2 it hi

namespace Iter

theorem Ok.mono {m m' : OMap K V} {it : Iter K V} (hs : ∀ x, x ∈ keys m → x ∈ keys m') (h : it.Ok m) : it.Ok m' :=
  fun k hk => hs k (h k hk)

theorem ok_of_cur_none {m : OMap K V} {it : Iter K V} (h : it.cur = none) : it.Ok m := by
  intro k hk; rw [h] at hk; cases hk

theorem ok_onRemove_erase {m : OMap K V} (k : K) {it : Iter K V} (hn : (keys m).Nodup) (h : it.Ok m) :
    (onRemove m k it).Ok (erase m k) := by
  unfold onRemove
  by_cases hc : it.cur = some k
  · simp only [hc, if_true]
    intro x hx
    exact mem_keys_erase.mpr ⟨nbr_mem hx, nbr_ne hn hx⟩
  · simp only [hc]
    intro x hx
    exact mem_keys_erase.mpr ⟨h x hx, fun e => hc (e ▸ hx)⟩

theorem ok_onClear (m m' : OMap K V) (it : Iter K V) : (onClear m it).Ok m' := ok_of_cur_none rfl

theorem bind_nbr_mem {m : OMap K V} {b : Bool} {c : Option K} {x : K} (h : c.bind (nbr m b) = some x) : x ∈ keys m := by
  cases c with
  | none => cases h
  | some c => exact nbr_mem h

theorem ok_next {m : OMap K V} {it : Iter K V} (h : it.Ok m) : (next m it).Ok m := by
  unfold next
  cases it.scratch with
  | some p => exact h
  | none => exact fun x hx => bind_nbr_mem hx

theorem ok_prev {m : OMap K V} {it : Iter K V} (h : it.Ok m) : (prev m it).Ok m := by
  unfold prev
  cases it.scratch with
  | some p => exact h
  | none => exact fun x hx => bind_nbr_mem hx

theorem ok_start (m : OMap K V) (b : Bool) : (start m b).Ok m := by
  intro x hx
  simp only [start] at hx
  exact mem_dirKeys.mp (List.mem_of_mem_head? hx)

theorem ok_startAt (m : OMap K V) (k : K) (b : Bool) : (startAt m k b).Ok m := by
  intro x hx
  simp only [startAt] at hx
  by_cases hh : has m k = true
  · simp [hh] at hx; subst hx; exact has_iff.mp hh
  · simp [hh] at hx

end Iter

namespace Tab
variable (lt? : Option (K × V → K × V → Bool))

theorem removeKey_of_has {tb : Tab K V} {k : K} (h : has tb.m k = true) :
    tb.removeKey k = { (tb.patch k) with m := erase tb.m k } := if_pos h

theorem removeKey_of_not_has {tb : Tab K V} {k : K} (h : ¬ has tb.m k = true) : tb.removeKey k = tb := if_neg h

theorem putAux_of_has {tb : Tab K V} {k : K} (v : V) (h : has tb.m k = true) :
    tb.putAux lt? k v = valueChanged lt? { tb with m := setVal tb.m k v } k := if_pos h

theorem putAux_of_not_has {tb : Tab K V} {k : K} (v : V) (h : ¬ has tb.m k = true) :
    tb.putAux lt? k v = { tb with m := linkNew lt? tb k v } := if_neg h

theorem inv_empty : (empty : Tab K V).Inv := ⟨List.nodup_nil, by intro it h; cases h⟩

theorem inv_of_superset {tb : Tab K V} {m' : OMap K V} (h : tb.Inv) (hn : (keys m').Nodup)
    (hs : ∀ x, x ∈ keys tb.m → x ∈ keys m') : ({ tb with m := m' } : Tab K V).Inv :=
  ⟨hn, fun it hi => (h.iterOk hi).mono hs⟩

theorem inv_of_perm {tb : Tab K V} {m' : OMap K V} (h : tb.Inv) (hp : m'.Perm tb.m) : ({ tb with m := m' } : Tab K V).Inv :=
  inv_of_superset h (nodup_perm hp.symm h.nodup) (fun _ hx => (keys_perm hp).mem_iff.mpr hx)

/-- `RemoveIterationEntry(k)` has run over the registry and the new order `m'` holds every other key: a cookie that
    stood on `k` has moved to a neighbour, which is one of those -/
theorem inv_patch {tb : Tab K V} {m' : OMap K V} (k : K) (h : tb.Inv) (hn : (keys m').Nodup)
    (hs : ∀ x, x ∈ keys tb.m → x ≠ k → x ∈ keys m') : ({ (tb.patch k) with m := m' } : Tab K V).Inv := by
  refine ⟨hn, ?_⟩
  intro it hi
  simp only [patch, List.mem_map] at hi
  obtain ⟨it0, h0, rfl⟩ := hi
  exact (Iter.ok_onRemove_erase k h.nodup (h.iterOk h0)).mono fun x hx =>
    hs x (mem_keys_erase.mp hx).1 (mem_keys_erase.mp hx).2

theorem inv_patch_perm {tb : Tab K V} {m' : OMap K V} (k : K) (h : tb.Inv) (hp : m'.Perm tb.m) :
    ({ (tb.patch k) with m := m' } : Tab K V).Inv :=
  inv_patch k h (nodup_perm hp.symm h.nodup) fun _ hx _ => (keys_perm hp).mem_iff.mpr hx

theorem inv_removeKey {tb : Tab K V} (k : K) (h : tb.Inv) : (tb.removeKey k).Inv := by
  by_cases hh : has tb.m k = true
  · rw [removeKey_of_has hh]
    exact inv_patch k h (nodup_erase k h.nodup) fun _ hx hne => mem_keys_erase.mpr ⟨hx, hne⟩
  · rw [removeKey_of_not_has hh]; exact h

/-- `Remove` of a missing key does nothing, and so does `erase` -/
theorem m_removeKey (tb : Tab K V) (k : K) : (tb.removeKey k).m = erase tb.m k := by
  by_cases hh : has tb.m k = true
  · rw [removeKey_of_has hh]
  · rw [removeKey_of_not_has hh, erase_of_not_mem (has_false_iff.mp (Bool.eq_false_iff.mpr hh))]

theorem autoSort_removeKey (tb : Tab K V) (k : K) : (tb.removeKey k).autoSort = tb.autoSort := by
  unfold removeKey; split <;> rfl

/-- the shape of the `MoveTo…Aux` functions: nothing happens, or `k` is unlinked and relinked elsewhere -/
theorem relink_inv_perm {tb : Tab K V} {c : Prop} [Decidable c] {m' : OMap K V} (k : K) (h : tb.Inv) (hp : m'.Perm tb.m) :
    (if c then tb else { (tb.patch k) with m := m' }).Inv ∧
    (if c then tb else { (tb.patch k) with m := m' }).m.Perm tb.m :=
  ite_pred (P := fun t : Tab K V => t.Inv ∧ t.m.Perm tb.m) ⟨h, List.Perm.refl _⟩ ⟨inv_patch_perm k h hp, hp⟩

theorem moveFrontAux_inv_perm {tb : Tab K V} (k : K) (h : tb.Inv) : (tb.moveFrontAux k).Inv ∧ (tb.moveFrontAux k).m.Perm tb.m :=
  relink_inv_perm k h (toFront_eq_toPos tb.m k ▸ toPos_perm k _ h.nodup)

theorem moveBackAux_inv_perm {tb : Tab K V} (k : K) (h : tb.Inv) : (tb.moveBackAux k).Inv ∧ (tb.moveBackAux k).m.Perm tb.m :=
  relink_inv_perm k h (toBack_perm k h.nodup)

theorem moveBeforeAux_inv_perm {tb : Tab K V} (k f : K) (h : tb.Inv) :
    (tb.moveBeforeAux k f).Inv ∧ (tb.moveBeforeAux k f).m.Perm tb.m :=
  relink_inv_perm k h (toBefore_eq_toPos tb.m k f ▸ toPos_perm k _ h.nodup)

theorem moveBehindAux_inv_perm {tb : Tab K V} (k d : K) (h : tb.Inv) :
    (tb.moveBehindAux k d).Inv ∧ (tb.moveBehindAux k d).m.Perm tb.m :=
  relink_inv_perm k h (toBehind_eq_toPos tb.m k d ▸ toPos_perm k _ h.nodup)

theorem movePosAux_inv_perm {tb : Tab K V} (k : K) (i : Nat) (h : tb.Inv) :
    (tb.movePosAux k i).Inv ∧ (tb.movePosAux k i).m.Perm tb.m := by
  unfold movePosAux
  split
  · exact moveFrontAux_inv_perm k h
  · split
    · exact moveBackAux_inv_perm k h
    · exact ⟨inv_patch_perm k h (toPos_perm k i h.nodup), toPos_perm k i h.nodup⟩

/-- with or without the unlinking, the order after `MoveIterationEntryToCorrectPosition` is `repositionM`'s -/
theorem m_reposition (lt : K × V → K × V → Bool) (tb : Tab K V) (k : K) :
    (tb.reposition (some lt) k).m = (repositionM lt tb.m k).1 := by
  simp only [reposition]
  by_cases h : (repositionM lt tb.m k).2 = true
  · rw [if_pos h]
  · rw [if_neg h]; exact (repositionM_snd_false lt tb.m k (Bool.eq_false_iff.mpr h)).symm

theorem inv_reposition {tb : Tab K V} (k : K) (h : tb.Inv) : (tb.reposition lt? k).Inv := by
  unfold reposition
  cases lt? with
  | none => exact h
  | some lt =>
    simp only
    split
    · exact inv_patch_perm k h (repositionM_perm lt tb.m k)
    · exact h

theorem inv_valueChanged {tb : Tab K V} (k : K) (h : tb.Inv) : (tb.valueChanged lt? k).Inv := by
  unfold valueChanged
  split
  · exact h
  · exact inv_reposition lt? k h

theorem linkNew_perm (tb : Tab K V) (k : K) (v : V) : (tb.linkNew lt? k v).Perm ((k, v) :: tb.m) := by
  have happ : (tb.m ++ [(k, v)]).Perm ((k, v) :: tb.m) := List.perm_append_singleton _ _
  unfold linkNew
  cases lt? with
  | none => exact happ
  | some lt =>
    simp only
    split
    · exact insertInOrder_perm lt _ _
    · exact happ

theorem inv_putAux {tb : Tab K V} (k : K) (v : V) (h : tb.Inv) : (tb.putAux lt? k v).Inv := by
  by_cases hh : has tb.m k = true
  · rw [putAux_of_has lt? v hh]
    apply inv_valueChanged
    exact inv_of_superset h (by simpa using h.nodup) (by simp)
  · rw [putAux_of_not_has lt? v hh]
    have hp := linkNew_perm lt? tb k v
    have hk : k ∉ keys tb.m := fun hm => hh (has_iff.mpr hm)
    refine inv_of_superset h ?_ ?_
    · refine (List.Perm.nodup_iff (keys_perm hp)).mpr ?_
      simp only [keys_cons, List.nodup_cons]; exact ⟨hk, h.nodup⟩
    · intro x hx
      exact (keys_perm hp).mem_iff.mpr (List.mem_cons_of_mem _ hx)

theorem inv_clear (tb : Tab K V) : tb.clear.Inv := by
  refine ⟨List.nodup_nil, ?_⟩
  intro it hi
  simp only [clear, List.mem_map] at hi
  obtain ⟨it0, _, rfl⟩ := hi
  exact Iter.ok_onClear _ _ _

theorem inv_sort {tb : Tab K V} (lt : K × V → K × V → Bool) (h : tb.Inv) : (tb.sort lt).Inv :=
  inv_of_perm h (sortBy_perm lt tb.m)

theorem copyOne_spec (m : OMap K V) (p : K × V) (hn : (keys m).Nodup) :
    (keys (copyOne m p)).Nodup ∧ ∀ x, x ∈ keys m → x ∈ keys (copyOne m p) := by
  unfold copyOne
  by_cases hh : has m p.1 = true
  · simp only [hh, if_true, keys_setVal]; exact ⟨hn, fun _ hx => hx⟩
  · simp only [hh]
    have hk : p.1 ∉ keys m := fun hm => hh (has_iff.mpr hm)
    exact ⟨nodup_append_new p.2 hn hk, fun x hx => by simp [hx]⟩

theorem foldl_copyOne_spec (src m : OMap K V) (hn : (keys m).Nodup) :
    (keys (src.foldl copyOne m)).Nodup ∧ ∀ x, x ∈ keys m → x ∈ keys (src.foldl copyOne m) := by
  induction src generalizing m with
  | nil => exact ⟨hn, fun _ hx => hx⟩
  | cons p r ih =>
    simp only [List.foldl_cons]
    obtain ⟨h1, h2⟩ := copyOne_spec m p hn
    obtain ⟨h3, h4⟩ := ih (copyOne m p) h1
    exact ⟨h3, fun x hx => h4 x (h2 x hx)⟩

theorem inv_copyFrom {tb : Tab K V} (src : OMap K V) (cf : Bool) (h : tb.Inv) : (tb.copyFrom lt? src cf).Inv := by
  unfold copyFrom
  have h1 : (if cf then tb.clear else tb).Inv := by cases cf <;> simp [inv_clear tb, h]
  generalize (if cf then tb.clear else tb) = t1 at h1
  simp only
  split
  · exact h1
  · obtain ⟨h3, h4⟩ := foldl_copyOne_spec src t1.m h1.nodup
    cases lt? with
    | none => exact inv_of_superset h1 h3 h4
    | some lt =>
      simp only
      have hp := sortBy_perm lt (src.foldl copyOne t1.m)
      exact inv_of_superset h1 (nodup_perm hp.symm h3) (fun x hx => (keys_perm hp).mem_iff.mpr (h4 x hx))

theorem inv_setAutoSort {tb : Tab K V} (en now : Bool) (h : tb.Inv) : (tb.setAutoSort lt? en now).Inv := by
  unfold setAutoSort
  split
  · exact h
  · have h1 : ({ tb with autoSort := en } : Tab K V).Inv := h
    cases lt? with
    | none => exact h1
    | some lt =>
      simp only
      split
      · exact inv_sort lt h1
      · exact h1

theorem inv_its_append {tb : Tab K V} (it : Iter K V) (h : tb.Inv) (ho : it.Ok tb.m) :
    ({ tb with its := tb.its ++ [it] } : Tab K V).Inv := by
  refine ⟨h.nodup, ?_⟩
  intro x hx
  simp only [List.mem_append, List.mem_singleton] at hx
  rcases hx with hx | rfl
  · exact h.iterOk hx
  · exact ho

theorem inv_itModify {tb : Tab K V} (i : Nat) (f : Iter K V → Iter K V) (h : tb.Inv)
    (hf : ∀ it, it.Ok tb.m → (f it).Ok tb.m) : (tb.itModify i f).Inv := by
  refine ⟨h.nodup, ?_⟩
  intro x hx
  simp only [itModify] at hx
  rw [List.mem_iff_getElem] at hx
  obtain ⟨j, hj, rfl⟩ := hx
  rw [List.getElem_modify]
  have hj' : j < tb.its.length := by simpa using hj
  split
  · exact hf _ (h.iterOk (List.getElem_mem hj'))
  · exact h.iterOk (List.getElem_mem hj')

theorem inv_apply {tb : Tab K V} (op : Op K V) (h : tb.Inv) : (tb.apply lt? op).Inv := by
  cases op <;> dsimp only [apply]
  case put k v => exact inv_putAux lt? k v h
  case putAtFront k v => exact (moveFrontAux_inv_perm k (inv_putAux lt? k v h)).1
  case putAtBack k v => exact (moveBackAux_inv_perm k (inv_putAux lt? k v h)).1
  case putBefore k f v => exact ite_pred (P := Tab.Inv) (moveBeforeAux_inv_perm k f (inv_putAux lt? k v h)).1 (inv_putAux lt? k v h)
  case putBehind k d v => exact ite_pred (P := Tab.Inv) (moveBehindAux_inv_perm k d (inv_putAux lt? k v h)).1 (inv_putAux lt? k v h)
  case putAtPosition k i v => exact (movePosAux_inv_perm k i (inv_putAux lt? k v h)).1
  case remove k => exact inv_removeKey k h
  case removeAll ks => exact foldl_inv Tab.Inv _ (fun _ k => inv_removeKey k) ks tb h
  case intersect o => exact foldl_inv Tab.Inv _ (fun _ k => inv_removeKey k) _ tb h
  case clear => exact inv_clear tb
  case moveToFront k => exact (moveFrontAux_inv_perm k h).1
  case moveToBack k => exact (moveBackAux_inv_perm k h).1
  case moveToBefore k f => exact ite_pred (P := Tab.Inv) (moveBeforeAux_inv_perm k f h).1 h
  case moveToBehind k d => exact ite_pred (P := Tab.Inv) (moveBehindAux_inv_perm k d h).1 h
  case moveToPosition k i => exact ite_pred (P := Tab.Inv) (movePosAux_inv_perm k i h).1 h
  case reposition k => exact inv_reposition lt? k h
  case sortBy lt => exact inv_sort lt h
  case setAutoSort en now => exact inv_setAutoSort lt? en now h
  case copyFrom src cf => exact inv_copyFrom lt? src cf h
  case realloc => exact h
  case itNew b => exact inv_its_append _ h (Iter.ok_start _ _)
  case itAt k b => exact inv_its_append _ h (Iter.ok_startAt _ _ _)
  case itNext i => exact inv_itModify i _ h (fun _ ho => Iter.ok_next ho)
  case itPrev i => exact inv_itModify i _ h (fun _ ho => Iter.ok_prev ho)
  case itSetBack i b => exact inv_itModify i _ h (fun _ ho => ho)
  case itDrop i => exact ⟨h.nodup, fun x hx => h.iterOk (List.mem_of_mem_eraseIdx hx)⟩
  case itCopy i =>
    simp only [itCopy]
    cases hg : tb.its[i]? with
    | none => exact h
    | some it =>
      simp only
      exact inv_its_append it h (h.iterOk (List.mem_of_getElem? hg))

inductive Reach : Tab K V → Prop where
  | init : Reach empty
  | step {tb : Tab K V} (op : Op K V) : Reach tb → Reach (tb.apply lt? op)

theorem inv_of_reach {tb : Tab K V} (h : Reach lt? tb) : tb.Inv := by
  induction h with
  | init => exact inv_empty
  | step op _ ih => exact inv_apply lt? op ih

end Tab

namespace Iter

/-- what `GetKey()/GetValue()` return is the scratch copy, or the pair of an entry that is in the table now -/
theorem peek_spec {m : OMap K V} {it : Iter K V} {k : K} {v : V} (h : it.peek m = some (k, v)) :
    it.scratch = some (k, v) ∨ (it.scratch = none ∧ it.cur = some k ∧ get m k = some v) := by
  unfold peek at h
  cases hs : it.scratch with
  | some p => left; simp [hs] at h; rw [h]
  | none =>
    right
    simp only [hs] at h
    cases hc : it.cur with
    | none => simp [hc] at h
    | some c =>
      simp only [hc] at h
      cases hg : get m c with
      | none => simp [hg] at h
      | some w => simp [hg] at h; obtain ⟨rfl, rfl⟩ := h; exact ⟨rfl, rfl, hg⟩

/-- after `++` the iterator shows a live entry or nothing -/
theorem scratch_next (m : OMap K V) (it : Iter K V) : (next m it).scratch = none := by
  unfold next; cases it.scratch <;> rfl

theorem scratch_prev (m : OMap K V) (it : Iter K V) : (prev m it).scratch = none := by
  unfold prev; cases it.scratch <;> rfl

/-- `HasData()` is false only at the end -/
theorem peek_isSome_of_cur {m : OMap K V} {it : Iter K V} (ho : it.Ok m) {c : K} (hc : it.cur = some c) : (it.peek m).isSome := by
  unfold peek
  cases hs : it.scratch with
  | some p => rfl
  | none =>
    obtain ⟨v, hv⟩ := exists_get_of_mem (ho c hc)
    simp [hc, hv]

theorem peek_next_of_cur_none (m : OMap K V) {it : Iter K V} (h : it.cur = none) : (it.next m).peek m = none := by
  unfold next
  cases hs : it.scratch with
  | some p => simp [peek, h]
  | none => simp [peek, h]

end Iter

end Muscle.Containers
