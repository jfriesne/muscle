import MuscleModel.Containers.QSearch
import MuscleModel.Containers.QOps

/-! C16: the refinement theorem over all operations of one Queue (`Rep.step`), failure, histories, banks of Queues. -/

set_option linter.unusedSectionVars false

namespace Muscle.Containers
variable {α : Type} [DecidableEq α] {c : ItemCfg α}

private theorem resMap {β : Type} (f : β → Res α) {r : Ring α} {l : List α} {x y : β} (h : Rep c r l ∧ x = y) :
    Rep c r l ∧ f x = f y :=
  ⟨h.1, congrArg f h.2⟩

/-- `Ring.step` and `Spec.step` write this `if` out; `resMap okErr` meets their text by unfolding -/
private def okErr (b : Bool) : Res α := if b = true then .ok else .err

namespace Rep

theorem step {q : Ring α} {l : List α} (h : Rep c q l) (op : Op α) (hs : op.specified c) :
    Rep c (q.step c op).1 (Spec.step c.dflt c.junk l op).1 ∧ (q.step c op).2 = (Spec.step c.dflt c.junk l op).2 := by
  cases op with
  | addTail v => exact ⟨h.addTail v, rfl⟩
  | addHead v => exact ⟨h.addHead v, rfl⟩
  | removeHead => exact resMap okErr h.removeHead
  | removeTail => exact resMap okErr h.removeTail
  | getItemAt i =>
    refine ⟨h, ?_⟩
    show (match q.getItemAt c i with | some v => Res.item v | none => Res.err) = _
    rw [h.getItemAt]; rfl
  | replaceItemAt i v => exact resMap okErr (h.replaceItemAt i v)
  | clear rel => exact ⟨h.clear rel, rfl⟩
  | ensureSize n sn extra shrink => exact ⟨(h.ensureSizeAux n sn extra shrink).1, rfl⟩
  | removeHeadMulti n => exact resMap Res.num (h.removeHeadMulti n)
  | removeTailMulti n => exact resMap Res.num (h.removeTailMulti n)
  | addTailMulti xs => exact ⟨h.addTailMulti xs, rfl⟩
  | addHeadMulti xs => exact ⟨h.addHeadMulti xs, rfl⟩
  | assign xs => exact ⟨h.assign xs, rfl⟩
  | copyFrom xs => exact ⟨h.copyFrom xs, rfl⟩
  | swap i j =>
    simp only [Ring.step, Spec.step]
    rw [h.count]
    by_cases hij : i < l.length ∧ j < l.length
    · rw [if_pos hij, if_pos hij]; exact ⟨h.swap hij.1 hij.2, rfl⟩
    · rw [if_neg hij, if_neg hij]; exact ⟨h, rfl⟩
  | removeItemAt i => exact resMap okErr (h.removeItemAt i)
  | insertItemAt i v => exact ⟨h.insertItemAt i v, rfl⟩
  | insertItemsAt i xs fq => exact ⟨h.insertItemsAt i xs fq, rfl⟩
  | addTailSelf s n => exact ⟨h.addTailSelf s n, rfl⟩
  | addHeadSelf s n => exact ⟨h.addHeadSelf s n, rfl⟩
  | insertItemsSelf i s n => exact ⟨h.insertItemsSelf i s n, rfl⟩
  | insertItemsOwn i j n => exact ⟨h.insertItemsOwn i j n, rfl⟩
  | sort lt a b => exact ⟨h.sort lt a b, rfl⟩
  | normalize =>
    refine ⟨(h.normalize).1, ?_⟩
    show (if (q.normalize c).isNormalized = true then Res.ok else Res.err) = Res.ok
    rw [if_pos (h.normalize).2]
  | equals xs => exact ⟨h, congrArg Res.bool (h.equals xs)⟩
  | startsWith xs => exact ⟨h, congrArg Res.bool (h.startsWith xs)⟩
  | endsWith xs => exact ⟨h, congrArg Res.bool (h.endsWith xs)⟩
  | compare lt xs => exact ⟨h, congrArg (fun l => Res.num (lexCompare lt l xs)) h.shows⟩
  | indexOf v a b => exact ⟨h, congrArg Res.idx (h.indexOf v a b)⟩
  | lastIndexOf v a b => exact ⟨h, congrArg Res.idx (h.lastIndexOf v a b)⟩
  | removeFirst v => exact resMap okErr (h.removeFirst v)
  | removeLast v => exact resMap okErr (h.removeLast v)
  | removeAll v => exact resMap Res.num (h.removeAll v)
  | insertSortedPos lt v => exact resMap Res.num (h.insertSortedPos lt v)
  | removeSortedDups => exact resMap Res.num h.removeSortedDups
  | removeDups lt => exact resMap Res.num (h.removeDups lt)
  | reverse a b => exact ⟨h.reverse a b, rfl⟩
  | addTailRaw => exact ⟨h.addTailRaw hs, rfl⟩
  | addHeadRaw => exact ⟨h.addHeadRaw hs, rfl⟩

end Rep

private theorem refuse_or_do {p : Prop} [Decidable p] (q x : Ring α) :
    ((if p then (q, false) else (x, true)).2 = false ↔ p) ∧
    ((if p then (q, false) else (x, true)).2 = false → (if p then (q, false) else (x, true)).1 = q) := by
  by_cases h : p
  · rw [if_pos h]; exact ⟨⟨fun _ => h, fun _ => rfl⟩, fun _ => rfl⟩
  · rw [if_neg h]; exact ⟨⟨nofun, fun x => absurd x h⟩, nofun⟩

theorem removeItemAt_refused (q : Ring α) (i : Nat) (h : (q.removeItemAt c i).2 = false) : (q.removeItemAt c i).1 = q :=
  (refuse_or_do q _).2 h

private theorem err_iff {b : Bool} {p : Prop} {r q : Ring α} (h : (b = false ↔ p) ∧ (b = false → r = q)) :
    (okErr b = (Res.err : Res α) ↔ p) ∧ (okErr b = (Res.err : Res α) → r = q) := by
  cases b
  · exact ⟨⟨fun _ => h.1.1 rfl, fun _ => rfl⟩, fun _ => h.2 rfl⟩
  · exact ⟨⟨nofun, fun x => nomatch h.1.2 x⟩, nofun⟩

namespace Rep

theorem step_failure {q : Ring α} {l : List α} (h : Rep c q l) (op : Op α) :
    ((q.step c op).2 = .err ↔ Spec.undefined l op) ∧ ((q.step c op).2 = .err → (q.step c op).1 = q) := by
  have hl := h.count
  cases op with
  | removeHead | removeTail =>
    show (_ ↔ l.length = 0) ∧ _
    rw [← hl]; exact err_iff (refuse_or_do q _)
  | getItemAt i =>
    show ((match q.getItemAt c i with | some v => Res.item v | none => Res.err) = Res.err ↔ l.length ≤ i) ∧ (_ → q = q)
    rw [← hl, Ring.getItemAt]
    by_cases hi : i < q.count
    · rw [if_pos hi]; exact ⟨⟨nofun, fun x => absurd hi (Nat.not_lt.2 x)⟩, fun _ => rfl⟩
    · rw [if_neg hi]; exact ⟨⟨fun _ => Nat.not_lt.1 hi, fun _ => rfl⟩, fun _ => rfl⟩
  | replaceItemAt i v =>
    show (_ ↔ l.length ≤ i) ∧ _
    rw [← hl]; exact err_iff (refuse_or_do q _)
  | removeItemAt i =>
    show (_ ↔ l.length ≤ i) ∧ _
    rw [← hl]; exact err_iff (refuse_or_do q _)
  | swap i j =>
    simp only [Ring.step, Spec.undefined]
    rw [← hl]
    by_cases hij : i < q.count ∧ j < q.count
    · rw [if_pos hij]; exact ⟨⟨nofun, fun x => absurd hij x⟩, nofun⟩
    · rw [if_neg hij]; exact ⟨⟨fun _ => hij, fun _ => rfl⟩, fun _ => rfl⟩
  | normalize =>
    simp only [Ring.step, Spec.undefined, (h.normalize).2, if_true]
    exact ⟨⟨nofun, False.elim⟩, nofun⟩
  | removeFirst v =>
    refine err_iff ⟨by rw [(h.removeFirst v).2]; rfl, ?_⟩
    show (q.removeFirst c v).2 = false → (q.removeFirst c v).1 = q
    unfold Ring.removeFirst
    cases Ring.findUp c q v 0 q.count with
    | none => exact fun _ => rfl
    | some i => exact removeItemAt_refused q i
  | removeLast v =>
    refine err_iff ⟨by rw [(h.removeLast v).2]; rfl, ?_⟩
    show (q.removeLast c v).2 = false → (q.removeLast c v).1 = q
    unfold Ring.removeLast
    cases Ring.findDown c q v 0 q.count with
    | none => exact fun _ => rfl
    | some i => exact removeItemAt_refused q i
  | _ => exact ⟨⟨nofun, False.elim⟩, nofun⟩

end Rep

namespace Rep

theorem exec {q : Ring α} {l : List α} (h : Rep c q l) (ops : List (Op α)) (hs : ∀ op, op ∈ ops → op.specified c) :
    Rep c (q.exec c ops).1 (Spec.exec c.dflt c.junk l ops).1 ∧ (q.exec c ops).2 = (Spec.exec c.dflt c.junk l ops).2 := by
  induction ops generalizing q l with
  | nil => exact ⟨h, rfl⟩
  | cons op ops ih =>
    obtain ⟨h1, h3⟩ := h.step op (hs op (by simp))
    obtain ⟨i1, i3⟩ := ih h1 (fun o ho => hs o (by simp [ho]))
    simp only [Ring.exec, Spec.exec]
    exact ⟨i1, by rw [h3, i3]⟩

end Rep

variable (c) in
theorem exec_refines (q : Ring α) (hG : Good c q) (ops : List (Op α)) (hs : ∀ op, op ∈ ops → op.specified c) :
    Good c (q.exec c ops).1 ∧ (q.exec c ops).1.abs c = (Spec.exec c.dflt c.junk (q.abs c) ops).1 ∧
    (q.exec c ops).2 = (Spec.exec c.dflt c.junk (q.abs c) ops).2 := by
  obtain ⟨r1, r2⟩ := hG.rep.exec ops hs
  exact ⟨r1.good, r1.shows, r2⟩

theorem rep_upd {b : Nat → Ring α} {a : Nat → List α} (h : ∀ i, Rep c (b i) (a i)) (r : Nat) {x : Ring α} {lx : List α}
    (hx : Rep c x lx) (i : Nat) : Rep c (upd b r x i) (upd a r lx i) := by
  unfold upd
  by_cases hi : i = r
  · rw [if_pos hi, if_pos hi]; exact hx
  · rw [if_neg hi, if_neg hi]; exact h i

theorem rep_bankStep (b : Nat → Ring α) (a : Nat → List α) (h : ∀ i, Rep c (b i) (a i)) (op : BOp α) (hs : op.specified c) :
    (∀ i, Rep c ((bankStep c b op).1 i) ((Spec.bankStep c.dflt c.junk a op).1 i)) ∧
    (bankStep c b op).2 = (Spec.bankStep c.dflt c.junk a op).2 := by
  cases op with
  | on r op =>
    obtain ⟨g, e⟩ := (h r).step op hs
    exact ⟨rep_upd h r g, e⟩
  | fromQ r s f =>
    simp only [bankStep, Spec.bankStep]
    by_cases hrs : r = s
    · rw [if_pos hrs, if_pos hrs]; exact ⟨h, rfl⟩
    · rw [if_neg hrs, if_neg hrs, (h s).shows]
      obtain ⟨g, e⟩ := (h r).step (f (a s)) (hs _)
      exact ⟨rep_upd h r g, e⟩
  | swapContents r s =>
    simp only [bankStep, Spec.bankStep]
    by_cases hrs : r = s
    · rw [if_pos hrs, if_pos hrs]; exact ⟨h, rfl⟩
    · rw [if_neg hrs, if_neg hrs]
      obtain ⟨g1, g2⟩ := rep_swapContents (h r) (h s)
      exact ⟨rep_upd (rep_upd h r g1) s g2, rfl⟩
  | move r s =>
    simp only [bankStep, Spec.bankStep]
    by_cases hrs : r = s
    · rw [if_pos hrs, if_pos hrs]; exact ⟨h, rfl⟩
    · rw [if_neg hrs, if_neg hrs]
      obtain ⟨g1, g2⟩ := rep_plunder (h r) (h s)
      exact ⟨rep_upd (rep_upd h r g1) s g2, rfl⟩
  | moveCtor r s =>
    simp only [bankStep, Spec.bankStep]
    by_cases hrs : r = s
    · rw [if_pos hrs, if_pos hrs]; exact ⟨h, rfl⟩
    · rw [if_neg hrs, if_neg hrs]
      obtain ⟨g1, g2⟩ := rep_plunder (rep_empty c) (h s)
      exact ⟨rep_upd (rep_upd h r g1) s g2, rfl⟩
  | copyCtor r s =>
    simp only [bankStep, Spec.bankStep]
    by_cases hrs : r = s
    · rw [if_pos hrs, if_pos hrs]; exact ⟨h, rfl⟩
    · rw [if_neg hrs, if_neg hrs, (h s).shows]
      exact ⟨rep_upd h r ((rep_empty c).assign (a s)), rfl⟩

theorem rep_bankExec (b : Nat → Ring α) (a : Nat → List α) (h : ∀ i, Rep c (b i) (a i)) (ops : List (BOp α))
    (hs : ∀ op, op ∈ ops → op.specified c) :
    (∀ i, Rep c ((bankExec c b ops).1 i) ((Spec.bankExec c.dflt c.junk a ops).1 i)) ∧
    (bankExec c b ops).2 = (Spec.bankExec c.dflt c.junk a ops).2 := by
  induction ops generalizing b a with
  | nil => exact ⟨h, rfl⟩
  | cons op ops ih =>
    obtain ⟨h1, h3⟩ := rep_bankStep b a h op (hs op (by simp))
    obtain ⟨i1, i3⟩ := ih _ _ h1 (fun o ho => hs o (by simp [ho]))
    simp only [bankExec, Spec.bankExec]
    exact ⟨i1, by rw [h3, i3]⟩

end Muscle.Containers
