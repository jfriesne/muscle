import MuscleModel.Containers.StrBuf
import MuscleModel.Containers.StrSpecProofs

/-!
# The invariant of the String buffer and the side conditions of its operations

What the C17 theorems are stated with: `Inv` (the representation invariant), `Op.WF`/`RunWF` (the side conditions of one
operation and of a run, with `Ptr.WF`/`Arg.WF` for the operands), and that the side conditions are decidable.
-/

namespace Muscle.Containers.StrBuf
open Muscle Muscle.Containers

structure Inv (small : Nat) (b : Buf) : Prop where
  lt : b.len < b.cap
  term : b.bytes[b.len]? = some 0
  nf : StrSpec.nulFree (abs b)
  modeInl : b.inl = true → b.cap = small + 1
  modeHeap : b.inl = false → small + 1 < b.cap

def Ptr.WF (b : Buf) : Ptr → Prop
  | .ext _ => True
  | .own off => off ≤ b.len

def Arg.WF : Arg → Prop
  | .ext d => StrSpec.nulFree d
  | .self => True

/-- side conditions of an operation on a String whose value is `s`: characters are not NUL, separate
    String operands are NUL-free, pointers into the String stay inside `[Cstr(), Cstr()+Length()]`,
    lengths fit `uint32`.  `Ptr.WF` reads only the length of the buffer it is given; here that is the length of `s`, passed
    in a dummy buffer (`Holds.ptr_wf` takes the condition to the real one). -/
def Op.WF (s : Bytes) : Op → Prop
  | .setCstr p _ => p.WF ⟨true, s.length, []⟩
  | .setFrom a _ _ => a.WF
  | .appendStr a => a.WF
  | .appendCstr p => p.WF ⟨true, s.length, []⟩
  | .appendChar c => c ≠ 0
  | .insertChars _ p _ => p.WF ⟨true, s.length, []⟩
  | .insertChar _ c _ => c ≠ 0
  | .removeLastCstr p => p.WF ⟨true, s.length, []⟩
  | .replaceChar _ r _ _ => r ≠ 0
  | .replaceStr a1 a2 _ _ => a1.WF ∧ a2.WF ∧ (a2.val s).length ≤ StrSpec.noLimit
  | .setChar i c => i < s.length ∧ c ≠ 0
  | _ => True

/-- side conditions along a run, each checked against the value the String has at that point -/
def RunWF : Bytes → List Op → Prop
  | _, [] => True
  | s, op :: r => op.WF s ∧ RunWF (specStep s op).1 r

/-! The side conditions are decidable (used by the non-vacuity examples of C17). -/

instance : (a : Arg) → Decidable a.WF
  | .ext d => inferInstanceAs (Decidable (StrSpec.nulFree d))
  | .self => isTrue trivial

instance (b : Buf) : (p : Ptr) → Decidable (p.WF b)
  | .ext _ => isTrue trivial
  | .own off => inferInstanceAs (Decidable (off ≤ b.len))

instance (s : Bytes) : (op : Op) → Decidable (op.WF s)
  | .clear => isTrue trivial
  | .flush => isTrue trivial
  | .shrink _ => isTrue trivial
  | .prealloc _ => isTrue trivial
  | .truncChars _ => isTrue trivial
  | .truncTo _ => isTrue trivial
  | .setCstr p _ => inferInstanceAs (Decidable (p.WF ⟨true, s.length, []⟩))
  | .setFrom a _ _ => inferInstanceAs (Decidable a.WF)
  | .appendStr a => inferInstanceAs (Decidable a.WF)
  | .appendCstr p => inferInstanceAs (Decidable (p.WF ⟨true, s.length, []⟩))
  | .appendChar c => inferInstanceAs (Decidable (c ≠ 0))
  | .insertChars _ p _ => inferInstanceAs (Decidable (p.WF ⟨true, s.length, []⟩))
  | .insertChar _ c _ => inferInstanceAs (Decidable (c ≠ 0))
  | .removeLastChar _ => isTrue trivial
  | .removeLastStr _ => isTrue trivial
  | .removeLastCstr p => inferInstanceAs (Decidable (p.WF ⟨true, s.length, []⟩))
  | .replaceChar _ r _ _ => inferInstanceAs (Decidable (r ≠ 0))
  | .replaceStr a1 a2 _ _ => inferInstanceAs (Decidable (a1.WF ∧ a2.WF ∧ (a2.val s).length ≤ StrSpec.noLimit))
  | .reverse => isTrue trivial
  | .toLower => isTrue trivial
  | .toUpper => isTrue trivial
  | .toMixed => isTrue trivial
  | .unflatten _ => isTrue trivial
  | .setChar i c => inferInstanceAs (Decidable (i < s.length ∧ c ≠ 0))

end Muscle.Containers.StrBuf
