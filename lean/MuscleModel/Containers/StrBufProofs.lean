import MuscleModel.Containers.StrInv
import MuscleModel.Base.Lists

/-!
# Lemmas for C17: the buffer layer refines the ideal byte string

The proofs work with `Holds small b s` — the buffer is `s ++ 0 :: rest` for some irrelevant `rest`, `len = |s|`,
`s` is NUL-free, the mode fits the capacity — which is `Inv small b ∧ abs b = s`.  Every operation is a few
`writeAt`s: adjacent stores merge into one, and one store gives the new `Holds`.
-/

namespace Muscle.Containers.StrBuf
open Muscle Muscle.Containers

variable {small : Nat} {b b' : Buf} {s : Bytes}

theorem writeAt_length {m : Bytes} {pos : Nat} {d : Bytes} (h : pos + d.length ≤ m.length) :
    (writeAt m pos d).length = m.length := by
  rw [writeAt, List.length_append, List.length_append, List.length_drop,
    List.length_take_of_le (Nat.le_trans (Nat.le_add_right _ _) h), ← Nat.add_assoc, Nat.add_sub_of_le h]

theorem writeAt_nul (m : Bytes) (pos : Nat) (d : Bytes) :
    writeAt m pos (d ++ [0]) = (m.take pos ++ d) ++ 0 :: m.drop (pos + d.length + 1) := by
  simp [writeAt, Nat.add_assoc]

theorem writeAt_two (m : Bytes) {p q : Nat} (d e : Bytes) (hq : q = p + d.length) (h : q ≤ m.length) :
    writeAt (writeAt m p d) q e = writeAt m p (d ++ e) := by
  subst hq
  have hl : (m.take p ++ d).length = p + d.length := by
    rw [List.length_append, List.length_take_of_le (Nat.le_trans (Nat.le_add_right _ _) h)]
  unfold writeAt
  rw [← List.append_assoc (m.take p) d, ← hl, List.take_left, List.drop_length_add_append, List.drop_drop, hl,
    List.length_append, Nat.add_assoc]
  simp only [List.append_assoc]

/-- the `memmove` of the tail, then the `memcpy` of the inserted bytes -/
theorem writeAt_before (m : Bytes) {p q : Nat} (d e : Bytes) (hq : q = p + d.length) (h : q + e.length ≤ m.length) :
    writeAt (writeAt m q e) p d = writeAt m p (d ++ e) := by
  subst hq
  have hl : (m.take (p + d.length)).length = p + d.length :=
    List.length_take_of_le (Nat.le_trans (Nat.le_add_right _ _) h)
  unfold writeAt
  rw [List.take_append_of_le_length (by rw [hl]; exact Nat.le_add_right _ _), List.take_take,
    Nat.min_eq_left (Nat.le_add_right _ _), List.drop_left' hl, List.length_append, Nat.add_assoc]
  simp only [List.append_assoc]

theorem junk_length (n : Nat) : (junk n).length = n := List.length_replicate

/-- the last two clauses of `Inv`: all that is known of a buffer between `EnsureBufferSize(…, false, …)` and the store -/
structure Shape (small : Nat) (b : Buf) : Prop where
  modeInl : b.inl = true → b.cap = small + 1
  modeHeap : b.inl = false → small + 1 < b.cap

theorem Shape.of_eq (h : Shape small b) (hi : b'.inl = b.inl) (hc : b'.bytes.length = b.bytes.length) : Shape small b' :=
  ⟨fun h1 => hc.trans (h.modeInl (hi ▸ h1)), fun h1 => Nat.lt_of_lt_of_eq (h.modeHeap (hi ▸ h1)) hc.symm⟩

structure Holds (small : Nat) (b : Buf) (s : Bytes) : Prop where
  bytes : ∃ rest, b.bytes = s ++ 0 :: rest
  len : b.len = s.length
  nf : StrSpec.nulFree s
  shape : Shape small b

theorem Holds.abs_eq (h : Holds small b s) : abs b = s := by
  obtain ⟨rest, hb⟩ := h.bytes
  rw [abs, hb, h.len, List.take_left]

theorem Holds.lt_cap (h : Holds small b s) : s.length < b.cap := by
  obtain ⟨rest, hb⟩ := h.bytes
  rw [Buf.cap, hb, List.length_append, List.length_cons]; omega

theorem Holds.inv (h : Holds small b s) : Inv small b := by
  obtain ⟨rest, hb⟩ := h.bytes
  refine ⟨h.len ▸ h.lt_cap, ?_, h.abs_eq.symm ▸ h.nf, h.shape.modeInl, h.shape.modeHeap⟩
  rw [hb, h.len, List.getElem?_append_right (Nat.le_refl _), Nat.sub_self]; rfl

theorem Inv.holds (h : Inv small b) : Holds small b (abs b) := by
  have hl : b.len < b.bytes.length := h.lt
  have hal : (abs b).length = b.len := List.length_take_of_le (Nat.le_of_lt hl)
  refine ⟨⟨b.bytes.drop (b.len + 1), ?_⟩, hal.symm, h.nf, h.modeInl, h.modeHeap⟩
  have ht := h.term
  rw [List.getElem?_eq_getElem hl, Option.some.injEq] at ht
  rw [← ht, ← List.drop_eq_getElem_cons hl]; exact (List.take_append_drop _ _).symm

theorem Holds.cap_ge (h : Holds small b s) : small + 1 ≤ b.cap := by
  cases hi : b.inl
  · exact Nat.le_of_lt (h.shape.modeHeap hi)
  · exact Nat.le_of_eq (h.shape.modeInl hi).symm

theorem Holds.take (h : Holds small b s) {n : Nat} (hn : n ≤ s.length) : b.bytes.take n = s.take n := by
  obtain ⟨rest, hb⟩ := h.bytes
  rw [hb, List.take_append_of_le_length hn]

theorem Holds.drop (h : Holds small b s) {i : Nat} (hi : i ≤ s.length) :
    ∃ rest, b.bytes.drop i = s.drop i ++ 0 :: rest := by
  obtain ⟨rest, hb⟩ := h.bytes
  exact ⟨rest, by rw [hb, List.drop_append_of_le_length hi]⟩

theorem Holds.cstr_drop (h : Holds small b s) {i : Nat} (hi : i ≤ s.length) :
    StrSpec.cstr (b.bytes.drop i) = s.drop i := by
  obtain ⟨rest, hd⟩ := h.drop hi
  rw [hd, StrSpec.cstr_append_zero_cons _ _ (StrSpec.nulFree_drop h.nf i)]

theorem Holds.read (h : Holds small b s) {i n : Nat} (hin : i + n ≤ s.length) :
    (b.bytes.drop i).take n = (s.drop i).take n := by
  obtain ⟨rest, hd⟩ := h.drop (i := i) (by omega)
  rw [hd, List.take_append_of_le_length (by rw [List.length_drop]; omega)]

theorem Holds.take_succ (h : Holds small b s) : b.bytes.take (s.length + 1) = s ++ [0] := by
  obtain ⟨rest, hb⟩ := h.bytes
  rw [hb, List.take_length_add_append 1]; rfl

theorem Holds.readZ (h : Holds small b s) {i n : Nat} (hi : i ≤ s.length) (hn : n = s.length - i + 1) :
    (b.bytes.drop i).take n = s.drop i ++ [0] := by
  obtain ⟨rest, hd⟩ := h.drop hi
  rw [hd, hn, ← List.length_drop, List.take_length_add_append 1]; rfl

theorem Holds.read_tail (h : Holds small b s) {i n : Nat} (hi : i ≤ s.length) (hn : n = s.length - i) :
    (b.bytes.drop i).take n = s.drop i := by
  rw [h.read (by omega), List.take_of_length_le (by rw [List.length_drop, hn]; exact Nat.le_refl _)]

/-- one `memcpy` of `data` and its terminator behind the first `pos` bytes, and `SetLength` -/
theorem store_holds (hs : Shape small b) (pos : Nat) (data : Bytes) (hfit : pos + data.length < b.cap)
    (nf : StrSpec.nulFree (b.bytes.take pos ++ data)) (hi : b'.inl = b.inl)
    (hb : b'.bytes = writeAt b.bytes pos (data ++ [0])) (hl : b'.len = pos + data.length) :
    Holds small b' (b.bytes.take pos ++ data) := by
  have hp : (b.bytes.take pos).length = pos := List.length_take_of_le (by unfold Buf.cap at hfit; omega)
  refine ⟨⟨_, hb.trans (writeAt_nul _ _ _)⟩, ?_, nf, hs.of_eq hi ?_⟩
  · rw [hl, List.length_append, hp]
  · rw [hb]; exact writeAt_length (by rw [List.length_append]; exact hfit)

/-- `memmove(buf+pos, data++NUL)` with `pos ≤ len`: the value becomes `take pos ++ data` -/
theorem Holds.write_tail (h : Holds small b s) {pos : Nat} (hpos : pos ≤ s.length) (data : Bytes)
    (nd : StrSpec.nulFree data) (hfit : pos + data.length < b.cap) (hi : b'.inl = b.inl)
    (hb : b'.bytes = writeAt b.bytes pos (data ++ [0])) (hl : b'.len = pos + data.length) :
    Holds small b' (s.take pos ++ data) := by
  rw [← h.take hpos]
  exact store_holds h.shape pos data hfit (by rw [h.take hpos]; exact StrSpec.nulFree_append (StrSpec.nulFree_take h.nf _) nd) hi hb hl

/-- `memmove(GetBuffer()+Length(), data++NUL)` -/
theorem Holds.append (h : Holds small b s) (data : Bytes) (nd : StrSpec.nulFree data) (hfit : s.length + data.length < b.cap)
    (hi : b'.inl = b.inl) (hb : b'.bytes = writeAt b.bytes b.len (data ++ [0])) (hl : b'.len = b.len + data.length) :
    Holds small b' (s ++ data) := by
  have := h.write_tail (Nat.le_refl _) data nd hfit hi (by rw [← h.len]; exact hb) (by rw [← h.len]; exact hl)
  rwa [List.take_length] at this

/-- `SetLength(l); WriteNULTerminatorByte()` for `l ≤ len` -/
theorem Holds.truncate (h : Holds small b s) {l : Nat} (hl : l ≤ s.length) :
    Holds small { b with len := l, bytes := writeAt b.bytes l [0] } (s.take l) := by
  have := h.write_tail hl [] StrSpec.nulFree_nil (Nat.lt_of_le_of_lt hl h.lt_cap)
    (b' := { b with len := l, bytes := writeAt b.bytes l [0] }) rfl rfl rfl
  rwa [List.append_nil] at this

/-- `memmove(b+idx, b+idx+k, …)` of the rest of the value with its terminator: `[idx, idx+k)` is cut out -/
theorem Holds.cut (h : Holds small b s) {idx k n newLen : Nat} (hk : idx + k ≤ s.length)
    (hn : n = s.length - (idx + k) + 1) (hnl : newLen + k = s.length) (hi : b'.inl = b.inl)
    (hb : b'.bytes = writeAt b.bytes idx ((b.bytes.drop (idx + k)).take n)) (hl : b'.len = newLen) :
    Holds small b' (s.take idx ++ s.drop (idx + k)) := by
  rw [h.readZ hk hn] at hb
  have hd : idx + (s.drop (idx + k)).length = newLen := by rw [List.length_drop]; omega
  exact h.write_tail (Nat.le_trans (Nat.le_add_right _ _) hk) _ (StrSpec.nulFree_drop h.nf _)
    (by rw [hd]; exact Nat.lt_of_le_of_lt (Nat.le.intro hnl) h.lt_cap) hi hb (hl.trans hd.symm)

theorem Holds.write_nul_beyond (h : Holds small b s) {K : Nat} (h1 : s.length ≤ K) (h2 : K < b.cap)
    (hi : b'.inl = b.inl) (hb : b'.bytes = writeAt b.bytes K [0]) (hl : b'.len = b.len) : Holds small b' s := by
  obtain ⟨rest, hb0⟩ := h.bytes
  obtain ⟨j, rfl⟩ := Nat.exists_eq_add_of_le h1
  refine ⟨?_, hl.trans h.len, h.nf, h.shape.of_eq hi (by rw [hb]; exact writeAt_length h2)⟩
  cases j with
  | zero => exact ⟨_, by rw [hb, writeAt, hb0, Nat.add_zero, List.take_left]; rfl⟩
  | succ j =>
    exact ⟨_, by rw [hb, writeAt, hb0, List.take_length_add_append, List.take_succ_cons, List.append_assoc]; rfl⟩

theorem Holds.patch (h : Holds small b s) {pos : Nat} (data : Bytes) (hfit : pos + data.length ≤ s.length)
    (nd : StrSpec.nulFree data) (hi : b'.inl = b.inl) (hb : b'.bytes = writeAt b.bytes pos data) (hl : b'.len = b.len) :
    Holds small b' (s.take pos ++ (data ++ s.drop (pos + data.length))) := by
  obtain ⟨rest, hb0⟩ := h.bytes
  have hlt : s.length < b.bytes.length := h.lt_cap
  refine ⟨⟨rest, ?_⟩, ?_, StrSpec.nulFree_append (StrSpec.nulFree_take h.nf _) (StrSpec.nulFree_append nd (StrSpec.nulFree_drop h.nf _)),
    h.shape.of_eq hi (by rw [hb]; exact writeAt_length (Nat.le_trans hfit (Nat.le_of_lt hlt)))⟩
  · rw [hb, writeAt, hb0, List.take_append_of_le_length (Nat.le_trans (Nat.le_add_right _ _) hfit),
      List.drop_append_of_le_length hfit, List.append_assoc, List.append_assoc]
  · rw [hl, h.len, List.length_append, List.length_append, List.length_take_of_le (Nat.le_trans (Nat.le_add_right _ _) hfit),
      List.length_drop]; omega

theorem Holds.patch_tail (h : Holds small b s) {pos : Nat} (data : Bytes) (hfit : pos + data.length = s.length)
    (nd : StrSpec.nulFree data) (hi : b'.inl = b.inl) (hb : b'.bytes = writeAt b.bytes pos data) (hl : b'.len = b.len) :
    Holds small b' (s.take pos ++ data) := by
  have := h.patch data (Nat.le_of_eq hfit) nd hi hb hl
  rwa [List.drop_of_length_le (Nat.le_of_eq hfit.symm), List.append_nil] at this

theorem shape_fresh (small l : Nat) : Shape small { inl := true, len := l, bytes := junk (small + 1) } :=
  ⟨fun _ => junk_length _, fun h => by cases h⟩

theorem empty_holds (small : Nat) : Holds small (empty small) [] :=
  store_holds (shape_fresh small 0) 0 [] (by rw [Buf.cap, junk_length]; exact Nat.succ_pos _) StrSpec.nulFree_nil rfl rfl rfl

theorem le_nextPow2Aux (f p n : Nat) (h : n ≤ p * 2 ^ f) : n ≤ nextPow2Aux f p n := by
  induction f generalizing p with
  | zero => simpa [nextPow2Aux] using h
  | succ f ih =>
    unfold nextPow2Aux
    split
    · assumption
    · apply ih
      have e : p * 2 ^ (f + 1) = 2 * p * 2 ^ f := by rw [Nat.pow_succ]; ac_rfl
      omega

theorem le_nextPow2 (n : Nat) : n ≤ nextPow2 n := by
  apply le_nextPow2Aux
  have := @Nat.lt_two_pow_self n
  omega

theorem le_nextBufferSize (small n : Nat) : n ≤ nextBufferSize small n := by
  unfold nextBufferSize
  split
  · omega
  · have := le_nextPow2 ((n - 1) * 2)
    simp only []
    split <;> omega

/-- the common end of the reallocating branches: `newBuf[min(Length(), N-1)] = 0; SetBuffer(newBuf, N, Length())`.
    This is the local `finish` of `ensureBufferSize` (a `let` cannot be named from outside) with `oldStrlen` and `newMax` written
    out; the model's branches are instances of it by unfolding, which the `exact` at the end of each branch of `ensure_grow` and
    `shrinkToFit_holds` checks. -/
def finish (b : Buf) (N : Nat) (nb : Bytes) : Buf :=
  { inl := false, len := b.len, bytes := writeAt nb (min b.len (N - 1)) [0] }

theorem finish_holds (h : Holds small b s) {nb : Bytes} {N : Nat} (hN : nb.length = N) (hN1 : small + 1 < N)
    (hN2 : s.length < N) :
    Shape small (finish b N nb) ∧ N ≤ (finish b N nb).cap ∧ (nb.take s.length = s → Holds small (finish b N nb) s) := by
  have hk : min b.len (N - 1) = s.length := by rw [h.len]; exact Nat.min_eq_left (Nat.le_sub_one_of_lt hN2)
  have hs0 : Shape small { inl := false, len := b.len, bytes := nb } :=
    ⟨fun hi => (by cases hi), fun _ => (by show small + 1 < nb.length; rw [hN]; exact hN1)⟩
  have hl : (writeAt nb (min b.len (N - 1)) [0]).length = N := by
    rw [writeAt_length (by rw [hk, hN]; exact hN2), hN]
  refine ⟨hs0.of_eq rfl (by rw [finish, hl, hN]), Nat.le_of_eq hl.symm, fun ht => ?_⟩
  have := store_holds hs0 s.length [] (by show s.length + 0 < nb.length; rw [hN]; exact hN2)
    (by rw [List.append_nil, ht]; exact h.nf) (b' := finish b N nb) rfl (by rw [finish, hk]; rfl) h.len
  rwa [List.append_nil, ht] at this

/-- `muscleRealloc` to `N` bytes: the first `min(old, new)` bytes survive -/
theorem realloc_holds (h : Holds small b s) {N : Nat} (hN1 : small + 1 < N) (hN2 : s.length < N) :
    N ≤ (finish b N (List.take N b.bytes ++ junk (N - b.cap))).cap ∧
    Holds small (finish b N (List.take N b.bytes ++ junk (N - b.cap))) s := by
  have hlt : s.length < b.bytes.length := h.lt_cap
  obtain ⟨-, hc, hh⟩ := finish_holds h (nb := List.take N b.bytes ++ junk (N - b.cap))
    (by rw [List.length_append, List.length_take, junk_length, Buf.cap]; omega) hN1 hN2
  refine ⟨hc, hh ?_⟩
  rw [List.take_append_of_le_length (by rw [List.length_take]; exact Nat.le_min.mpr ⟨Nat.le_of_lt hN2, Nat.le_of_lt hlt⟩),
    List.take_take, Nat.min_eq_left (Nat.le_of_lt hN2), h.take (Nat.le_refl _), List.take_length]

/-- `muscleAlloc(N)` and `memcpy` of the value with its terminator -/
theorem allocCopy_holds (h : Holds small b s) {N : Nat} (hN1 : small + 1 < N) (hN2 : s.length < N) :
    N ≤ (finish b N (writeAt (junk N) 0 (List.take (min (b.len + 1) N) b.bytes))).cap ∧
    Holds small (finish b N (writeAt (junk N) 0 (List.take (min (b.len + 1) N) b.bytes))) s := by
  have hm : min (b.len + 1) N = s.length + 1 := by rw [h.len]; exact Nat.min_eq_left hN2
  obtain ⟨-, hc, hh⟩ := finish_holds h (nb := writeAt (junk N) 0 (List.take (min (b.len + 1) N) b.bytes))
    (by rw [writeAt_length (by rw [junk_length, hm, h.take_succ, List.length_append, Nat.zero_add]; exact hN2), junk_length])
    hN1 hN2
  refine ⟨hc, hh ?_⟩
  rw [hm, h.take_succ, writeAt_nul]
  exact List.take_left' (by rw [List.length_append, List.length_take, Nat.zero_min, Nat.zero_add])

/-- `EnsureBufferSize(req, retain, false)`; nothing happens when there was room already, so a pointer into the String
    that asks for no more than is there stays valid. -/
theorem ensure_grow (h : Holds small b s) (req : Nat) (retain : Bool) :
    Shape small (ensureBufferSize small b req retain false) ∧ req ≤ (ensureBufferSize small b req retain false).cap ∧
    (retain = true → Holds small (ensureBufferSize small b req retain false) s) ∧
    (req ≤ b.cap → ensureBufferSize small b req retain false = b) := by
  generalize hE : ensureBufferSize small b req retain false = E
  simp only [ensureBufferSize, Bool.false_eq_true, if_false, Bool.false_or, Bool.false_and] at hE
  by_cases hreq : req ≤ b.cap
  · rw [if_pos (decide_eq_true hreq)] at hE
    subst hE
    exact ⟨h.shape, hreq, fun _ => h, fun _ => rfl⟩
  · rw [if_neg (by rw [decide_eq_true_eq]; exact hreq)] at hE
    generalize hN :
      (if (decide (req ≤ small + 1) || b.len == 0 && !!b.inl) = true then req else nextBufferSize small req) = N at hE
    have hNge : req ≤ N := by
      rw [← hN]; split
      · exact Nat.le_refl _
      · exact le_nextBufferSize small req
    have hcap : b.cap < N := by omega
    have hlt := h.lt_cap
    have hN1 : small + 1 < N := Nat.lt_of_le_of_lt h.cap_ge hcap
    have hN2 : s.length < N := Nat.lt_trans hlt hcap
    rw [if_neg (by rw [beq_iff_eq]; omega)] at hE
    cases retain
    · rw [if_neg Bool.false_ne_true] at hE; subst hE
      obtain ⟨hsh, hc, -⟩ := finish_holds h (nb := writeAt (junk N) 0 [0])
        (by rw [writeAt_length (by rw [junk_length]; exact Nat.lt_of_le_of_lt (Nat.zero_le _) hcap), junk_length]) hN1 hN2
      exact ⟨hsh, Nat.le_trans hNge hc, fun hr => (by cases hr), fun hx => absurd hx hreq⟩
    · rw [if_pos rfl] at hE
      cases hi : b.inl
      · rw [hi, Bool.not_false, if_pos rfl] at hE; subst hE
        obtain ⟨hc, hh⟩ := realloc_holds h hN1 hN2
        exact ⟨hh.shape, Nat.le_trans hNge hc, fun _ => hh, fun hx => absurd hx hreq⟩
      · rw [hi, Bool.not_true, if_neg Bool.false_ne_true] at hE; subst hE
        obtain ⟨hc, hh⟩ := allocCopy_holds h hN1 hN2
        exact ⟨hh.shape, Nat.le_trans hNge hc, fun _ => hh, fun hx => absurd hx hreq⟩

theorem ensure_retain (h : Holds small b s) (req : Nat) :
    Holds small (ensureBufferSize small b req true false) s ∧ req ≤ (ensureBufferSize small b req true false).cap :=
  have ⟨_, hcap, hh, _⟩ := ensure_grow h req true
  ⟨hh rfl, hcap⟩

/-- `EnsureBufferSize(n+1, false, false)` before an assignment of `n` bytes: only the mode is known afterwards, but an operand
    inside the String asks for no more than is there, and then the buffer (the operand with it) is untouched -/
theorem ensure_discard (h : Holds small b s) (n : Nat) :
    Shape small (ensureBufferSize small b (n + 1) false false) ∧ n + 1 ≤ (ensureBufferSize small b (n + 1) false false).cap ∧
    (n ≤ s.length → ensureBufferSize small b (n + 1) false false = b) :=
  have ⟨hs, hcap, _, hsame⟩ := ensure_grow h (n + 1) false
  ⟨hs, hcap, fun hn => hsame (Nat.succ_le_of_lt (Nat.lt_of_le_of_lt hn h.lt_cap))⟩

/-- `_shortStringData.SetBuffer(bigBuffer, Length())`: the value moves into the in-object buffer -/
theorem Holds.to_inline (h : Holds small b s) (hfit : s.length < small + 1) :
    Holds small
      { inl := true, len := b.len, bytes := writeAt (writeAt (junk (small + 1)) 0 (List.take b.len b.bytes)) b.len [0] }
      s :=
  store_holds (shape_fresh small b.len) 0 s (by rw [Buf.cap, junk_length, Nat.zero_add]; exact hfit) h.nf rfl
    (by rw [show List.take b.len b.bytes = s from h.abs_eq]
        exact writeAt_two _ _ _ (by rw [h.len, Nat.zero_add]) (by rw [h.len, junk_length]; exact Nat.le_of_lt hfit))
    (by rw [Nat.zero_add]; exact h.len)

theorem shrinkToFit_holds (h : Holds small b s) (extra : Nat) : Holds small (shrinkToFit small b extra) s := by
  have hlt := h.lt_cap
  have hlen := h.len
  unfold shrinkToFit
  generalize hreq : b.len + 1 + extra = req
  have hsr : s.length < req := by
    rw [← hreq, hlen]; exact Nat.lt_of_lt_of_le (Nat.lt_succ_self _) (Nat.le_add_right _ _)
  generalize hE : ensureBufferSize small b req true true = E
  simp only [ensureBufferSize, Bool.true_or, Bool.true_and, if_true] at hE
  by_cases heq : req = b.cap
  · rw [if_pos (beq_iff_eq.mpr heq)] at hE; subst hE; exact h
  · rw [if_neg (by rw [beq_iff_eq]; exact heq),
      if_neg (by rw [beq_iff_eq]; exact Nat.ne_of_gt (Nat.lt_of_le_of_lt (Nat.zero_le _) hsr))] at hE
    cases hi : b.inl
    · rw [hi, Bool.not_false, if_pos rfl] at hE
      by_cases hsm : req ≤ small + 1
      · rw [if_pos (decide_eq_true hsm)] at hE; subst hE
        exact h.to_inline (Nat.lt_of_lt_of_le hsr hsm)
      · rw [if_neg (by rw [decide_eq_true_eq]; exact hsm)] at hE; subst hE
        exact (realloc_holds h (Nat.lt_of_not_le hsm) hsr).2
    · rw [hi, Bool.not_true, if_neg Bool.false_ne_true] at hE
      by_cases hsm : req ≤ small + 1
      · rw [if_pos (decide_eq_true hsm)] at hE; subst hE
        have hc := h.shape.modeInl hi
        exact h.write_nul_beyond (K := req - 1) (Nat.le_sub_one_of_lt hsr)
          (by rw [hc]; exact Nat.lt_of_lt_of_le (Nat.sub_lt (Nat.lt_of_le_of_lt (Nat.zero_le _) hsr) Nat.one_pos) hsm)
          hi.symm rfl
          (Nat.min_eq_right (by rw [hlen]; exact Nat.le_sub_one_of_lt hsr))
      · rw [if_neg (by rw [decide_eq_true_eq]; exact hsm)] at hE; subst hE
        exact (allocCopy_holds h (Nat.lt_of_not_le hsm) hsr).2

theorem Holds.cstr_memAt (h : Holds small b s) (p : Ptr) (hp : p.WF b) : StrSpec.cstr (memAt b p) = p.val s := by
  cases p with
  | ext d => exact StrSpec.cstr_append_nul d
  | own off => exact h.cstr_drop (by rw [← h.len]; exact hp)

theorem ptr_val_nulFree (hs : StrSpec.nulFree s) (p : Ptr) : StrSpec.nulFree (p.val s) := by
  cases p with
  | ext d => exact StrSpec.cstr_nulFree d
  | own off => exact StrSpec.nulFree_drop hs off

theorem arg_val_nulFree (hs : StrSpec.nulFree s) (a : Arg) (ha : a.WF) : StrSpec.nulFree (a.val s) := by
  cases a with
  | ext d => exact ha
  | self => exact hs

theorem Holds.arg_len (h : Holds small b s) (a : Arg) : a.len b = (a.val s).length := by
  cases a with
  | ext d => rfl
  | self => exact h.len

theorem clear_holds (h : Holds small b s) : Holds small (clear b) [] :=
  h.write_tail (Nat.zero_le _) [] StrSpec.nulFree_nil (Nat.lt_of_le_of_lt (Nat.zero_le _) h.lt_cap) rfl rfl rfl

/-- `memmove(b, data, n); b[n] = 0; SetLength(n)` on a buffer with room for it -/
theorem assign_holds {b1 : Buf} (hs : Shape small b1) (data : Bytes) {n : Nat} (hn : n = data.length) (hcap : n + 1 ≤ b1.cap)
    (nf : StrSpec.nulFree data) :
    Holds small { b1 with bytes := writeAt (writeAt b1.bytes 0 data) n [0], len := n } data := by
  subst hn
  exact store_holds hs 0 data (by rw [Nat.zero_add]; exact hcap) nf rfl
    (writeAt_two _ _ _ (Nat.zero_add _).symm (Nat.le_of_succ_le hcap)) (Nat.zero_add _).symm

theorem setCstr_holds (h : Holds small b s) (p : Ptr) (hp : p.WF b) (maxLen : Nat) :
    Holds small (setCstr small b p maxLen) (StrSpec.setCstr (p.val s) maxLen) := by
  have hc := h.cstr_memAt p hp
  unfold setCstr StrSpec.setCstr
  simp only [hc]
  by_cases hpos : 0 < ((p.val s).take maxLen).length
  · rw [if_pos hpos]
    obtain ⟨hs, hcap, hsame⟩ := ensure_discard h ((p.val s).take maxLen).length
    have hle : ((p.val s).take maxLen).length ≤ (p.val s).length := by
      rw [List.length_take]; exact Nat.min_le_right _ _
    have hm : memAt (ensureBufferSize small b (((p.val s).take maxLen).length + 1) false false) p = memAt b p := by
      cases p with
      | ext d => rfl
      | own off =>
        rw [hsame (Nat.le_trans hle (by rw [Ptr.val, List.length_drop]; exact Nat.sub_le _ _))]
    have e : (p.val s).take ((p.val s).take maxLen).length = (p.val s).take maxLen := by
      rw [List.length_take, ← List.take_take, List.take_length]
    rw [hm, StrSpec.take_cstr (memAt b p) (by rw [hc]; exact hle), hc, e]
    exact assign_holds hs _ rfl hcap (StrSpec.nulFree_take (ptr_val_nulFree h.nf p) maxLen)
  · rw [if_neg hpos, List.eq_nil_of_length_eq_zero (Nat.eq_zero_of_not_pos hpos)]
    exact clear_holds h

theorem setFromString_holds (h : Holds small b s) (a : Arg) (ha : a.WF) (first afterLast : Nat) :
    Holds small (setFromString small b a first afterLast) (StrSpec.substring (a.val s) first afterLast) := by
  unfold setFromString StrSpec.substring
  simp only [h.arg_len a]
  by_cases hfe : first < min afterLast (a.val s).length
  · rw [if_pos hfe, if_pos hfe, if_pos (Nat.sub_pos_of_lt hfe)]
    generalize hn : min afterLast (a.val s).length - first = n
    have hnle : first + n ≤ (a.val s).length := by
      rw [← hn, Nat.add_sub_of_le (Nat.le_of_lt hfe)]; exact Nat.min_le_right _ _
    obtain ⟨hs, hcap, hsame⟩ := ensure_discard h n
    have hdata : a.read (ensureBufferSize small b (n + 1) false false) first n = ((a.val s).drop first).take n := by
      cases a with
      | ext d => rfl
      | self => rw [hsame (Nat.le_trans (Nat.le_add_left _ _) hnle)]
                exact h.read hnle
    rw [hdata]
    exact assign_holds hs _
      (by rw [List.length_take_of_le (by rw [List.length_drop]; exact Nat.le_sub_of_add_le (Nat.add_comm _ _ ▸ hnle))]) hcap
      (StrSpec.nulFree_take (StrSpec.nulFree_drop (arg_val_nulFree h.nf a ha) first) n)
  · rw [if_neg hfe, if_neg hfe, if_neg (Nat.lt_irrefl 0)]
    exact empty_holds small

theorem appendStr_holds (h : Holds small b s) (a : Arg) (ha : a.WF) : Holds small (appendStr small b a) (s ++ a.val s) := by
  unfold appendStr
  simp only [h.arg_len a]
  by_cases hpos : 0 < (a.val s).length
  · rw [if_pos hpos]
    obtain ⟨h1, hcap⟩ := ensure_retain h (b.len + (a.val s).length + 1)
    refine h1.append (a.val s) (arg_val_nulFree h.nf a ha) (by rw [← h.len]; exact hcap) rfl ?_ rfl
    -- `other()` is read after `EnsureBufferSize`: for `*this` it is the moved value
    cases a with
    | ext d => rfl
    | self => exact congrArg (writeAt _ _) h1.take_succ
  · rw [if_neg hpos, List.eq_nil_of_length_eq_zero (Nat.eq_zero_of_not_pos hpos), List.append_nil]; exact h

theorem ofCstr_holds (small : Nat) (d : Bytes) (m : Nat) : Holds small (ofCstr small d m) ((StrSpec.cstr d).take m) :=
  setCstr_holds (empty_holds small) (.ext d) trivial m

theorem appendCstr_holds (h : Holds small b s) (p : Ptr) (hp : p.WF b) : Holds small (appendCstr small b p) (s ++ p.val s) := by
  have hvn := ptr_val_nulFree h.nf p
  unfold appendCstr
  simp only [h.cstr_memAt p hp]
  by_cases hpos : 0 < (p.val s).length
  · rw [if_pos hpos]
    cases isLocal p
    · rw [if_neg Bool.false_ne_true]
      obtain ⟨h1, hcap⟩ := ensure_retain h (b.len + (p.val s).length + 1)
      exact h1.append (p.val s) hvn (by rw [← h.len]; exact hcap) rfl rfl rfl
    · rw [if_pos rfl, (ofCstr_holds small _ _).abs_eq, StrSpec.cstr_of_nulFree _ hvn, List.take_length]
      exact appendStr_holds h (.ext (p.val s)) hvn
  · rw [if_neg hpos, List.eq_nil_of_length_eq_zero (Nat.eq_zero_of_not_pos hpos), List.append_nil]; exact h

theorem appendChar_holds (h : Holds small b s) (c : UInt8) (hc : c ≠ 0) : Holds small (appendChar small b c) (s ++ [c]) := by
  simp only [appendChar]
  obtain ⟨h1, hcap⟩ := ensure_retain h (b.len + 2)
  generalize ensureBufferSize small b (b.len + 2) true false = b1 at hcap h1 ⊢
  have hbl : b.len = b1.len := h.len.trans h1.len.symm
  refine h1.append [c] (StrSpec.nulFree_singleton hc) (by rw [← h.len]; exact hcap) (by rfl) ?_ (congrArg (· + 1) hbl)
  show writeAt (writeAt b1.bytes b.len [c]) (b.len + 1) [0] = writeAt b1.bytes b1.len ([c] ++ [0])
  rw [← hbl]
  exact writeAt_two _ _ _ rfl (Nat.le_of_succ_le hcap)

theorem insertCore_holds (h : Holds small b s) (idx : Nat) (str : Bytes) (num count : Nat)
    (nf : StrSpec.nulFree (str.take num)) (hnum : (str.take num).length = num) :
    Holds small (insertCore small b idx str num count) (StrSpec.insertAt s idx (StrSpec.rep count (str.take num))) := by
  have hil : (StrSpec.rep count (str.take num)).length = num * count := by rw [StrSpec.rep_length, hnum, Nat.mul_comm]
  have hinf := StrSpec.rep_nulFree count _ nf
  have hlen := h.len
  simp only [insertCore]
  generalize StrSpec.rep count (str.take num) = ins at hil hinf ⊢
  by_cases ht : num * count = 0
  · rw [if_pos ht, List.eq_nil_of_length_eq_zero (hil.trans ht), StrSpec.insertAt_nil]; exact h
  · rw [if_neg ht]
    obtain ⟨h1, hcap⟩ := ensure_retain h (b.len + num * count + 1)
    generalize ensureBufferSize small b (b.len + num * count + 1) true false = b1 at hcap h1 ⊢
    simp only [StrSpec.insertAt, ← hlen]
    have hile : min idx b.len ≤ s.length := by rw [hlen]; exact Nat.min_le_right _ _
    generalize min idx b.len = i at hile ⊢
    have hsum : i + (ins ++ s.drop i).length = b.len + num * count := by
      rw [List.length_append, List.length_drop, hil, hlen, Nat.add_left_comm, Nat.add_sub_of_le hile, Nat.add_comm]
    have hcap' : b.len + num * count < b1.bytes.length := hcap
    refine h1.write_tail hile (ins ++ s.drop i) (StrSpec.nulFree_append hinf (StrSpec.nulFree_drop h.nf _))
      (by rw [hsum]; exact hcap) (by rfl) ?_ hsum.symm
    show writeAt (writeAt (writeAt b1.bytes (i + num * count) ((b1.bytes.drop i).take (b.len - i))) i ins)
      (b.len + num * count) [0] = _
    rw [h1.read_tail hile (by rw [hlen]), writeAt_before b1.bytes ins (s.drop i) (by rw [hil])
        (by rw [Nat.add_assoc, ← hil, ← List.length_append, hsum]; exact Nat.le_of_lt hcap'),
      writeAt_two b1.bytes (ins ++ s.drop i) [0] hsum.symm (Nat.le_of_lt hcap')]

theorem insertChar_holds (h : Holds small b s) (idx : Nat) (c : UInt8) (hc : c ≠ 0) (count : Nat) :
    Holds small (insertChar small b idx c count) (StrSpec.insertChar s idx c count) := by
  have := insertCore_holds h idx [c] 1 count (StrSpec.nulFree_singleton hc) rfl
  rwa [show List.take 1 [c] = [c] from rfl, StrSpec.rep_singleton] at this

/-- `InsertCharsAux` with `insertCount = 1` and `str` in separate memory -/
theorem insertCore_one (h : Holds small b s) (idx : Nat) (str : Bytes) {num : Nat} (nf : StrSpec.nulFree str)
    (hnum : num ≤ str.length) :
    Holds small (insertCore small b idx str num 1) (StrSpec.insertAt s idx (str.take num)) := by
  have := insertCore_holds h idx str num 1 (StrSpec.nulFree_take nf num) (List.length_take_of_le hnum)
  rwa [StrSpec.rep_one] at this

theorem insertCharsAux_one_holds (h : Holds small b s) (idx : Nat) (p : Ptr) (hp : p.WF b) (num : Nat)
    (hnum : num ≤ (p.val s).length) :
    Holds small (insertCharsAux small b idx p num 1) (StrSpec.insertAt s idx ((p.val s).take num)) := by
  have hvn := ptr_val_nulFree h.nf p
  simp only [insertCharsAux, h.cstr_memAt p hp]
  cases h0 : ((p.val s).isEmpty || num == 0)
  · rw [if_neg Bool.false_ne_true]
    cases isLocal p
    · rw [if_neg Bool.false_ne_true]; exact insertCore_one h idx _ hvn hnum
    · -- the temporary `String(str, num)` holds the `num` bytes to insert
      rw [if_pos rfl, (ofCstr_holds small _ _).abs_eq, StrSpec.cstr_of_nulFree _ hvn, isEmpty_take, h0, if_neg Bool.false_ne_true,
        List.length_take_of_le hnum, Nat.min_self]
      have := insertCore_one h idx ((p.val s).take num) (StrSpec.nulFree_take hvn num) (Nat.le_of_eq (List.length_take_of_le hnum).symm)
      rwa [List.take_take, Nat.min_self] at this
  · rw [if_pos rfl]
    rw [List.isEmpty_iff.mp ((isEmpty_take _ _).trans h0), StrSpec.insertAt_nil]; exact h

theorem insertChars_holds (h : Holds small b s) (idx : Nat) (p : Ptr) (hp : p.WF b) (maxChars : Nat) :
    Holds small (insertChars small b idx p maxChars) (StrSpec.insertChars s idx (p.val s) maxChars) := by
  simp only [insertChars, h.cstr_memAt p hp, StrSpec.insertChars]
  cases h0 : ((p.val s).isEmpty || maxChars == 0)
  · rw [if_neg Bool.false_ne_true]
    have := insertCharsAux_one_holds h idx p hp (min (p.val s).length maxChars) (Nat.min_le_left _ _)
    rwa [show (p.val s).take (min (p.val s).length maxChars) = (p.val s).take maxChars by
      rw [Nat.min_comm, ← List.take_take, List.take_length]] at this
  · rw [if_pos rfl]
    rw [List.isEmpty_iff.mp ((isEmpty_take _ _).trans h0), StrSpec.insertAt_nil]; exact h

theorem removeLastChar_holds (h : Holds small b s) (c : UInt8) :
    Holds small (removeLastChar b c) (StrSpec.removeLastChar s c) := by
  simp only [removeLastChar, StrSpec.removeLastChar, h.abs_eq]
  by_cases hi : 0 ≤ StrSpec.lastIndexOfChar s c 0
  · have hk := StrSpec.lastIndexOfChar_lt s c 0 hi
    rw [if_pos hi, if_pos hi]
    generalize (StrSpec.lastIndexOfChar s c 0).toNat = k at hk ⊢
    have hlen := h.len
    exact h.cut hk (n := b.len - k) (newLen := b.len - 1)
      (by rw [hlen, Nat.sub_add_eq, Nat.sub_add_cancel (Nat.le_sub_of_add_le (by rw [Nat.add_comm]; exact hk))])
      (by rw [hlen]; exact Nat.sub_add_cancel (Nat.le_trans (Nat.le_add_left 1 k) hk)) rfl rfl rfl
  · rw [if_neg hi, if_neg hi]; exact h

theorem removeAt_holds (h : Holds small b s) (t : Bytes) (ht : t.isEmpty = false) :
    Holds small (removeAt b t) (StrSpec.removeLast s t) := by
  simp only [removeAt, StrSpec.removeLast, h.abs_eq]
  rw [ht, if_neg Bool.false_ne_true]
  by_cases hi : 0 ≤ StrSpec.lastIndexOf s t
  · have hk := StrSpec.lastIndexOf_bound s t ht hi
    rw [if_pos hi, if_pos hi]
    generalize (StrSpec.lastIndexOf s t).toNat = k at hk ⊢
    have hlen := h.len
    exact h.cut hk (n := 1 + b.len - (k + t.length)) (newLen := b.len - t.length)
      (by rw [hlen, Nat.add_comm 1, Nat.sub_add_comm hk])
      (by rw [hlen]; exact Nat.sub_add_cancel (Nat.le_trans (Nat.le_add_left _ _) hk)) rfl rfl rfl
  · rw [if_neg hi, if_neg hi]; exact h

theorem removeLastStr_holds (h : Holds small b s) (a : Arg) :
    Holds small (removeLastStr b a) (if s == a.val s then [] else StrSpec.removeLast s (a.val s)) := by
  cases a with
  | self => rw [Arg.val, beq_self_eq_true, if_pos rfl]; exact clear_holds h
  | ext d =>
    show Holds small (if abs b == d then clear b else if d.isEmpty then b else removeAt b d)
      (if s == d then [] else StrSpec.removeLast s d)
    rw [h.abs_eq]
    by_cases he : (s == d) = true
    · rw [if_pos he, if_pos he]; exact clear_holds h
    · rw [if_neg he, if_neg he]
      cases hd : d.isEmpty
      · rw [if_neg Bool.false_ne_true]; exact removeAt_holds h d hd
      · rw [if_pos rfl, StrSpec.removeLast, hd, if_pos rfl]; exact h

theorem removeLastCstr_holds (h : Holds small b s) (p : Ptr) (hp : p.WF b) :
    Holds small (removeLastCstr b p) (StrSpec.removeLast s (p.val s)) := by
  simp only [removeLastCstr, h.cstr_memAt p hp]
  cases hd : (p.val s).isEmpty
  · rw [if_neg Bool.false_ne_true]; exact removeAt_holds h _ hd
  · rw [if_pos rfl, StrSpec.removeLast, hd, if_pos rfl]; exact h

theorem reverse_holds (h : Holds small b s) : Holds small (reverse b) s.reverse := by
  have := h.patch_tail (pos := 0) s.reverse (by rw [List.length_reverse, Nat.zero_add]) (StrSpec.nulFree_reverse h.nf)
    (b' := reverse b) rfl (by rw [reverse, h.abs_eq]) rfl
  exact this

theorem overwrite_holds (h : Holds small b s) (data : Bytes) (hd : data.length = s.length) (nf : StrSpec.nulFree data) :
    Holds small (overwrite b data) data :=
  h.patch_tail (pos := 0) data (by rw [Nat.zero_add]; exact hd) nf rfl rfl rfl

theorem setChar_holds (h : Holds small b s) (i : Nat) (hi : i < s.length) (c : UInt8) (hc : c ≠ 0) :
    Holds small (setChar b i c) (s.take i ++ c :: s.drop (i + 1)) :=
  h.patch [c] hi (StrSpec.nulFree_singleton hc) rfl rfl rfl

theorem replaceChar_holds (h : Holds small b s) (f r : UInt8) (hr : r ≠ 0) (mx fromIdx : Nat) :
    Holds small (replaceChar b f r mx fromIdx).1 (StrSpec.replaceChar s f r mx fromIdx).1 ∧
    (replaceChar b f r mx fromIdx).2 = (StrSpec.replaceChar s f r mx fromIdx).2 := by
  simp only [replaceChar, StrSpec.replaceChar, h.len]
  by_cases hc : (f != r && decide (fromIdx < s.length)) = true
  · have hfl : fromIdx ≤ s.length := Nat.le_of_lt (of_decide_eq_true (Bool.and_eq_true _ _ ▸ hc).2)
    rw [if_pos hc, if_pos hc, h.cstr_drop hfl]
    obtain ⟨hol, hon⟩ := StrSpec.replaceCharAux_length_nulFree f r hr (s.drop fromIdx) (StrSpec.nulFree_drop h.nf _) mx
    generalize StrSpec.replaceCharAux f r (s.drop fromIdx) mx = res at hol hon ⊢
    exact ⟨h.patch_tail res.1 (by rw [hol, List.length_drop]; omega) hon rfl rfl h.len.symm, rfl⟩
  · rw [if_neg hc, if_neg hc]; exact ⟨h, rfl⟩

theorem replaceStore_holds (h : Holds small b s) (rmLen wmLen : Nat) (out : Bytes) (n : Nat)
    (hnf : StrSpec.nulFree out) (hlen : out.length + n * rmLen = s.length + n * wmLen) (hz : n = 0 → out = s) :
    Holds small (replaceStore small b rmLen wmLen out n).1 out ∧
    (replaceStore small b rmLen wmLen out n).2 = (n : Int) := by
  simp only [replaceStore]
  by_cases c6 : n = 0
  · rw [if_pos c6, hz c6, c6]; exact ⟨h, rfl⟩
  rw [if_neg c6]
  by_cases c7 : rmLen < wmLen
  · -- copy-and-swap: the temporary is empty and big enough
    rw [if_pos c7]
    obtain ⟨ht, htc⟩ := ensure_retain (empty_holds small) (b.len + (wmLen - rmLen) * n + 1)
    have hmul : (wmLen - rmLen) * n + n * rmLen = n * wmLen := by
      rw [Nat.mul_comm _ n, ← Nat.mul_add, Nat.sub_add_cancel (Nat.le_of_lt c7)]
    have hlen' := h.len
    exact ⟨ht.write_tail (Nat.zero_le _) out hnf (by rw [Nat.zero_add]; omega) rfl rfl (Nat.zero_add _).symm, rfl⟩
  · rw [if_neg c7]
    have hmul : n * wmLen ≤ n * rmLen := Nat.mul_le_mul_left _ (Nat.le_of_not_lt c7)
    have hl := h.lt_cap
    exact ⟨h.write_tail (Nat.zero_le _) out hnf (by rw [Nat.zero_add]; omega) rfl rfl (Nat.zero_add _).symm, rfl⟩

theorem replaceStr_holds (h : Holds small b s) (a1 a2 : Arg) (h1 : a1.WF) (h2 : a2.WF)
    (hw : (a2.val s).length ≤ StrSpec.noLimit) (mx fromIdx : Nat) :
    Holds small (replaceStr small b a1 a2 mx fromIdx).1 (StrSpec.replaceStr s (a1.val s) (a2.val s) mx fromIdx).1 ∧
    (replaceStr small b a1 a2 mx fromIdx).2 = (((StrSpec.replaceStr s (a1.val s) (a2.val s) mx fromIdx).2 : Nat) : Int) := by
  have hwn := arg_val_nulFree h.nf a2 h2
  -- `&replaceMe == this`: the scan finds the whole value at offset 0 or nothing at all, and the code assigns `withMe`
  have hs := setFromString_holds h a2 h2 0 StrSpec.noLimit
  rw [StrSpec.substring_all _ hw] at hs
  simp only [replaceStr, StrSpec.replaceStr, h.abs_eq, h.len]
  generalize a2.val s = wm at hwn hs ⊢
  by_cases c1 : mx = 0
  · rw [if_pos c1, if_pos c1]; exact ⟨h, rfl⟩
  rw [if_neg c1, if_neg c1]
  by_cases c2 : s.length ≤ fromIdx
  · rw [if_pos c2, if_pos c2]; exact ⟨h, rfl⟩
  rw [if_neg c2, if_neg c2]
  by_cases c3 : (a1.val s).isEmpty = true
  · rw [if_pos c3, if_pos c3]; exact ⟨h, rfl⟩
  rw [if_neg c3, if_neg c3]
  by_cases c4 : (a1.val s == wm) = true
  · rw [if_pos c4, if_pos c4]; exact ⟨h, rfl⟩
  rw [if_neg c4, if_neg c4]
  cases a1 with
  | self =>
    simp only [Arg.val] at c3 ⊢
    by_cases c5 : fromIdx = 0
    · rw [if_pos c5, c5, List.drop_zero, StrSpec.replAux_self s wm (fun he => c3 (by rw [he]; rfl)) _ c1]
      dsimp only
      exact ⟨hs, rfl⟩
    · rw [if_neg c5, StrSpec.replAux_nohit s wm _ _ mx
        (Or.inr (by rw [List.length_drop]
                    exact Nat.sub_lt (Nat.lt_of_le_of_lt (Nat.zero_le _) (Nat.lt_of_not_le c2)) (Nat.pos_of_ne_zero c5))),
        List.take_append_drop]
      exact ⟨h, rfl⟩
  | ext rm =>
    simp only [Arg.val]
    obtain ⟨hlen, hnf, hz⟩ := StrSpec.replAux_length_nulFree rm wm hwn (s.length + 1) (s.drop fromIdx) (StrSpec.nulFree_drop h.nf _) mx
    generalize StrSpec.replAux rm wm (s.length + 1) (s.drop fromIdx) mx = res at hlen hnf hz ⊢
    exact replaceStore_holds h rm.length wm.length (s.take fromIdx ++ res.1) res.2
      (StrSpec.nulFree_append (StrSpec.nulFree_take h.nf fromIdx) hnf)
      (by rw [List.length_append, List.length_take_of_le (Nat.le_of_not_le c2), Nat.add_assoc, hlen, List.length_drop,
            ← Nat.add_assoc, Nat.add_sub_of_le (Nat.le_of_not_le c2)])
      (fun hn0 => by rw [hz hn0, List.take_append_drop])

theorem Holds.ptr_wf (h : Holds small b s) (p : Ptr) (hp : p.WF ⟨true, s.length, []⟩) : p.WF b := by
  cases p with
  | ext d => trivial
  | own off => exact Nat.le_trans hp (Nat.le_of_eq h.len.symm)

/-- Refinement: an in-place operation maps a buffer holding `s` to a buffer holding what the operation yields on the
    ideal byte string, with the same return value. -/
theorem step_holds (h : Holds small b s) (op : Op) (hw : op.WF s) :
    Holds small (step small b op).1 (specStep s op).1 ∧ (step small b op).2 = (specStep s op).2 := by
  cases op <;> dsimp only [step, specStep]
  case clear => exact ⟨clear_holds h, rfl⟩
  case flush => exact ⟨empty_holds small, rfl⟩
  case shrink e => exact ⟨shrinkToFit_holds h e, rfl⟩
  case prealloc n => exact ⟨(ensure_retain h (n + 1)).1, rfl⟩
  case truncChars n =>
    refine ⟨?_, rfl⟩
    show Holds small _ (s.take (s.length - min s.length n))
    rw [← h.len]; exact h.truncate (by rw [h.len]; exact Nat.sub_le _ _)
  case truncTo n =>
    refine ⟨?_, rfl⟩
    show Holds small _ (s.take (min s.length n))
    rw [← h.len]; exact h.truncate (by rw [h.len]; exact Nat.min_le_left _ _)
  case setCstr p m => exact ⟨setCstr_holds h p (h.ptr_wf p hw) m, rfl⟩
  case setFrom a f e => exact ⟨setFromString_holds h a hw f e, rfl⟩
  case appendStr a => exact ⟨appendStr_holds h a hw, rfl⟩
  case appendCstr p => exact ⟨appendCstr_holds h p (h.ptr_wf p hw), rfl⟩
  case appendChar c => exact ⟨appendChar_holds h c hw, rfl⟩
  case insertChars i p m => exact ⟨insertChars_holds h i p (h.ptr_wf p hw) m, rfl⟩
  case insertChar i c n => exact ⟨insertChar_holds h i c hw n, rfl⟩
  case removeLastChar c => exact ⟨removeLastChar_holds h c, rfl⟩
  case removeLastStr a => exact ⟨removeLastStr_holds h a, rfl⟩
  case removeLastCstr p => exact ⟨removeLastCstr_holds h p (h.ptr_wf p hw), rfl⟩
  case replaceChar f r m i =>
    have := replaceChar_holds h f r hw m i
    exact ⟨this.1, congrArg Nat.cast this.2⟩
  case replaceStr a1 a2 m i => exact replaceStr_holds h a1 a2 hw.1 hw.2.1 hw.2.2 m i
  case reverse => exact ⟨reverse_holds h, rfl⟩
  case toLower =>
    refine ⟨?_, rfl⟩
    rw [h.abs_eq]; exact overwrite_holds h _ (List.length_map _) (StrSpec.nulFree_map _ StrSpec.lowerB_ne_zero h.nf)
  case toUpper =>
    refine ⟨?_, rfl⟩
    rw [h.abs_eq]; exact overwrite_holds h _ (List.length_map _) (StrSpec.nulFree_map _ StrSpec.upperB_ne_zero h.nf)
  case toMixed =>
    refine ⟨?_, rfl⟩
    rw [h.abs_eq]; exact overwrite_holds h _ (StrSpec.toMixedAux_length_nulFree s h.nf false).1 (StrSpec.toMixedAux_length_nulFree s h.nf false).2
  case setChar i c => exact ⟨setChar_holds h i hw.1 c hw.2, rfl⟩
  case unflatten v =>
    rw [unflatten]
    cases StrSpec.readCString v with
    | none => exact ⟨h, rfl⟩
    | some sr => exact ⟨setCstr_holds h (.ext sr.1) trivial StrSpec.noLimit, rfl⟩

theorem specStep_dealias (s : Bytes) (hs : StrSpec.nulFree s) (op : Op) : specStep s (op.dealias s) = specStep s op := by
  have hp : ∀ p : Ptr, StrSpec.cstr (p.val s) = p.val s := fun p => StrSpec.cstr_of_nulFree _ (ptr_val_nulFree hs p)
  cases op with
  | setCstr p m => exact congrArg (fun v => (StrSpec.setCstr v m, (0 : Int))) (hp p)
  | appendCstr p => exact congrArg (fun v => (s ++ v, (0 : Int))) (hp p)
  | insertChars i p m => exact congrArg (fun v => (StrSpec.insertChars s i v m, (0 : Int))) (hp p)
  | removeLastCstr p => exact congrArg (fun v => (StrSpec.removeLast s v, (0 : Int))) (hp p)
  | _ => rfl

theorem wf_dealias (s : Bytes) (hs : StrSpec.nulFree s) (op : Op) (hw : op.WF s) : (op.dealias s).WF s := by
  have ha : ∀ a : Arg, a.WF → (Arg.ext (a.val s)).WF := fun a h => arg_val_nulFree hs a h
  cases op with
  | setFrom a f e => exact ha a hw
  | appendStr a => exact ha a hw
  | replaceStr a1 a2 m i => exact ⟨ha a1 hw.1, ha a2 hw.2.1, hw.2.2⟩
  | setCstr p m => trivial
  | appendCstr p => trivial
  | insertChars i p m => trivial
  | removeLastCstr p => trivial
  | _ => exact hw

theorem run_holds (ops : List Op) : ∀ {b : Buf} {s : Bytes}, Holds small b s → RunWF s ops →
    Holds small (run small b ops).1 (specRun s ops).1 ∧ (run small b ops).2 = (specRun s ops).2 := by
  induction ops with
  | nil => intro b s h _; exact ⟨h, rfl⟩
  | cons op r ih =>
    intro b s h hw
    obtain ⟨h1, h2⟩ := step_holds h op hw.1
    obtain ⟨i1, i2⟩ := ih h1 hw.2
    simp only [run, specRun]
    exact ⟨i1, by rw [i2, h1.abs_eq, h2]⟩

end Muscle.Containers.StrBuf
