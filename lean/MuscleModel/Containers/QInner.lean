import MuscleModel.Containers.QEnds

/-! Lemmas for C16: the operations that move items inside the array and those on two Queues.  The loops are specified by what
they do to the visible list, so that the operations built from them are list identities. -/

set_option linter.unusedSectionVars false

namespace Muscle.Containers
variable {α : Type} [DecidableEq α] (c : ItemCfg α)

/-! `RemoveItemAt`, `InsertItemAt` and `InsertItemsAt` move a run of items by `operator[]` or slot by slot; all of these loops are one
of two: items moving up (`shiftUp`, by `n` places) and items moving down (`shiftLeftLoop`, by one). -/

theorem shiftUp_shape (k : Nat) (q : Ring α) (index n : Nat) : SameShape (Ring.shiftUp c q index n k) q := by
  induction k generalizing q with
  | zero => exact SameShape.refl q
  | succ k ih => exact (ih _).trans (sameShape_put q _ _)

theorem shiftLeftLoop_shape (n : Nat) (q : Ring α) (i : Nat) : SameShape (Ring.shiftLeftLoop c q i n) q := by
  induction n generalizing q i with
  | zero => exact SameShape.refl q
  | succ n ih => exact (ih _ _).trans (sameShape_put q _ _)

theorem shiftRightLoop_eq (index : Nat) (m : Nat) (q : Ring α) : Ring.shiftRightLoop c q index m = Ring.shiftUp c q index 1 m := by
  induction m generalizing q with
  | zero => rfl
  | succ m ih => exact ih _

/-- the first loop of `RemoveItemAt` walks the slots from `index` back to the head: the items before `index` move up by one -/
theorem shiftFromHead_eq (i : Nat) (q : Ring α) (hh : q.head < q.size) (hi : i < q.size) (fuel : Nat) (hf : i ≤ fuel) :
    Ring.shiftFromHead c q fuel (q.phys i) = Ring.shiftUp c q 0 1 i := by
  induction i generalizing q fuel with
  | zero =>
    rw [phys_zero hh]
    cases fuel <;> simp [Ring.shiftFromHead, Ring.shiftUp]
  | succ i ih =>
    obtain ⟨f, rfl⟩ : ∃ f, fuel = f + 1 := ⟨fuel - 1, by omega⟩
    have sp := sameShape_put q (i + 1) (q.get c i)
    have hne : q.phys (i + 1) ≠ q.head := fun h => by
      have := intern_inj (by omega) (by omega) (h.trans (phys_zero hh).symm)
      omega
    have hp : prevIndex q.size (q.phys (i + 1)) = q.phys i := prev_intern hh (by omega)
    have key := ih (q.put (i + 1) (q.get c i)) (by rw [sp.head, sp.size]; exact hh) (by rw [sp.size]; omega) f (by omega)
    rw [sp.phys] at key
    rw [Ring.shiftFromHead, if_neg hne, hp]
    show _ = Ring.shiftUp c (q.put (0 + i + 1) (q.get c (0 + i))) 0 1 i
    rw [Nat.zero_add]; exact key

/-- the second loop walks from `index` on to the tail: the items behind `index` move down by one -/
theorem shiftFromTail_eq (d : Nat) (q : Ring α) (hh : q.head < q.size) (i : Nat) (hid : i + d < q.size)
    (ht : q.tail = q.phys (i + d)) (fuel : Nat) (hf : d ≤ fuel) :
    Ring.shiftFromTail c q fuel (q.phys i) = Ring.shiftLeftLoop c q i d := by
  induction d generalizing q fuel i with
  | zero =>
    have e : q.phys i = q.tail := ht.symm
    rw [e]
    cases fuel <;> simp [Ring.shiftFromTail, Ring.shiftLeftLoop]
  | succ d ih =>
    obtain ⟨f, rfl⟩ : ∃ f, fuel = f + 1 := ⟨fuel - 1, by omega⟩
    have sp := sameShape_put q i (q.get c (i + 1))
    have hne : q.phys i ≠ q.tail := fun h => by
      have := intern_inj (by omega) (by omega) (h.trans ht)
      omega
    have hn : nextIndex q.size (q.phys i) = q.phys (i + 1) := next_intern hh (by omega)
    have key := ih (q.put i (q.get c (i + 1))) (by rw [sp.head, sp.size]; exact hh) (i + 1) (by rw [sp.size]; omega)
      (by rw [sp.tail, sp.phys, ht]; congr 1; omega) f (by omega)
    rw [sp.phys] at key
    rw [Ring.shiftFromTail, if_neg hne, hn]; exact key

theorem clipNum_idem (n start num : Nat) : Ring.clipNum n start (Ring.clipNum n start num) = Ring.clipNum n start num := by
  simp only [clipNum_eq]; omega

section
variable {c} {q : Ring α} {l : List α}

namespace Rep

/-- what the vacated places hold afterwards (`Y`) no caller needs to know: each overwrites or removes them -/
theorem shiftUp {A M D C : List α} (h : Rep c q (A ++ (M ++ (D ++ C)))) (hD : 0 < D.length) :
    ∃ Y, Y.length = D.length ∧ Rep c (Ring.shiftUp c q A.length D.length M.length) (A ++ (Y ++ (M ++ C))) := by
  induction M using snoc_induction generalizing q D C with
  | nil => exact ⟨D, rfl, h⟩
  | snoc M m ih =>
    obtain ⟨D', d, rfl⟩ := exists_snoc (List.ne_nil_of_length_pos hD)
    have h1 : Rep c q ((A ++ M) ++ m :: (D' ++ d :: C)) := by
      simpa only [List.append_assoc, List.singleton_append, List.cons_append, List.nil_append] using h
    -- the last item of `M` goes to the last place of `D`; then the rest of `M` moves over `m :: D'`
    have h3 : Rep c (q.put (A.length + M.length + (D' ++ [d]).length) (q.get c (A.length + M.length)))
        (A ++ (M ++ ((m :: D') ++ (m :: C)))) := by
      rw [List.length_append, List.length_singleton, ← List.length_append (as := A)]
      simpa only [List.append_assoc, List.cons_append] using h1.copyUp
    obtain ⟨Y, hY, g⟩ := ih h3 (Nat.succ_pos _)
    have e : (m :: D').length = (D' ++ [d]).length := by rw [List.length_cons, List.length_append, List.length_singleton]
    rw [e] at hY g
    refine ⟨Y, hY, ?_⟩
    rw [List.length_append (as := M), List.length_singleton, Ring.shiftUp]
    simpa only [List.append_assoc, List.singleton_append] using g

theorem shiftLeftLoop {A M C : List α} {x : α} (h : Rep c q (A ++ x :: (M ++ C))) :
    ∃ y, Rep c (Ring.shiftLeftLoop c q A.length M.length) (A ++ (M ++ y :: C)) := by
  induction M generalizing q A x with
  | nil => exact ⟨x, h⟩
  | cons m M ih =>
    obtain ⟨y, g⟩ := ih (A := A ++ [m]) (x := m) (by rw [List.append_assoc]; exact h.copyDown (R := []))
    rw [List.length_append, List.length_singleton, List.append_assoc] at g
    exact ⟨y, g⟩

theorem removeItemAt (h : Rep c q l) (index : Nat) :
    Rep c (q.removeItemAt c index).1 (Spec.removeItemAt l index).1 ∧ (q.removeItemAt c index).2 = (Spec.removeItemAt l index).2 := by
  have hl := h.count
  have hG := h.good
  have hc := hG.cnt
  unfold Ring.removeItemAt Spec.removeItemAt
  rw [← hl]
  by_cases hi : index ≥ q.count
  · rw [if_pos hi, if_pos hi]; exact ⟨h, rfl⟩
  · rw [if_neg hi, if_neg hi]
    refine ⟨?_, rfl⟩
    show Rep c _ (l.eraseIdx index)
    rw [List.eraseIdx_eq_take_drop_succ]
    have hil : index < l.length := by omega
    have hp : 0 < q.count := by omega
    have hh := hG.head_pos hp
    have hne : ¬ q.count = 0 := Nat.ne_of_gt hp
    have hA : (l.take index).length = index := List.length_take_of_le (Nat.le_of_lt hil)
    have hcut : l = l.take index ++ l[index] :: l.drop (index + 1) := by
      rw [← List.drop_eq_getElem_cons hil, List.take_append_drop]
    by_cases hb : index < q.count / 2
    · simp only [hb, if_true]
      clear hb
      rw [shiftFromHead_eq c index q hh (by omega) q.size (by omega)]
      obtain ⟨Y, hY, g1⟩ := shiftUp (A := []) (M := l.take index) (D := [l[index]]) (C := l.drop (index + 1))
        (by rw [List.nil_append, List.singleton_append, ← hcut]; exact h) Nat.one_pos
      obtain ⟨y, rfl⟩ := List.length_eq_one_iff.1 hY
      rw [hA] at g1
      have sh := shiftUp_shape c index q 0 1
      generalize Ring.shiftUp c q 0 1 index = q1 at *
      have g := g1.removeHead.1
      have e : (q1.removeHead c).1 = (if c.clear = true then
          ({ q1 with head := nextIndex q.size q.head, count := q.count - 1, slots := q1.slots.set q.head c.dflt } : Ring α)
          else { q1 with head := nextIndex q.size q.head, count := q.count - 1 }) := by
        unfold Ring.removeHead
        rw [sh.count, if_neg hne, sh.size, sh.head]
      rwa [e, spec_removeHead_fst] at g
    · simp only [hb, if_false]
      clear hb
      obtain ⟨d, hd⟩ : ∃ d, q.count = index + d + 1 := ⟨q.count - 1 - index, by omega⟩
      have hM : (l.drop (index + 1)).length = d := by rw [List.length_drop]; omega
      rw [shiftFromTail_eq c d q hh index (by omega) (by rw [hG.tail_eq hp, hd, Nat.add_sub_cancel]) q.size (by omega)]
      obtain ⟨y, g1⟩ := shiftLeftLoop (A := l.take index) (M := l.drop (index + 1)) (C := []) (x := l[index])
        (by rw [List.append_nil, ← hcut]; exact h)
      rw [hA, hM] at g1
      have sh := shiftLeftLoop_shape c d q index
      generalize Ring.shiftLeftLoop c q index d = q1 at *
      have g := g1.removeTail.1
      have e : (q1.removeTail c).1 = (if c.clear = true then
          ({ q1 with tail := prevIndex q.size q.tail, count := q.count - 1, slots := q1.slots.set q.tail c.dflt } : Ring α)
          else { q1 with tail := prevIndex q.size q.tail, count := q.count - 1 }) := by
        unfold Ring.removeTail
        rw [sh.count, if_neg hne, sh.size, sh.tail]
      -- `RemoveTail()` drops the duplicate last item `y`
      rwa [e, spec_removeTail_fst, ← List.append_assoc, List.length_append, List.length_singleton, Nat.add_sub_cancel,
        List.take_left' rfl] at g

theorem insertItemAt (h : Rep c q l) (index : Nat) (v : α) :
    Rep c (q.insertItemAt c index v) (Spec.insertItemAt l index v) := by
  unfold Ring.insertItemAt Spec.insertItemAt
  rw [h.count]
  by_cases h1 : index ≥ l.length
  · rw [if_pos h1, if_pos h1]; exact h.addTail v
  · rw [if_neg h1, if_neg h1]
    have hA : (l.take index).length = index := List.length_take_of_le (by omega)
    by_cases h2 : index = 0
    · rw [if_pos h2, h2]; exact h.addHead v
    · rw [if_neg h2]
      by_cases h3 : index < l.length / 2
      · rw [if_pos h3]
        have g0 : Rep c (q.addHead c c.dflt) ([] ++ c.dflt :: (l.take index ++ l.drop index)) := by
          rw [List.take_append_drop]; exact h.addHead c.dflt
        obtain ⟨y, g⟩ := g0.shiftLeftLoop
        have := (show Rep c _ (l.take index ++ y :: l.drop index) from g).putAt v
        rwa [hA] at g this
      · rw [if_neg h3]; dsimp only
        have g0 : Rep c (q.addTail c c.dflt) (l.take index ++ (l.drop index ++ ([c.dflt] ++ []))) := by
          rw [List.append_nil, ← List.append_assoc, List.take_append_drop]; exact h.addTail c.dflt
        obtain ⟨Y, hY, g⟩ := g0.shiftUp Nat.one_pos
        obtain ⟨y, rfl⟩ := List.length_eq_one_iff.1 hY
        have := (show Rep c _ (l.take index ++ y :: l.drop index) by rwa [List.append_nil] at g).putAt v
        rw [shiftRightLoop_eq, (h.addTail c.dflt).count, List.length_append, List.length_singleton, Nat.add_sub_cancel]
        rwa [hA, List.length_drop, List.length_singleton] at this

/-- the general path of `InsertItemsAt`: grow by `len` default items, shift the tail up, write the new items -/
theorem insertItems_general (h : Rep c q l) (index : Nat) (xs : List α) (hi : index ≤ l.length) (hx : 0 < xs.length) :
    Rep c ((Ring.shiftUp c (q.ensureSizeAux c (q.count + xs.length) true 0 false) index xs.length (q.count - index)).putList index xs)
      (l.take index ++ xs ++ l.drop index) := by
  have hA : (l.take index).length = index := List.length_take_of_le hi
  have hD : (List.replicate xs.length c.dflt).length = xs.length := List.length_replicate
  have g0 : Rep c (q.ensureSizeAux c (q.count + xs.length) true 0 false)
      (l.take index ++ (l.drop index ++ (List.replicate xs.length c.dflt ++ []))) := by
    rw [List.append_nil, ← List.append_assoc, List.take_append_drop]; exact h.grow xs.length
  obtain ⟨Y, hY, g⟩ := g0.shiftUp (by rw [hD]; exact hx)
  have := g.putList xs (hY.trans hD)
  rwa [hA, hD, List.length_drop, ← h.count, List.append_nil, ← List.append_assoc] at this

theorem insertItemsAt (h : Rep c q l) (index : Nat) (xs : List α) (fromQueue : Bool) :
    Rep c (q.insertItemsAt c index xs fromQueue) (Spec.insertItemsAt l index xs) := by
  unfold Ring.insertItemsAt Spec.insertItemsAt
  rw [h.count]
  have full : l.take l.length = l ∧ l.drop l.length = [] := ⟨List.take_length, List.drop_length⟩
  by_cases h0 : xs.length = 0
  · rw [if_pos h0, List.eq_nil_of_length_eq_zero h0, List.append_nil, List.take_append_drop]; exact h
  · rw [if_neg h0]
    by_cases h1 : fromQueue = true ∧ min index l.length = 0
    · rw [if_pos h1, h1.2]; exact h.addHeadMulti xs
    · rw [if_neg h1]
      by_cases h2 : fromQueue = true ∧ min index l.length = l.length
      · rw [if_pos h2, h2.2, full.1, full.2, List.append_nil]; exact h.addTailMulti xs
      · rw [if_neg h2]
        by_cases h3 : ¬ fromQueue = true ∧ xs.length = 1 ∧ min index l.length = 0
        · rw [if_pos h3, h3.2.2]
          match xs, h3.2.1 with
          | [x], _ => exact h.addHead x
        · rw [if_neg h3]
          by_cases h4 : ¬ fromQueue = true ∧ xs.length = 1 ∧ min index l.length = l.length
          · rw [if_pos h4, h4.2.2, full.1, full.2, List.append_nil]
            match xs, h4.2.1 with
            | [x], _ => exact h.addTail x
          · rw [if_neg h4, ← h.count]
            exact h.insertItems_general (min index q.count) xs (by rw [h.count]; omega) (Nat.pos_of_ne_zero h0)

theorem insertItemsSelf (h : Rep c q l) (index start num : Nat) :
    Rep c (q.insertItemsSelf c index start num) (Spec.insertItemsAt l index (Spec.clip l start num)) := by
  have hidem : Spec.clip l start (Ring.clipNum l.length start num) = Spec.clip l start num := by
    rw [clip_eq, clip_eq, clipNum_idem]
  have hlen : (Spec.clip l start num).length = Ring.clipNum l.length start num := by
    rw [clip_eq]; simp only [List.length_take, List.length_drop, clipNum_eq]; split <;> omega
  have full : l.take l.length = l ∧ l.drop l.length = [] := ⟨List.take_length, List.drop_length⟩
  unfold Ring.insertItemsSelf
  rw [h.shows, h.count]
  by_cases h0 : Ring.clipNum l.length start num = 0
  · rw [if_pos h0, List.eq_nil_of_length_eq_zero (hlen.trans h0), Spec.insertItemsAt, List.append_nil, List.take_append_drop]
    exact h
  · rw [if_neg h0]
    by_cases h1 : min index l.length = 0
    · rw [if_pos h1, Spec.insertItemsAt, h1, List.take_zero, List.nil_append, List.drop_zero, ← hidem]
      exact h.addHeadSelf start (Ring.clipNum l.length start num)
    · rw [if_neg h1]
      by_cases h2 : min index l.length = l.length
      · rw [if_pos h2, Spec.insertItemsAt, h2, full.1, full.2, List.append_nil, ← hidem]
        exact h.addTailSelf start (Ring.clipNum l.length start num)
      · rw [if_neg h2, clip_eq]
        have := h.insertItemsAt (min index l.length) ((l.drop start).take (Ring.clipNum l.length start num)) true
        rwa [Spec.insertItemsAt, show min (min index l.length) l.length = min index l.length by omega] at this

/-- `InsertItemsAt(index, &(*this)[j], n)`: the array argument points into the Queue itself -/
theorem insertItemsOwn (h : Rep c q l) (index j n : Nat) :
    Rep c (q.insertItemsOwn c index j n) (Spec.insertItemsAt l index ((l.drop j).take n)) := by
  unfold Ring.insertItemsOwn
  rw [h.shows]
  by_cases h0 : ((l.drop j).take n).length = 0
  · rw [if_pos h0, List.eq_nil_of_length_eq_zero h0, Spec.insertItemsAt, List.append_nil, List.take_append_drop]; exact h
  · rw [if_neg h0]; exact h.insertItemsAt index _ true

end Rep

end

section
variable {c}

/-- the rotation branch of `Normalize()` (too full for the copy): the new array is the layout -/
theorem normalize_rot (q : Ring α) (hG : Good c q) (hp : 0 < q.count) :
    Rep c ({ q with slots := q.slots.drop q.head ++ q.slots.take q.head, head := 0, tail := q.count - 1 } : Ring α) (q.abs c) := by
  have hc := hG.cnt
  have hh := hG.head_lt (by omega)
  have hlen : ({ q with slots := q.slots.drop q.head ++ q.slots.take q.head, head := 0, tail := q.count - 1 } : Ring α).size = q.size :=
    lay_length q
  have this : Rep c ({ q with slots := q.slots.drop q.head ++ q.slots.take q.head, head := 0, tail := q.count - 1 } : Ring α)
      (q.lay.take q.count) :=
    Rep.flat (hG.housing.congr rfl rfl hlen) rfl (by rw [hlen]; exact hc) (fun _ => rfl) (fun hcl => hG.hidden hcl hh)
  rwa [← abs_eq_take c q hh hc] at this

/-- the copy branch of `Normalize()` (`2*count ≤ size`).  Layout before: `items ++ hidden`; after the copy loop
    `items ++ items ++ hidden.drop count`; after the reset (owning item types) `defaults ++ items ++ …`; the window then starts at the
    second block -/
theorem normalize_copy (q : Ring α) (hG : Good c q) (hn : q.isNormalized = false) (h2 : q.count * 2 ≤ q.size) :
    Rep c (q.normalize c) (q.abs c) ∧ (q.normalize c).isNormalized = true := by
  have hc := hG.cnt
  unfold Ring.normalize
  simp only [hn, Bool.false_eq_true, if_false, h2, if_true]
  have hcp : 0 < q.count ∧ q.head > q.tail := by
    rcases Nat.eq_zero_or_pos q.count with z | z
    · simp [Ring.isNormalized, z] at hn
    · simp [Ring.isNormalized] at hn; omega
  have hh := hG.head_lt (by omega)
  -- the window is wrapped: the slot behind its last item is `head + count - size`
  have ht : q.tail + 1 + q.size = q.head + q.count := by
    have e := hG.tail_eq hcp.1
    rcases Nat.lt_or_ge (q.head + (q.count - 1)) q.size with a | a
    · rw [phys_of_lt a] at e; omega
    · rw [phys_of_ge a] at e; omega
  have hp := hcp.1
  clear hcp hn
  -- the copy loop writes the items at user indices `[count, 2*count)`: these slots do not wrap round
  have hpc : q.phys q.count = q.tail + 1 := by rw [phys_of_ge (by omega)]; omega
  have e1 : ({ q with slots := overwriteAt q.slots (q.tail + 1) (q.abs c) } : Ring α) = q.putList q.count (q.abs c) := by
    rw [← hpc]; exact overwriteAt_eq_putList _ q hh q.count (by rw [abs_length]; omega) (by rw [hpc, abs_length]; omega)
  rw [e1]
  have habs := abs_eq_take c q hh hc
  obtain ⟨sh1, l1⟩ := lay_putList (q.abs c) q hh q.count (by rw [abs_length]; omega)
  rw [abs_length, ← habs] at l1
  obtain ⟨q2, e2, sh, l2⟩ : ∃ q2 : Ring α, (if c.clear = true then (q.putList q.count (q.abs c)).putList 0 (List.replicate q.count c.dflt)
        else q.putList q.count (q.abs c)) = q2 ∧ SameShape q2 q ∧
      q2.lay = (if c.clear = true then List.replicate q.count c.dflt else q.abs c) ++ q.abs c ++ q.lay.drop (q.count + q.count) := by
    refine ⟨_, rfl, ?_⟩
    cases hcl : c.clear
    · exact ⟨sh1, l1⟩
    · obtain ⟨sh, pg⟩ := lay_putList (List.replicate q.count c.dflt) _ (by rw [sh1.head, sh1.size]; exact hh) 0
        (by rw [sh1.size, List.length_replicate]; omega)
      refine ⟨sh.trans sh1, pg.trans ?_⟩
      rw [l1, List.take_zero, List.nil_append, List.length_replicate, Nat.zero_add, List.append_assoc,
        List.drop_left' (abs_length c q), if_pos rfl, List.append_assoc]
  rw [e2]
  have w : Window ({ q2 with head := q.tail + 1, tail := q.tail + 1 + q.count - 1 } : Ring α) q2 q.count q.count := by
    refine ⟨rfl, rfl, rfl, ?_, sh.count, fun _ => ?_⟩
    · show q.tail + 1 = q2.phys q.count
      rw [sh.phys, hpc]
    · show q.tail + 1 + q.count - 1 = q2.phys (internalizeIndex q.count q2.size (q.count - 1))
      obtain ⟨m, hm⟩ : ∃ m, q.count = m + 1 := ⟨q.count - 1, (Nat.sub_add_cancel hp).symm⟩
      rw [sh.phys, sh.size, phys_def, hm, Nat.add_sub_cancel, Nat.add_succ_sub_one, intern_of_lt (h := m + 1) (by omega),
        intern_of_ge (by omega)]
      omega
  have hlen : ((if c.clear = true then List.replicate q.count c.dflt else q.abs c)).length = q.count := by
    split
    · exact List.length_replicate
    · exact abs_length c q
  have hrot : q2.lay.drop q.count ++ q2.lay.take q.count =
      q.abs c ++ (q.lay.drop (q.count + q.count) ++ (if c.clear = true then List.replicate q.count c.dflt else q.abs c)) := by
    rw [l2, List.append_assoc, List.drop_left' hlen, List.take_left' hlen, List.append_assoc]
  have := w.rep (hG.housing.congr sh.kind sh.sbuf sh.size) (by rw [sh.head, sh.size]; exact hh) (by rw [sh.size]; omega)
    (by rw [sh.size]; omega) (by
      rw [hrot, List.drop_left' (abs_length c q)]
      intro hcl x hx
      rw [if_pos hcl] at hx
      rcases List.mem_append.1 hx with a | a
      · exact hG.hidden hcl hh x (List.mem_of_mem_drop (by rw [← List.drop_drop] at a; exact a))
      · exact (List.mem_replicate.1 a).2)
  rw [hrot, List.take_left' (abs_length c q)] at this
  refine ⟨this, ?_⟩
  simp only [Ring.isNormalized, Bool.or_eq_true, decide_eq_true_eq]
  exact Or.inr (Nat.le_sub_one_of_lt (Nat.lt_add_of_pos_right hp))

namespace Rep

theorem normalize {q : Ring α} {l : List α} (h : Rep c q l) : Rep c (q.normalize c) l ∧ (q.normalize c).isNormalized = true := by
  obtain ⟨hG, rfl⟩ := h
  by_cases hn : q.isNormalized = true
  · have e : q.normalize c = q := by unfold Ring.normalize; rw [if_pos hn]
    rw [e]; exact ⟨⟨hG, rfl⟩, hn⟩
  · have hn' : q.isNormalized = false := by cases h : q.isNormalized <;> simp_all
    by_cases h2 : q.count * 2 ≤ q.size
    · exact normalize_copy q hG hn' h2
    · have hp : 0 < q.count := by
        rcases Nat.eq_zero_or_pos q.count with z | z
        · simp [Ring.isNormalized, z] at hn
        · exact z
      have e : q.normalize c = { q with slots := q.slots.drop q.head ++ q.slots.take q.head, head := 0, tail := q.count - 1 } := by
        unfold Ring.normalize; rw [if_neg hn, if_neg h2]
      rw [e]; exact ⟨normalize_rot q hG hp, by simp [Ring.isNormalized]⟩

end Rep

/-- the inline slots handed over by `SwapContentsAux` hold the default item afterwards (owning item types) -/
theorem handover_all_default (hcl : c.clear = true) (q : Ring α) (hG : Good c q) (j : Nat) (hj : j < q.size) :
    (q.putList 0 (List.replicate q.count c.dflt)).slots.getD j c.junk = c.dflt := by
  have hc := hG.cnt
  have hh := hG.head_lt (by omega)
  obtain ⟨sh, pl⟩ := lay_putList (List.replicate q.count c.dflt) q hh 0 (by rw [List.length_replicate]; omega)
  generalize q.putList 0 (List.replicate q.count c.dflt) = q' at *
  have hall : ∀ x ∈ q'.lay, x = c.dflt := by
    rw [pl, List.take_zero, List.nil_append, List.length_replicate, Nat.zero_add]
    intro x hx
    rcases List.mem_append.1 hx with a | a
    · exact (List.mem_replicate.1 a).2
    · exact hG.hidden hcl hh x a
  have hj' : j < q'.slots.length := by rw [← Ring.size, sh.size]; exact hj
  rw [List.getD_eq_getElem?_getD, List.getElem?_eq_getElem hj', Option.getD_some]
  exact hall _ (mem_lay q' (List.getElem_mem hj'))

theorem rep_swapContentsAux (this that : Ring α) (hT : Good c this) (hU : Good c that)
    (hk1 : this.kind = .small) (hk2 : that.kind ≠ .small) :
    Rep c (swapContentsAux c this that).1 (that.abs c) ∧ Rep c (swapContentsAux c this that).2 (this.abs c) := by
  have hsz : this.size = c.sq := hT.sm hk1
  have hc := hT.cnt
  have hsb := hU.sb hk2
  -- `this` takes over the array of `that` as it is; its inline buffer goes idle
  have hd : ∀ k, (swapContentsAux c this that).1.get c k = that.get c k := by
    intro k
    unfold swapContentsAux
    rcases Nat.eq_zero_or_pos that.size with z | z
    · simp only [get_def]; unfold Ring.size at z; rw [List.eq_nil_of_length_eq_zero z]; rfl
    · simp only [get_def, z, if_true]; rfl
  have g1 : Good c (swapContentsAux c this that).1 := by
    refine Good.intro { sb := fun _ => ?_, sm := fun h => absurd h hk2, nl := hU.nl, idle := fun hcl _ j hj => ?_ } hU.cnt ?_ ?_ ?_
    · show (if c.clear = true then (this.putList 0 (List.replicate this.count c.dflt)).slots else this.slots).length = c.sq
      cases hcl : c.clear
      · exact hsz
      · rcases Nat.eq_zero_or_pos this.size with z | z
        · rw [show this.count = 0 by omega]; exact hsz
        · exact ((lay_putList (List.replicate this.count c.dflt) this (hT.head_lt z) 0 (by simp; omega)).1.size).trans hsz
    · show (if c.clear = true then (this.putList 0 (List.replicate this.count c.dflt)).slots else this.slots).getD j c.junk = c.dflt
      rw [if_pos hcl]; exact handover_all_default hcl this hT j (by omega)
    · intro h
      have hp : that.size > 0 := h
      show (if that.size > 0 then that.head else 0) < that.size
      rw [if_pos hp]; exact hU.head_lt hp
    · intro h
      have hp : that.size > 0 := Nat.lt_of_lt_of_le h hU.cnt
      show (if that.size > 0 then that.tail else 0) = internalizeIndex (if that.size > 0 then that.head else 0) that.size (that.count - 1)
      rw [if_pos hp, if_pos hp]; exact hU.tail_eq h
    · intro hcl k h1 h2
      rw [hd]; exact hU.get_dflt hcl h1 h2
  refine ⟨⟨g1, abs_eq c _ _ (by rw [abs_length]; rfl) (fun k _ => (hd k).trans (abs_getElem c that k _).symm)⟩, ?_⟩
  -- `that` moves into its own inline buffer, or stays without an array
  unfold swapContentsAux
  by_cases hn : this.count > 0
  · simp only [hn, if_true]
    have hA := abs_length c this
    have hlen : (overwritePrefix that.sbuf (this.abs c)).length = c.sq := by
      rw [overwritePrefix, List.length_append, List.length_drop, hA]; omega
    refine (congrArg (Rep c _) (List.take_left' hA).symm).mpr
      (Rep.flat { sb := fun h => absurd rfl h, sm := fun _ => hlen, nl := nofun, idle := fun _ h => absurd rfl h } rfl ?_ (fun _ => rfl) ?_)
    · show this.count ≤ (overwritePrefix that.sbuf (this.abs c)).length
      rw [hlen]; omega
    · intro hcl x hx
      have hx : x ∈ (this.abs c ++ that.sbuf.drop (this.abs c).length).drop this.count := hx
      rw [List.drop_left' hA] at hx
      exact all_of_getD _ _ c.junk (fun j hj => (hU.clean hcl).sbuf hk2 j (by omega)) x (List.mem_of_mem_drop hx)
  · simp only [hn, if_false]
    have habs : this.abs c = [] := abs_of_count_zero c this (by omega)
    refine ⟨Good.intro { sb := fun _ => ?_, sm := nofun, nl := fun _ => rfl, idle := fun hcl _ j hj => ?_ } (by show this.count ≤ _; omega)
      (fun h => absurd h (Nat.lt_irrefl 0)) (fun h => absurd h hn) (fun _ k _ hk => absurd hk (Nat.not_lt_zero k)), ?_⟩
    · show (overwritePrefix that.sbuf (this.abs c)).length = c.sq
      rw [habs]; exact hsb
    · show (overwritePrefix that.sbuf (this.abs c)).getD j c.junk = c.dflt
      rw [habs]; exact (hU.clean hcl).sbuf hk2 j hj
    · rw [habs]; exact abs_of_count_zero c _ (by show this.count = 0; omega)

/-- both Queues on the heap (or never allocated): only pointers and indices change hands, the inline buffers stay -/
theorem swap_pointers (a b : Ring α) (hA : Good c a) (hB : Good c b) (hka : a.kind ≠ .small) (hkb : b.kind ≠ .small) :
    Rep c ({ b with sbuf := a.sbuf } : Ring α) (b.abs c) ∧ Rep c ({ a with sbuf := b.sbuf } : Ring α) (a.abs c) := by
  refine ⟨⟨⟨?_, ?_⟩, rfl⟩, ⟨⟨?_, ?_⟩, rfl⟩⟩
  · exact { cnt := hB.cnt, hd := hB.head_lt, tl := hB.tail_eq, sb := fun _ => hA.sb hka, sm := fun h => absurd h hkb, nl := hB.nl }
  · intro hcl; exact { slots := (hB.clean hcl).slots, sbuf := fun _ => (hA.clean hcl).sbuf hka }
  · exact { cnt := hA.cnt, hd := hA.head_lt, tl := hA.tail_eq, sb := fun _ => hB.sb hkb, sm := fun h => absurd h hka, nl := hA.nl }
  · intro hcl; exact { slots := (hA.clean hcl).slots, sbuf := fun _ => (hB.clean hcl).sbuf hkb }

end

section
variable {c} {a b : Ring α} {la lb : List α}

/-- the "both inline" branch, for the longer Queue `a` and the shorter `b` -/
theorem swap_inline_core (hA : Rep c a la) (hB : Rep c b lb) (hlt : lb.length ≤ la.length) :
    Rep c ((a.ensureSizeAux c b.count true 0 false).putList 0 (((b.addTailMulti c ((a.abs c).drop b.count)).abs c).take b.count)) lb ∧
    Rep c ((b.addTailMulti c ((a.abs c).drop b.count)).putList 0 ((a.ensureSizeAux c b.count true 0 false).abs c)) la := by
  have hb := hB.count
  have g1 := hB.addTailMulti ((a.abs c).drop b.count)
  have e1 := (hA.ensureSizeAux b.count true 0 false).1
  rw [hA.shows, hb] at g1
  rw [Spec.ensureSize, if_pos rfl, if_neg (by omega), hb] at e1
  rw [hA.shows, hb, g1.shows, e1.shows, List.take_left' rfl]
  have hT : (la.take lb.length).length = lb.length := List.length_take_of_le hlt
  have p2 := Rep.putList (A := []) (la.take lb.length) (show Rep c _ ([] ++ (lb ++ la.drop lb.length)) from g1) hT.symm
  rw [List.nil_append, List.take_append_drop] at p2
  exact ⟨e1.putList_all lb hT, p2⟩

theorem rep_swapContents (hA : Rep c a la) (hB : Rep c b lb) :
    Rep c (swapContents c a b).1 lb ∧ Rep c (swapContents c a b).2 la := by
  have ha := hA.count
  have hb := hB.count
  unfold swapContents
  simp only
  by_cases hs : a.kind = .small ∧ b.kind = .small
  · rw [if_pos hs]
    by_cases hgt : a.count > b.count
    · rw [if_pos hgt, show min a.count b.count = b.count by omega]
      exact swap_inline_core hA hB (by omega)
    · rw [if_neg hgt, show min a.count b.count = a.count by omega]
      exact (swap_inline_core hB hA (by omega)).symm
  · rw [if_neg hs]
    obtain ⟨gA, rfl⟩ := hA
    obtain ⟨gB, rfl⟩ := hB
    by_cases ha : a.kind = .small
    · rw [if_pos ha]
      exact rep_swapContentsAux a b gA gB ha (fun h => hs ⟨ha, h⟩)
    · rw [if_neg ha]
      by_cases hb : b.kind = .small
      · rw [if_pos hb]
        exact (rep_swapContentsAux b a gB gA hb ha).symm
      · rw [if_neg hb]
        exact swap_pointers a b gA gB ha hb

/-- `Plunder(rhs)`: move construction / assignment from another Queue -/
theorem rep_plunder (hT : Rep c a la) (hR : Rep c b lb) : Rep c (plunder c a b).1 lb ∧ Rep c (plunder c a b).2 [] := by
  unfold plunder
  by_cases hs : b.kind = .small
  · simp only [hs, if_true]
    have e1 := (hT.ensureSizeAux b.count true 0 false).1
    have hn := ensureSize_true_length c.dflt la b.count
    have hb := hR.count
    rw [hR.shows, e1.shows]
    exact ⟨e1.putList_all lb (hn.trans hb), (hR.putList_all _ (hb.symm.trans hn.symm)).clear false⟩
  · simp only [hs, if_false]
    obtain ⟨r1, r2⟩ := rep_swapContents hT hR
    exact ⟨r1, r2.clear false⟩

end

end Muscle.Containers
