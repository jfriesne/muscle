import MuscleModel.Containers.QInvariant
import MuscleModel.Containers.QSpec

/-! Lemmas for C16: the operations at the two ends of the sequence and on its capacity, and those that are one `EnsureSize` plus
writes through `operator[]`.  Each `Rep.op` lemma says that the Queue after the operation shows the list the ideal operation
yields. -/

set_option linter.unusedSectionVars false

namespace Muscle.Containers
variable {α : Type} [DecidableEq α] (c : ItemCfg α)

theorem spec_removeHead_fst (l : List α) : (Spec.removeHead l).1 = l.drop 1 := by
  unfold Spec.removeHead
  by_cases h : l.length = 0
  · rw [if_pos h, List.eq_nil_of_length_eq_zero h]; rfl
  · rw [if_neg h]

theorem spec_removeTail_fst (l : List α) : (Spec.removeTail l).1 = l.take (l.length - 1) := by
  unfold Spec.removeTail
  by_cases h : l.length = 0
  · rw [if_pos h, List.eq_nil_of_length_eq_zero h]; rfl
  · rw [if_neg h]

theorem ensureSize_true_length (d : α) (l : List α) (n : Nat) : (Spec.ensureSize d l n true).length = n := by
  unfold Spec.ensureSize
  rw [if_pos rfl]
  by_cases hg : n > l.length
  · rw [if_pos hg, List.length_append, List.length_replicate]; omega
  · rw [if_neg hg, List.length_take]; omega

theorem fillRange_length (l : List α) (s n : Nat) (v : α) : (fillRange l s n v).length = l.length := by
  induction n generalizing l s with
  | zero => rfl
  | succ k ih => rw [fillRange, ih, List.length_set]

theorem fillRange_getD (l : List α) (s n : Nat) (v d : α) (j : Nat) :
    (fillRange l s n v).getD j d = if s ≤ j ∧ j < s + n ∧ j < l.length then v else l.getD j d := by
  induction n generalizing l s with
  | zero => rw [fillRange, if_neg (by omega)]
  | succ k ih =>
    rw [fillRange, ih, getD_set', List.length_set]
    by_cases r : s ≤ j ∧ j < s + (k + 1) ∧ j < l.length
    · rw [if_pos r]
      by_cases e : s = j
      · rw [if_neg (by omega), if_pos ⟨e, r.2.2⟩]
      · rw [if_pos (by omega)]
    · rw [if_neg r, if_neg (by omega), if_neg (by omega)]

theorem fillRange_eq (A B C : List α) (v : α) :
    fillRange (A ++ (B ++ C)) A.length B.length v = A ++ (List.replicate B.length v ++ C) := by
  induction B generalizing A with
  | nil => rfl
  | cons b B ih =>
    rw [List.length_cons, fillRange, List.cons_append, List.set_append_right _ _ (Nat.le_refl _), Nat.sub_self, List.set_cons_zero,
      List.replicate_succ]
    simpa only [List.length_append, List.length_singleton, List.append_assoc, List.cons_append, List.nil_append] using ih (A ++ [v])

theorem removeTailMulti_zero (q : Ring α) : (q.removeTailMulti c 0).1 = q := by
  simp [Ring.removeTailMulti]

theorem insertSorted_length (lt : α → α → Bool) (x : α) (l : List α) : (insertSorted lt x l).length = l.length + 1 := by
  induction l with
  | nil => rfl
  | cons y ys ih =>
    simp only [insertSorted]
    split <;> simp [ih]

theorem stableSort_length (lt : α → α → Bool) (l : List α) : (stableSort lt l).length = l.length := by
  induction l with
  | nil => rfl
  | cons y ys ih =>
    simp only [stableSort, List.foldr_cons] at ih ⊢
    rw [insertSorted_length, ih]; rfl

theorem clipNum_eq (n start num : Nat) : Ring.clipNum n start num = min num (if start < n then n - start else 0) := rfl

theorem clip_eq (l : List α) (start num : Nat) : Spec.clip l start num = (l.drop start).take (Ring.clipNum l.length start num) := rfl

section
variable {c} {q : Ring α} {l : List α}

namespace Rep

theorem getItemAt (h : Rep c q l) (i : Nat) : q.getItemAt c i = Spec.getItemAt l i := by
  obtain ⟨_, rfl⟩ := h
  unfold Ring.getItemAt Spec.getItemAt
  by_cases h : i < q.count
  · rw [if_pos h, abs_getElem? c q i h]
  · rw [if_neg h, List.getElem?_eq_none (by simp; omega)]

theorem replaceItemAt (h : Rep c q l) (i : Nat) (v : α) :
    Rep c (q.replaceItemAt i v).1 (Spec.replaceItemAt l i v).1 ∧ (q.replaceItemAt i v).2 = (Spec.replaceItemAt l i v).2 := by
  unfold Ring.replaceItemAt Spec.replaceItemAt
  rw [h.count]
  by_cases hi : i ≥ l.length
  · rw [if_pos hi, if_pos hi]; exact ⟨h, rfl⟩
  · rw [if_neg hi, if_neg hi]; exact ⟨h.put (by omega) v, rfl⟩

theorem removeHead (h : Rep c q l) :
    Rep c (q.removeHead c).1 (Spec.removeHead l).1 ∧ (q.removeHead c).2 = (Spec.removeHead l).2 := by
  obtain ⟨hG, rfl⟩ := h
  unfold Ring.removeHead Spec.removeHead
  rw [abs_length]
  by_cases h0 : q.count = 0
  · rw [if_pos h0, if_pos h0]; exact ⟨⟨hG, rfl⟩, rfl⟩
  · rw [if_neg h0, if_neg h0]
    have hp := Nat.pos_of_ne_zero h0
    have hc := hG.cnt
    have hh := hG.head_pos hp
    have w : Window ({ q with head := nextIndex q.size q.head, count := q.count - 1 } : Ring α) q 1 (q.count - 1) :=
      Window.of_head hG (nextIndex_eq hh) hp (Or.inl (by omega))
    obtain ⟨g, a⟩ := w.drop_end hG (i := 0) (j := q.head) (by omega) (phys_zero hh).symm (by omega)
      (fun k _ hk => by omega) (Or.inl Nat.zero_lt_one)
    exact ⟨⟨g, a.trans (List.take_of_length_le (by simp))⟩, rfl⟩

theorem removeTail (h : Rep c q l) :
    Rep c (q.removeTail c).1 (Spec.removeTail l).1 ∧ (q.removeTail c).2 = (Spec.removeTail l).2 := by
  obtain ⟨hG, rfl⟩ := h
  unfold Ring.removeTail Spec.removeTail
  rw [abs_length]
  by_cases h0 : q.count = 0
  · rw [if_pos h0, if_pos h0]; exact ⟨⟨hG, rfl⟩, rfl⟩
  · rw [if_neg h0, if_neg h0]
    have hp := Nat.pos_of_ne_zero h0
    have hc := hG.cnt
    have hh := hG.head_pos hp
    have w : Window ({ q with tail := prevIndex q.size q.tail, count := q.count - 1 } : Ring α) q 0 (q.count - 1) :=
      Window.of_tail hh (by omega) (fun h => by
        rw [hG.tail_eq hp]; exact prev_intern_pos hh h (by omega))
    obtain ⟨g, a⟩ := w.drop_end hG (i := q.count - 1) (j := q.tail) (Nat.sub_lt hp Nat.one_pos) (hG.tail_eq hp) (by omega)
      (fun k _ hk => by omega) (Or.inr (by omega))
    exact ⟨⟨g, a⟩, rfl⟩

/-- for owning item types both runs of the window are reset first -/
theorem clear (h : Rep c q l) (rel : Bool) : Rep c (q.clear c rel) [] := by
  have hG := h.good
  refine ⟨?_, abs_of_count_zero c _ rfl⟩
  have hc := hG.cnt
  -- `FastClear` on an array that holds no stale item
  have fast : ∀ q1 : Ring α, Housing c q1 → (c.clear = true → ∀ j, j < q1.size → q1.slots.getD j c.junk = c.dflt) →
      Good c q1.fastClear := by
    intro q1 hs hz
    refine Good.intro (hs.congr rfl rfl rfl) (Nat.zero_le _) (fun h => h) (fun h => absurd h (Nat.lt_irrefl 0)) ?_
    intro hcl k _ hk
    have hk' : k < q1.size := hk
    show q1.slots.getD (internalizeIndex 0 q1.size k) c.junk = _
    rw [intern_of_lt (by omega), Nat.zero_add]; exact hz hcl k hk'
  unfold Ring.clear
  by_cases h1 : rel = true ∧ q.kind ≠ .small
  · rw [if_pos h1]
    exact fast _ { sb := fun _ => hG.sb h1.2, sm := nofun, nl := fun _ => rfl, idle := fun hcl _ => (hG.clean hcl).sbuf h1.2 }
      (fun _ j hj => absurd hj (Nat.not_lt_zero j))
  · rw [if_neg h1]
    by_cases h2 : q.count > 0 ∧ c.clear = true
    · rw [if_pos h2]
      have hp := h2.1
      have hh := hG.head_pos hp
      have ht := hG.tail_eq hp
      have hC := hG.clean h2.2
      have hne : q.count ≠ 0 := Nat.ne_of_gt hp
      -- the last item is `m` steps behind the head
      obtain ⟨m, hm⟩ : ∃ m, q.count = m + 1 := ⟨q.count - 1, (Nat.sub_add_cancel hp).symm⟩
      rw [phys_def, hm, Nat.add_sub_cancel] at ht
      rcases Nat.lt_or_ge (q.head + m) q.size with a | a
      · rw [intern_of_lt a] at ht
        have hle : q.head ≤ q.tail := ht ▸ Nat.le_add_right _ _
        have hgt : ¬ q.head > q.tail := Nat.not_lt.2 hle
        simp only [Ring.run, hne, hle, hgt, if_true, if_false]
        refine fast _ (hG.housing.congr rfl rfl (fillRange_length _ _ _ _)) ?_
        intro _ j hj
        have hj' : j < q.size := Nat.lt_of_lt_of_eq hj (fillRange_length _ _ _ _)
        show (fillRange q.slots q.head (q.tail - q.head + 1) c.dflt).getD j c.junk = _
        rw [fillRange_getD, ht, Nat.add_sub_cancel_left]
        by_cases r0 : q.head ≤ j ∧ j < q.head + (m + 1) ∧ j < q.slots.length
        · rw [if_pos r0]
        · rw [if_neg r0]
          exact hC.slots j hj' (by unfold inWin; unfold Ring.size at *; omega)
      · -- wrapped: the last item is in slot `t`, the first run has `u` slots
        obtain ⟨t, ht2⟩ : ∃ t, q.head + m = q.size + t := ⟨q.head + m - q.size, by omega⟩
        obtain ⟨u, hu⟩ : ∃ u, q.size = q.head + u := ⟨q.size - q.head, by omega⟩
        rw [intern_of_ge a, ht2, Nat.add_sub_cancel_left] at ht
        have hle : ¬ q.head ≤ q.tail := by omega
        have hgt : q.head > q.tail := Nat.not_le.1 hle
        simp only [Ring.run, hne, hle, hgt, if_true, if_false]
        refine fast _ (hG.housing.congr rfl rfl ((fillRange_length _ _ _ _).trans (fillRange_length _ _ _ _))) ?_
        intro _ j hj
        have hj' : j < q.size := Nat.lt_of_lt_of_eq hj ((fillRange_length _ _ _ _).trans (fillRange_length _ _ _ _))
        show (fillRange (fillRange q.slots q.head (q.size - q.head) c.dflt) 0 (q.tail + 1) c.dflt).getD j c.junk = _
        rw [fillRange_getD, fillRange_getD, fillRange_length, ht, show q.size - q.head = u by rw [hu, Nat.add_sub_cancel_left]]
        by_cases r1 : 0 ≤ j ∧ j < 0 + (t + 1) ∧ j < q.slots.length
        · rw [if_pos r1]
        · rw [if_neg r1]
          by_cases r0 : q.head ≤ j ∧ j < q.head + u ∧ j < q.slots.length
          · rw [if_pos r0]
          · rw [if_neg r0]
            exact hC.slots j hj' (by unfold inWin; unfold Ring.size at *; omega)
    · rw [if_neg h2]
      refine fast _ hG.housing ?_
      intro hcl j hj
      have h0 : q.count = 0 := by
        rcases Nat.eq_zero_or_pos q.count with z | z
        · exact z
        · exact absurd ⟨z, hcl⟩ h2
      exact hG.slots_of_empty hcl h0 j hj

theorem iter_removeTail (k : Nat) (h : Rep c q l) :
    Rep c (Ring.iter (fun r => (r.removeTail c).1) k q) (l.take (l.length - k)) := by
  induction k generalizing q l with
  | zero => rw [Nat.sub_zero, List.take_length]; exact h
  | succ k ih =>
    have g := h.removeTail.1
    rw [spec_removeTail_fst] at g
    have g1 := ih g
    rwa [List.length_take, Nat.min_eq_left (Nat.sub_le _ _), List.take_take, Nat.min_eq_left (Nat.sub_le _ _), Nat.sub_sub,
      Nat.add_comm 1 k] at g1

theorem iter_removeHead (k : Nat) (h : Rep c q l) : Rep c (Ring.iter (fun r => (r.removeHead c).1) k q) (l.drop k) := by
  induction k generalizing q l with
  | zero => exact h
  | succ k ih =>
    have g := h.removeHead.1
    rw [spec_removeHead_fst] at g
    have := ih g
    rwa [List.drop_drop, Nat.add_comm] at this

/-- `RemoveHeadMulti(n)`: nothing to do, `Clear()`, `n` times `RemoveHead()` (owning item types), or one move of the head -/
theorem removeHeadMulti (h : Rep c q l) (n : Nat) :
    Rep c (q.removeHeadMulti c n).1 (Spec.removeHeadMulti l n).1 ∧ (q.removeHeadMulti c n).2 = (Spec.removeHeadMulti l n).2 := by
  have hl := h.count
  unfold Ring.removeHeadMulti Spec.removeHeadMulti
  rw [hl]
  by_cases hn : n < l.length
  · rw [Nat.min_eq_left (Nat.le_of_lt hn)]
    by_cases h0 : n = 0
    · rw [if_pos h0, h0]; exact ⟨h, rfl⟩
    · rw [if_neg h0, if_neg (Nat.ne_of_lt hn)]
      cases hcl : c.clear
      · obtain ⟨hG, rfl⟩ := h
        have hc := hG.cnt
        have hp : 0 < q.count := hl ▸ Nat.zero_lt_of_lt hn
        have hh := hG.head_pos hp
        rw [if_neg Bool.false_ne_true, ← hl]
        rw [← hl] at hn
        have w : Window ({ q with head := (q.head + n) % q.size, count := q.count - n } : Ring α) q n (q.count - n) :=
          Window.of_head hG ((intern_eq_mod (by omega)).symm) hp (Or.inl (by omega))
        obtain ⟨g, a⟩ := w.sub hG (by omega) hp (fun h => by rw [hcl] at h; cases h)
        exact ⟨⟨g, a.trans (List.take_of_length_le (by rw [List.length_drop, abs_length]; exact Nat.le_refl _))⟩, rfl⟩
      · rw [if_pos rfl]
        exact ⟨h.iter_removeHead n, rfl⟩
  · have hge := Nat.le_of_not_lt hn
    rw [Nat.min_eq_right hge, List.drop_of_length_le hge]
    by_cases h0 : l.length = 0
    · rw [if_pos h0]
      have : l = [] := List.eq_nil_of_length_eq_zero h0
      subst this; exact ⟨h, rfl⟩
    · rw [if_neg h0, if_pos rfl]
      exact ⟨h.clear false, rfl⟩

theorem removeTailMulti (h : Rep c q l) (n : Nat) :
    Rep c (q.removeTailMulti c n).1 (Spec.removeTailMulti l n).1 ∧ (q.removeTailMulti c n).2 = (Spec.removeTailMulti l n).2 := by
  have hl := h.count
  unfold Ring.removeTailMulti Spec.removeTailMulti
  rw [hl]
  by_cases hn : n < l.length
  · rw [Nat.min_eq_left (Nat.le_of_lt hn)]
    by_cases h0 : n = 0
    · rw [if_pos h0, h0, Nat.sub_zero, List.take_length]; exact ⟨h, rfl⟩
    · rw [if_neg h0, if_neg (Nat.ne_of_lt hn)]
      cases hcl : c.clear
      · obtain ⟨hG, rfl⟩ := h
        have hc := hG.cnt
        have hp : 0 < q.count := hl ▸ Nat.zero_lt_of_lt hn
        have hh := hG.head_pos hp
        rw [if_neg Bool.false_ne_true, ← hl]
        rw [← hl] at hn
        have w : Window ({ q with tail := (if q.tail < n then q.tail + q.size else q.tail) - n, count := q.count - n } : Ring α) q 0
            (q.count - n) :=
          Window.of_tail hh (Nat.le_trans (Nat.sub_le _ _) hc) (fun _ => by
            have := intern_sub hh (i := q.count - 1) (n := n) (by omega) (by omega)
            rw [show q.count - 1 - n = q.count - n - 1 by omega] at this
            rw [hG.tail_eq hp]; exact this)
        exact ⟨w.sub hG (by omega) hp (fun h => by rw [hcl] at h; cases h), rfl⟩
      · rw [if_pos rfl]
        exact ⟨h.iter_removeTail n, rfl⟩
  · have hge := Nat.le_of_not_lt hn
    rw [Nat.min_eq_right hge, Nat.sub_eq_zero_of_le hge, List.take_zero]
    by_cases h0 : l.length = 0
    · rw [if_pos h0]
      have : l = [] := List.eq_nil_of_length_eq_zero h0
      subst this; exact ⟨h, rfl⟩
    · rw [if_neg h0, if_pos rfl]
      exact ⟨h.clear false, rfl⟩

theorem truncate (h : Rep c q l) {n : Nat} (hn : n ≤ l.length) :
    Rep c (q.removeTailMulti c (q.count - n)).1 (l.take n) := by
  have m1 : Rep c (q.removeTailMulti c (q.count - n)).1 (l.take (l.length - (q.count - n))) := (h.removeTailMulti (q.count - n)).1
  have e : l.length - (q.count - n) = n := by rw [h.count]; exact Nat.sub_sub_self hn
  rwa [e] at m1

theorem iter_truncate (h : Rep c q l) {w : Nat} (hw : w ≤ l.length) :
    Rep c (Ring.iter (fun r => (r.removeTail c).1) (q.count - w) q) (l.take w) := by
  have := h.iter_removeTail (q.count - w)
  have e : l.length - (q.count - w) = w := by rw [h.count]; exact Nat.sub_sub_self hw
  rwa [e] at this

end Rep

end

section
variable {c}

/-- the new queue of `EnsureSizeAux` on the array `nb0` (fresh, or the idle inline buffer): `items ++ F ++ B`, where `F` are the
    default items up to the new count (written out for trivial item types, found in `nb0` for owning ones) and `B` is the rest of `nb0`.
    `hslots` is the model's own `if`; `Housing` is asked for under the length of the new array because the clause
    `kind = small → size = sq` can only be checked once that length is known -/
theorem realloc_core (q r : Ring α) (n : Nat) (sn : Bool) (nb0 : List α) (hcn : q.count ≤ n) (hL : n ≤ nb0.length)
    (hd : c.clear = true → ∀ x ∈ nb0, x = c.dflt)
    (hslots : r.slots = if sn = true ∧ n > q.count ∧ c.clear = false
      then fillRange (overwritePrefix nb0 (q.abs c)) q.count (n - q.count) c.dflt else overwritePrefix nb0 (q.abs c))
    (hhead : r.head = 0) (hcount : r.count = if sn = true then n else q.count) (htail : r.tail = r.count - 1)
    (hs : r.slots.length = nb0.length → Housing c r) :
    Rep c r (if sn = true then q.abs c ++ List.replicate (n - q.count) c.dflt else q.abs c) ∧ n ≤ r.size := by
  have hA := abs_length c q
  generalize q.abs c = A at *
  -- `k` default items are wanted behind the items; `j` more slots of `nb0` lie behind those
  obtain ⟨k, rfl⟩ : ∃ k, n = q.count + k := ⟨n - q.count, by omega⟩
  obtain ⟨j, hj⟩ : ∃ j, nb0.length = q.count + k + j := ⟨nb0.length - (q.count + k), by omega⟩
  rw [Nat.add_sub_cancel_left] at hslots ⊢
  have hD : (nb0.drop A.length).length = k + j := by rw [List.length_drop, hA, hj, Nat.add_assoc, Nat.add_sub_cancel_left]
  obtain ⟨F, B, e, hlen, hF, hB⟩ : ∃ F B, r.slots = A ++ F ++ B ∧ (A ++ F ++ B).length = nb0.length ∧
      F = (if sn = true then List.replicate k c.dflt else []) ∧ (c.clear = true → ∀ x ∈ B, x = c.dflt) := by
    by_cases hf : sn = true ∧ q.count + k > q.count ∧ c.clear = false
    · refine ⟨List.replicate k c.dflt, (nb0.drop A.length).drop k, ?_, ?_, by rw [if_pos hf.1],
        fun hcl => by rw [hcl] at hf; cases hf.2.2⟩
      · have hB : ((nb0.drop A.length).take k).length = k := by rw [List.length_take, hD, Nat.min_eq_left (Nat.le_add_right k j)]
        have e := fillRange_eq A ((nb0.drop A.length).take k) ((nb0.drop A.length).drop k) c.dflt
        rw [List.take_append_drop, hB] at e
        rw [hslots, if_pos hf, overwritePrefix, ← hA, e, List.append_assoc]
      · rw [List.length_append, List.length_append, List.length_replicate, List.length_drop, hD, hA, hj]; omega
    · rw [if_neg hf] at hslots
      by_cases hg : sn = true ∧ q.count + k > q.count
      · -- an owning item type: the padding is already in `nb0`
        have hcl : c.clear = true := by
          cases h : c.clear
          · exact absurd ⟨hg.1, hg.2, h⟩ hf
          · rfl
        have hall : ∀ x ∈ nb0.drop A.length, x = c.dflt := fun x hx => hd hcl x (List.mem_of_mem_drop hx)
        refine ⟨(nb0.drop A.length).take k, (nb0.drop A.length).drop k, ?_, ?_, ?_, fun _ x hx => hall x (List.mem_of_mem_drop hx)⟩
        · rw [hslots, overwritePrefix, List.append_assoc, List.take_append_drop]
        · rw [List.append_assoc, List.take_append_drop, List.length_append, hD, hA, hj, Nat.add_assoc]
        · rw [if_pos hg.1, List.eq_replicate_iff.2 ⟨rfl, fun x hx => hall x (List.mem_of_mem_take hx)⟩, List.length_take, hD,
            Nat.min_eq_left (Nat.le_add_right _ _)]
      · refine ⟨[], nb0.drop A.length, by rw [hslots, List.append_nil]; rfl,
          by rw [List.append_nil, List.length_append, hD, hA, hj, Nat.add_assoc], ?_, fun hcl x hx => hd hcl x (List.mem_of_mem_drop hx)⟩
        cases sn
        · rfl
        · have : k = 0 := Nat.eq_zero_of_not_pos (fun x => hg ⟨rfl, Nat.lt_add_of_pos_right x⟩)
          rw [if_pos rfl, this]; rfl
  have hAF : (A ++ F).length = r.count := by
    rw [hcount, hF, List.length_append, hA]
    cases sn
    · rw [if_neg Bool.false_ne_true, if_neg Bool.false_ne_true]; rfl
    · rw [if_pos rfl, if_pos rfl, List.length_replicate]
  have hsz : r.size = nb0.length := by rw [Ring.size, e]; exact hlen
  have hlen' : (A ++ F).length + B.length = nb0.length := by rw [← hlen, List.length_append (as := A ++ F)]
  have := Rep.flat (hs (by rw [e]; exact hlen)) hhead (by omega) (fun _ => htail) (by rw [e, List.drop_left' hAF]; exact hB)
  rw [e, List.take_left' hAF, hF] at this
  refine ⟨?_, by omega⟩
  cases sn
  · rw [if_neg Bool.false_ne_true, List.append_nil] at this
    rw [if_neg Bool.false_ne_true]; exact this
  · exact this

theorem realloc_spec (q : Ring α) (hG : Good c q) (n : Nat) (sn : Bool) (extra : Nat) (hcn : q.count ≤ n) :
    Rep c (q.realloc c n sn extra) (if sn = true then q.abs c ++ List.replicate (n - q.count) c.dflt else q.abs c) ∧
    n ≤ (q.realloc c n sn extra).size := by
  -- the inline buffer left behind when it was in use: reset for owning item types
  have hsb : (if q.kind = .small then (if c.clear then List.replicate c.sq c.dflt else q.slots) else q.sbuf).length = c.sq := by
    by_cases hs : q.kind = .small
    · rw [if_pos hs]
      cases c.clear
      · exact hG.sm hs
      · exact List.length_replicate
    · rw [if_neg hs]; exact hG.sb hs
  have hsd : c.clear = true → ∀ j, j < c.sq →
      (if q.kind = .small then (if c.clear then List.replicate c.sq c.dflt else q.slots) else q.sbuf).getD j c.junk = c.dflt := by
    intro hcl j hj
    by_cases hs : q.kind = .small
    · rw [if_pos hs, hcl, if_pos rfl, List.getD_eq_getElem?_getD, List.getElem?_replicate, if_pos hj]; rfl
    · rw [if_neg hs]; exact (hG.clean hcl).sbuf hs j hj
  -- the new array: the idle inline buffer when it is free and large enough, a fresh heap array otherwise
  have hts : ∀ ts : Bool, ts = (!(decide (q.kind = .small) || decide (max c.sq (n + extra) > c.sq))) →
      (ts = true → q.kind ≠ .small ∧ max c.sq (n + extra) ≤ c.sq) := by
    intro ts e h; rw [e] at h; simpa using h
  unfold Ring.realloc
  dsimp only
  generalize (!(decide (q.kind = .small) || decide (max c.sq (n + extra) > c.sq))) = ts at hts ⊢
  have hts := hts ts rfl
  generalize hnb0 : (if ts = true then q.sbuf else fresh c (max c.sq (n + extra))) = nb0
  have hnb : n ≤ nb0.length ∧ (ts = true → nb0.length = c.sq) ∧ (c.clear = true → ∀ x ∈ nb0, x = c.dflt) := by
    cases ts
    · rw [if_neg (by simp)] at hnb0
      rw [← hnb0, fresh, List.length_replicate]
      exact ⟨by omega, fun h => (by cases h), fun hcl x hx => by rw [hcl, if_pos rfl] at hx; exact (List.mem_replicate.1 hx).2⟩
    · obtain ⟨k1, k2⟩ := hts rfl
      have hl := hG.sb k1
      rw [if_pos rfl] at hnb0
      rw [← hnb0]
      exact ⟨by omega, fun _ => hl, fun hcl => all_of_getD _ _ c.junk (fun j hj => (hG.clean hcl).sbuf k1 j (by omega))⟩
  refine realloc_core q _ n sn _ hcn hnb.1 hnb.2.2 rfl rfl rfl rfl (fun hlen => ?_)
  refine { sb := fun _ => hsb, sm := fun h => ?_, nl := fun h => ?_, idle := fun hcl _ => hsd hcl }
  · cases ts
    · cases h
    · exact hlen.trans (hnb.2.1 rfl)
  · cases ts <;> cases h

/-- growing in place: default items become visible (written for trivial item types, already there
    for owning ones) -/
theorem grow_inplace (q : Ring α) (hG : Good c q) (n : Nat) (hn : n ≤ q.size) (hg : q.count < n) :
    let q2 := if c.clear = true then q else q.putList q.count (List.replicate (n - q.count) c.dflt)
    let r : Ring α := { q2 with tail := prevIndex q2.size (q2.phys n), count := n }
    Rep c r (q.abs c ++ List.replicate (n - q.count) c.dflt) := by
  intro q2 r
  have hc := hG.cnt
  have hh := hG.head_lt (by omega)
  have habs := abs_eq_take c q hh hc
  have h2 : Good c q2 ∧ SameShape q2 q ∧ q2.abs c = q.abs c ∧
      (q2.lay.drop q.count).take (n - q.count) = List.replicate (n - q.count) c.dflt := by
    cases hcl : c.clear
    · obtain ⟨sh, g⟩ := lay_putList (List.replicate (n - q.count) c.dflt) q hh q.count (by rw [List.length_replicate]; omega)
      have e : q2 = q.putList q.count (List.replicate (n - q.count) c.dflt) := by simp [q2, hcl]
      have hl : (q.lay.take q.count).length = q.count := by rw [List.length_take, lay_length]; omega
      rw [e]
      refine ⟨sh.good hG (fun h => by rw [hcl] at h; cases h), sh, ?_, ?_⟩
      · rw [abs_eq_take c _ (by rw [sh.head, sh.size]; exact hh) (by rw [sh.count, sh.size]; exact hc), g, sh.count, List.append_assoc,
          List.take_left' hl, habs]
      · rw [g, List.append_assoc, List.drop_left' hl, List.take_left' List.length_replicate]
    · have e : q2 = q := by simp [q2, hcl]
      rw [e]
      refine ⟨hG, SameShape.refl q, rfl, ?_⟩
      rw [List.eq_replicate_iff.2 ⟨rfl, fun x hx => hG.hidden hcl hh x (List.mem_of_mem_take hx)⟩, List.length_take, List.length_drop, lay_length]
      congr 1; omega
  obtain ⟨g2, sh, a2, l2⟩ := h2
  have hh2 : q2.head < q2.size := by rw [sh.head, sh.size]; exact hh
  have w : Window r q2 0 n :=
    Window.of_tail hh2 (by rw [sh.size]; exact hn) (fun h => prev_intern_pos hh2 h (by rw [sh.size]; exact hn))
  have := w.grow_tail g2 hh2 (by rw [sh.count]; omega) (by rw [sh.size]; exact hn)
  rw [sh.count, a2, l2] at this
  exact this

/-- the first item of an empty queue goes to slot 0 -/
theorem push_empty (q1 : Ring α) (hG : Good c q1) (h0 : q1.count = 0) (hfree : 0 < q1.size) :
    ∃ x, Rep c ({ q1 with head := 0, tail := 0, count := 1 } : Ring α) [x] ∧ (c.clear = true → x = c.dflt) := by
  have hall : c.clear = true → ∀ y ∈ q1.slots, y = c.dflt :=
    fun hcl => all_of_getD _ _ c.junk (hG.slots_of_empty hcl h0)
  obtain ⟨x, t, e⟩ := List.exists_cons_of_length_pos hfree
  have this : Rep c ({ q1 with head := 0, tail := 0, count := 1 } : Ring α) (q1.slots.take 1) :=
    Rep.flat (hG.housing.congr rfl rfl rfl) rfl hfree (fun _ => rfl) (fun hcl y hy => hall hcl y (List.mem_of_mem_drop hy))
  have ht : q1.slots.take 1 = [x] := by rw [e, List.take_succ_cons, List.take_zero]
  rw [ht] at this
  exact ⟨x, this, fun hcl => hall hcl x (by rw [e]; exact List.mem_cons_self)⟩

end

section
variable {c} {q : Ring α} {l : List α}

namespace Rep

theorem ensureCore (h : Rep c q l) (n : Nat) (sn : Bool) (extra : Nat) (shrink : Bool) (hp : shrink = true → l.length ≤ n) :
    Rep c (q.ensureCore c n sn extra shrink) (Spec.ensureSize c.dflt l n sn) ∧
    (shrink = false → sn = false → n ≤ (q.ensureCore c n sn extra shrink).size) := by
  have hl := h.count
  have hG := h.good
  have hc := hG.cnt
  unfold Ring.ensureCore Spec.ensureSize
  rw [← hl]
  by_cases hcond : q.kind = .null ∨ (if shrink = true then q.size ≠ n + extra else q.size < n)
  · rw [if_pos hcond]
    have hcn : q.count ≤ n := by
      cases shrink
      · rw [if_neg (by simp)] at hcond
        rcases hcond with h | h
        · have := hG.nl h; omega
        · omega
      · rw [hl]; exact hp rfl
    obtain ⟨r1, r4⟩ := realloc_spec q hG n sn extra hcn
    rw [h.shows] at r1
    generalize q.realloc c n sn extra = r at *
    cases sn
    · exact ⟨r1, fun _ _ => r4⟩
    · simp only [if_true] at r1 ⊢
      have hrc : r.count = n := by rw [r1.count, List.length_append, List.length_replicate]; omega
      rw [if_neg (by omega), hrc, Nat.sub_self, removeTailMulti_zero]
      refine ⟨?_, fun _ _ => r4⟩
      by_cases hg : n > q.count
      · rw [if_pos hg]; exact r1
      · rw [if_neg hg, List.take_of_length_le (by omega)]
        rwa [show n - q.count = 0 by omega, List.replicate_zero, List.append_nil] at r1
  · rw [if_neg hcond]
    have hsz : n ≤ q.size := by
      cases shrink
      · rw [if_neg (by simp)] at hcond
        have : ¬ q.size < n := fun h => hcond (Or.inr h)
        omega
      · rw [if_pos rfl] at hcond
        have : ¬ q.size ≠ n + extra := fun h => hcond (Or.inr h)
        omega
    cases sn
    · exact ⟨h, fun _ _ => hsz⟩
    · rw [if_pos rfl, if_pos rfl]
      by_cases hg : n > q.count
      · rw [if_pos hg, if_pos hg]
        have g1 := grow_inplace q hG n hsz hg
        rw [h.shows] at g1
        exact ⟨g1, fun _ => nofun⟩
      · rw [if_neg hg, if_neg hg]
        exact ⟨h.truncate (by omega), fun _ => nofun⟩

theorem ensureSizeAux (h : Rep c q l) (n : Nat) (sn : Bool) (extra : Nat) (shrink : Bool) :
    Rep c (q.ensureSizeAux c n sn extra shrink) (Spec.ensureSize c.dflt l n sn) ∧
    (shrink = false → sn = false → n ≤ (q.ensureSizeAux c n sn extra shrink).size) := by
  have hl := h.count
  unfold Ring.ensureSizeAux
  by_cases hb : shrink = true ∧ n < q.count
  · rw [if_pos hb]
    have hsf : ¬ shrink = false := by rw [hb.1]; simp
    cases sn
    · rw [if_neg (by simp)]
      exact ⟨(h.ensureCore q.count false extra shrink (fun _ => Nat.le_of_eq hl.symm)).1, fun hs => absurd hs hsf⟩
    · rw [if_pos rfl]
      have m1 := h.truncate (n := n) (by omega)
      have e1 := (m1.ensureCore n true extra shrink (fun _ => by rw [List.length_take]; omega)).1
      have e : Spec.ensureSize c.dflt (l.take n) n true = Spec.ensureSize c.dflt l n true := by
        unfold Spec.ensureSize
        rw [if_pos rfl, if_pos rfl, List.length_take, if_neg (by omega), if_neg (by omega), List.take_take, Nat.min_self]
      rw [e] at e1
      exact ⟨e1, fun hs => absurd hs hsf⟩
  · rw [if_neg hb]
    exact h.ensureCore n sn extra shrink (fun hs => by rw [hs] at hb; simp at hb; omega)

theorem reserve (h : Rep c q l) (n extra : Nat) (shrink : Bool) :
    Rep c (q.ensureSizeAux c n false extra shrink) l ∧ (shrink = false → n ≤ (q.ensureSizeAux c n false extra shrink).size) :=
  have r := h.ensureSizeAux n false extra shrink
  ⟨r.1, fun hs => r.2 hs rfl⟩

theorem grow (h : Rep c q l) (k : Nat) : Rep c (q.ensureSizeAux c (q.count + k) true 0 false) (l ++ List.replicate k c.dflt) := by
  have hl := h.count
  have e := (h.ensureSizeAux (q.count + k) true 0 false).1
  rw [Spec.ensureSize, if_pos rfl] at e
  by_cases hk : k = 0
  · subst hk
    rwa [if_neg (by omega), List.take_of_length_le (by omega), ← List.append_nil l, ← List.replicate_zero (a := c.dflt)] at e
  · rwa [if_pos (by omega), show q.count + k - l.length = k by omega] at e

theorem addTailSlot (h : Rep c q l) :
    ∃ x, Rep c (q.addTailSlot c) (l ++ [x]) ∧ (c.clear = true → x = c.dflt) ∧ (q.addTailSlot c).tail = (q.addTailSlot c).phys l.length := by
  obtain ⟨g1, s1⟩ := h.reserve (q.count + 1) (q.count + 1) false
  unfold Ring.addTailSlot
  generalize q.ensureSizeAux c (q.count + 1) false (q.count + 1) false = q1 at g1 s1 ⊢
  have hfree : q1.count + 1 ≤ q1.size := by rw [g1.count, ← h.count]; exact s1 rfl
  clear h s1
  obtain ⟨hG, rfl⟩ := g1
  rw [abs_length]
  have hc := hG.cnt
  by_cases h0 : q1.count = 0
  · simp only [h0, if_true]
    obtain ⟨x, g, d⟩ := push_empty q1 hG h0 (by omega)
    rw [abs_of_count_zero c q1 h0]
    exact ⟨x, g, d, (intern_of_lt (h := 0) (s := q1.size) (i := 0) (by omega)).symm⟩
  · simp only [h0, if_false]
    have hp := Nat.pos_of_ne_zero h0
    have hh := hG.head_pos hp
    have htl : nextIndex q1.size q1.tail = q1.phys q1.count := by
      rw [hG.tail_eq hp]; exact next_intern_pos hh hp hfree
    have w : Window ({ q1 with tail := nextIndex q1.size q1.tail, count := q1.count + 1 } : Ring α) q1 0 (q1.count + 1) :=
      Window.of_tail hh hfree (fun _ => htl)
    obtain ⟨x, hx⟩ : ∃ x, (q1.lay.drop q1.count).take (q1.count + 1 - q1.count) = [x] :=
      ⟨_, by rw [Nat.add_sub_cancel_left, List.drop_eq_getElem_cons (by rw [lay_length]; omega), List.take_succ_cons, List.take_zero]⟩
    have := w.grow_tail hG hh (by omega) (by omega)
    rw [hx] at this
    exact ⟨x, this, fun hcl => hG.hidden hcl hh x (List.mem_of_mem_take (hx ▸ List.mem_singleton_self x)), htl⟩

theorem addTail (h : Rep c q l) (v : α) : Rep c (q.addTail c v) (l ++ [v]) := by
  obtain ⟨x, g3, _, t3⟩ := h.addTailSlot
  have e : q.addTail c v = (q.addTailSlot c).put l.length v := by
    show ({ (q.addTailSlot c) with slots := (q.addTailSlot c).slots.set (q.addTailSlot c).tail v } : Ring α) = _
    rw [t3]; rfl
  rw [e]; exact g3.putAt v

theorem addHeadSlot (h : Rep c q l) : ∃ x, Rep c (q.addHeadSlot c) (x :: l) ∧ (c.clear = true → x = c.dflt) := by
  obtain ⟨g1, s1⟩ := h.reserve (q.count + 1) (q.count + 1) false
  unfold Ring.addHeadSlot
  generalize q.ensureSizeAux c (q.count + 1) false (q.count + 1) false = q1 at g1 s1 ⊢
  have hfree : q1.count + 1 ≤ q1.size := by rw [g1.count, ← h.count]; exact s1 rfl
  clear h s1
  obtain ⟨hG, rfl⟩ := g1
  have hc := hG.cnt
  by_cases h0 : q1.count = 0
  · simp only [h0, if_true]
    rw [abs_of_count_zero c q1 h0]
    exact push_empty q1 hG h0 (by omega)
  · simp only [h0, if_false]
    have hp := Nat.pos_of_ne_zero h0
    have hh := hG.head_pos hp
    -- the new head is one step back, i.e. `size - 1 = count + k` steps on
    obtain ⟨k, hk⟩ : ∃ k, q1.size = q1.count + k + 1 := ⟨q1.size - q1.count - 1, by omega⟩
    have w : Window ({ q1 with head := prevIndex q1.size q1.head, count := q1.count + 1 } : Ring α) q1 (q1.count + k) (q1.count + 1) :=
      Window.of_head hG (by rw [prevIndex_eq hh, phys_def, hk, Nat.add_sub_cancel]) hp (Or.inr (by omega))
    have hl := lay_length q1
    obtain ⟨x, hlast⟩ : ∃ x, q1.lay.drop (q1.count + k) = [x] :=
      ⟨_, by rw [List.drop_eq_getElem_cons (by omega), List.drop_of_length_le (by omega)]⟩
    have hx : x ∈ q1.lay.drop q1.count := by
      have : x ∈ (q1.lay.drop q1.count).drop k := by rw [List.drop_drop, hlast]; exact List.mem_singleton_self _
      exact List.mem_of_mem_drop this
    have := w.rep hG.housing hh (by omega) hfree (by
      intro hcl y hy
      rw [hlast, List.singleton_append, List.drop_succ_cons, List.drop_take] at hy
      exact hG.hidden hcl hh y (List.mem_of_mem_take hy))
    rw [hlast, List.singleton_append, List.take_succ_cons, List.take_take, Nat.min_eq_left (Nat.le_add_right _ _),
      ← abs_eq_take c q1 hh hc] at this
    exact ⟨x, this, fun hcl => hG.hidden hcl hh x hx⟩

theorem addHead (h : Rep c q l) (v : α) : Rep c (q.addHead c v) (v :: l) := by
  obtain ⟨x, g3, _⟩ := h.addHeadSlot
  have hcnt : 0 < (q.addHeadSlot c).count := by rw [g3.count]; exact Nat.succ_pos _
  have hh := g3.good.head_pos hcnt
  have e : q.addHead c v = (q.addHeadSlot c).put 0 v := by
    show ({ (q.addHeadSlot c) with slots := (q.addHeadSlot c).slots.set (q.addHeadSlot c).head v } : Ring α) = _
    rw [Ring.put, phys_zero hh]
  rw [e]; exact g3.put (i := 0) (Nat.succ_pos _) v

theorem putList (xs : List α) {A B C : List α} (h : Rep c q (A ++ (B ++ C))) (hB : B.length = xs.length) :
    Rep c (q.putList A.length xs) (A ++ (xs ++ C)) := by
  induction xs generalizing q A B with
  | nil => rwa [List.eq_nil_of_length_eq_zero hB] at h
  | cons x xs ih =>
    obtain ⟨b, B, rfl⟩ := List.exists_cons_of_length_eq_add_one hB
    have := ih (A := A ++ [x]) (B := B) (by rw [List.append_assoc]; exact h.putAt x) (Nat.succ.inj hB)
    rwa [List.length_append, List.length_singleton, List.append_assoc] at this

theorem putList_end (xs : List α) {A B : List α} (h : Rep c q (A ++ B)) (hB : B.length = xs.length) :
    Rep c (q.putList A.length xs) (A ++ xs) := by
  have := putList (C := []) xs (by rwa [List.append_nil]) hB
  rwa [List.append_nil] at this

theorem putList_all (xs : List α) {B : List α} (h : Rep c q B) (hB : B.length = xs.length) : Rep c (q.putList 0 xs) xs :=
  putList_end (A := []) xs h hB

theorem addTailMulti (h : Rep c q l) (xs : List α) : Rep c (q.addTailMulti c xs) (l ++ xs) := by
  have := (h.grow xs.length).putList_end xs List.length_replicate
  rwa [← h.count] at this

theorem copyFrom (h : Rep c q l) (xs : List α) : Rep c (q.copyFrom c xs) xs :=
  (h.ensureSizeAux xs.length true 0 false).1.putList_all xs (ensureSize_true_length c.dflt l xs.length)

theorem assign (h : Rep c q l) (xs : List α) : Rep c (q.assign c xs) xs := by
  unfold Ring.assign
  by_cases hx : xs.length = 0
  · rw [if_pos hx, List.eq_nil_of_length_eq_zero hx]; exact h.clear true
  · rw [if_neg hx]; exact h.copyFrom xs

theorem swap (h : Rep c q l) {i j : Nat} (hi : i < l.length) (hj : j < l.length) :
    Rep c (q.swap c i j) (Spec.swap c.junk l i j) := by
  unfold Ring.swap Spec.swap
  rw [List.getD_eq_getElem?_getD, List.getD_eq_getElem?_getD, List.getElem?_eq_getElem hi, List.getElem?_eq_getElem hj,
    Option.getD_some, Option.getD_some, ← h.get hi, ← h.get hj]
  exact (h.put hi _).put (by rw [List.length_set]; exact hj) _

theorem addHeadLoop (xs : List α) (k : Nat) (h : Rep c q l) (hk : k ≤ xs.length) :
    Rep c (Ring.addHeadLoop c q (fun i _ => xs.getD i c.junk) 0 k) (xs.take k ++ l) := by
  induction k generalizing q l with
  | zero => exact h
  | succ k ih =>
    have := ih (h.addHead (xs.getD (0 + k) c.junk)) (by omega)
    have e : xs.take k ++ xs.getD (0 + k) c.junk :: l = xs.take (k + 1) ++ l := by
      rw [Nat.zero_add, List.getD_eq_getElem?_getD, List.getElem?_eq_getElem (by omega), Option.getD_some,
        List.take_succ_eq_append_getElem (by omega), List.append_assoc]; rfl
    rw [e] at this; exact this

theorem addHeadMulti (h : Rep c q l) (xs : List α) : Rep c (q.addHeadMulti c xs) (xs ++ l) := by
  have := (h.reserve (q.count + xs.length) 0 false).1.addHeadLoop xs xs.length (Nat.le_refl _)
  rwa [List.take_length] at this

theorem sort (h : Rep c q l) (lt : α → α → Bool) (from_ to : Nat) :
    Rep c (q.sort c lt from_ to) (Spec.sort (stableSort lt) l from_ to) := by
  unfold Ring.sort Spec.sort
  rw [h.count, h.shows]
  by_cases hr : min to l.length > from_
  · rw [if_pos hr, if_pos hr]
    have hle := Nat.le_of_lt hr
    have hA : (l.take from_).length = from_ := List.length_take_of_le (by omega)
    have := putList (stableSort lt ((l.drop from_).take (min to l.length - from_)))
      (by rw [← cut3 l hle]; exact h) (stableSort_length lt _).symm
    rwa [hA, ← List.append_assoc] at this
  · rw [if_neg hr, if_neg hr]; exact h

theorem addTailSelf (h : Rep c q l) (start num : Nat) :
    Rep c (q.addTailSelf c start num) (l ++ Spec.clip l start num) := by
  unfold Ring.addTailSelf Spec.clip
  rw [h.shows, h.count]
  exact h.addTailMulti _

theorem addHeadSelf (h : Rep c q l) (start num : Nat) :
    Rep c (q.addHeadSelf c start num) (Spec.clip l start num ++ l) := by
  unfold Ring.addHeadSelf Spec.clip
  rw [h.shows, h.count, clipNum_eq]
  by_cases hn : min num (if start < l.length then l.length - start else 0) > 0
  · rw [if_pos hn]; exact h.addHeadMulti _
  · rw [if_neg hn, show min num (if start < l.length then l.length - start else 0) = 0 by omega, List.take_zero]
    exact (h.reserve _ 0 false).1

end Rep

end

theorem rep_empty : Rep c (Ring.empty c) [] :=
  Rep.flat { sb := fun _ => (by rw [Ring.empty, fresh, List.length_replicate]), sm := nofun, nl := fun _ => rfl,
             idle := fun hcl _ j hj => by
               show (fresh c c.sq).getD j c.junk = c.dflt
               rw [fresh, hcl, if_pos rfl, List.getD_eq_getElem?_getD, List.getElem?_replicate, if_pos hj]; rfl }
    rfl (Nat.le_refl _) (fun h => absurd h (Nat.lt_irrefl 0)) (fun _ x hx => nomatch hx)

theorem addTailRaw_write (q : Ring α) (v : α) :
    ({ (q.addTailRaw c) with slots := (q.addTailRaw c).slots.set (q.addTailRaw c).tail v } : Ring α) = q.addTail c v := rfl

theorem addHeadRaw_write (q : Ring α) (v : α) :
    ({ (q.addHeadRaw c) with slots := (q.addHeadRaw c).slots.set (q.addHeadRaw c).head v } : Ring α) = q.addHead c v := rfl

/-- the slot handed out by `AddTailAndGet()` holds SOME value; the Queue is otherwise as after `AddTail(thatValue)` -/
theorem addTailRaw_eq (q : Ring α) :
    q.addTailRaw c = q.addTail c ((q.addTailRaw c).slots.getD (q.addTailRaw c).tail c.junk) := by
  rw [← addTailRaw_write, set_getD_self]

theorem addHeadRaw_eq (q : Ring α) :
    q.addHeadRaw c = q.addHead c ((q.addHeadRaw c).slots.getD (q.addHeadRaw c).head c.junk) := by
  rw [← addHeadRaw_write, set_getD_self]

section
variable {c} {q : Ring α} {l : List α}

/-- for owning item types that value is the default item -/
theorem addTailRaw_default (hcl : c.clear = true) (q : Ring α) (hG : Good c q) :
    (q.addTailRaw c).slots.getD (q.addTailRaw c).tail c.junk = c.dflt := by
  obtain ⟨x, g3, d3, t3⟩ := hG.rep.addTailSlot
  show (q.addTailSlot c).slots.getD (q.addTailSlot c).tail c.junk = c.dflt
  rw [t3]; exact g3.getAt.trans (d3 hcl)

theorem addHeadRaw_default (hcl : c.clear = true) (q : Ring α) (hG : Good c q) :
    (q.addHeadRaw c).slots.getD (q.addHeadRaw c).head c.junk = c.dflt := by
  obtain ⟨x, g3, d3⟩ := hG.rep.addHeadSlot
  have hpos : 0 < (q.addHeadSlot c).count := by rw [g3.count]; exact Nat.succ_pos _
  have hh := g3.good.head_pos hpos
  have e := g3.get (i := 0) (Nat.succ_pos _)
  rw [get_def, phys_zero hh] at e
  exact e.trans (d3 hcl)

namespace Rep

/-- `AddTailAndGet()` of an owning item type adds a default item -/
theorem addTailRaw (h : Rep c q l) (hcl : c.clear = true) : Rep c (q.addTailRaw c) (l ++ [c.dflt]) := by
  have e := addTailRaw_eq c q
  rw [addTailRaw_default hcl q h.good] at e
  rw [e]; exact h.addTail c.dflt

theorem addHeadRaw (h : Rep c q l) (hcl : c.clear = true) : Rep c (q.addHeadRaw c) (c.dflt :: l) := by
  have e := addHeadRaw_eq c q
  rw [addHeadRaw_default hcl q h.good] at e
  rw [e]; exact h.addHead c.dflt

theorem equals (h : Rep c q l) (xs : List α) : q.equals c xs = Spec.equals l xs := by
  obtain ⟨_, rfl⟩ := h; simp [Ring.equals, Spec.equals]

theorem startsWith (h : Rep c q l) (xs : List α) : q.startsWith c xs = Spec.startsWith l xs := by
  obtain ⟨_, rfl⟩ := h; simp [Ring.startsWith, Spec.startsWith]

theorem endsWith (h : Rep c q l) (xs : List α) : q.endsWith c xs = Spec.endsWith l xs := by
  obtain ⟨_, rfl⟩ := h; simp [Ring.endsWith, Spec.endsWith]

end Rep

end

end Muscle.Containers
