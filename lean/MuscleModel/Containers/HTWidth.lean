import MuscleModel.Generated.Constants

/-!
# Index-width kernel of `muscle::Hashtable`

A table with `tableSize` slots stores its links (`_indices[]`) as 8-, 16- or 32-bit slot indices chosen by
`HashtableBase::ComputeTableIndexTypeForTableSize(tableSize)`; the all-ones value of the chosen type is the
"no slot" sentinel (`(IndexType)-1`, mapped to `MUSCLE_HASHTABLE_INVALID_SLOT_INDEX` by `GetEntryIndexValue`).
`Gen.htIndexType` / `Gen.htIndexBytes` are regenerated from the compiled headers on every run
(tools/extract_consts.cpp measures `GetTotalDataSize()` per capacity).
-/

namespace Muscle.Containers
open Muscle.Gen

/-- number of values of the index type `ty` -/
def indexRange (ty : Nat) : Nat := 2 ^ (8 * htIndexBytes ty)

/-- `(IndexType)-1` -/
def indexSentinel (ty : Nat) : Nat := indexRange ty - 1

/-- every slot index of a table with `n` slots is representable in the index type chosen for `n` and differs
    from that type's sentinel (`n < 2^32`: `_tableSize` is a `uint32`, and `EnsureSize` refuses `MUSCLE_NO_LIMIT`) -/
theorem index_width_safe (n i : Nat) (hn : n < 2 ^ 32) (hi : i < n) :
    i < indexRange (htIndexType n) ∧ i ≠ indexSentinel (htIndexType n) := by
  unfold indexSentinel indexRange htIndexType htIndexBytes
  -- split on the regenerated thresholds themselves, so that a harmless retuning does not break the proof
  by_cases h1 : n ≥ htIndexThreshold16 <;> by_cases h2 : n ≥ htIndexThreshold32 <;>
    simp only [h1, h2, if_true, if_false] <;>
    simp only [htIndexThreshold16, htIndexThreshold32, htIndexBytes0, htIndexBytes1, htIndexBytes2] at h1 h2 ⊢ <;>
    simp <;> omega

end Muscle.Containers
