import MuscleModel.Containers.QRing
import MuscleModel.Containers.QSpec

/-! C16: the vocabulary of the statements about the Queue: one public call as a value (`Op`, `BOp` for a bank of Queues), what the ring
layer makes of it (`Ring.step`, `bankStep`) and what the ideal sequence makes of it (`Spec.step`, `Spec.bankStep`), histories of calls. -/

namespace Muscle.Containers
variable {α : Type} [DecidableEq α] (c : ItemCfg α)

/-- one public call on a Queue.  Arguments that are another Queue enter as that Queue's visible content
    (`xs`); `…Self`/`…Own` take the Queue itself, resp. a pointer into its own array, as the argument. -/
inductive Op (α : Type) where
  | addTail (v : α) | addHead (v : α) | removeHead | removeTail
  | getItemAt (i : Nat) | replaceItemAt (i : Nat) (v : α)
  | clear (release : Bool)
  | ensureSize (n : Nat) (setNum : Bool) (extra : Nat) (shrink : Bool)
  | removeHeadMulti (n : Nat) | removeTailMulti (n : Nat)
  | addTailMulti (xs : List α) | addHeadMulti (xs : List α)
  | assign (xs : List α) | copyFrom (xs : List α)
  | swap (i j : Nat)
  | removeItemAt (i : Nat) | insertItemAt (i : Nat) (v : α)
  | insertItemsAt (i : Nat) (xs : List α) (fromQueue : Bool)
  | addTailSelf (start num : Nat) | addHeadSelf (start num : Nat)
  | insertItemsSelf (i start num : Nat) | insertItemsOwn (i j n : Nat)
  | sort (lt : α → α → Bool) (from_ to : Nat)
  | normalize
  | equals (xs : List α) | startsWith (xs : List α) | endsWith (xs : List α)
  | compare (lt : α → α → Bool) (xs : List α)
  | indexOf (v : α) (startAt endAt1 : Nat) | lastIndexOf (v : α) (startAt endAt : Nat)
  | removeFirst (v : α) | removeLast (v : α) | removeAll (v : α)
  | insertSortedPos (lt : α → α → Bool) (v : α)
  | removeSortedDups | removeDups (lt : α → α → Bool)
  | reverse (from_ to : Nat)
  /-- no-argument `AddTailAndGet()` / `AddHeadAndGet()` without a following write -/
  | addTailRaw | addHeadRaw

/-- the API specifies the result of the call: everything except the no-argument `AddTailAndGet()`/`AddHeadAndGet()`
    of a TRIVIAL item type, whose new item is documented as uninitialised -/
def Op.specified (c : ItemCfg α) : Op α → Prop
  | .addTailRaw => c.clear = true
  | .addHeadRaw => c.clear = true
  | _ => True

inductive Res (α : Type) where
  | ok | err | item (v : α) | num (n : Nat) | bool (b : Bool) | idx (o : Option Nat)
  deriving DecidableEq

/-- the ring layer's dispatch of one public call.  (`swap` with a bad index is an assertion failure in C++; here the call is refused.) -/
def Ring.step (q : Ring α) : Op α → Ring α × Res α
  | .addTail v => (q.addTail c v, .ok)
  | .addHead v => (q.addHead c v, .ok)
  | .removeHead => let r := q.removeHead c; (r.1, if r.2 then .ok else .err)
  | .removeTail => let r := q.removeTail c; (r.1, if r.2 then .ok else .err)
  | .getItemAt i => (q, match q.getItemAt c i with | some v => .item v | none => .err)
  | .replaceItemAt i v => let r := q.replaceItemAt i v; (r.1, if r.2 then .ok else .err)
  | .clear rel => (q.clear c rel, .ok)
  | .ensureSize n sn extra shrink => (q.ensureSizeAux c n sn extra shrink, .ok)
  | .removeHeadMulti n => let r := q.removeHeadMulti c n; (r.1, .num r.2)
  | .removeTailMulti n => let r := q.removeTailMulti c n; (r.1, .num r.2)
  | .addTailMulti xs => (q.addTailMulti c xs, .ok)
  | .addHeadMulti xs => (q.addHeadMulti c xs, .ok)
  | .assign xs => (q.assign c xs, .ok)
  | .copyFrom xs => (q.copyFrom c xs, .ok)
  | .swap i j => if i < q.count ∧ j < q.count then (q.swap c i j, .ok) else (q, .err)
  | .removeItemAt i => let r := q.removeItemAt c i; (r.1, if r.2 then .ok else .err)
  | .insertItemAt i v => (q.insertItemAt c i v, .ok)
  | .insertItemsAt i xs fq => (q.insertItemsAt c i xs fq, .ok)
  | .addTailSelf s n => (q.addTailSelf c s n, .ok)
  | .addHeadSelf s n => (q.addHeadSelf c s n, .ok)
  | .insertItemsSelf i s n => (q.insertItemsSelf c i s n, .ok)
  | .insertItemsOwn i j n => (q.insertItemsOwn c i j n, .ok)
  | .sort lt a b => (q.sort c lt a b, .ok)
  | .normalize => (q.normalize c, if (q.normalize c).isNormalized then .ok else .err)
  | .equals xs => (q, .bool (q.equals c xs))
  | .startsWith xs => (q, .bool (q.startsWith c xs))
  | .endsWith xs => (q, .bool (q.endsWith c xs))
  | .compare lt xs => (q, .num (lexCompare lt (q.abs c) xs))
  | .indexOf v a b => (q, .idx (q.indexOf c v a b))
  | .lastIndexOf v a b => (q, .idx (q.lastIndexOf c v a b))
  | .removeFirst v => let r := q.removeFirst c v; (r.1, if r.2 then .ok else .err)
  | .removeLast v => let r := q.removeLast c v; (r.1, if r.2 then .ok else .err)
  | .removeAll v => let r := q.removeAll c v; (r.1, .num r.2)
  | .insertSortedPos lt v => let r := q.insertSortedPos c lt v; (r.1, .num r.2)
  | .removeSortedDups => let r := q.removeSortedDups c; (r.1, .num r.2)
  | .removeDups lt => let r := q.removeDups c lt; (r.1, .num r.2)
  | .reverse a b => (q.reverse c a b, .ok)
  | .addTailRaw => (q.addTailRaw c, .ok)
  | .addHeadRaw => (q.addHeadRaw c, .ok)

namespace Spec
/-- the ideal call.  `junk` is only the default that `Spec.swap` and `Spec.insertSortedPos` hand to `getD` at indices they have
    checked: it is never reached, so the ideal sequence does not depend on it -/
def step (dflt junk : α) (l : List α) : Op α → List α × Res α
  | .addTail v => (addTail l v, .ok)
  | .addHead v => (addHead l v, .ok)
  | .removeHead => let r := removeHead l; (r.1, if r.2 then .ok else .err)
  | .removeTail => let r := removeTail l; (r.1, if r.2 then .ok else .err)
  | .getItemAt i => (l, match getItemAt l i with | some v => .item v | none => .err)
  | .replaceItemAt i v => let r := replaceItemAt l i v; (r.1, if r.2 then .ok else .err)
  | .clear _ => (clear l, .ok)
  | .ensureSize n sn _ _ => (ensureSize dflt l n sn, .ok)
  | .removeHeadMulti n => let r := removeHeadMulti l n; (r.1, .num r.2)
  | .removeTailMulti n => let r := removeTailMulti l n; (r.1, .num r.2)
  | .addTailMulti xs => (addTailMulti l xs, .ok)
  | .addHeadMulti xs => (addHeadMulti l xs, .ok)
  | .assign xs => (assign l xs, .ok)
  | .copyFrom xs => (assign l xs, .ok)
  | .swap i j => if i < l.length ∧ j < l.length then (swap junk l i j, .ok) else (l, .err)
  | .removeItemAt i => let r := removeItemAt l i; (r.1, if r.2 then .ok else .err)
  | .insertItemAt i v => (insertItemAt l i v, .ok)
  | .insertItemsAt i xs _ => (insertItemsAt l i xs, .ok)
  | .addTailSelf s n => (addTailMulti l (clip l s n), .ok)
  | .addHeadSelf s n => (addHeadMulti l (clip l s n), .ok)
  | .insertItemsSelf i s n => (insertItemsAt l i (clip l s n), .ok)
  | .insertItemsOwn i j n => (insertItemsAt l i ((l.drop j).take n), .ok)
  | .sort lt a b => (sort (stableSort lt) l a b, .ok)
  | .normalize => (l, .ok)
  | .equals xs => (l, .bool (equals l xs))
  | .startsWith xs => (l, .bool (startsWith l xs))
  | .endsWith xs => (l, .bool (endsWith l xs))
  | .compare lt xs => (l, .num (lexCompare lt l xs))
  | .indexOf v a b => (l, .idx (indexOf l v a b))
  | .lastIndexOf v a b => (l, .idx (lastIndexOf l v a b))
  | .removeFirst v => let r := removeFirst l v; (r.1, if r.2 then .ok else .err)
  | .removeLast v => let r := removeLast l v; (r.1, if r.2 then .ok else .err)
  | .removeAll v => let r := removeAll l v; (r.1, .num r.2)
  | .insertSortedPos lt v => let r := insertSortedPos lt junk l v; (r.1, .num r.2)
  | .removeSortedDups => let r := removeSortedDups l; (r.1, .num r.2)
  | .removeDups lt => let r := removeSortedDups (sort (stableSort lt) l 0 l.length); (r.1, .num r.2)
  | .reverse a b => (reverse l a b, .ok)
  | .addTailRaw => (addTail l dflt, .ok)
  | .addHeadRaw => (addHead l dflt, .ok)

/-- the ideal operation is undefined: empty sequence, bad index -/
def undefined (l : List α) : Op α → Prop
  | .removeHead => l.length = 0
  | .removeTail => l.length = 0
  | .getItemAt i => l.length ≤ i
  | .replaceItemAt i _ => l.length ≤ i
  | .removeItemAt i => l.length ≤ i
  | .swap i j => ¬ (i < l.length ∧ j < l.length)
  | .removeFirst v => (removeFirst l v).2 = false
  | .removeLast v => (removeLast l v).2 = false
  | _ => False
end Spec

def Ring.exec (q : Ring α) : List (Op α) → Ring α × List (Res α)
  | [] => (q, [])
  | op :: ops => let r := q.step c op; let rest := Ring.exec r.1 ops; (rest.1, r.2 :: rest.2)

def Spec.exec (dflt junk : α) (l : List α) : List (Op α) → List α × List (Res α)
  | [] => (l, [])
  | op :: ops => let r := Spec.step dflt junk l op; let rest := Spec.exec dflt junk r.1 ops; (rest.1, r.2 :: rest.2)

/-- a call on a bank of Queue registers -/
inductive BOp (α : Type) where
  /-- a call on register `r` whose arguments are values -/
  | on (r : Nat) (op : Op α)
  /-- a call on register `r` whose Queue argument is register `s ≠ r` (`f` builds the call from the argument's content) -/
  | fromQ (r s : Nat) (f : List α → Op α)
  | swapContents (r s : Nat)
  /-- `regs[r] = std::move(regs[s])` -/
  | move (r s : Nat)
  /-- `regs[r]` is replaced by `Queue(std::move(regs[s]))` -/
  | moveCtor (r s : Nat)
  /-- `regs[r]` is replaced by `Queue(regs[s])` -/
  | copyCtor (r s : Nat)

def BOp.specified (c : ItemCfg α) : BOp α → Prop
  | .on _ op => op.specified c
  | .fromQ _ _ f => ∀ xs, (f xs).specified c
  | _ => True

def upd {β : Type} (b : Nat → β) (r : Nat) (x : β) : Nat → β := fun i => if i = r then x else b i

/-- the ring layer on a bank of Queues -/
def bankStep (b : Nat → Ring α) : BOp α → (Nat → Ring α) × Res α
  | .on r op => let x := (b r).step c op; (upd b r x.1, x.2)
  | .fromQ r s f => if r = s then (b, .err) else let x := (b r).step c (f ((b s).abs c)); (upd b r x.1, x.2)
  | .swapContents r s => if r = s then (b, .ok) else let x := swapContents c (b r) (b s); (upd (upd b r x.1) s x.2, .ok)
  | .move r s => if r = s then (b, .ok) else let x := plunder c (b r) (b s); (upd (upd b r x.1) s x.2, .ok)
  | .moveCtor r s => if r = s then (b, .err) else let x := plunder c (Ring.empty c) (b s); (upd (upd b r x.1) s x.2, .ok)
  | .copyCtor r s => if r = s then (b, .err) else (upd b r ((Ring.empty c).assign c ((b s).abs c)), .ok)

def Spec.bankStep (dflt junk : α) (a : Nat → List α) : BOp α → (Nat → List α) × Res α
  | .on r op => let x := Spec.step dflt junk (a r) op; (upd a r x.1, x.2)
  | .fromQ r s f => if r = s then (a, .err) else let x := Spec.step dflt junk (a r) (f (a s)); (upd a r x.1, x.2)
  | .swapContents r s => if r = s then (a, .ok) else (upd (upd a r (a s)) s (a r), .ok)
  | .move r s => if r = s then (a, .ok) else (upd (upd a r (a s)) s [], .ok)
  | .moveCtor r s => if r = s then (a, .err) else (upd (upd a r (a s)) s [], .ok)
  | .copyCtor r s => if r = s then (a, .err) else (upd a r (a s), .ok)

def bankExec (b : Nat → Ring α) : List (BOp α) → (Nat → Ring α) × List (Res α)
  | [] => (b, [])
  | op :: ops => let r := bankStep c b op; let rest := bankExec r.1 ops; (rest.1, r.2 :: rest.2)

def Spec.bankExec (dflt junk : α) (a : Nat → List α) : List (BOp α) → (Nat → List α) × List (Res α)
  | [] => (a, [])
  | op :: ops => let r := Spec.bankStep dflt junk a op; let rest := Spec.bankExec dflt junk r.1 ops; (rest.1, r.2 :: rest.2)

end Muscle.Containers
