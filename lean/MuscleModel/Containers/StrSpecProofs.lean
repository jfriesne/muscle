import MuscleModel.Containers.StrSpec
import MuscleModel.Base.ByteEq

/-! Lemmas about the ideal byte string `StrSpec`; nothing here mentions the buffer. -/

namespace Muscle.Containers.StrSpec
open Muscle Muscle.Containers

instance (s : Bytes) : Decidable (nulFree s) := inferInstanceAs (Decidable (∀ x ∈ s, x ≠ 0))

theorem nulFree_nil : nulFree [] := fun _ h => by cases h
theorem nulFree_take {s : Bytes} (h : nulFree s) (n : Nat) : nulFree (s.take n) :=
  fun x hx => h x (List.mem_of_mem_take hx)
theorem nulFree_drop {s : Bytes} (h : nulFree s) (n : Nat) : nulFree (s.drop n) :=
  fun x hx => h x (List.mem_of_mem_drop hx)
theorem nulFree_append {s t : Bytes} (h1 : nulFree s) (h2 : nulFree t) : nulFree (s ++ t) :=
  fun x hx => (List.mem_append.mp hx).elim (h1 x) (h2 x)

theorem nulFree_cons {c : UInt8} {q : Bytes} : nulFree (c :: q) ↔ c ≠ 0 ∧ nulFree q :=
  List.forall_mem_cons

theorem nulFree_singleton {c : UInt8} (hc : c ≠ 0) : nulFree [c] :=
  fun x hx => by rw [List.mem_singleton.mp hx]; exact hc

theorem nulFree_reverse {s : Bytes} (h : nulFree s) : nulFree s.reverse :=
  fun x hx => h x (List.mem_reverse.mp hx)

theorem nulFree_map (f : UInt8 → UInt8) (hf : ∀ x, x ≠ 0 → f x ≠ 0) {s : Bytes} (h : nulFree s) :
    nulFree (s.map f) := by
  intro x hx
  obtain ⟨y, hy, rfl⟩ := List.mem_map.mp hx
  exact hf y (h y hy)

theorem cstr_append_zero_cons (s rest : Bytes) (h : nulFree s) : cstr (s ++ 0 :: rest) = s := by
  unfold cstr
  rw [List.takeWhile_append_of_pos (by intro a ha; simpa using h a ha)]
  simp

theorem cstr_nulFree (m : Bytes) : nulFree (cstr m) := fun x hx => by
  simpa using List.all_eq_true.mp (List.all_takeWhile (p := fun x : UInt8 => x != 0) (l := m)) x hx

theorem cstr_append_nul (d : Bytes) : cstr (d ++ [0]) = cstr d := by
  unfold cstr
  induction d with
  | nil => simp
  | cons a r ih => simp only [List.cons_append, List.takeWhile_cons]; split <;> simp [ih]

theorem cstr_of_nulFree (s : Bytes) (h : nulFree s) : cstr s = s :=
  (cstr_append_nul s).symm.trans (cstr_append_zero_cons s [] h)

theorem take_cstr (m : Bytes) {k : Nat} (h : k ≤ (cstr m).length) : m.take k = (cstr m).take k := by
  have e : m = cstr m ++ m.dropWhile (· != 0) := List.takeWhile_append_dropWhile.symm
  conv => lhs; rw [e]
  exact List.take_append_of_le_length h

theorem rep_length (n : Nat) (t : Bytes) : (rep n t).length = n * t.length := by
  induction n with
  | zero => rw [rep, Nat.zero_mul]; rfl
  | succ n ih => rw [rep, List.length_append, ih, Nat.succ_mul, Nat.add_comm]

theorem rep_nulFree (n : Nat) (t : Bytes) (h : nulFree t) : nulFree (rep n t) := by
  induction n with
  | zero => exact nulFree_nil
  | succ n ih => exact nulFree_append h ih

theorem rep_one (t : Bytes) : rep 1 t = t := List.append_nil t

theorem rep_singleton (n : Nat) (c : UInt8) : rep n [c] = List.replicate n c := by
  induction n with
  | zero => rfl
  | succ n ih => rw [rep, ih, List.replicate_succ]; rfl

theorem insertAt_nil (s : Bytes) (idx : Nat) : insertAt s idx [] = s := List.take_append_drop _ s

theorem lastWhere_go_lt (p : UInt8 → Bool) (lo : Int) (r : Bytes) (i : Nat) (acc : Int)
    (h : acc < ((i + r.length : Nat) : Int)) : lastWhere.go p lo r i acc < ((i + r.length : Nat) : Int) := by
  induction r generalizing i acc with
  | nil => exact h
  | cons c q ih =>
    rw [lastWhere.go, List.length_cons, ← Nat.add_assoc, Nat.add_right_comm]
    apply ih
    rw [List.length_cons, ← Nat.add_assoc, Nat.add_right_comm] at h
    split <;> omega

theorem lastIndexOfChar_lt (s : Bytes) (c : UInt8) (f : Nat) (hi : 0 ≤ lastIndexOfChar s c f) :
    (lastIndexOfChar s c f).toNat < s.length := by
  refine (Int.toNat_lt hi).mpr ?_
  unfold lastIndexOfChar
  split
  · have := lastWhere_go_lt (· == c) f s 0 (-1) (by omega)
    rwa [Nat.zero_add] at this
  · omega

theorem downSearch_le (s t : Bytes) (n : Nat) : downSearch s t n ≤ (n : Int) := by
  induction n with
  | zero => rw [downSearch]; split <;> omega
  | succ n ih => rw [downSearch]; split <;> omega

theorem lastIndexOf_bound (s t : Bytes) (ht : t.isEmpty = false) (hi : 0 ≤ lastIndexOf s t) :
    (lastIndexOf s t).toNat + t.length ≤ s.length := by
  have key : lastIndexOf s t < 0 ∨ lastIndexOf s t + (t.length : Int) ≤ (s.length : Int) := by
    unfold lastIndexOf lastIndexOfFrom
    rw [ht, if_neg Bool.false_ne_true]
    split
    · split
      · omega
      · have := downSearch_le s t (s.length - t.length); omega
    · omega
  omega

theorem lowerB_ne_zero (x : UInt8) (h : x ≠ 0) : lowerB x ≠ 0 := by
  unfold lowerB isUpper
  split
  · rename_i hu
    simp only [Bool.and_eq_true, decide_eq_true_eq] at hu
    have h1 := UInt8.le_iff_toNat_le.mp hu.1
    have h2 := UInt8.le_iff_toNat_le.mp hu.2
    intro h0
    have := congrArg UInt8.toNat h0
    simp [UInt8.toNat_add] at this h1 h2
    omega
  · exact h

theorem upperB_ne_zero (x : UInt8) (h : x ≠ 0) : upperB x ≠ 0 := by
  unfold upperB isLower
  split
  · rename_i hu
    simp only [Bool.and_eq_true, decide_eq_true_eq] at hu
    have h1 := UInt8.le_iff_toNat_le.mp hu.1
    have h2 := UInt8.le_iff_toNat_le.mp hu.2
    intro h0
    simp at h1 h2
    have h32 : (32 : UInt8) ≤ x := UInt8.le_iff_toNat_le.mpr (by simp; omega)
    have := congrArg UInt8.toNat h0
    rw [UInt8.toNat_sub_of_le _ _ h32] at this
    simp at this
    omega
  · exact h

theorem toMixedAux_length_nulFree (s : Bytes) (h : nulFree s) (prev : Bool) :
    (toMixedAux prev s).length = s.length ∧ nulFree (toMixedAux prev s) := by
  induction s generalizing prev with
  | nil => exact ⟨rfl, nulFree_nil⟩
  | cons c r ih =>
    obtain ⟨hc, hr⟩ := nulFree_cons.mp h
    obtain ⟨i1, i2⟩ := ih hr (isAlnumAscii c)
    refine ⟨congrArg (· + 1) i1, nulFree_cons.mpr ⟨?_, i2⟩⟩
    split
    · exact lowerB_ne_zero c hc
    · exact upperB_ne_zero c hc

theorem replaceCharAux_length_nulFree (f r : UInt8) (hr : r ≠ 0) (q : Bytes) (hq : nulFree q) (mx : Nat) :
    (replaceCharAux f r q mx).1.length = q.length ∧ nulFree (replaceCharAux f r q mx).1 := by
  induction q generalizing mx with
  | nil => exact ⟨rfl, nulFree_nil⟩
  | cons c q ih =>
    obtain ⟨hc, hq'⟩ := nulFree_cons.mp hq
    rw [replaceCharAux]
    split
    · exact ⟨rfl, hq⟩
    · split
      · exact ⟨congrArg (· + 1) (ih hq' _).1, nulFree_cons.mpr ⟨hr, (ih hq' _).2⟩⟩
      · exact ⟨congrArg (· + 1) (ih hq' _).1, nulFree_cons.mpr ⟨hc, (ih hq' _).2⟩⟩

theorem replAux_length_nulFree (rm wm : Bytes) (hw : nulFree wm) (f : Nat) (q : Bytes) (hq : nulFree q) (mx : Nat) :
    (replAux rm wm f q mx).1.length + (replAux rm wm f q mx).2 * rm.length =
      q.length + (replAux rm wm f q mx).2 * wm.length ∧
    nulFree (replAux rm wm f q mx).1 ∧
    ((replAux rm wm f q mx).2 = 0 → (replAux rm wm f q mx).1 = q) := by
  induction f generalizing q mx with
  | zero => exact ⟨by simp [replAux], hq, fun _ => rfl⟩
  | succ f ih =>
    cases q with
    | nil => exact ⟨by simp [replAux], nulFree_nil, fun _ => rfl⟩
    | cons c q =>
      rw [replAux]
      split
      · rename_i hm
        have hle := (List.isPrefixOf_iff_prefix.mp hm.2).length_le
        obtain ⟨i1, i2, -⟩ := ih ((c :: q).drop rm.length) (nulFree_drop hq _) (mx - 1)
        generalize replAux rm wm f ((c :: q).drop rm.length) (mx - 1) = res at i1 i2 ⊢
        refine ⟨?_, nulFree_append hw i2, fun h => absurd h (Nat.succ_ne_zero _)⟩
        simp only [List.length_append, List.length_drop] at i1 ⊢
        rw [Nat.add_mul, Nat.add_mul]
        omega
      · obtain ⟨i1, i2, i3⟩ := ih q (nulFree_cons.mp hq).2 mx
        generalize replAux rm wm f q mx = res at i1 i2 i3 ⊢
        refine ⟨?_, nulFree_cons.mpr ⟨(nulFree_cons.mp hq).1, i2⟩, fun h => congrArg (c :: ·) (i3 h)⟩
        simp only [List.length_cons] at i1 ⊢
        omega

theorem replAux_nohit (rm wm : Bytes) (f : Nat) (q : Bytes) (mx : Nat) (h : mx = 0 ∨ q.length < rm.length) :
    replAux rm wm f q mx = (q, 0) := by
  induction f generalizing q with
  | zero => rfl
  | succ f ih =>
    cases q with
    | nil => rfl
    | cons c q =>
      rw [replAux,
        if_neg (fun hm => h.elim hm.1 fun hl => Nat.not_le_of_lt hl (List.isPrefixOf_iff_prefix.mp hm.2).length_le),
        ih q (h.imp id Nat.lt_of_succ_lt)]

theorem substring_all (w : Bytes) (hw : w.length ≤ noLimit) : substring w 0 noLimit = w := by
  unfold substring
  simp only [Nat.min_eq_right hw]
  split
  · exact List.take_length
  · rename_i h0
    exact (List.eq_nil_of_length_eq_zero (Nat.eq_zero_of_not_pos h0)).symm

theorem replAux_self (s wm : Bytes) (hs : s ≠ []) (f : Nat) {mx : Nat} (hmx : mx ≠ 0) :
    replAux s wm (f + 1) s mx = (wm, 1) := by
  obtain ⟨c, q, rfl⟩ := List.exists_cons_of_ne_nil hs
  rw [replAux, if_pos ⟨hmx, List.isPrefixOf_iff_prefix.mpr (List.prefix_refl _)⟩, List.drop_length]
  cases f <;> simp [replAux]

/-! The byte-wise scan `replAux` is the `strstr` loop of the C++ code. -/

theorem findFrom_shift (rm q : Bytes) (i : Nat) : findFrom rm q (i + 1) = (findFrom rm q i).map (· + 1) := by
  induction q generalizing i with
  | nil => rw [findFrom, findFrom]; split <;> rfl
  | cons c r ih =>
    rw [findFrom, findFrom]
    split
    · rfl
    · exact ih (i + 1)

theorem scanStrstr_nil (rm wm : Bytes) (hne : rm.isEmpty = false) (f mx : Nat) :
    scanStrstr rm wm f [] mx = ([], 0) := by
  cases f with
  | zero => rfl
  | succ f =>
    rw [scanStrstr]
    by_cases hmx : mx = 0
    · rw [if_pos hmx]
    · rw [if_neg hmx, findFrom, hne]; rfl

theorem scanStrstr_hit (rm wm : Bytes) (f : Nat) {c : UInt8} {r : Bytes} {mx : Nat} (hmx : mx ≠ 0)
    (hp : rm.isPrefixOf (c :: r) = true) :
    scanStrstr rm wm (f + 1) (c :: r) mx =
      (let (o, n) := scanStrstr rm wm f ((c :: r).drop rm.length) (mx - 1); (wm ++ o, n + 1)) := by
  rw [scanStrstr, if_neg hmx, findFrom, if_pos hp]
  simp only [Nat.zero_add, List.take_zero, List.nil_append]

/-- no hit at the read position: `strstr` finds what it finds one byte later, and the byte stays -/
theorem scanStrstr_skip (rm wm : Bytes) (f : Nat) {c : UInt8} {r : Bytes} (mx : Nat)
    (hp : ¬ rm.isPrefixOf (c :: r) = true) :
    scanStrstr rm wm (f + 1) (c :: r) mx =
      (let (o, n) := scanStrstr rm wm (f + 1) r mx; (c :: o, n)) := by
  rw [scanStrstr, scanStrstr]
  by_cases hmx : mx = 0
  · rw [if_pos hmx, if_pos hmx]
  · rw [if_neg hmx, if_neg hmx, findFrom, if_neg hp, findFrom_shift]
    cases findFrom rm r 0 with
    | none => rfl
    | some k =>
      simp only [Option.map_some, Nat.add_right_comm k 1, List.drop_succ_cons, List.take_succ_cons, List.cons_append]

theorem replAux_eq_scanStrstr (rm wm : Bytes) (hrm : rm ≠ []) (F : Nat) :
    ∀ (q : Bytes) (mx F' : Nat), q.length ≤ F → q.length ≤ F' →
      replAux rm wm F q mx = scanStrstr rm wm F' q mx := by
  have hne : rm.isEmpty = false := by cases rm with
    | nil => exact absurd rfl hrm
    | cons a t => rfl
  have hrl : 0 < rm.length := List.length_pos_iff.mpr hrm
  induction F with
  | zero =>
    intro q mx F' h1 _
    rw [List.eq_nil_of_length_eq_zero (Nat.le_zero.mp h1), scanStrstr_nil rm wm hne]; rfl
  | succ f ih =>
    intro q mx F' h1 h2
    cases q with
    | nil => rw [scanStrstr_nil rm wm hne]; rfl
    | cons c r =>
      obtain ⟨f', rfl⟩ : ∃ f', F' = f' + 1 := ⟨F' - 1, (Nat.sub_add_cancel (Nat.le_trans (Nat.succ_pos _) h2)).symm⟩
      have h1' : r.length ≤ f := Nat.le_of_succ_le_succ h1
      have h2' : r.length ≤ f' := Nat.le_of_succ_le_succ h2
      by_cases hmx : mx = 0
      · rw [hmx, replAux_nohit rm wm _ _ 0 (Or.inl rfl), scanStrstr, if_pos rfl]
      · by_cases hp : rm.isPrefixOf (c :: r) = true
        · have hd : ((c :: r).drop rm.length).length ≤ r.length := by
            rw [List.length_drop, List.length_cons]; omega
          rw [replAux, if_pos ⟨hmx, hp⟩, scanStrstr_hit rm wm f' hmx hp,
            ih _ (mx - 1) f' (Nat.le_trans hd h1') (Nat.le_trans hd h2')]
        · rw [replAux, if_neg (fun h => hp h.2), scanStrstr_skip rm wm f' mx hp,
            ih r mx (f' + 1) h1' (Nat.le_succ_of_le h2')]

theorem readCString_flat (s r : Bytes) (hs : nulFree s) : readCString (s ++ 0 :: r) = some (s, r) := by
  unfold readCString
  have hc : (s ++ 0 :: r).contains 0 = true := by simp
  have h1 : (s ++ 0 :: r).takeWhile (· != 0) = s := cstr_append_zero_cons s r hs
  have h2 : (s ++ 0 :: r).dropWhile (· != 0) = 0 :: r := by
    have := List.takeWhile_append_dropWhile (p := fun x : UInt8 => x != 0) (l := s ++ 0 :: r)
    rw [h1] at this
    exact List.append_cancel_left this
  simp only [hc, if_true, h1, h2, List.drop_one, List.tail_cons]

theorem readCString_none (v : Bytes) (h : nulFree v) : readCString v = none := by
  unfold readCString
  have : v.contains 0 = false := by
    cases hc : v.contains 0
    · rfl
    · have := List.contains_iff_mem.mp hc
      exact absurd rfl (h 0 this)
  simp only [this]; rfl

end Muscle.Containers.StrSpec
