/-!
# Ring layer of `muscle::Queue<ItemType>` (`util/Queue.h`)

A `Ring` is the private state of the C++ class: the slot array `_queue` (`slots`), `_headIndex`,
`_tailIndex`, `_itemCount`, which buffer `_queue` points to (`kind`: `NULL`, the inline
`_smallQueue`, a heap array) and the content of the inline buffer while it is not in use (`sbuf`).
`_queueSize` is `slots.length`.  The definitions that mirror a C++ method name it.

Item types enter through `ItemCfg`:
* `dflt`  — `GetDefaultItem()`;
* `junk`  — what an uninitialised slot of a trivial item type holds (`new int[n]`, `_smallQueue` of a
            fresh object); nothing in the model ever tests for it;
* `clear` — `IsPerItemClearNecessary()` (`!std::is_trivial<ItemType>`): vacated slots are reset to `dflt`;
* `moves` — `std::move` leaves the source equal to `dflt`.  No longer consulted: since the repair of finding
            C16-D3 no operation leaves a moved-from slot behind when it returns (kept so that item
            configurations stay comparable with earlier evidence);
* `sq`    — `ARRAYITEMS(_smallQueue)` (a tunable: every theorem holds for all values).

Not modelled: allocation failure (`B_OUT_OF_MEMORY`), 32-bit overflow of sizes
(`B_RESOURCE_LIMIT`, `WillUnsignedAddOverflow`), `AdoptRawDataArray/ReleaseRawDataArray`.
`Sort`'s in-place merge and the cycle-leader rotation of `Normalize` are abstracted to their
functional result (a stable sort / a rotation of the slot array).
-/

namespace Muscle.Containers

structure ItemCfg (α : Type) where
  dflt : α
  junk : α
  clear : Bool
  moves : Bool
  sq : Nat

inductive Kind where
  | null | small | heap
  deriving DecidableEq, Repr

/-- `Queue::NextIndex` (`(idx >= _queueSize-1) ? 0 : idx+1`; only called with `_queueSize > 0`) -/
def nextIndex (size idx : Nat) : Nat := if idx ≥ size - 1 then 0 else idx + 1

/-- `Queue::PrevIndex` (`(idx == 0) ? _queueSize-1 : idx-1`) -/
def prevIndex (size idx : Nat) : Nat := if idx = 0 then size - 1 else idx - 1

/-- `Queue::InternalizeIndex` (`o = _headIndex+idx; (o < _queueSize) ? o : o-_queueSize`) -/
def internalizeIndex (head size idx : Nat) : Nat :=
  if head + idx < size then head + idx else head + idx - size

structure Ring (α : Type) where
  slots : List α
  head : Nat
  tail : Nat
  count : Nat
  kind : Kind
  sbuf : List α

/-- `p[j] = v` for `j` in `[start, start+n)` on a raw array -/
def fillRange {α : Type} (l : List α) (start : Nat) : Nat → α → List α
  | 0, _ => l
  | n + 1, v => fillRange (l.set start v) (start + 1) n v

/-- `newQueue[i] = old[i]` for `i < old.length` (`EnsureSizeAux` guarantees `xs.length ≤ buf.length`
    since commit 97f299d; hypothesis `hL` of `realloc_core`) -/
def overwritePrefix {α : Type} (buf xs : List α) : List α := xs ++ buf.drop xs.length

/-- insertion into a sorted list after every element that is not greater (stable) -/
def insertSorted {α : Type} (lt : α → α → Bool) (x : α) : List α → List α
  | [] => [x]
  | y :: ys => if lt y x then y :: insertSorted lt x ys else x :: y :: ys

/-- the functional result of `Queue::Sort` (documented as a stable sort) -/
def stableSort {α : Type} (lt : α → α → Bool) (l : List α) : List α := l.foldr (insertSorted lt) []

/-- `arr[start+k] = xs[k]` on a raw array -/
def overwriteAt {α : Type} (l : List α) (start : Nat) : List α → List α
  | [] => l
  | x :: xs => overwriteAt (l.set start x) (start + 1) xs

section
variable {α : Type} [DecidableEq α] (c : ItemCfg α)

/-- content of a freshly allocated array (`newnothrow_array`): value-initialised only for non-trivial types -/
def fresh (n : Nat) : List α := List.replicate n (if c.clear then c.dflt else c.junk)

/-- a default-constructed `Queue` -/
def Ring.empty : Ring α := ⟨[], 0, 0, 0, .null, fresh c c.sq⟩

namespace Ring

/-- `_queueSize` -/
def size (q : Ring α) : Nat := q.slots.length

/-- `InternalizeIndex(i)` on this object -/
def phys (q : Ring α) (i : Nat) : Nat := internalizeIndex q.head q.size i

/-- `GetItemAtUnchecked(i)` / `operator[]` (read) -/
def get (q : Ring α) (i : Nat) : α := q.slots.getD (q.phys i) c.junk

/-- `(*this)[i] = v` -/
def put (q : Ring α) (i : Nat) (v : α) : Ring α := { q with slots := q.slots.set (q.phys i) v }

/-- abstraction: the items an observer sees, `[(*this)[0], …, (*this)[GetNumItems()-1]]` -/
def abs (q : Ring α) : List α := (List.range q.count).map (q.get c)

/-- `(*this)[start+k] = xs[k]` for ascending `k` -/
def putList (q : Ring α) (start : Nat) : List α → Ring α
  | [] => q
  | x :: xs => (q.put start x).putList (start + 1) xs

/-- `FastClear` -/
def fastClear (q : Ring α) : Ring α := { q with count := 0, head := 0, tail := 0 }

/-- `GetArrayPointerAux(which, len)`: start slot and length of the contiguous run, `none` = `NULL` -/
def run (q : Ring α) (which : Nat) : Option (Nat × Nat) :=
  if q.count = 0 then none else
  match which with
  | 0 => some (q.head, if q.head ≤ q.tail then q.tail - q.head + 1 else q.size - q.head)
  | 1 => if q.head > q.tail then some (0, q.tail + 1) else none
  | _ => none

/-- `IsNormalized` -/
def isNormalized (q : Ring α) : Bool := q.count = 0 || q.head ≤ q.tail

/-- `Clear(releaseCachedBuffers)` -/
def clear (q : Ring α) (release : Bool) : Ring α :=
  let q1 : Ring α :=
    if release ∧ q.kind ≠ .small then { q with slots := [], kind := .null }
    else if q.count > 0 ∧ c.clear then
      let s1 := match q.run 0 with
        | some (st, len) => fillRange q.slots st len c.dflt
        | none => q.slots
      let s2 := match q.run 1 with
        | some (st, len) => fillRange s1 st len c.dflt
        | none => s1
      { q with slots := s2 }
    else q
  q1.fastClear

/-- `RemoveHead()` -/
def removeHead (q : Ring α) : Ring α × Bool :=
  if q.count = 0 then (q, false) else
  let q1 : Ring α := { q with head := nextIndex q.size q.head, count := q.count - 1 }
  (if c.clear then { q1 with slots := q1.slots.set q.head c.dflt } else q1, true)

/-- `RemoveTail()` -/
def removeTail (q : Ring α) : Ring α × Bool :=
  if q.count = 0 then (q, false) else
  let q1 : Ring α := { q with tail := prevIndex q.size q.tail, count := q.count - 1 }
  (if c.clear then { q1 with slots := q1.slots.set q.tail c.dflt } else q1, true)

def iter (f : Ring α → Ring α) : Nat → Ring α → Ring α
  | 0, q => q
  | n + 1, q => iter f n (f q)

/-- `RemoveHeadMulti(n)` -/
def removeHeadMulti (q : Ring α) (n : Nat) : Ring α × Nat :=
  let n := min n q.count
  if n = 0 then (q, 0)
  else if n = q.count then (q.clear c false, n)
  else if c.clear then (iter (fun r => (r.removeHead c).1) n q, n)
  else ({ q with head := (q.head + n) % q.size, count := q.count - n }, n)

/-- `RemoveTailMulti(n)` -/
def removeTailMulti (q : Ring α) (n : Nat) : Ring α × Nat :=
  let n := min n q.count
  if n = 0 then (q, 0)
  else if n = q.count then (q.clear c false, n)
  else if c.clear then (iter (fun r => (r.removeTail c).1) n q, n)
  else ({ q with tail := (if q.tail < n then q.tail + q.size else q.tail) - n, count := q.count - n }, n)

/-- the reallocation block of `EnsureSizeAux`: new array (heap, or the inline buffer when it is not the old one
    and `sqLen` slots suffice), items moved to its start, `setNumItems` applied, old inline buffer reset -/
def realloc (q : Ring α) (size : Nat) (setNum : Bool) (extra : Nat) : Ring α :=
  let newQLen := max c.sq (size + extra)
  let toSmall : Bool := !(decide (q.kind = .small) || decide (newQLen > c.sq))
  let nb0 := if toSmall then q.sbuf else fresh c newQLen
  let nb1 := overwritePrefix nb0 (q.abs c)
  let nb2 := if setNum = true ∧ size > q.count ∧ c.clear = false then fillRange nb1 q.count (size - q.count) c.dflt else nb1
  let cnt := if setNum = true then size else q.count
  { slots := nb2, head := 0, tail := cnt - 1, count := cnt,
    kind := if toSmall then .small else .heap,
    sbuf := if q.kind = .small then (if c.clear then List.replicate c.sq c.dflt else q.slots) else q.sbuf }

/-- `EnsureSizeAux` after its first statement (the guard for `allowShrink` with fewer slots than items):
    reallocation if needed, then the item count is forced to `size` when `setNumItems` -/
def ensureCore (q : Ring α) (size : Nat) (setNum : Bool) (extra : Nat) (shrink : Bool) : Ring α :=
  let q1 : Ring α :=
    if q.kind = .null ∨ (if shrink then q.size ≠ size + extra else q.size < size) then q.realloc c size setNum extra
    else q
  if setNum then
    if size > q1.count then
      let q2 := if c.clear then q1 else q1.putList q1.count (List.replicate (size - q1.count) c.dflt)
      { q2 with tail := prevIndex q2.size (q2.phys size), count := size }
    else (q1.removeTailMulti c (q1.count - size)).1
  else q1

/-- `EnsureSizeAux(size, setNumItems, extraPreallocs, retOldArray, allowShrink)`; always `B_NO_ERROR`
    in the modelled range.  First statement (commit 97f299d):
    `if (allowShrink && size < _itemCount) {if (setNumItems) RemoveTailMulti(_itemCount-size); else size = _itemCount;}` -/
def ensureSizeAux (q : Ring α) (size : Nat) (setNum : Bool) (extra : Nat) (shrink : Bool) : Ring α :=
  if shrink = true ∧ size < q.count then
    if setNum then ensureCore c (q.removeTailMulti c (q.count - size)).1 size setNum extra shrink
    else ensureCore c q q.count setNum extra shrink
  else ensureCore c q size setNum extra shrink

/-- the common part of `AddTailAndGet(item)` / `AddTailAndGet()`: make room, advance `_tailIndex`,
    count the new item; its slot is `tail` -/
def addTailSlot (q : Ring α) : Ring α :=
  let q1 := q.ensureSizeAux c (q.count + 1) false (q.count + 1) false
  let q2 : Ring α := if q1.count = 0 then { q1 with head := 0, tail := 0 } else { q1 with tail := nextIndex q1.size q1.tail }
  { q2 with count := q2.count + 1 }

/-- `AddTail(item)` / `AddTailAndGet(item)` -/
def addTail (q : Ring α) (v : α) : Ring α :=
  let q3 := q.addTailSlot c
  { q3 with slots := q3.slots.set q3.tail v }

/-- `AddTailAndGet()` (no argument): the slot is handed out as it is -/
def addTailRaw (q : Ring α) : Ring α := q.addTailSlot c

def addHeadSlot (q : Ring α) : Ring α :=
  let q1 := q.ensureSizeAux c (q.count + 1) false (q.count + 1) false
  let q2 : Ring α := if q1.count = 0 then { q1 with head := 0, tail := 0 } else { q1 with head := prevIndex q1.size q1.head }
  { q2 with count := q2.count + 1 }

/-- `AddHead(item)` / `AddHeadAndGet(item)` -/
def addHead (q : Ring α) (v : α) : Ring α :=
  let q3 := q.addHeadSlot c
  { q3 with slots := q3.slots.set q3.head v }

/-- `AddHeadAndGet()` (no argument) -/
def addHeadRaw (q : Ring α) : Ring α := q.addHeadSlot c

/-- `GetItemAt(index, ret)` -/
def getItemAt (q : Ring α) (i : Nat) : Option α := if i < q.count then some (q.get c i) else none

/-- `ReplaceItemAt(index, item)` -/
def replaceItemAt (q : Ring α) (i : Nat) (v : α) : Ring α × Bool :=
  if i ≥ q.count then (q, false) else (q.put i v, true)

/-- first loop of `RemoveItemAt`: `while (cur != _headIndex) {_queue[cur] = _queue[Prev(cur)]; cur = Prev(cur);}` -/
def shiftFromHead (q : Ring α) : Nat → Nat → Ring α
  | 0, _ => q
  | f + 1, cur =>
    if cur = q.head then q else
    let p := prevIndex q.size cur
    shiftFromHead { q with slots := q.slots.set cur (q.slots.getD p c.junk) } f p

/-- second loop of `RemoveItemAt`: `while (cur != _tailIndex) {_queue[cur] = _queue[Next(cur)]; cur = Next(cur);}` -/
def shiftFromTail (q : Ring α) : Nat → Nat → Ring α
  | 0, _ => q
  | f + 1, cur =>
    if cur = q.tail then q else
    let n := nextIndex q.size cur
    shiftFromTail { q with slots := q.slots.set cur (q.slots.getD n c.junk) } f n

/-- `RemoveItemAt(index)` -/
def removeItemAt (q : Ring α) (index : Nat) : Ring α × Bool :=
  if index ≥ q.count then (q, false) else
  let ii := q.phys index
  let q2 : Ring α :=
    if index < q.count / 2 then
      let q1 := shiftFromHead c q q.size ii
      { q1 with head := nextIndex q.size q.head, count := q.count - 1 }
    else
      let q1 := shiftFromTail c q q.size ii
      { q1 with tail := prevIndex q.size q.tail, count := q.count - 1 }
  let toClear := if index < q.count / 2 then q.head else q.tail
  (if c.clear then { q2 with slots := q2.slots.set toClear c.dflt } else q2, true)

/-- `for (i=0; i<index; i++) ReplaceItemAt(i, GetItemAtUnchecked(i+1))` -/
def shiftLeftLoop (q : Ring α) (i : Nat) : Nat → Ring α
  | 0 => q
  | n + 1 => shiftLeftLoop (q.put i (q.get c (i + 1))) (i + 1) n

/-- `for (i=hi; i>index; i--) ReplaceItemAt(i, GetItemAtUnchecked(i-1))`, `n = hi-index` iterations -/
def shiftRightLoop (q : Ring α) (index : Nat) : Nat → Ring α
  | 0 => q
  | n + 1 => shiftRightLoop (q.put (index + n + 1) (q.get c (index + n))) index n

/-- `InsertItemAt(index, item)` -/
def insertItemAt (q : Ring α) (index : Nat) (v : α) : Ring α :=
  if index ≥ q.count then q.addTail c v
  else if index = 0 then q.addHead c v
  else if index < q.count / 2 then
    let q1 := q.addHead c c.dflt
    (shiftLeftLoop c q1 0 index).put index v
  else
    let q1 := q.addTail c c.dflt
    (shiftRightLoop c q1 index (q1.count - 1 - index)).put index v

/-- `for (i=oldSize-1; i>=index; i--) (*this)[i+n] = (*this)[i]`, `k` = items still to move -/
def shiftUp (q : Ring α) (index n : Nat) : Nat → Ring α
  | 0 => q
  | k + 1 => shiftUp (q.put (index + k + n) (q.get c (index + k))) index n k

/-- `for (i=hi; i>=lo; i--) AddHead(src[i])`; `src` is read before each `AddHead` (the argument
    is a reference to a slot that `AddHead` does not move) -/
def addHeadLoop (q : Ring α) (src : Nat → Ring α → α) (lo : Nat) : Nat → Ring α
  | 0 => q
  | k + 1 => addHeadLoop (q.addHead c (src (lo + k) q)) src lo k

/-- `AddTailMulti(const ItemType * items, n)` and `AddTailMulti(queue, start, n)` with another queue
    (`xs` = the items selected after the clipping of `start`/`n`) -/
def addTailMulti (q : Ring α) (xs : List α) : Ring α :=
  let my := q.count
  (q.ensureSizeAux c (my + xs.length) true 0 false).putList my xs

/-- `AddHeadMulti(items, n)` / `AddHeadMulti(queue, start, n)` with another queue -/
def addHeadMulti (q : Ring α) (xs : List α) : Ring α :=
  let q1 := q.ensureSizeAux c (q.count + xs.length) false 0 false
  addHeadLoop c q1 (fun i _ => xs.getD i c.junk) 0 xs.length

/-- the clipping `numNewItems = muscleMin(numNewItems, (startIndex < hisSize) ? (hisSize-startIndex) : 0)` -/
def clipNum (hisSize start num : Nat) : Nat := min num (if start < hisSize then hisSize - start else 0)

/-- `AddTailMulti(*this, start, num)` -/
def addTailSelf (q : Ring α) (start num : Nat) : Ring α :=
  let n := clipNum q.count start num
  -- both branches (temporary copy when a reallocation is due, in-place otherwise) read the old items
  q.addTailMulti c (((q.abs c).drop start).take n)

/-- `AddHeadMulti(*this, start, num)`: always through a temporary copy of the selected items when there is
    something to add (repair of finding C16-D4; before it the copy was only taken when a reallocation was due and
    the in-place loop read already shifted items) -/
def addHeadSelf (q : Ring α) (start num : Nat) : Ring α :=
  let n := clipNum q.count start num
  if n > 0 then q.addHeadMulti c (((q.abs c).drop start).take n)
  else q.ensureSizeAux c (n + q.count) false 0 false

/-- `InsertItemsAt(index, items, n)` / `InsertItemsAt(index, queue, start, n)` with another queue -/
def insertItemsAt (q : Ring α) (index : Nat) (xs : List α) (fromQueue : Bool) : Ring α :=
  let index := min index q.count
  if xs.length = 0 then q
  else if fromQueue ∧ index = 0 then q.addHeadMulti c xs
  else if fromQueue ∧ index = q.count then q.addTailMulti c xs
  else if ¬ fromQueue ∧ xs.length = 1 ∧ index = 0 then q.addHead c (xs.getD 0 c.junk)
  else if ¬ fromQueue ∧ xs.length = 1 ∧ index = q.count then q.addTail c (xs.getD 0 c.junk)
  else
    let old := q.count
    let q1 := q.ensureSizeAux c (old + xs.length) true 0 false
    (shiftUp c q1 index xs.length (old - index)).putList index xs

/-- `GetArrayPointer`-style clipping used by the engine for "pointer into the queue's own array" arguments:
    the number of items that are physically contiguous starting at user index `j` -/
def contigFrom (q : Ring α) (j : Nat) : Nat :=
  match q.run 0 with
  | some (_, len0) => if j < len0 then len0 - j else q.count - j
  | none => 0

/-- `InsertItemsAt(index, items, n)` with `items` pointing at `(*this)[j]` (`n` contiguous items): through a
    temporary Queue (repair of finding C16-D5) -/
def insertItemsOwn (q : Ring α) (index j n : Nat) : Ring α :=
  let xs := ((q.abs c).drop j).take n
  if xs.length = 0 then q else q.insertItemsAt c index xs true

/-- `InsertItemsAt(index, *this, start, num)` -/
def insertItemsSelf (q : Ring α) (index start num : Nat) : Ring α :=
  let index := min index q.count
  let n := clipNum q.count start num
  if n = 0 then q
  else if index = 0 then q.addHeadSelf c start n
  else if index = q.count then q.addTailSelf c start n
  else q.insertItemsAt c index (((q.abs c).drop start).take n) true   -- through `tempQ`

/-- `operator=(rhs)` with another queue -/
def assign (q : Ring α) (xs : List α) : Ring α :=
  if xs.length = 0 then q.clear c true
  else (q.ensureSizeAux c xs.length true 0 false).putList 0 xs

/-- `CopyFrom(rhs)` with another queue -/
def copyFrom (q : Ring α) (xs : List α) : Ring α :=
  (q.ensureSizeAux c xs.length true 0 false).putList 0 xs

/-- `Swap(i, j)` (`muscleSwap((*this)[i], (*this)[j])`) -/
def swap (q : Ring α) (i j : Nat) : Ring α :=
  let a := q.get c i
  (q.put i (q.get c j)).put j a

/-- `while (from < to) Swap(from++, to--)` -/
def revLoop (q : Ring α) : Nat → Nat → Nat → Ring α
  | 0, _, _ => q
  | f + 1, a, b => if a < b then revLoop (q.swap c a b) f (a + 1) (b - 1) else q

/-- `ReverseItemOrdering(from, to)` -/
def reverse (q : Ring α) (from_ to : Nat) : Ring α :=
  let size := if from_ < to then q.count else 0
  if size > 0 then
    let to1 := to - 1
    let to2 := if to1 ≥ size then size - 1 else to1
    revLoop c q q.count from_ to2
  else q

/-- `Sort(functor, from, to)`: abstracted to "the sub-range is replaced by its stable sort" -/
def sort (q : Ring α) (lt : α → α → Bool) (from_ to : Nat) : Ring α :=
  let to1 := min to q.count
  if to1 > from_ then q.putList from_ (stableSort lt (((q.abs c).drop from_).take (to1 - from_)))
  else q

/-- `for (i=from; i<to; i++) if ((*this)[i] == item) return i` -/
def findUp (q : Ring α) (v : α) (i : Nat) : Nat → Option Nat
  | 0 => none
  | n + 1 => if q.get c i = v then some i else findUp q v (i + 1) n

/-- `for (i=hi; i>=lo; i--) if ((*this)[i] == item) return i`, `n = hi+1-lo` iterations ending at `lo` -/
def findDown (q : Ring α) (v : α) (lo : Nat) : Nat → Option Nat
  | 0 => none
  | n + 1 => if q.get c (lo + n) = v then some (lo + n) else findDown q v lo n

/-- `IndexOf(item, startAt, endAtPlusOne)` -/
def indexOf (q : Ring α) (v : α) (startAt endAt1 : Nat) : Option Nat :=
  if startAt ≥ q.count then none
  else findUp c q v startAt (min endAt1 q.count - startAt)

/-- `LastIndexOf(item, startAt, endAt)` -/
def lastIndexOf (q : Ring α) (v : α) (startAt endAt : Nat) : Option Nat :=
  if endAt ≥ q.count then none
  else findDown c q v endAt (min startAt (q.count - 1) + 1 - endAt)

/-- `RemoveFirstInstanceOf(val)` -/
def removeFirst (q : Ring α) (v : α) : Ring α × Bool :=
  match findUp c q v 0 q.count with
  | some i => q.removeItemAt c i
  | none => (q, false)

/-- `RemoveLastInstanceOf(val)` -/
def removeLast (q : Ring α) (v : α) : Ring α × Bool :=
  match findDown c q v 0 q.count with
  | some i => q.removeItemAt c i
  | none => (q, false)

/-- the collapse loop of `RemoveAllInstancesOf`: returns (queue, writeTo) -/
def collapse (q : Ring α) (v : α) (readFrom writeTo : Nat) : Nat → Ring α × Nat
  | 0 => (q, writeTo)
  | n + 1 =>
    if q.get c readFrom = v then collapse q v (readFrom + 1) writeTo n
    else collapse (if readFrom > writeTo then q.put writeTo (q.get c readFrom) else q) v (readFrom + 1) (writeTo + 1) n

/-- `RemoveAllInstancesOf(val)` -/
def removeAll (q : Ring α) (v : α) : Ring α × Nat :=
  let orig := q.count
  let (q1, w) := collapse c q v 0 0 orig
  (iter (fun r => (r.removeTail c).1) (orig - w) q1, orig - w)

/-- the loop of `RemoveSortedDuplicateItems`: returns (queue, numWrittenItems) -/
def dedupLoop (q : Ring α) (i written : Nat) : Nat → Ring α × Nat
  | 0 => (q, written)
  | n + 1 =>
    if q.get c i = q.get c (written - 1) then dedupLoop q (i + 1) written n
    else dedupLoop (if written ≠ i then q.put written (q.get c i) else q) (i + 1) (written + 1) n

/-- `RemoveSortedDuplicateItems()` -/
def removeSortedDups (q : Ring α) : Ring α × Nat :=
  if q.count = 0 then (q, 0) else
  let (q1, w) := dedupLoop c q 1 1 (q.count - 1)
  (q1.ensureSizeAux c w true 0 false, q.count - w)

/-- `RemoveDuplicateItems()` = `Sort()` + `RemoveSortedDuplicateItems()` -/
def removeDups (q : Ring α) (lt : α → α → Bool) : Ring α × Nat :=
  (q.sort c lt 0 q.count).removeSortedDups c

/-- `InsertItemAtSortedPosition(item)` with `Compare(a,b) >= 0 ⇔ ¬ (a < b)`; returns the index -/
def insertSortedPos (q : Ring α) (lt : α → α → Bool) (v : α) : Ring α × Nat :=
  if q.count > 0 ∧ ¬ lt v (q.get c 0) then
    match (List.range q.count).reverse.find? (fun k => ! lt v (q.get c k)) with
    | some k => (q.insertItemAt c (k + 1) v, k + 1)
    | none => (q.addHead c v, 0)
  else (q.addHead c v, 0)

/-- `Normalize()` -/
def normalize (q : Ring α) : Ring α :=
  if q.isNormalized then q
  else if q.count * 2 ≤ q.size then
    let startAt := q.tail + 1
    let items := q.abs c
    -- `_queue[startAt+i] = (*this)[i]; if (clear) (*this)[i] = default`
    let s1 := overwriteAt q.slots startAt items
    let q1 : Ring α := { q with slots := s1 }
    let q2 := if c.clear then q1.putList 0 (List.replicate q.count c.dflt) else q1
    { q2 with head := startAt, tail := startAt + q.count - 1 }
  else
    -- rotation of the whole array to the left by `_headIndex` (cycle-leader algorithm, abstracted)
    { q with slots := q.slots.drop q.head ++ q.slots.take q.head, head := 0, tail := q.count - 1 }

/-- `operator==(rhs)` with another queue -/
def equals (q : Ring α) (xs : List α) : Bool := q.count = xs.length && q.abs c == xs

/-- `StartsWith(queue)` -/
def startsWith (q : Ring α) (xs : List α) : Bool :=
  if xs.length > q.count then false else (q.abs c).take xs.length == xs

/-- `EndsWith(queue)` -/
def endsWith (q : Ring α) (xs : List α) : Bool :=
  if xs.length > q.count then false else (q.abs c).drop (q.count - xs.length) == xs

end Ring

/-- `lexicographicalCompare`: -1, 0, +1 as 0, 1, 2 -/
def lexCompare (lt : α → α → Bool) : List α → List α → Nat
  | [], [] => 1
  | [], _ :: _ => 0
  | _ :: _, [] => 2
  | a :: as, b :: bs => if lt a b then 0 else if lt b a then 2 else lexCompare lt as bs

/-- `SwapContentsAux(largeThat)`: `this` uses its inline buffer, `that` a heap array (or `NULL`) -/
def swapContentsAux (this that : Ring α) : Ring α × Ring α :=
  let ni := this.count
  let items := this.abs c
  let thatSmall := overwritePrefix that.sbuf items
  -- `if (IsPerItemClearNecessary()) from = GetDefaultItem()` after each hand-over (repair of finding C16-D3;
  -- before it the inline slots kept whatever `std::move` left behind, i.e. the items themselves for a copy-only type)
  let thisSmall := if c.clear then (this.putList 0 (List.replicate ni c.dflt)).slots else this.slots
  let this' : Ring α :=
    { slots := that.slots, head := if that.size > 0 then that.head else 0, tail := if that.size > 0 then that.tail else 0,
      count := that.count, kind := that.kind, sbuf := thisSmall }
  let that' : Ring α :=
    if ni > 0 then { slots := thatSmall, head := 0, tail := ni - 1, count := ni, kind := .small, sbuf := [] }
    else { slots := [], head := that.head, tail := that.tail, count := ni, kind := .null, sbuf := thatSmall }
  (this', that')

/-- `SwapContents(that)` for two distinct objects -/
def swapContents (a b : Ring α) : Ring α × Ring α :=
  let aSmall := a.kind = .small
  let bSmall := b.kind = .small
  if aSmall ∧ bSmall then
    let common := min a.count b.count
    if a.count > b.count then
      -- copyTo = that, copyFrom = this
      let b1 := b.addTailMulti c ((a.abs c).drop common)
      let a1 := a.ensureSizeAux c common true 0 false
      let xs := a1.abs c; let ys := (b1.abs c).take common
      (a1.putList 0 ys, b1.putList 0 xs)
    else
      let a1 := a.addTailMulti c ((b.abs c).drop common)
      let b1 := b.ensureSizeAux c common true 0 false
      let xs := (a1.abs c).take common; let ys := b1.abs c
      (a1.putList 0 ys, b1.putList 0 xs)
  else if aSmall then swapContentsAux c a b
  else if bSmall then let (b', a') := swapContentsAux c b a; (a', b')
  else ({ b with sbuf := a.sbuf }, { a with sbuf := b.sbuf })   -- pointers and indices are swapped, the inline buffers stay

/-- `Plunder(rhs)` (move constructor / move assignment): returns (this, rhs) -/
def plunder (this rhs : Ring α) : Ring α × Ring α :=
  let (t, r) :=
    if rhs.kind = .small then
      let n := rhs.count
      let t1 := this.ensureSizeAux c n true 0 false
      let xs := t1.abs c; let ys := rhs.abs c
      (t1.putList 0 ys, rhs.putList 0 xs)
    else swapContents c this rhs
  (t, r.clear c false)

end
end Muscle.Containers
