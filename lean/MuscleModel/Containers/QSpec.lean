/-!
# The ideal double-ended sequence (`List α`) with the operations of `muscle::Queue` and their
failure conditions.  This file is the specification the ring layer (`QRing.lean`) is proved to refine.
-/

namespace Muscle.Containers.Spec
variable {α : Type}

/-- `AddTail(item)` -/
def addTail (l : List α) (v : α) : List α := l ++ [v]
/-- `AddHead(item)` -/
def addHead (l : List α) (v : α) : List α := v :: l
/-- `RemoveHead()`: undefined on the empty sequence -/
def removeHead (l : List α) : List α × Bool := if l.length = 0 then (l, false) else (l.drop 1, true)
/-- `RemoveTail()`: undefined on the empty sequence -/
def removeTail (l : List α) : List α × Bool := if l.length = 0 then (l, false) else (l.take (l.length - 1), true)
/-- `RemoveHeadMulti(n)` -/
def removeHeadMulti (l : List α) (n : Nat) : List α × Nat := (l.drop n, min n l.length)
/-- `RemoveTailMulti(n)` -/
def removeTailMulti (l : List α) (n : Nat) : List α × Nat := (l.take (l.length - n), min n l.length)
/-- `GetItemAt(i, ret)`: undefined for a bad index -/
def getItemAt (l : List α) (i : Nat) : Option α := l[i]?
/-- `ReplaceItemAt(i, v)`: undefined for a bad index -/
def replaceItemAt (l : List α) (i : Nat) (v : α) : List α × Bool := if i ≥ l.length then (l, false) else (l.set i v, true)
/-- `RemoveItemAt(i)`: undefined for a bad index -/
def removeItemAt (l : List α) (i : Nat) : List α × Bool := if i ≥ l.length then (l, false) else (l.eraseIdx i, true)
/-- `InsertItemAt(i, v)`: an index past the end appends -/
def insertItemAt (l : List α) (i : Nat) (v : α) : List α := if i ≥ l.length then l ++ [v] else l.take i ++ v :: l.drop i
/-- `InsertItemsAt(i, items)` -/
def insertItemsAt (l : List α) (i : Nat) (xs : List α) : List α := l.take (min i l.length) ++ xs ++ l.drop (min i l.length)
/-- `AddTailMulti(items)` -/
def addTailMulti (l xs : List α) : List α := l ++ xs
/-- `AddHeadMulti(items)` -/
def addHeadMulti (l xs : List α) : List α := xs ++ l
/-- `Clear()` -/
def clear (_ : List α) : List α := []
/-- `EnsureSize(n, setNumItems)`: capacity is not part of the ideal sequence; with `setNumItems` default items
    are added to, or items removed from, the tail until the length is `n` -/
def ensureSize (dflt : α) (l : List α) (n : Nat) (setNum : Bool) : List α :=
  if setNum then (if n > l.length then l ++ List.replicate (n - l.length) dflt else l.take n) else l
/-- `operator=` / `CopyFrom` -/
def assign (_ xs : List α) : List α := xs
/-- `Swap(i, j)` for valid indices -/
def swap (d : α) (l : List α) (i j : Nat) : List α := (l.set i (l.getD j d)).set j (l.getD i d)

/-- `Sort(from, to)`: the sub-range `[from, min to length)` is replaced by its stable sort -/
def sort (ssort : List α → List α) (l : List α) (from_ to : Nat) : List α :=
  if min to l.length > from_ then l.take from_ ++ ssort ((l.drop from_).take (min to l.length - from_)) ++ l.drop (min to l.length) else l
/-- the clipping of `(startIndex, numItems)` against the source length, as all multi-item calls do it -/
def clip (l : List α) (start num : Nat) : List α := (l.drop start).take (min num (if start < l.length then l.length - start else 0))
/-- `operator==` -/
def equals [DecidableEq α] (l xs : List α) : Bool := l.length = xs.length && l == xs
/-- `StartsWith(queue)` -/
def startsWith [DecidableEq α] (l xs : List α) : Bool := if xs.length > l.length then false else l.take xs.length == xs
/-- `EndsWith(queue)` -/
def endsWith [DecidableEq α] (l xs : List α) : Bool := if xs.length > l.length then false else l.drop (l.length - xs.length) == xs

/-- `IndexOf(item, startAt, endAtPlusOne)`: the first index in `[startAt, min endAtPlusOne length)` holding `item` -/
def indexOf [DecidableEq α] (l : List α) (v : α) (startAt endAt1 : Nat) : Option Nat :=
  if startAt ≥ l.length then none
  else (((l.drop startAt).take (min endAt1 l.length - startAt)).findIdx? (fun x => decide (x = v))).map (· + startAt)
/-- `LastIndexOf(item, startAt, endAt)`: the last index in `[endAt, min startAt (length-1)]` holding `item` -/
def lastIndexOf [DecidableEq α] (l : List α) (v : α) (startAt endAt : Nat) : Option Nat :=
  if endAt ≥ l.length then none
  else (((l.drop endAt).take (min startAt (l.length - 1) + 1 - endAt)).reverse.findIdx? (fun x => decide (x = v))).map
         (fun k => endAt + (min startAt (l.length - 1) + 1 - endAt - 1 - k))
/-- `RemoveFirstInstanceOf(val)`: erase at the first occurrence; undefined when there is none -/
def removeFirst [DecidableEq α] (l : List α) (v : α) : List α × Bool :=
  match l.findIdx? (fun x => decide (x = v)) with
  | some i => removeItemAt l i
  | none => (l, false)
/-- `RemoveLastInstanceOf(val)`: erase at the last occurrence; undefined when there is none -/
def removeLast [DecidableEq α] (l : List α) (v : α) : List α × Bool :=
  match l.reverse.findIdx? (fun x => decide (x = v)) with
  | some k => removeItemAt l (l.length - 1 - k)
  | none => (l, false)
/-- `InsertItemAtSortedPosition(item)`: behind the last item that is not greater than `item` (`¬ item < l[k]`), at the
    front when `item` is smaller than the first item or the sequence is empty; returns the position -/
def insertSortedPos (lt : α → α → Bool) (d : α) (l : List α) (v : α) : List α × Nat :=
  if l.length > 0 ∧ ¬ lt v (l.getD 0 d) = true then
    match (List.range l.length).reverse.find? (fun k => ! lt v (l.getD k d)) with
    | some k => (insertItemAt l (k + 1) v, k + 1)
    | none => (v :: l, 0)
  else (v :: l, 0)
/-- `ReverseItemOrdering(from, to)`: the sub-range `[from, min (to-1) (length-1)]` is reversed -/
def reverse (l : List α) (from_ to : Nat) : List α :=
  if from_ < to ∧ 0 < l.length ∧ from_ < min (to - 1) (l.length - 1) then
    l.take from_ ++ ((l.drop from_).take (min (to - 1) (l.length - 1) + 1 - from_)).reverse ++ l.drop (min (to - 1) (l.length - 1) + 1)
  else l
/-- `RemoveAllInstancesOf(val)`: the other items in their order; returns how many were removed -/
def removeAll [DecidableEq α] (l : List α) (v : α) : List α × Nat :=
  (l.filter (fun x => decide (x ≠ v)), l.length - (l.filter (fun x => decide (x ≠ v))).length)
/-- every item equal to the last kept one is dropped -/
def dedupFrom [DecidableEq α] (last : α) : List α → List α
  | [] => []
  | x :: t => if x = last then dedupFrom last t else x :: dedupFrom x t
/-- `RemoveSortedDuplicateItems()`: runs of equal adjacent items collapse to their first item -/
def dedupAdj [DecidableEq α] : List α → List α
  | [] => []
  | x :: t => x :: dedupFrom x t
def removeSortedDups [DecidableEq α] (l : List α) : List α × Nat := (dedupAdj l, l.length - (dedupAdj l).length)

end Muscle.Containers.Spec
