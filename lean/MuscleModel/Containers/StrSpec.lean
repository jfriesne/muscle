import MuscleModel.Base.Bytes

/-!
# The ideal byte string (specification level of C17)

A `muscle::String` value is a NUL-free `Bytes`.  Every public operation of `util/String.{h,cpp}` that the
engine `str` drives is written here as a total list function; the doc comment names the C++ function
it mirrors.  Nothing in this file knows about buffers, capacities or the inline/heap distinction:
that is `Containers/StrBuf.lean`, and `Containers/StrBufProofs.lean` shows that the buffer layer refines
this file.

C library functions are mirrored for the "C" locale (`tolower`/`toupper`/`isdigit`/`isspace` act on ASCII
only); `char` is signed (x86-64), which matters only in `natCmp`.
-/

namespace Muscle.Containers.StrSpec
open Muscle

/-- `MUSCLE_NO_LIMIT` -/
def noLimit : Nat := 4294967295

def nulFree (s : Bytes) : Prop := ∀ x ∈ s, x ≠ 0

def nulFreeB (s : Bytes) : Bool := s.all (· != 0)

/-- the bytes a `const char *` sees: up to the first NUL -/
def cstr (m : Bytes) : Bytes := m.takeWhile (· != 0)

def rep : Nat → Bytes → Bytes
  | 0, _ => []
  | n+1, t => t ++ rep n t

/-! ## character classes (C locale) -/

def isDigit (b : UInt8) : Bool := 48 ≤ b && b ≤ 57
def isUpper (b : UInt8) : Bool := 65 ≤ b && b ≤ 90
def isLower (b : UInt8) : Bool := 97 ≤ b && b ≤ 122
/-- `isspace` -/
def isSpaceC (b : UInt8) : Bool := b == 32 || (9 ≤ b && b ≤ 13)
/-- `String::IsSpaceChar` -/
def isSpaceChar (b : UInt8) : Bool := b == 32 || b == 9 || b == 13 || b == 10
/-- `muscleToLower` -/
def lowerB (b : UInt8) : UInt8 := if isUpper b then b + 32 else b
/-- `muscleToUpper` -/
def upperB (b : UInt8) : UInt8 := if isLower b then b - 32 else b
/-- value of a byte as a (signed) `char` -/
def sc (b : UInt8) : Int := if b < 128 then (b.toNat : Int) else (b.toNat : Int) - 256

/-! ## construction, assignment, concatenation -/

/-- `String::SetCstr(str, maxLen)`; `p` is the C string `str` points to -/
def setCstr (p : Bytes) (maxLen : Nat) : Bytes := p.take maxLen

/-- `String::SetFromString(s, first, afterLast)` = `String(s, first, afterLast)` = `s.Substring(first, afterLast)` -/
def substring (s : Bytes) (first afterLast : Nat) : Bytes :=
  let e := min afterLast s.length
  if first < e then (s.drop first).take (e - first) else []

/-- insertion of `t` at `min idx len` (`String::InsertCharsAux` with `insertCount = 1`) -/
def insertAt (s : Bytes) (idx : Nat) (t : Bytes) : Bytes :=
  let i := min idx s.length
  s.take i ++ (t ++ s.drop i)

/-- `String::InsertChars(idx, str, maxCharsToInsert)` (`PrependChars` = idx 0, `AppendChars` = idx `noLimit`),
    also `WithInsert/WithAppend/WithPrepend` for string arguments -/
def insertChars (s : Bytes) (idx : Nat) (p : Bytes) (maxChars : Nat) : Bytes := insertAt s idx (p.take maxChars)

/-- `String::WithInsertAux(idx, c, count)` -/
def insertChar (s : Bytes) (idx : Nat) (c : UInt8) (count : Nat) : Bytes := insertAt s idx (List.replicate count c)

/-- `String::TruncateChars` -/
def truncateChars (s : Bytes) (n : Nat) : Bytes := s.take (s.length - min s.length n)
/-- `String::TruncateToLength` -/
def truncateTo (s : Bytes) (n : Nat) : Bytes := s.take (min s.length n)

/-- `String::PaddedBy(minLength, padOnRight, padChar)` -/
def paddedBy (s : Bytes) (minLen : Nat) (right : Bool) (c : UInt8) : Bytes :=
  if s.length < minLen then
    (if right then insertChar s noLimit c (minLen - s.length) else insertChar s 0 c (minLen - s.length))
  else s

/-! ## searching -/

def optIdx : Option Nat → Int
  | some i => i
  | none => -1

/-- `strstr(hay, t)`: offset (counted from `i`) of the first position where `t` is a prefix -/
def findFrom (t : Bytes) : Bytes → Nat → Option Nat
  | [], i => if t.isEmpty then some i else none
  | c :: r, i => if t.isPrefixOf (c :: r) then some i else findFrom t r (i+1)

/-- `String::IndexOf(const String &/const char *, fromIndex)` -/
def indexOf (s t : Bytes) (fromIdx : Nat) : Int :=
  if fromIdx < s.length then optIdx (findFrom t (s.drop fromIdx) fromIdx) else -1

/-- `String::IndexOf(char, fromIndex)` (for `ch ≠ 0`) -/
def indexOfChar (s : Bytes) (ch : UInt8) (fromIdx : Nat) : Int := indexOf s [ch] fromIdx

/-- the loop `for (i = from; i >= 0; i--) if (strncmp(Cstr()+i, t, tLen) == 0) return i` -/
def downSearch (s t : Bytes) : Nat → Int
  | 0 => if t.isPrefixOf s then 0 else -1
  | i+1 => if t.isPrefixOf (s.drop (i+1)) then ((i+1 : Nat) : Int) else downSearch s t i

/-- `String::LastIndexOf(str, fromIndex)`: note that the code searches DOWNWARDS from `fromIndex` -/
def lastIndexOfFrom (s t : Bytes) (fromIdx : Nat) : Int :=
  if t.isEmpty then (s.length : Int) - 1
  else if s.length ≤ fromIdx then -1
  else downSearch s t fromIdx

/-- `String::LastIndexOf(str)` -/
def lastIndexOf (s t : Bytes) : Int :=
  if t.length ≤ s.length then lastIndexOfFrom s t (s.length - t.length) else -1

/-- last index `≥ lo` (as integers) holding a byte satisfying `p`; `lo` may be negative -/
def lastWhere (p : UInt8 → Bool) (s : Bytes) (lo : Int) : Int :=
  let rec go : Bytes → Nat → Int → Int
    | [], _, acc => acc
    | c :: r, i, acc => go r (i+1) (if p c && lo ≤ (i : Int) then (i : Int) else acc)
  go s 0 (-1)

/-- `String::LastIndexOf(char, fromIndex)` -/
def lastIndexOfChar (s : Bytes) (ch : UInt8) (fromIdx : Nat) : Int :=
  if fromIdx < s.length then lastWhere (· == ch) s fromIdx else -1

def isPrefixCI (t s : Bytes) : Bool := (t.map lowerB).isPrefixOf (s.map lowerB)

/-- forward half of `StrcasestrEx` -/
def findFromCI (t : Bytes) : Bytes → Nat → Option Nat
  | [], _ => none
  | c :: r, i => if isPrefixCI t (c :: r) then some i else findFromCI t r (i+1)

/-- `String::IndexOfIgnoreCase(const String &, f)` (`StrcasestrEx` forwards: no match for an empty needle) -/
def indexOfCI (s t : Bytes) (f : Nat) : Int :=
  if f < s.length ∧ ¬ t.isEmpty then optIdx (findFromCI t (s.drop f) f) else -1

/-- backward half of `StrcasestrEx`: last position `≥ f` -/
def lastFromCI (t : Bytes) : Bytes → Nat → Option Nat
  | [], _ => none
  | c :: r, i =>
    match lastFromCI t r (i+1) with
    | some j => some j
    | none => if isPrefixCI t (c :: r) then some i else none

/-- `String::LastIndexOfIgnoreCase(const String &, f)` -/
def lastIndexOfCI (s t : Bytes) (f : Nat) : Int :=
  if f < s.length ∧ ¬ t.isEmpty then optIdx (lastFromCI t (s.drop f) f) else -1

/-- `String::IndexOfIgnoreCase(char, f)` -/
def indexOfCharCI (s : Bytes) (ch : UInt8) (f : Nat) : Int := indexOfCI s [ch] f

/-- `String::LastIndexOfIgnoreCase(char, f)`: for a non-letter it is `LastIndexOf(ch, f)`; for a letter
    `-1` when `f ≥ Length()`, else the downward loop over `[f, Length())` -/
def lastIndexOfCharCI (s : Bytes) (ch : UInt8) (f : Nat) : Int :=
  if lowerB ch == upperB ch then lastIndexOfChar s ch f
  else if s.length ≤ f then -1
  else lastWhere (fun b => lowerB b == lowerB ch) s f

/-- `StrStartsWith` -/
def startsWith (s t : Bytes) : Bool := t.isPrefixOf s
/-- `StrEndsWith` -/
def endsWith (s t : Bytes) : Bool := t.isSuffixOf s
def startsWithCI (s t : Bytes) : Bool := isPrefixCI t s
def endsWithCI (s t : Bytes) : Bool := (t.map lowerB).isSuffixOf (s.map lowerB)
/-- `String::StartsWith(char)` (`*Cstr() == c`, for `c ≠ 0`) -/
def startsWithChar (s : Bytes) (c : UInt8) : Bool := s.head? == some c
/-- `String::EndsWith(char)` -/
def endsWithChar (s : Bytes) (c : UInt8) : Bool := s.getLast? == some c

/-- `String::GetNumInstancesOf(const String &, fromIndex)`: non-overlapping, left to right -/
def countAux (t : Bytes) : Nat → Bytes → Nat
  | 0, _ => 0
  | _, [] => 0
  | f+1, c :: r => if t.isPrefixOf (c :: r) then 1 + countAux t f ((c :: r).drop t.length) else countAux t f r

def countInstances (s t : Bytes) (fromIdx : Nat) : Nat :=
  if t.isEmpty then 0 else countAux t (s.length + 1) (s.drop fromIdx)

/-- `String::GetNumInstancesOf(char, fromIndex)` -/
def countChar (s : Bytes) (c : UInt8) (fromIdx : Nat) : Nat := ((s.drop fromIdx).filter (· == c)).length

/-! ## comparison -/

/-- sign of `strcmp` (bytes compared as `unsigned char`) -/
def cmpBytes : Bytes → Bytes → Int
  | [], [] => 0
  | [], _ :: _ => -1
  | _ :: _, [] => 1
  | a :: r, b :: q => if a < b then -1 else if b < a then 1 else cmpBytes r q

/-- sign of `strcasecmp` -/
def cmpCI (s t : Bytes) : Int := cmpBytes (s.map lowerB) (t.map lowerB)

/-- `nat_compare_right` -/
def natRight : Bytes → Bytes → Int → Int
  | [], b, bias => if isDigit (b.headD 0) then -1 else bias
  | ca :: a, b, bias =>
    let cb := b.headD 0
    if !isDigit ca && !isDigit cb then bias
    else if !isDigit ca then -1
    else if !isDigit cb then 1
    else natRight a b.tail (if bias != 0 then bias else if ca < cb then -1 else if cb < ca then 1 else 0)

/-- `nat_compare_left` -/
def natLeft : Bytes → Bytes → Int
  | [], b => if isDigit (b.headD 0) then -1 else 0
  | ca :: a, b =>
    let cb := b.headD 0
    if !isDigit ca && !isDigit cb then 0
    else if !isDigit ca then -1
    else if !isDigit cb then 1
    else if ca < cb then -1
    else if cb < ca then 1
    else natLeft a b.tail

/-- the loop of `strnatcmp0` on the remaining parts `ra`, `rb` of `a`, `b` -/
def natLoop (fold : Bool) (a b : Bytes) : Nat → Bytes → Bytes → Int
  | 0, _, _ => 0
  | f+1, ra, rb =>
    let ra := ra.dropWhile isSpaceC
    let rb := rb.dropWhile isSpaceC
    let ca := ra.headD 0
    let cb := rb.headD 0
    let r := if isDigit ca && isDigit cb then (if ca == 48 || cb == 48 then natLeft ra rb else natRight ra rb 0) else 0
    if r != 0 then r
    else if ca == 0 && cb == 0 then cmpBytes a b
    else
      let ca := if fold then upperB ca else ca
      let cb := if fold then upperB cb else cb
      if sc ca < sc cb then -1
      else if sc cb < sc ca then 1
      else natLoop fold a b f ra.tail rb.tail

/-- sign of `NumericAwareStrcmp` / `NumericAwareStrcasecmp` (`strnatcmp0`) -/
def natCmp (fold : Bool) (a b : Bytes) : Int := natLoop fold a b (a.length + b.length + 2) a b

/-! ## substrings, case, trimming -/

/-- `String::Substring(const String & marker)`: the part after the last `marker` (note: for an empty marker
    `LastIndexOf` answers `Length()-1`, so the result is the last character) -/
def substringAfterLast (s m : Bytes) : Bytes :=
  let i := lastIndexOf s m
  if 0 ≤ i then substring s (i.toNat + m.length) noLimit else s

/-- `String::Substring(beginIndex, marker)`: `(uint32) IndexOf(...)` turns "not found" into `noLimit` -/
def substringUntil (s : Bytes) (b : Nat) (m : Bytes) : Bytes :=
  let i := indexOf s m b
  substring s b (if 0 ≤ i then i.toNat else noLimit)

def toLower (s : Bytes) : Bytes := s.map lowerB
def toUpper (s : Bytes) : Bytes := s.map upperB

def isAlnumAscii (b : UInt8) : Bool := isLower b || isUpper b || isDigit b

/-- `String::ToMixedCase` -/
def toMixedAux : Bool → Bytes → Bytes
  | _, [] => []
  | prev, c :: r => (if prev then lowerB c else upperB c) :: toMixedAux (isAlnumAscii c) r
def toMixed (s : Bytes) : Bytes := toMixedAux false s

/-- `String::Trimmed` -/
def trimmed (s : Bytes) : Bytes := (((s.dropWhile isSpaceChar).reverse).dropWhile isSpaceChar).reverse

/-- `String::Reverse` -/
def reverse (s : Bytes) : Bytes := s.reverse

/-! ## words, indentation, escaping, prefixes and suffixes -/

/-- `String::WithInsertedWordAux(insertAtIdx, str, numChars, sep)` with `numChars = strlen(str)`
    (`WithInsertedWord`, `WithAppendedWord` = idx `noLimit`, `WithPrependedWord` = idx 0) -/
def withInsertedWord (s : Bytes) (idx : Nat) (str sep : Bytes) : Bytes :=
  if str.isEmpty then s
  else if sep.isEmpty then insertAt s idx str
  else if s.length ≤ idx then
    (if s.isEmpty || endsWith s sep || startsWith str sep then s else s ++ sep) ++ str
  else if idx = 0 then
    str ++ (if s.isEmpty || startsWith s sep || endsWith str sep then s else sep ++ s)
  else
    let afterStr := s.drop idx
    let ret := s.take idx
    let ret := if !ret.isEmpty && !endsWith ret sep && !startsWith str sep then ret ++ sep else ret
    let ret := ret ++ str
    let ret := if !afterStr.isEmpty && !endsWith ret sep && !startsWith afterStr sep then ret ++ sep else ret
    ret ++ afterStr

/-- the character loop of `String::IndentedBy` -/
def indentAux (pad : Bytes) : Bool → Bytes → Bytes
  | _, [] => []
  | seen, c :: r =>
    if c == 10 || c == 13 then c :: indentAux pad false r
    else if !seen then pad ++ (c :: indentAux pad true r)
    else c :: indentAux pad true r

/-- `String::IndentedBy(numIndentChars, indentChar)` (for `indentChar ≠ 0`) -/
def indentedBy (s : Bytes) (n : Nat) (c : UInt8) : Bytes :=
  if n = 0 then s
  else
    let pad := List.replicate n c
    (if s.head? == some 10 || s.head? == some 13 then pad else []) ++ indentAux pad false s

/-- the character loop of `String::WithCharsEscaped`: `prevEsc` = prevCharWasEscape, `prev` = actualPrevChar -/
def escapeAux (set : Bytes) (esc : UInt8) : Bool → UInt8 → Bytes → Bytes
  | _, _, [] => []
  | prevEsc, prev, cur :: r =>
    let next := r.headD 0
    let ins := !prevEsc && (set.contains cur || (cur == esc && next != 0 && next != esc && !set.contains next))
    let rest := cur :: escapeAux set esc (cur == esc && prev != esc) cur r
    if ins then esc :: rest else rest

/-- `String::WithCharsEscaped(charsToEscape, escapeChar)` (for `escapeChar ≠ 0`) -/
def withCharsEscaped (s set : Bytes) (esc : UInt8) : Bytes :=
  if !(s.any (fun c => set.contains c)) && !(s.contains esc) then s else escapeAux set esc false 0 s

/-- `String::WithSuffix(const String &)` -/
def withSuffix (s t : Bytes) : Bytes := if endsWith s t then s else s ++ t
/-- `String::WithPrefix(const String &)` -/
def withPrefix (s t : Bytes) : Bytes := if startsWith s t then s else t ++ s
/-- `String::WithSuffix(char)` -/
def withSuffixChar (s : Bytes) (c : UInt8) : Bytes := if endsWithChar s c then s else s ++ [c]
/-- `String::WithPrefix(char)` -/
def withPrefixChar (s : Bytes) (c : UInt8) : Bytes := if startsWithChar s c then s else c :: s

/-- the loop `while((maxToRemove > 0)&&(ret.EndsWith(str))) {ret.TruncateChars(str.Length()); --maxToRemove;}` -/
def stripSuffixAux (ci : Bool) (t : Bytes) : Nat → Bytes → Nat → Bytes
  | 0, s, _ => s
  | f+1, s, mx =>
    if mx ≠ 0 ∧ (if ci then endsWithCI s t else endsWith s t) then stripSuffixAux ci t f (s.take (s.length - t.length)) (mx - 1)
    else s

/-- `String::WithoutSuffix(const String &, maxToRemove)` / `WithoutSuffixIgnoreCase` -/
def withoutSuffix (ci : Bool) (s t : Bytes) (mx : Nat) : Bytes :=
  if t.isEmpty then s else stripSuffixAux ci t (s.length + 1) s mx

def stripPrefixAux (ci : Bool) (t : Bytes) : Nat → Bytes → Nat → Bytes
  | 0, s, _ => s
  | f+1, s, mx =>
    if mx ≠ 0 ∧ (if ci then startsWithCI s t else startsWith s t) then stripPrefixAux ci t f (s.drop t.length) (mx - 1)
    else s

/-- `String::WithoutPrefix(const String &, maxToRemove)` / `WithoutPrefixIgnoreCase` -/
def withoutPrefix (ci : Bool) (s t : Bytes) (mx : Nat) : Bytes :=
  if t.isEmpty then s else stripPrefixAux ci t (s.length + 1) s mx

def sameChar (ci : Bool) (a b : UInt8) : Bool := if ci then lowerB a == lowerB b else a == b

/-- number of leading bytes equal to `c`, at most `mx` -/
def leadCount (ci : Bool) (c : UInt8) : Bytes → Nat → Nat
  | [], _ => 0
  | x :: r, mx => if mx ≠ 0 ∧ sameChar ci x c then 1 + leadCount ci c r (mx - 1) else 0

/-- `String::WithoutPrefix(char, maxToRemove)` / `WithoutPrefixIgnoreCase(char, …)` -/
def withoutPrefixChar (ci : Bool) (s : Bytes) (c : UInt8) (mx : Nat) : Bytes := s.drop (leadCount ci c s mx)

/-- `String::WithoutSuffix(char, maxToRemove)` / `WithoutSuffixIgnoreCase(char, …)` -/
def withoutSuffixChar (ci : Bool) (s : Bytes) (c : UInt8) (mx : Nat) : Bytes :=
  s.take (s.length - leadCount ci c s.reverse mx)

/-! ## simultaneous replacement (`Replace(const Hashtable<String,String> &, max)`) -/

/-- `Hashtable::Put`: a new key goes to the end, an existing key keeps its place -/
def tablePut (t : List (Bytes × Bytes)) (k v : Bytes) : List (Bytes × Bytes) :=
  if t.any (fun e => e.1 == k) then t.map (fun e => if e.1 == k then (k, v) else e) else t ++ [(k, v)]

/-- one step of the per-key matcher of `String::ReplaceAux`: `st` = how many bytes of `key` are matched.
    `if (*states[j] != c) states[j] = start; if ((*states[j] == c)&&(*(++states[j]) == 0)) match` —
    on a mismatch the matcher falls back to the start of the key and looks at `c` once more (it is not a
    full string search: `aab` is not found in `aaab`).  Result: new state, and whether the key just ended. -/
def matchStep (key : Bytes) (st : Nat) (c : UInt8) : Nat × Bool :=
  let st1 := if key.getD st 0 != c then 0 else st
  if key.getD st1 0 == c then (st1 + 1, st1 + 1 == key.length) else (st1, false)

/-- all (offset, pair index) matches, in the order the code records them -/
def tableScan (keys : List Bytes) : List Nat → Nat → Bytes → List (Nat × Nat)
  | _, _, [] => []
  | sts, i, c :: r =>
    let stepped := (keys.zip sts).map (fun ks => matchStep ks.1 ks.2 c)
    let hits := ((keys.zip stepped).zipIdx).filterMap (fun e => if e.1.2.2 then some (1 + i - e.1.1.length, e.2) else none)
    hits ++ tableScan keys (stepped.map (·.1)) (i+1) r

/-- `sourceOffsetToPairIndex.Get(i)`: the lowest pair index recorded for offset `i` -/
def pairAt (hits : List (Nat × Nat)) (i : Nat) : Option Nat :=
  (hits.filter (fun h => h.1 == i)).foldl (fun acc h => match acc with | none => some h.2 | some j => some (min j h.2)) none

/-- the assembling loop of `ReplaceAux` -/
def tableBuild (keys vals : List Bytes) (hits : List (Nat × Nat)) : Nat → Nat → Bytes → Nat → Bytes × Nat
  | 0, _, s, _ => (s, 0)
  | _, _, [], _ => ([], 0)
  | f+1, i, c :: r, mx =>
    match (if mx ≠ 0 then pairAt hits i else none) with
    | some j =>
      let klen := (keys.getD j []).length
      let (o, n) := tableBuild keys vals hits f (i + klen) ((c :: r).drop klen) (if mx = noLimit then mx else mx - 1)
      (vals.getD j [] ++ o, n + 1)
    | none => let (o, n) := tableBuild keys vals hits f (i + 1) r mx; (c :: o, n)

/-- `String::Replace(const Hashtable<String,String> & beforeToAfter, maxReplaceCount)`: new value, return value -/
def replaceTable (s : Bytes) (table : List (Bytes × Bytes)) (mx : Nat) : Bytes × Nat :=
  if mx = 0 || table.isEmpty || s.isEmpty then (s, 0)
  else
    let pairs := table.filter (fun e => !e.1.isEmpty)
    let keys := pairs.map (·.1)
    let vals := pairs.map (·.2)
    let hits := tableScan keys (keys.map (fun _ => 0)) 0 s
    if hits.isEmpty then (s, 0)
    else
      let (o, n) := tableBuild keys vals hits (s.length + 1) 0 s mx
      if n = 0 then (s, 0) else (o, n)

/-! ## Levenshtein distance -/

def min3 (a b c : Nat) : Nat := min a (min b c)

/-- one row of `GetLevenshteinDistanceAux`: `cols` are `columns[1..]` of the previous row, `left` the new
    `columns[y-1]`, `diag` the old `columns[y-1]` -/
def levRow (lc : UInt8) : Bytes → List Nat → Nat → Nat → List Nat
  | sc :: sr, col :: cr, left, diag =>
    let v := min3 (col + 1) (left + 1) (diag + (if sc == lc then 0 else 1))
    v :: levRow lc sr cr v col
  | _, _, _, _ => []

/-- the row loop with its early exit `if (columns[shortStringLen] >= maxResult) break` -/
def levLoop (short : Bytes) (mx : Nat) : Bytes → Nat → List Nat → Nat
  | [], x, cols => cols.getLastD x
  | lc :: lr, x, cols =>
    let cols' := levRow lc short cols (x + 1) x
    let last := cols'.getLastD (x + 1)
    if mx ≤ last then last else levLoop short mx lr (x + 1) cols'

/-- `String::GetDistanceTo(other, maxResult)`: the shorter string indexes the columns -/
def distanceTo (a b : Bytes) (mx : Nat) : Nat :=
  let (short, long) := if b.length < a.length then (b, a) else (a, b)
  min (levLoop short mx long 0 ((List.range short.length).map (· + 1))) mx

/-! ## removal (`operator-=`) -/

/-- `operator-=(char)` -/
def removeLastChar (s : Bytes) (c : UInt8) : Bytes :=
  let i := lastIndexOfChar s c 0
  if 0 ≤ i then s.take i.toNat ++ s.drop (i.toNat + 1) else s

/-- `operator-=(const String &)` / `operator-=(const char *)` -/
def removeLast (s t : Bytes) : Bytes :=
  if t.isEmpty then s
  else
    let i := lastIndexOf s t
    if 0 ≤ i then s.take i.toNat ++ s.drop (i.toNat + t.length) else s

/-! ## replacement -/

/-- the loop of `String::Replace(char, char, max, from)` on the part after `from` -/
def replaceCharAux (f r : UInt8) : Bytes → Nat → Bytes × Nat
  | [], _ => ([], 0)
  | c :: q, mx =>
    if mx = 0 then (c :: q, 0)
    else if c == f then let (o, n) := replaceCharAux f r q (mx - 1); (r :: o, n + 1)
    else let (o, n) := replaceCharAux f r q mx; (c :: o, n)

/-- `String::Replace(char, char, maxReplaceCount, fromIndex)`: new value and return value -/
def replaceChar (s : Bytes) (f r : UInt8) (mx fromIdx : Nat) : Bytes × Nat :=
  if f != r && fromIdx < s.length then
    let (o, n) := replaceCharAux f r (s.drop fromIdx) mx
    (s.take fromIdx ++ o, n)
  else (s, 0)

/-- the scan of `String::Replace(const String &, const String &, …)`: left to right, non-overlapping -/
def replAux (rm wm : Bytes) : Nat → Bytes → Nat → Bytes × Nat
  | 0, s, _ => (s, 0)
  | _, [], _ => ([], 0)
  | f+1, c :: q, mx =>
    if mx ≠ 0 ∧ rm.isPrefixOf (c :: q) then
      let (o, n) := replAux rm wm f ((c :: q).drop rm.length) (mx - 1); (wm ++ o, n + 1)
    else let (o, n) := replAux rm wm f q mx; (c :: o, n)

/-- the same scan the way the C++ loop runs it: `strstr` from the read position, copy the gap up to the hit,
    emit `withMe`, continue behind the hit (`replAux_eq_scanStrstr` in Containers/StrSpecProofs.lean shows it equals `replAux`) -/
def scanStrstr (rm wm : Bytes) : Nat → Bytes → Nat → Bytes × Nat
  | 0, q, _ => (q, 0)
  | f+1, q, mx =>
    if mx = 0 then (q, 0)
    else
      match findFrom rm q 0 with
      | none => (q, 0)
      | some k =>
        let (o, n) := scanStrstr rm wm f (q.drop (k + rm.length)) (mx - 1)
        (q.take k ++ (wm ++ o), n + 1)

/-- `String::Replace(replaceMe, withMe, maxReplaceCount, fromIndex)`: new value and return value -/
def replaceStr (s rm wm : Bytes) (mx fromIdx : Nat) : Bytes × Nat :=
  if mx = 0 then (s, 0)
  else if s.length ≤ fromIdx then (s, 0)
  else if rm.isEmpty then (s, 0)
  else if rm == wm then (s, min mx (countInstances s rm fromIdx))
  else
    let (o, n) := replAux rm wm (s.length + 1) (s.drop fromIdx) mx
    (s.take fromIdx ++ o, n)

/-! ## numbers -/

/-- decimal value of a digit string -/
def decVal (d : Bytes) : Nat := d.foldl (fun acc b => acc * 10 + (b.toNat - 48)) 0

/-- `Atoull` : value of the leading digits modulo 2^64 -/
def atoull (s : Bytes) : Nat := decVal (s.takeWhile isDigit) % 18446744073709551616

def digitSuffix (s : Bytes) : Bytes := (s.reverse.takeWhile isDigit).reverse

/-- `String::ParseNumericSuffix(defaultValue)` -/
def parseNumericSuffix (s : Bytes) (dflt : Nat) : Nat :=
  let d := digitSuffix s
  if d.isEmpty then dflt else atoull d % 4294967296

/-- `String::WithoutNumericSuffix(&v)`: the String without its digit suffix, and `v` -/
def withoutNumericSuffix (s : Bytes) : Bytes × Nat :=
  let d := digitSuffix s
  (s.take (s.length - d.length), atoull d % 4294967296)

/-- `String::StartsWithNumber(allowNegativeValues)` -/
def startsWithNumber (s : Bytes) (allowNeg : Bool) : Bool :=
  isDigit (s.headD 0) || (allowNeg && s.headD 0 == 45 && isDigit (s.getD 1 0))

def bytesOfString (s : String) : Bytes := s.toUTF8.toList

/-- text of `printf("%i")`/`"%u"`/`"%lld"`/`"%llu"` for an integer -/
def decimal (v : Int) : Bytes := bytesOfString (toString v)

/-- `(int32)` of a 64-bit unsigned value -/
def toInt32 (v : Nat) : Int :=
  let w := v % 4294967296
  if w < 2147483648 then (w : Int) else (w : Int) - 4294967296

/-- the token scan of `String::ArgAux`: lowest `%N` (or a negative number if there is none) -/
def scanArgs : Nat → Bytes → Int → Int
  | 0, _, lo => lo
  | _, [], lo => lo
  | f+1, c :: r, lo =>
    if c == 37 then
      if isDigit (r.headD 0) then
        let v := toInt32 (atoull r)
        scanArgs f (r.dropWhile isDigit) (if lo < 0 then v else min v lo)
      else scanArgs f r lo
    else scanArgs f r lo

/-- `String::ArgAux(buf)` = `Arg(const String &)`, `Arg(const char *)` -/
def argStr (s buf : Bytes) : Bytes :=
  let lo := scanArgs (s.length + 1) s (-1)
  if 0 ≤ lo then (replaceStr s (37 :: decimal lo) buf noLimit 0).1 else s

/-- `String::Arg(int)` etc. with the default format -/
def argInt (s : Bytes) (v : Int) : Bytes := argStr s (decimal v)

/-! ## flattening -/

/-- `String::Flatten`: the bytes and one NUL; `FlattenedSize() = Length()+1` -/
def flatten (s : Bytes) : Bytes := s ++ [0]

/-- `DataUnflattener::ReadCString` on a bounded view: the C string and the rest of the view, or `none`
    (a NULL return with `B_BAD_DATA`/`B_DATA_NOT_FOUND` flagged on the unflattener) when no NUL is in sight -/
def readCString (v : Bytes) : Option (Bytes × Bytes) :=
  if v.contains 0 then some (v.takeWhile (· != 0), (v.dropWhile (· != 0)).drop 1) else none

/-- `String::Unflatten(DataUnflattener &)`: `s = unflat.ReadCString(); MRETURN_ON_ERROR(unflat.GetStatus());
    return SetCstr(s)` on a fresh unflattener over the view `v`: the new value and the unread rest of the
    view, or `none` (an error status, the String is left alone) when the view holds no NUL — in
    particular when it is empty. -/
def unflatten (v : Bytes) : Option (Bytes × Bytes) :=
  match readCString v with
  | some (s, r) => some (s, r)
  | none => none

end Muscle.Containers.StrSpec
