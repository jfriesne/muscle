import MuscleModel.Containers.HTab

/-!
# A traversal of a plain `Hashtable` by one registered iterator while the table is mutated

Events: `adv` = `iter++`; `put k v` = `Put` (a new key is linked at the tail, an existing one keeps its
place); `remove k` = `Remove` (every other removing call — `RemoveFirst/Last`, `Remove(table)`, `Intersect`,
`MoveToTable` — is a sequence of these).  None of them reorders surviving entries.  The state is the table's
order list and the one iterator; `TSt.step` is `Tab.apply none` on the table whose registry is `[it]`
(`Containers/TraversalProofs.lean`, `step_toTab`).
-/

namespace Muscle.Containers

inductive Ev (K V : Type) where
  | adv
  | put (k : K) (v : V)
  | remove (k : K)

structure TSt (K V : Type) where
  m : OMap K V
  it : Iter K V

section
variable {K V : Type} [DecidableEq K]

def TSt.toTab (st : TSt K V) : Tab K V := { m := st.m, its := [st.it], autoSort := true }

def Ev.toOp : Ev K V → Op K V
  | .adv => .itNext 0
  | .put k v => .put k v
  | .remove k => .remove k

def TSt.step (st : TSt K V) : Ev K V → TSt K V
  | .adv => { st with it := st.it.next st.m }
  | .put k v => { st with m := (Tab.putAux none st.toTab k v).m }
  | .remove k => if has st.m k then { m := erase st.m k, it := st.it.onRemove st.m k } else st

/-- the key `GetKey()` returns now (`none` = `HasData()` is false) -/
def TSt.shown (st : TSt K V) : Option K := (st.it.peek st.m).map (·.1)

/-- the keys the iterator would still show if nothing else happened -/
def TSt.pending (st : TSt K V) : List K :=
  match st.it.cur with
  | none => []
  | some c =>
    if st.it.scratch.isSome then c :: after (dirKeys st.m st.it.back) c else after (dirKeys st.m st.it.back) c

/-- the keys that come into view by the `adv` events of a run -/
def visitedFrom : TSt K V → List (Ev K V) → List K
  | _, [] => []
  | st, e :: r =>
    match e with
    | .adv => (st.step .adv).shown.toList ++ visitedFrom (st.step .adv) r
    | .put k v => visitedFrom (st.step (.put k v)) r
    | .remove k => visitedFrom (st.step (.remove k)) r

/-- every key the traversal shows: the one in view at the start, then one per successful `adv` -/
def visited (st : TSt K V) (evs : List (Ev K V)) : List K := st.shown.toList ++ visitedFrom st evs

def runFinal (st : TSt K V) (evs : List (Ev K V)) : TSt K V := evs.foldl TSt.step st

/-- no key is put again after a `remove` of it (a re-inserted key is a new entry and may be visited again) -/
def NoReinsert : List K → List (Ev K V) → Prop
  | _, [] => True
  | R, .adv :: r => NoReinsert R r
  | R, .put k _ :: r => k ∉ R ∧ NoReinsert R r
  | R, .remove k :: r => NoReinsert (k :: R) r

end
end Muscle.Containers
