import MuscleModel.Containers.QRing
import MuscleModel.Base.Lists

/-! Lemmas for C16: the invariant `Good` of the ring layer.  Most of `muscle::Queue` reaches its array only through
`InternalizeIndex`; there the array is read through `operator[]` (`Ring.get`), not through slot numbers: an operation that rewrites
items is a chain of `put`s.  The operations that handle slot numbers themselves move the window (RemoveHead/Tail and their Multi forms,
the head and tail slot of AddHead/AddTail: a `Window` onto the same array), install an array (the reallocation, Normalize) or walk
physical runs (the two loops of RemoveItemAt, shown to be `operator[]` loops; `Clear()`, and `Clean`, stated over slot numbers).  `Rep c q l`: the well-formed Queue `q` shows the
list `l`; what reaches the array only through `operator[]` is reasoned about on `l` alone.  `Ring.lay`: the whole array in the order
`operator[]` walks it, the items first and the hidden slots behind them; an operation that grows or turns the window or writes
slots is an equation between layouts. -/

set_option linter.unusedSectionVars false

namespace Muscle.Containers
variable {α : Type} [DecidableEq α] (c : ItemCfg α)

theorem intern_of_lt {h s i : Nat} (p : h + i < s) : internalizeIndex h s i = h + i := if_pos p

theorem intern_of_ge {h s i : Nat} (p : s ≤ h + i) : internalizeIndex h s i = h + i - s := if_neg (Nat.not_lt.2 p)

/-- `InternalizeIndex` subtracts the size at most once, so it is `% size` only below twice the size; the callers have
    `head < size` and an index of at most `size` -/
theorem intern_eq_mod {h s i : Nat} (p : h + i < 2 * s) : internalizeIndex h s i = (h + i) % s := by
  rcases Nat.lt_or_ge (h + i) s with a | a
  · rw [intern_of_lt a, Nat.mod_eq_of_lt a]
  · rw [intern_of_ge a, Nat.mod_eq_sub_mod a, Nat.mod_eq_of_lt (by omega)]

theorem intern_lt {h s i : Nat} (p : h + i < 2 * s) : internalizeIndex h s i < s := by
  rw [intern_eq_mod p]; exact Nat.mod_lt _ (by omega)

theorem intern_assoc {h s n k : Nat} (hh : h < s) (hn : n ≤ s) (hk : k < s) :
    internalizeIndex (internalizeIndex h s n) s k = internalizeIndex h s (internalizeIndex n s k) := by
  have hs : 0 < s := by omega
  have a := Nat.mod_lt (h + n) hs
  have b := Nat.mod_lt (n + k) hs
  rw [intern_eq_mod (i := n) (by omega), intern_eq_mod (h := n) (by omega), intern_eq_mod (by omega), intern_eq_mod (by omega),
    Nat.mod_add_mod, Nat.add_mod_mod, Nat.add_assoc]

theorem intern_add {h s n k : Nat} (hh : h < s) (hnk : n + k < s) :
    internalizeIndex (internalizeIndex h s n) s k = internalizeIndex h s (n + k) := by
  rw [intern_assoc hh (by omega) (by omega), intern_of_lt hnk]

theorem intern_inj {h s i k : Nat} (hi : i < s) (hk : k < s)
    (e : internalizeIndex h s i = internalizeIndex h s k) : i = k := by
  rcases Nat.lt_or_ge (h + i) s with a | a <;> rcases Nat.lt_or_ge (h + k) s with b | b
  · rw [intern_of_lt a, intern_of_lt b] at e; omega
  · rw [intern_of_lt a, intern_of_ge b] at e; omega
  · rw [intern_of_ge a, intern_of_lt b] at e; omega
  · rw [intern_of_ge a, intern_of_ge b] at e; omega

/-- slot `j` is read by user index `(size - head + j) mod size` -/
theorem intern_inv {h s j : Nat} (hh : h < s) (hj : j < s) :
    internalizeIndex h s (internalizeIndex (s - h) s j) = j := by
  rw [← intern_assoc hh (by omega) hj, intern_of_ge (h := h) (i := s - h) (by omega), intern_of_lt (by omega)]; omega

theorem nextIndex_eq {h s : Nat} (hh : h < s) : nextIndex s h = internalizeIndex h s 1 := by
  unfold nextIndex
  rcases Nat.lt_or_ge (h + 1) s with a | a
  · rw [intern_of_lt a, if_neg (by omega)]
  · rw [intern_of_ge a, if_pos (by omega)]; omega

theorem prevIndex_eq {h s : Nat} (hh : h < s) : prevIndex s h = internalizeIndex h s (s - 1) := by
  obtain ⟨t, rfl⟩ : ∃ t, s = t + 1 := ⟨s - 1, by omega⟩
  unfold prevIndex
  rw [Nat.add_sub_cancel]
  cases h with
  | zero => rw [if_pos rfl, intern_of_lt (by omega), Nat.zero_add]
  | succ g => rw [if_neg (Nat.succ_ne_zero g), Nat.add_sub_cancel, intern_of_ge (by omega)]; omega

theorem next_intern {h s i : Nat} (hh : h < s) (hi : i + 1 < s) :
    nextIndex s (internalizeIndex h s i) = internalizeIndex h s (i + 1) := by
  rw [nextIndex_eq (intern_lt (by omega)), intern_add hh hi]

theorem prev_intern {h s i : Nat} (hh : h < s) (hi : i < s) :
    prevIndex s (internalizeIndex h s (i + 1)) = internalizeIndex h s i := by
  rw [prevIndex_eq (intern_lt (by omega)), intern_assoc hh (by omega) (by omega), intern_of_ge (h := i + 1) (by omega)]
  congr 1; omega

theorem prev_intern_pos {h s i : Nat} (hh : h < s) (hi : 0 < i) (hs : i ≤ s) :
    prevIndex s (internalizeIndex h s i) = internalizeIndex h s (i - 1) := by
  obtain ⟨j, rfl⟩ : ∃ j, i = j + 1 := ⟨i - 1, (Nat.sub_add_cancel hi).symm⟩
  exact prev_intern hh hs

theorem next_intern_pos {h s i : Nat} (hh : h < s) (hi : 0 < i) (hs : i < s) :
    nextIndex s (internalizeIndex h s (i - 1)) = internalizeIndex h s i := by
  obtain ⟨j, rfl⟩ : ∃ j, i = j + 1 := ⟨i - 1, (Nat.sub_add_cancel hi).symm⟩
  exact next_intern hh hs

/-- `n` steps on and `n` steps back with the wrap-around of `RemoveTailMulti` (`_tailIndex -= n`) -/
theorem intern_back {p s n : Nat} (hp : p < s) (hn : n ≤ s) :
    (if internalizeIndex p s n < n then internalizeIndex p s n + s else internalizeIndex p s n) - n = p := by
  rcases Nat.lt_or_ge (p + n) s with a | a
  · rw [intern_of_lt a, if_neg (Nat.not_lt.2 (Nat.le_add_left _ _)), Nat.add_sub_cancel]
  · rw [intern_of_ge a, if_pos (by omega)]; omega

theorem intern_sub {h s i n : Nat} (hh : h < s) (hi : i < s) (hn : n ≤ i) :
    (if internalizeIndex h s i < n then internalizeIndex h s i + s else internalizeIndex h s i) - n = internalizeIndex h s (i - n) := by
  obtain ⟨e, rfl⟩ : ∃ e, i = e + n := ⟨i - n, (Nat.sub_add_cancel hn).symm⟩
  rw [Nat.add_sub_cancel, ← intern_add hh hi]
  exact intern_back (intern_lt (by omega)) (by omega)

/-- slot `j` holds a visible item -/
def inWin (q : Ring α) (j : Nat) : Prop :=
  (q.head ≤ j ∧ j < q.head + q.count) ∨ j + q.size < q.head + q.count

/-- the representation invariant of a `Queue` between two public calls: `cnt` the items fit into the array; `hd` the head is a
    slot of it; `tl` the tail is the slot of the last item (derived: head and count decide); `sb` while the inline buffer is
    idle it has its `sq` slots; `sm` when it is in use it is the array; `nl` no buffer, no slots -/
structure Inv (q : Ring α) : Prop where
  cnt : q.count ≤ q.size
  hd : 0 < q.size → q.head < q.size
  tl : 0 < q.count → q.tail = internalizeIndex q.head q.size (q.count - 1)
  sb : q.kind ≠ .small → q.sbuf.length = c.sq
  sm : q.kind = .small → q.size = c.sq
  nl : q.kind = .null → q.size = 0

/-- owning item types (`c.clear = true`): every slot outside the window, and the unused inline buffer, hold the default item -/
structure Clean (q : Ring α) : Prop where
  slots : ∀ j, j < q.size → ¬ inWin q j → q.slots.getD j c.junk = c.dflt
  sbuf : q.kind ≠ .small → ∀ j, j < c.sq → q.sbuf.getD j c.junk = c.dflt

def Good (q : Ring α) : Prop := Inv c q ∧ (c.clear = true → Clean c q)

/-! `get` on all of `[0, size)`: below `count` the items, from `count` on the hidden slots in ring order. -/

theorem phys_def (q : Ring α) (i : Nat) : q.phys i = internalizeIndex q.head q.size i := rfl

theorem phys_of_lt {q : Ring α} {i : Nat} (h : q.head + i < q.size) : q.phys i = q.head + i := intern_of_lt h

theorem phys_of_ge {q : Ring α} {i : Nat} (h : q.size ≤ q.head + i) : q.phys i = q.head + i - q.size := intern_of_ge h

theorem phys_zero {q : Ring α} (hh : q.head < q.size) : q.phys 0 = q.head := phys_of_lt hh

theorem get_def (q : Ring α) (i : Nat) : q.get c i = q.slots.getD (q.phys i) c.junk := rfl

@[simp] theorem abs_length (q : Ring α) : (q.abs c).length = q.count := by simp [Ring.abs]

theorem abs_getElem (q : Ring α) (i : Nat) (h : i < (q.abs c).length) : (q.abs c)[i] = q.get c i := by
  simp [Ring.abs]

theorem abs_getElem? (q : Ring α) (k : Nat) (h : k < q.count) : (q.abs c)[k]? = some (q.get c k) := by
  rw [List.getElem?_eq_getElem (by simpa using h), abs_getElem]

theorem abs_getD (q : Ring α) (i : Nat) (h : i < q.count) (d : α) : (q.abs c).getD i d = q.get c i := by
  rw [List.getD_eq_getElem?_getD, abs_getElem? c q i h, Option.getD_some]

theorem abs_eq (q : Ring α) (l : List α) (hl : q.count = l.length)
    (h : ∀ i (hi : i < l.length), q.get c i = l[i]) : q.abs c = l := by
  apply List.ext_getElem
  · simp [hl]
  · intro i h1 h2
    rw [abs_getElem]; exact h i h2

theorem abs_of_count_zero (q : Ring α) (h : q.count = 0) : q.abs c = [] := by
  apply List.eq_nil_of_length_eq_zero; simp [h]

theorem inWin_phys (q : Ring α) (k : Nat) (hk : k < q.size) :
    inWin q (q.phys k) ↔ k < q.count := by
  unfold inWin
  rcases Nat.lt_or_ge (q.head + k) q.size with a | a
  · rw [phys_of_lt a]; omega
  · rw [phys_of_ge a]; omega

/-- the clauses of `Good` untouched by whatever happens inside the array -/
structure Housing (q : Ring α) : Prop where
  sb : q.kind ≠ .small → q.sbuf.length = c.sq
  sm : q.kind = .small → q.size = c.sq
  nl : q.kind = .null → q.size = 0
  idle : c.clear = true → q.kind ≠ .small → ∀ j, j < c.sq → q.sbuf.getD j c.junk = c.dflt

variable {c}

theorem Good.inv {q : Ring α} (hG : Good c q) : Inv c q := hG.1

theorem Good.cnt {q : Ring α} (hG : Good c q) : q.count ≤ q.size := hG.1.cnt

theorem Good.sb {q : Ring α} (hG : Good c q) (h : q.kind ≠ .small) : q.sbuf.length = c.sq := hG.1.sb h

theorem Good.sm {q : Ring α} (hG : Good c q) (h : q.kind = .small) : q.size = c.sq := hG.1.sm h

theorem Good.nl {q : Ring α} (hG : Good c q) (h : q.kind = .null) : q.size = 0 := hG.1.nl h

theorem Good.clean {q : Ring α} (hG : Good c q) (hcl : c.clear = true) : Clean c q := hG.2 hcl

theorem Good.head_lt {q : Ring α} (hG : Good c q) (h : 0 < q.size) : q.head < q.size := hG.1.hd h

theorem Good.tail_eq {q : Ring α} (hG : Good c q) (h : 0 < q.count) : q.tail = q.phys (q.count - 1) := hG.1.tl h

theorem Good.head_pos {q : Ring α} (hG : Good c q) (h : 0 < q.count) : q.head < q.size :=
  hG.head_lt (Nat.lt_of_lt_of_le h hG.cnt)

theorem Good.housing {q : Ring α} (hG : Good c q) : Housing c q :=
  ⟨hG.sb, hG.sm, hG.nl, fun hcl => (hG.clean hcl).sbuf⟩

theorem Housing.congr {q q' : Ring α} (h : Housing c q) (hk : q'.kind = q.kind) (hb : q'.sbuf = q.sbuf) (hs : q'.size = q.size) :
    Housing c q' := by
  constructor
  · rw [hk, hb]; exact h.sb
  · rw [hk, hs]; exact h.sm
  · rw [hk, hs]; exact h.nl
  · rw [hk, hb]; exact h.idle

/-- `Good` through `operator[]`: for owning item types every index from `count` on reads the default item -/
theorem Good.intro {q : Ring α} (hs : Housing c q) (cnt : q.count ≤ q.size) (hd : 0 < q.size → q.head < q.size)
    (tl : 0 < q.count → q.tail = q.phys (q.count - 1))
    (hz : c.clear = true → ∀ k, q.count ≤ k → k < q.size → q.get c k = c.dflt) : Good c q := by
  refine ⟨⟨cnt, hd, tl, hs.sb, hs.sm, hs.nl⟩, fun hcl => ⟨?_, hs.idle hcl⟩⟩
  intro j hj hw
  have hh := hd (by omega)
  obtain ⟨k, hk, rfl⟩ : ∃ k, k < q.size ∧ q.phys k = j := ⟨_, intern_lt (by omega), intern_inv hh hj⟩
  rw [inWin_phys q k hk] at hw
  exact hz hcl k (by omega) hk

theorem Good.get_dflt {q : Ring α} (hG : Good c q) (hcl : c.clear = true) {k : Nat} (h1 : q.count ≤ k) (h2 : k < q.size) :
    q.get c k = c.dflt := by
  have hh := hG.head_lt (by omega)
  apply (hG.clean hcl).slots (q.phys k) (intern_lt (by omega))
  rw [inWin_phys q k h2]; omega

theorem Good.slots_of_empty {q : Ring α} (hG : Good c q) (hcl : c.clear = true) (h0 : q.count = 0) (j : Nat) (hj : j < q.size) :
    q.slots.getD j c.junk = c.dflt := by
  have hh := hG.head_lt (by omega)
  exact (hG.clean hcl).slots j hj (by unfold inWin; omega)

variable (c)

/-- everything but the slot contents -/
structure SameShape (q' q : Ring α) : Prop where
  head : q'.head = q.head
  tail : q'.tail = q.tail
  count : q'.count = q.count
  kind : q'.kind = q.kind
  sbuf : q'.sbuf = q.sbuf
  size : q'.size = q.size

theorem SameShape.refl (q : Ring α) : SameShape q q := ⟨rfl, rfl, rfl, rfl, rfl, rfl⟩

theorem SameShape.trans {a b d : Ring α} (h1 : SameShape a b) (h2 : SameShape b d) : SameShape a d :=
  ⟨h1.head.trans h2.head, h1.tail.trans h2.tail, h1.count.trans h2.count, h1.kind.trans h2.kind, h1.sbuf.trans h2.sbuf,
    h1.size.trans h2.size⟩

theorem sameShape_put (q : Ring α) (i : Nat) (v : α) : SameShape (q.put i v) q :=
  ⟨rfl, rfl, rfl, rfl, rfl, List.length_set⟩

theorem SameShape.phys {q' q : Ring α} (sh : SameShape q' q) (k : Nat) : q'.phys k = q.phys k := by
  rw [phys_def, sh.head, sh.size]; rfl

variable {c} in
theorem SameShape.good {q' q : Ring α} (sh : SameShape q' q) (hG : Good c q)
    (hz : c.clear = true → ∀ k, q.count ≤ k → k < q.size → q'.get c k = c.dflt) : Good c q' := by
  refine Good.intro (hG.housing.congr sh.kind sh.sbuf sh.size) ?_ ?_ ?_ ?_
  · rw [sh.count, sh.size]; exact hG.cnt
  · rw [sh.head, sh.size]; exact hG.head_lt
  · rw [sh.count, sh.tail, sh.phys]; exact hG.tail_eq
  · rw [sh.count, sh.size]; exact hz

theorem get_put (q : Ring α) (hh : q.head < q.size) (i k : Nat) (v : α) (hi : i < q.size) (hk : k < q.size) :
    (q.put i v).get c k = if i = k then v else q.get c k := by
  rw [get_def, (sameShape_put q i v).phys]
  show (q.slots.set (q.phys i) v).getD (q.phys k) c.junk = _
  rw [getD_set']
  by_cases e : i = k
  · subst e; rw [if_pos ⟨rfl, intern_lt (by omega)⟩, if_pos rfl]
  · rw [if_neg (fun h => e (intern_inj hi hk h.1)), if_neg e]; rfl

variable {c} in
theorem Good.put {q : Ring α} (hG : Good c q) (i : Nat) (v : α) (hi : i < q.size)
    (hv : c.clear = true → q.count ≤ i → v = c.dflt) : Good c (q.put i v) := by
  apply (sameShape_put q i v).good hG
  intro hcl k h1 h2
  rw [get_put c q (hG.head_lt (by omega)) i k v hi h2]
  by_cases e : i = k
  · rw [if_pos e]; exact hv hcl (by omega)
  · rw [if_neg e]; exact hG.get_dflt hcl h1 h2

theorem abs_put (q : Ring α) (hh : q.head < q.size) (hc : q.count ≤ q.size) (i : Nat) (v : α) (hi : i < q.size) :
    (q.put i v).abs c = (q.abs c).set i v := by
  apply abs_eq
  · simp [Ring.put]
  · intro k hk
    simp only [List.length_set, abs_length] at hk
    rw [get_put c q hh i k v hi (by omega), List.getElem_set, abs_getElem]

/-- a raw write of `xs` into slots that do not wrap round is `(*this)[i+k] = xs[k]` -/
theorem overwriteAt_eq_putList (xs : List α) (q : Ring α) (hh : q.head < q.size) (i : Nat) (h1 : i + xs.length ≤ q.size)
    (h2 : q.phys i + xs.length ≤ q.size) :
    ({ q with slots := overwriteAt q.slots (q.phys i) xs } : Ring α) = q.putList i xs := by
  induction xs generalizing q i with
  | nil => rfl
  | cons x xs ih =>
    rw [List.length_cons] at h1 h2
    cases xs with
    | nil => rfl
    | cons y ys =>
      rw [List.length_cons] at h1 h2
      have sp := sameShape_put q i x
      have hn : q.phys i + 1 = q.phys (i + 1) := by
        have e : nextIndex q.size (q.phys i) = q.phys (i + 1) := next_intern hh (by omega)
        rw [← e, nextIndex, if_neg (by omega)]
      have := ih (q.put i x) (by rw [sp.head, sp.size]; exact hh) (i + 1) (by rw [sp.size, List.length_cons]; omega)
        (by rw [sp.phys, sp.size, List.length_cons, ← hn]; omega)
      rw [sp.phys, ← hn] at this
      exact this

/-- `r` shows, of the array of `q`, the `m` items that start at item `n` (counted round the ring).  The last of them is item
    `internalizeIndex n size (m - 1)` of `q`, not `n + m - 1`: `InternalizeIndex` subtracts the size only once, and a window that has
    grown at the head starts at `n = size - 1` -/
structure Window (r q : Ring α) (n m : Nat) : Prop where
  slots : r.slots = q.slots
  kind : r.kind = q.kind
  sbuf : r.sbuf = q.sbuf
  head : r.head = q.phys n
  count : r.count = m
  tail : 0 < m → r.tail = q.phys (internalizeIndex n q.size (m - 1))

theorem Window.size {r q : Ring α} {n m : Nat} (w : Window r q n m) : r.size = q.size := congrArg List.length w.slots

theorem Window.of_tail {q : Ring α} {m t : Nat} (hd : q.head < q.size) (hm : m ≤ q.size) (ht : 0 < m → t = q.phys (m - 1)) :
    Window ({ q with tail := t, count := m } : Ring α) q 0 m :=
  ⟨rfl, rfl, rfl, (intern_of_lt (h := q.head) (i := 0) hd).symm, rfl, fun h => by
    have hlt : 0 + (m - 1) < q.size := by rw [Nat.zero_add]; exact Nat.lt_of_lt_of_le (Nat.sub_lt h Nat.one_pos) hm
    rw [intern_of_lt hlt, Nat.zero_add]; exact ht h⟩

/-- `q` is a well-formed Queue that shows the sequence `l`.  It is concluded from `Rep.flat` (the window starts at slot 0: a new
    array), from `Window.rep` (the window has moved on the same array) or from `Rep.put` and what is built on it (the items change, the
    window stays) -/
structure Rep (q : Ring α) (l : List α) : Prop where
  good : Good c q
  shows : q.abs c = l

section
variable {c} {q : Ring α} {l : List α}

theorem Good.rep (h : Good c q) : Rep c q (q.abs c) := ⟨h, rfl⟩

namespace Rep

theorem count (h : Rep c q l) : q.count = l.length := by rw [← h.shows, abs_length]

theorem get (h : Rep c q l) {i : Nat} (hi : i < l.length) : q.get c i = l[i] := by
  obtain ⟨_, rfl⟩ := h; exact (abs_getElem c q i hi).symm

theorem put (h : Rep c q l) {i : Nat} (hi : i < l.length) (v : α) : Rep c (q.put i v) (l.set i v) := by
  obtain ⟨hG, rfl⟩ := h
  rw [abs_length] at hi
  have hc := hG.cnt
  exact ⟨hG.put i v (by omega) (fun _ h => by omega), abs_put c q (hG.head_lt (by omega)) hc i v (by omega)⟩

/-! The same on a sequence that is given in parts: the position is the length of the part in front.  The loops of QEnds, QInner and QSearch
are stated in this form, so that what they do to the sequence is read off the parts and no position is computed. -/

theorem getAt {A C : List α} {b : α} (h : Rep c q (A ++ b :: C)) : q.get c A.length = b := by
  rw [h.get (i := A.length) (by rw [List.length_append, List.length_cons]; omega), List.getElem_append_right (Nat.le_refl _)]
  simp only [Nat.sub_self, List.getElem_cons_zero]

theorem putAt {A C : List α} {b : α} (h : Rep c q (A ++ b :: C)) (v : α) : Rep c (q.put A.length v) (A ++ v :: C) := by
  have := h.put (i := A.length) (by rw [List.length_append, List.length_cons]; omega) v
  rwa [List.set_append_right _ _ (Nat.le_refl _), Nat.sub_self, List.set_cons_zero] at this

theorem copyUp {P R S : List α} {x y : α} (h : Rep c q (P ++ x :: (R ++ y :: S))) :
    Rep c (q.put (P.length + (R.length + 1)) (q.get c P.length)) (P ++ x :: (R ++ x :: S)) := by
  have h' : Rep c q ((P ++ x :: R) ++ y :: S) := by rw [List.append_assoc, List.cons_append]; exact h
  have := h'.putAt x
  rw [h.getAt]
  rwa [List.length_append, List.length_cons, List.append_assoc, List.cons_append] at this

theorem copyDown {P R S : List α} {x y : α} (h : Rep c q (P ++ x :: (R ++ y :: S))) :
    Rep c (q.put P.length (q.get c (P.length + (R.length + 1)))) (P ++ y :: (R ++ y :: S)) := by
  have h' : Rep c q ((P ++ x :: R) ++ y :: S) := by rw [List.append_assoc, List.cons_append]; exact h
  have hy := h'.getAt
  rw [List.length_append, List.length_cons] at hy
  rw [hy]; exact h.putAt y

/-- a ring whose window starts at slot 0 shows the first `count` slots and hides the rest -/
theorem flat {r : Ring α} (hs : Housing c r) (hh : r.head = 0) (hc : r.count ≤ r.size) (ht : 0 < r.count → r.tail = r.count - 1)
    (hz : c.clear = true → ∀ x ∈ r.slots.drop r.count, x = c.dflt) : Rep c r (r.slots.take r.count) := by
  have hp : ∀ k, k < r.size → r.phys k = k := fun k hk => by rw [phys_of_lt (by omega), hh, Nat.zero_add]
  have hg : ∀ k (hk : k < r.slots.length), r.get c k = r.slots[k] := fun k hk => by
    rw [get_def, hp k hk, List.getD_eq_getElem?_getD, List.getElem?_eq_getElem hk]; rfl
  refine ⟨Good.intro hs hc (fun h => by rw [hh]; exact h) ?_ ?_, abs_eq c r _ ?_ (fun i hi => ?_)⟩
  · intro h; rw [ht h, hp _ (by omega)]
  · intro hcl k h1 h2
    have hk : k - r.count < (r.slots.drop r.count).length := by rw [List.length_drop]; exact Nat.sub_lt_sub_right h1 h2
    have := List.getElem_mem hk
    rw [List.getElem_drop, ← hg _ (by rw [List.length_drop] at hk; omega), show r.count + (k - r.count) = k by omega] at this
    exact hz hcl _ this
  · rw [List.length_take]; exact (Nat.min_eq_left hc).symm
  · rw [List.getElem_take, hg]

end Rep

end

theorem getElem?_rot (l : List α) (h i : Nat) (hh : h ≤ l.length) (hi : i < l.length) :
    (l.drop h ++ l.take h)[i]? = l[internalizeIndex h l.length i]? := by
  rcases Nat.lt_or_ge (h + i) l.length with a | a
  · rw [intern_of_lt a, List.getElem?_append_left (by rw [List.length_drop]; omega), List.getElem?_drop]
  · rw [intern_of_ge a, List.getElem?_append_right (by rw [List.length_drop]; omega), List.getElem?_take, List.length_drop,
      if_pos (by omega)]
    congr 1; omega

/-- `[(*this)[0], …, (*this)[size-1]]`; the expression `Normalize()`'s rotation installs as the new array -/
def Ring.lay (q : Ring α) : List α := q.slots.drop q.head ++ q.slots.take q.head

theorem lay_length (q : Ring α) : q.lay.length = q.size := by
  rw [Ring.lay, List.length_append, List.length_drop, List.length_take, Ring.size]; omega

theorem lay_getElem (q : Ring α) (hh : q.head < q.size) (k : Nat) (hk : k < q.lay.length) : q.lay[k] = q.get c k := by
  have hk' : k < q.size := by rw [← lay_length]; exact hk
  have hp : q.phys k < q.size := intern_lt (by omega)
  have e := getElem?_rot q.slots q.head k (Nat.le_of_lt hh) hk'
  rw [← Ring.lay, ← Ring.size, ← phys_def, List.getElem?_eq_getElem hk, List.getElem?_eq_getElem hp] at e
  rw [Option.some.inj e, get_def, List.getD_eq_getElem?_getD, List.getElem?_eq_getElem hp]; rfl

theorem mem_lay (q : Ring α) {x : α} (h : x ∈ q.slots) : x ∈ q.lay := by
  rw [← List.take_append_drop q.head q.slots] at h
  exact List.mem_append.2 ((List.mem_append.1 h).symm)

theorem abs_eq_take (q : Ring α) (hh : q.head < q.size) (hc : q.count ≤ q.size) : q.abs c = q.lay.take q.count := by
  refine abs_eq c q _ (by rw [List.length_take, lay_length]; omega) (fun i hi => ?_)
  rw [List.getElem_take, lay_getElem c q hh]

section
variable {c}

theorem Good.of_lay {q : Ring α} (hs : Housing c q) (cnt : q.count ≤ q.size) (hd : q.head < q.size)
    (tl : 0 < q.count → q.tail = q.phys (q.count - 1)) (hz : c.clear = true → ∀ x ∈ q.lay.drop q.count, x = c.dflt) : Good c q := by
  refine Good.intro hs cnt (fun _ => hd) tl (fun hcl k h1 h2 => hz hcl _ ?_)
  have hk : k - q.count < (q.lay.drop q.count).length := by rw [List.length_drop, lay_length]; omega
  have := List.getElem_mem hk
  rwa [List.getElem_drop, lay_getElem c q hd, show q.count + (k - q.count) = k by omega] at this

theorem Good.hidden {q : Ring α} (hG : Good c q) (hcl : c.clear = true) (hd : q.head < q.size) :
    ∀ x ∈ q.lay.drop q.count, x = c.dflt := by
  intro x hx
  obtain ⟨k, hk, rfl⟩ := List.mem_iff_getElem.1 hx
  rw [List.length_drop, lay_length] at hk
  rw [List.getElem_drop, lay_getElem c q hd]
  exact hG.get_dflt hcl (by omega) (by omega)

end

theorem lay_put (q : Ring α) (hh : q.head < q.size) (i : Nat) (v : α) (hi : i < q.size) : (q.put i v).lay = q.lay.set i v := by
  have hL : q.lay.length = q.slots.length := lay_length q
  unfold Ring.size at hh hi
  apply List.ext_getElem?
  intro k
  rcases Nat.lt_or_ge k q.slots.length with hk | hk
  · have e := getElem?_rot (q.slots.set (q.phys i) v) q.head k (by rw [List.length_set]; exact Nat.le_of_lt hh)
      (by rw [List.length_set]; exact hk)
    rw [List.length_set] at e
    refine e.trans ?_
    rw [List.getElem?_set, List.getElem?_set, hL, Ring.lay, getElem?_rot q.slots q.head k (Nat.le_of_lt hh) hk, Ring.phys, Ring.size]
    by_cases a : i = k
    · subst a
      rw [if_pos rfl, if_pos rfl, if_pos (intern_lt (by omega)), if_pos hi]
    · rw [if_neg a, if_neg (fun h => a (intern_inj hi hk h))]
  · have hP : (q.put i v).lay.length = q.slots.length := (lay_length _).trans List.length_set
    rw [List.getElem?_eq_none (by rw [hP]; exact hk), List.getElem?_eq_none (by rw [List.length_set, hL]; exact hk)]

/-- `(*this)[s+k] = xs[k]` -/
theorem lay_putList (xs : List α) (q : Ring α) (hh : q.head < q.size) (s : Nat) (h : s + xs.length ≤ q.size) :
    SameShape (q.putList s xs) q ∧ (q.putList s xs).lay = q.lay.take s ++ xs ++ q.lay.drop (s + xs.length) := by
  induction xs generalizing q s with
  | nil => exact ⟨SameShape.refl q, by rw [List.append_nil, List.length_nil, Nat.add_zero, List.take_append_drop]; rfl⟩
  | cons x xs ih =>
    rw [List.length_cons] at h
    have sp := sameShape_put q s x
    obtain ⟨sh, a⟩ := ih (q.put s x) (by rw [sp.head, sp.size]; exact hh) (s + 1) (by rw [sp.size]; omega)
    refine ⟨sh.trans sp, a.trans ?_⟩
    rw [lay_put q hh s x (by omega), take_succ_set _ _ _ (by rw [lay_length]; omega), List.drop_set_of_lt (by omega),
      List.length_cons, show s + 1 + xs.length = s + (xs.length + 1) by omega]
    simp

theorem Window.lay {r q : Ring α} {n m : Nat} (w : Window r q n m) (hh : q.head < q.size) (hn : n ≤ q.size) :
    r.lay = q.lay.drop n ++ q.lay.take n := by
  have hL : q.lay.length = q.slots.length := lay_length q
  have hR : r.lay.length = q.slots.length := (lay_length r).trans w.size
  unfold Ring.size at hh hn
  have hl : (q.lay.drop n ++ q.lay.take n).length = q.slots.length := by
    rw [List.length_append, List.length_drop, List.length_take, hL]; omega
  apply List.ext_getElem?
  intro k
  rcases Nat.lt_or_ge k q.slots.length with hk | hk
  · have hp : internalizeIndex q.head q.slots.length n < q.slots.length := intern_lt (by omega)
    have hi : internalizeIndex n q.slots.length k < q.slots.length := intern_lt (by omega)
    rw [Ring.lay, w.slots, w.head, Ring.phys, Ring.size, getElem?_rot q.slots _ k (Nat.le_of_lt hp) hk,
      getElem?_rot q.lay n k (by rw [hL]; exact hn) (by rw [hL]; exact hk), hL, Ring.lay,
      getElem?_rot q.slots q.head _ (Nat.le_of_lt hh) hi]
    exact congrArg (fun j => q.slots[j]?) (intern_assoc hh hn hk)
  · rw [List.getElem?_eq_none (by rw [hR]; exact hk), List.getElem?_eq_none (by rw [hl]; exact hk)]

section
variable {c}

theorem Window.rep {r q : Ring α} {n m : Nat} (w : Window r q n m) (hs : Housing c q) (hh : q.head < q.size) (hn : n ≤ q.size)
    (hm : m ≤ q.size) (hz : c.clear = true → ∀ x ∈ (q.lay.drop n ++ q.lay.take n).drop m, x = c.dflt) :
    Rep c r ((q.lay.drop n ++ q.lay.take n).take m) := by
  have hr : r.head < r.size := by rw [w.head, w.size]; exact intern_lt (by omega)
  have e := w.lay hh hn
  have hrc : r.count ≤ r.size := by rw [w.count, w.size]; exact hm
  refine ⟨Good.of_lay (hs.congr w.kind w.sbuf w.size) hrc hr ?_ (by rw [e, w.count]; exact hz), by rw [abs_eq_take c r hr hrc, e, w.count]⟩
  rw [w.count]; intro h
  rw [w.tail h, phys_def, phys_def, w.head, w.size]; exact (intern_assoc hh (by omega) (by omega)).symm

/-- the window still ends at the tail, whether it has shrunk (`n + m = count`) or has grown at the head, round the ring
    (`n + m = count + size`) -/
theorem Window.of_head {q : Ring α} {n m h' : Nat} (hG : Good c q) (hh : h' = q.phys n) (hp : 0 < q.count)
    (hnm : n + m = q.count ∨ n + m = q.count + q.size) : Window ({ q with head := h', count := m } : Ring α) q n m :=
  ⟨rfl, rfl, rfl, hh, rfl, fun hm => by
    obtain ⟨k, rfl⟩ : ∃ k, m = k + 1 := ⟨m - 1, (Nat.sub_add_cancel hm).symm⟩
    have := hG.cnt
    show q.tail = _
    rw [hG.tail_eq hp, Nat.add_sub_cancel]
    rcases hnm with e | e
    · rw [intern_of_lt (by omega), ← e, ← Nat.add_assoc, Nat.add_sub_cancel]
    · rw [intern_of_ge (by omega)]; congr 1; omega⟩

theorem Window.grow_tail {r q : Ring α} {m : Nat} (w : Window r q 0 m) (hG : Good c q) (hh : q.head < q.size) (h1 : q.count ≤ m)
    (h2 : m ≤ q.size) : Rep c r (q.abs c ++ (q.lay.drop q.count).take (m - q.count)) := by
  have e : q.lay.drop m = (q.lay.drop q.count).drop (m - q.count) := by rw [List.drop_drop]; congr 1; omega
  have := w.rep hG.housing hh (by omega) h2 (by
    intro hcl x hx
    rw [List.drop_zero, List.take_zero, List.append_nil, e] at hx
    exact hG.hidden hcl hh x (List.mem_of_mem_drop hx))
  rwa [List.drop_zero, List.take_zero, List.append_nil, show m = q.count + (m - q.count) by omega, List.take_add,
    ← abs_eq_take c q hh hG.cnt] at this

/-- what the window no longer shows must have been reset (owning item types) -/
theorem Window.sub {r q : Ring α} {n m : Nat} (w : Window r q n m) (hG : Good c q) (hnm : n + m ≤ q.count) (hp : 0 < q.count)
    (hz : c.clear = true → ∀ k, k < q.count → (k < n ∨ n + m ≤ k) → q.get c k = c.dflt) :
    Rep c r (((q.abs c).drop n).take m) := by
  have hc := hG.cnt
  have hh := hG.head_pos hp
  have hL := lay_length q
  have hdl : (q.lay.drop n).length = q.size - n := by rw [List.length_drop, hL]
  have := w.rep hG.housing hh (by omega) (by omega) (by
    -- hidden now: the layout from `n + m` on, and its first `n` items
    intro hcl x hx
    rw [List.drop_append_of_le_length (by rw [hdl]; omega), List.drop_drop] at hx
    rcases List.mem_append.1 hx with a | a
    · obtain ⟨k, hk, rfl⟩ := List.mem_iff_getElem.1 a
      rw [List.length_drop, hL] at hk
      rw [List.getElem_drop, lay_getElem c q hh]
      by_cases hb : n + m + k < q.count
      · exact hz hcl _ hb (Or.inr (Nat.le_add_right _ _))
      · exact hG.get_dflt hcl (Nat.le_of_not_lt hb) (Nat.add_lt_of_lt_sub' hk)
    · obtain ⟨k, hk, rfl⟩ := List.mem_iff_getElem.1 a
      rw [List.length_take, hL] at hk
      rw [List.getElem_take, lay_getElem c q hh]
      have hkn : k < n := Nat.lt_of_lt_of_le hk (Nat.min_le_left _ _)
      exact hz hcl _ (Nat.lt_of_lt_of_le hkn (Nat.le_trans (Nat.le_add_right n m) hnm)) (Or.inl hkn))
  rw [List.take_append_of_le_length (by rw [hdl]; omega)] at this
  rwa [abs_eq_take c q hh hc, List.drop_take, List.take_take, Nat.min_eq_left (by omega)]

/-- `RemoveHead`/`RemoveTail`: item `i` at one end leaves the window; for owning item types its slot `j` is reset -/
theorem Window.drop_end {r q : Ring α} {n m i j : Nat} (w : Window r q n m) (hG : Good c q) (hi : i < q.count) (hj : j = q.phys i)
    (hnm : n + m ≤ q.count) (hcov : ∀ k, k < q.count → (k < n ∨ n + m ≤ k) → k = i) (hout : i < n ∨ n + m ≤ i) :
    Rep c (if c.clear = true then ({ r with slots := r.slots.set j c.dflt } : Ring α) else r) (((q.abs c).drop n).take m) := by
  have hc := hG.cnt
  have hh := hG.head_lt (by omega)
  cases hcl : c.clear
  · exact w.sub hG hnm (by omega) (fun h => by rw [hcl] at h; cases h)
  · have sp := sameShape_put q i c.dflt
    have w1 : Window ({ r with slots := r.slots.set j c.dflt } : Ring α) (q.put i c.dflt) n m :=
      ⟨by rw [w.slots, hj]; rfl, w.kind, w.sbuf, by rw [sp.phys]; exact w.head, w.count,
        fun h => by rw [sp.phys, sp.size]; exact w.tail h⟩
    obtain ⟨g, a⟩ := w1.sub (hG.put i c.dflt (by omega) (fun _ _ => rfl)) (by rw [sp.count]; exact hnm) (by rw [sp.count]; omega)
      (fun _ k hk' hk => by
        rw [sp.count] at hk'
        rw [hcov k hk' hk, get_put c q hh i i _ (by omega) (by omega), if_pos rfl])
    refine ⟨g, a.trans ?_⟩
    rw [abs_put c q hh hc i _ (by omega)]
    rcases hout with h | h
    · rw [List.drop_set_of_lt h]
    · rw [List.drop_set, if_neg (by omega), List.take_set_of_le (by omega)]

end

end Muscle.Containers
