import MuscleModel.Reflector.NoSlash

/-!
# `MirrorOK` node by node

When no node name contains `/` (`NS`) a path string belongs to at most one existing node, so `MirrorOK sv s m` says: at the path
string of every existing node the mirror holds `expected`, and nothing anywhere else (`mirrorOK_iff_nodes`).  A list of events
that holds at most one event per visited node, at that node's path (`nodeEvs`: the snapshot, the re-filter), is evaluated at a
node the same way (`nodeFold_node`).  A step that changes the whole mirror at once is then right if, node by node, the event
leads from the old `expected` value to the new one.
-/


namespace Muscle.Reflector
open Muscle

def IsPath (sv : Server) (p : Bytes) : Prop := ∃ v n, v ≠ [] ∧ getNode sv v = some n ∧ pathString v = p

theorem node_unique {sv : Server} (hNS : NS sv) {w v : List Bytes} {nw nv : Node} (hw : getNode sv w = some nw)
    (hv : getNode sv v = some nv) (hp : pathString w = pathString v) : w = v ∧ nw = nv := by
  obtain rfl := pathString_inj w v (hNS.names hw) (hNS.names hv) hp
  exact ⟨rfl, Option.some.inj (hw.symm.trans hv)⟩

theorem visits_at {sv : Server} {V : List Visit} {Q : Visit → Node → Prop}
    (hV : ∀ w, w ∈ V ↔ ∃ n, w ≠ [] ∧ getNode sv w = some n ∧ Q w n) {v : List Bytes} {n : Node} (hv : v ≠ [])
    (hn : getNode sv v = some n) : v ∈ V ↔ Q v n := by
  rw [hV]
  exact ⟨fun ⟨n', _, hn', hq⟩ => Option.some.inj (hn'.symm.trans hn) ▸ hq, fun hq => ⟨n, hv, hn, hq⟩⟩

theorem visits_ne_nil {sv : Server} {V : List Visit} {Q : Visit → Node → Prop}
    (hV : ∀ w, w ∈ V ↔ ∃ n, w ≠ [] ∧ getNode sv w = some n ∧ Q w n) : ∀ v ∈ V, v ≠ [] :=
  fun v hv => let ⟨_, h, _⟩ := (hV v).1 hv; h

theorem matches_node {sv : Server} (hNS : NS sv) {s : Sess} {v : List Bytes} {n : Node} (hv : v ≠ [])
    (hn : getNode sv v = some n) (d : Option Nat) :
    Matches sv s (pathString v) d ↔ expected s v (some n.data) = some d := by
  rw [matches_at hv (hNS.unamb (hNS.names hn)) d, hn]; rfl

theorem mirrorOK_iff_nodes {sv : Server} (hNS : NS sv) {s : Sess} {m : Mirror} :
    MirrorOK sv s m ↔
      (∀ v n, v ≠ [] → getNode sv v = some n → m (pathString v) = expected s v (some n.data)) ∧
      (∀ p, ¬ IsPath sv p → m p = none) := by
  constructor
  · intro hm
    refine ⟨fun v n hv hn => ?_, fun p hp => ?_⟩
    · have := mirror_at hm hv (hNS.unamb (hNS.names hn))
      rw [hn] at this; exact this
    · cases h : m p with
      | none => rfl
      | some d =>
        obtain ⟨v, n, hv, hn, hpv, _⟩ := (hm p d).1 h
        exact absurd ⟨v, n, hv, hn, hpv⟩ hp
  · rintro ⟨h1, h2⟩ p d
    by_cases hp : IsPath sv p
    · obtain ⟨v, n, hv, hn, rfl⟩ := hp
      rw [h1 v n hv hn, matches_node hNS hv hn]
    · rw [h2 p hp]
      constructor
      · intro h; cases h
      · rintro ⟨v, n, hv, hn, hpv, _⟩; exact absurd ⟨v, n, hv, hn, hpv⟩ hp

theorem wants_of_subs {s : Sess} {pm : PM} (h : s.subs = pm) (v : List Bytes) (d : Option Nat) :
    wants s v d = pmMatchesPath pm v true d := by
  unfold wants; rw [h]

theorem wants_nosubs {s : Sess} (h : s.subs = []) (v : List Bytes) (d : Option Nat) : wants s v d = false := by
  rw [wants_of_subs h]; simp [pmMatchesPath, pmGroup]

theorem mirrorOK_nosubs (sv : Server) {s : Sess} (h : s.subs = []) : MirrorOK sv s (fun _ => none) := by
  intro p d
  constructor
  · intro e; cases e
  · rintro ⟨v, n, _, _, _, _, hw, _⟩
    rw [wants_nosubs h] at hw
    cases hw

theorem expected_some (s : Sess) (v : List Bytes) (d : Option Nat) :
    expected s v (some d) = if visible s v && wants s v d then some d else none := by
  unfold expected entryFor
  cases h1 : visible s v <;> cases h2 : wants s v d <;> simp [h2]

theorem visible_congr {s t : Sess} (hsid : t.sid = s.sid) (hrs : t.reflectSelf = s.reflectSelf) (v : List Bytes) :
    visible t v = visible s v := by
  unfold visible; rw [hsid, hrs]

def evPath : Ev → Bytes
  | .set p _ => p
  | .removed p => p

def evVal : Ev → Option (Option Nat)
  | .set _ d => some d
  | .removed _ => none

theorem applyEv_val (m : Mirror) (ev : Ev) (p : Bytes) : applyEv m ev p = if p = evPath ev then evVal ev else m p := by
  cases ev <;> rfl

theorem evPath_evOf (p : Bytes) (d : Option Nat) (r : Bool) : evPath (evOf p d r) = p := by cases r <;> rfl

theorem evVal_evOf (p : Bytes) (d : Option Nat) (r : Bool) : evVal (evOf p d r) = if r then none else some d := by
  cases r <;> rfl

theorem foldEv_untouched (evs : List Ev) (m : Mirror) (p : Bytes) (h : ∀ ev ∈ evs, evPath ev ≠ p) :
    (evs.foldl applyEv m) p = m p := by
  induction evs generalizing m with
  | nil => rfl
  | cons ev r ih =>
    rw [List.foldl_cons, ih _ (fun x hx => h x (List.mem_cons_of_mem _ hx)), applyEv_val,
      if_neg (fun e => h ev List.mem_cons_self e.symm)]

theorem foldEv_hit (evs : List Ev) (m : Mirror) (ev0 : Ev) (h : ∀ ev ∈ evs, evPath ev = evPath ev0 → ev = ev0)
    (hin : ev0 ∈ evs) : (evs.foldl applyEv m) (evPath ev0) = evVal ev0 := by
  induction evs generalizing m with
  | nil => cases hin
  | cons ev r ih =>
    rw [List.foldl_cons]
    have hr := fun x hx => h x (List.mem_cons_of_mem _ hx)
    by_cases hinr : ev0 ∈ r
    · exact ih _ hr hinr
    · obtain rfl : ev0 = ev := (List.mem_cons.1 hin).resolve_right hinr
      rw [foldEv_untouched r _ _ (fun x hx hp => hinr (hr x hx hp ▸ hx)), applyEv_val, if_pos rfl]

def nodeEvs (g : Visit → Node → Option Ev) (sv : Server) (V : List Visit) : List Ev :=
  V.filterMap (fun v => (getNode sv v).bind (g v))

theorem mem_nodeEvs {g : Visit → Node → Option Ev} {sv : Server} {V : List Visit} {ev : Ev} :
    ev ∈ nodeEvs g sv V ↔ ∃ v ∈ V, ∃ n, getNode sv v = some n ∧ g v n = some ev := by
  unfold nodeEvs
  rw [List.mem_filterMap]
  constructor
  · rintro ⟨v, hv, h⟩
    cases hn : getNode sv v with
    | none => rw [hn] at h; cases h
    | some n => rw [hn] at h; exact ⟨v, hv, n, hn, h⟩
  · rintro ⟨v, hv, n, hn, h⟩
    exact ⟨v, hv, by rw [hn]; exact h⟩

theorem nodeEvs_at {sv : Server} (hNS : NS sv) {g : Visit → Node → Option Ev}
    (hg : ∀ v n ev, g v n = some ev → evPath ev = pathString v) {V : List Visit} {v : List Bytes} {n : Node}
    (hn : getNode sv v = some n) {ev : Ev} (hev : ev ∈ nodeEvs g sv V) (hp : evPath ev = pathString v) :
    v ∈ V ∧ g v n = some ev := by
  obtain ⟨w, hw, nw, hnw, he⟩ := mem_nodeEvs.1 hev
  obtain ⟨rfl, rfl⟩ := node_unique hNS hnw hn ((hg w nw ev he).symm.trans hp)
  exact ⟨hw, he⟩

theorem nodeFold_node {sv : Server} (hNS : NS sv) {g : Visit → Node → Option Ev}
    (hg : ∀ v n ev, g v n = some ev → evPath ev = pathString v) (V : List Visit) (m : Mirror) {v : List Bytes} {n : Node}
    (hn : getNode sv v = some n) :
    ((nodeEvs g sv V).foldl applyEv m) (pathString v) =
      if v ∈ V then (match g v n with | some ev => evVal ev | none => m (pathString v)) else m (pathString v) := by
  have hnone : (∀ ev, ¬ (v ∈ V ∧ g v n = some ev)) → ((nodeEvs g sv V).foldl applyEv m) (pathString v) = m (pathString v) :=
    fun h => foldEv_untouched _ _ _ (fun ev hev hp => h ev (nodeEvs_at hNS hg hn hev hp))
  by_cases hv : v ∈ V
  · rw [if_pos hv]
    cases he : g v n with
    | none => exact hnone (fun ev h => by rw [he] at h; cases h.2)
    | some ev =>
      have hp := hg v n ev he
      rw [← hp]
      exact foldEv_hit _ m ev (fun ev' hev' hp' => Option.some.inj ((nodeEvs_at hNS hg hn hev' (hp'.trans hp)).2.symm.trans he))
        (mem_nodeEvs.2 ⟨v, hv, n, hn, he⟩)
  · rw [if_neg hv]; exact hnone (fun ev h => hv h.1)

theorem nodeFold_nopath {sv : Server} {g : Visit → Node → Option Ev}
    (hg : ∀ v n ev, g v n = some ev → evPath ev = pathString v) (V : List Visit) (hV : ∀ v ∈ V, v ≠ []) (m : Mirror) {p : Bytes}
    (hp : ¬ IsPath sv p) : ((nodeEvs g sv V).foldl applyEv m) p = m p := by
  refine foldEv_untouched _ _ _ (fun ev hev he => ?_)
  obtain ⟨w, hw, nw, hnw, h⟩ := mem_nodeEvs.1 hev
  exact hp ⟨w, nw, hV w hw, hnw, (hg w nw ev h).symm.trans he⟩

end Muscle.Reflector
