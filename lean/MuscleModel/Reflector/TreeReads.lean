import MuscleModel.Reflector.TravProofsCands
import MuscleModel.Reflector.IndexProofsTree
import MuscleModel.Reflector.Strip
import MuscleModel.Reflector.EffectSteps

/-!
# Reads of the tree after a write (lemmas for C04); `descendants`; subscriber tables

What `getNode` finds after each kind of write, through a projection that ignores the children: a field update shows at its own path only
(`getNode_setField_data`); the reference-count pass changes no payload and adjusts the tables on its paths (`subscribeRefs_payload`,
`foldl_adjustSubs_subs`); `PutChild` of a leaf and the removal of a child are one equation each (`getNode_putKid_leaf`, `getNode_removeKid`), with the
forms the marks and the mirror use as corollaries.  With distinct sibling names the brute-force enumeration `descendants` lists exactly the
nodes `nodeAt` finds below the root (`mem_descendants_iff`).
-/


namespace Muscle.Reflector
open Muscle

theorem getNode_setField_data {f : Node → Node} (hname : ∀ n, (f n).name = n.name) (hkids : ∀ n, (f n).kids = n.kids)
    (sv : Server) (v w : List Bytes) (hw : w ≠ v) :
    (getNode (setNode sv v f) w).map Node.data = (getNode sv w).map Node.data := by
  simp only [getNode, setNode, nodeAt_updateAt_proj Node.data (fun _ _ => rfl) hname hkids, hw, if_false]

theorem getNode_setField_data_all {f : Node → Node} (hname : ∀ n, (f n).name = n.name) (hkids : ∀ n, (f n).kids = n.kids)
    (hdata : ∀ n, (f n).data = n.data) (sv : Server) (v w : List Bytes) :
    (getNode (setNode sv v f) w).map Node.data = (getNode sv w).map Node.data := by
  simp only [getNode, setNode, nodeAt_updateAt_proj Node.data (fun _ _ => rfl) hname hkids, hdata, ite_self]

/-- By induction on the fuel, one level at a time: `descendants` lists each child `k` under `pre ++ [k.name]` followed by
    `k`'s own descendants under that prefix, `nodeAt` steps to the child `findKid` returns for the first name.  The two agree
    because sibling names are distinct: `findKid k.name` returns `k` itself (`findKid_of_mem`). -/
theorem mem_descendants_iff : ∀ (fuel : Nat) (n : Node) (pre v : List Bytes) (t : Node),
    kidsNodup fuel n = true →
    ((pre ++ v, t) ∈ descendants fuel n pre ↔ v ≠ [] ∧ nodeAt fuel n v = some t) := by
  intro fuel
  induction fuel with
  | zero =>
    intro n pre v t _
    simp only [descendants, List.not_mem_nil, false_iff, not_and]
    intro hv
    cases v with
    | nil => exact absurd rfl hv
    | cons a r => simp [nodeAt_zero_cons]
  | succ fuel ih =>
    intro n pre v t hk
    obtain ⟨hnd, hkids⟩ := kidsNodup_succ hk
    rw [descendants, List.mem_flatMap]
    constructor
    · rintro ⟨k, hkm, hmem⟩
      rcases List.mem_cons.1 hmem with heq | hmem
      · simp only [Prod.mk.injEq, List.append_cancel_left_eq] at heq
        obtain ⟨hv, ht⟩ := heq
        subst hv ht
        refine ⟨by simp, ?_⟩
        rw [nodeAt_succ_cons, findKid_of_mem hnd hkm]
        simp [nodeAt_nil]
      · obtain ⟨hp, _⟩ := descendants_prefix fuel k _ _ hmem
        obtain ⟨u, hu⟩ := hp
        simp only [List.append_assoc] at hu
        have hv : v = [k.name] ++ u := (List.append_cancel_left hu).symm
        subst hv
        have hmem' : ((pre ++ [k.name]) ++ u, t) ∈ descendants fuel k (pre ++ [k.name]) := by
          simpa [List.append_assoc] using hmem
        obtain ⟨hu0, hnode⟩ := (ih k (pre ++ [k.name]) u t (hkids k hkm)).1 hmem'
        refine ⟨by simp, ?_⟩
        rw [List.singleton_append, nodeAt_succ_cons, findKid_of_mem hnd hkm]
        exact hnode
    · rintro ⟨hv, hnode⟩
      cases v with
      | nil => exact absurd rfl hv
      | cons a r =>
        rw [nodeAt_succ_cons] at hnode
        cases hf : findKid a n.kids with
        | none => rw [hf] at hnode; cases hnode
        | some k =>
          rw [hf] at hnode
          simp only [] at hnode
          have hkm := findKid_some_mem hf
          have hkn : k.name = a := findKid_name hf
          refine ⟨k, hkm, ?_⟩
          cases r with
          | nil =>
            rw [nodeAt_nil] at hnode
            cases hnode
            rw [hkn]; exact List.mem_cons_self
          | cons b r' =>
            apply List.mem_cons_of_mem
            have := (ih k (pre ++ [k.name]) (b :: r') t (hkids k hkm)).2 ⟨by simp, hnode⟩
            rw [hkn] at this ⊢
            simpa [List.append_assoc] using this

theorem adjustSubs_keys_nodup (subs : List (Nat × Nat)) (sid : Nat) (delta : Option Int)
    (h : (subs.map (·.1)).Nodup) : ((adjustSubs subs sid delta).map (·.1)).Nodup := by
  rw [adjustSubs_eq]
  generalize adjNew (subCount subs sid) delta = new
  split
  · split
    · have : (subs.map (fun (k, c) => if k = sid then (k, new) else (k, c))).map (·.1) = subs.map (·.1) := by
        rw [List.map_map]
        apply List.map_congr_left
        intro ⟨k, c⟩ _
        simp only [Function.comp]
        split <;> rfl
      rw [this]; exact h
    · rename_i hany
      rw [List.map_append, List.nodup_append]
      refine ⟨h, by simp, ?_⟩
      intro a ha b hb
      simp only [List.map_cons, List.map_nil, List.mem_singleton] at hb
      subst hb
      intro e; subst e
      apply hany
      obtain ⟨x, hx, hx1⟩ := List.mem_map.1 ha
      rw [List.any_eq_true]
      exact ⟨x, hx, by obtain ⟨k, c⟩ := x; simpa using hx1⟩
  · exact (List.filter_sublist.map _).nodup h

theorem subCount_of_mem {subs : List (Nat × Nat)} (h : (subs.map (·.1)).Nodup) {k c : Nat} (hm : (k, c) ∈ subs) :
    subCount subs k = c := by
  unfold subCount
  rw [show (fun (x : Nat × Nat) => match x with | (k', _) => decide (k' = k)) = (fun p => decide (p.1 = k)) from
    funext fun ⟨_, _⟩ => rfl, find_of_mem h hm]

/-- the reference-count pass (`DoSubscribeRefCallback` over the visits of a traversal) changes no payload -/
theorem subscribeRefs_payload (sv : Server) (sid : Nat) (pm : PM) (delta : Option Int) (w : List Bytes) :
    (getNode (subscribeRefs sv sid pm delta) w).map Node.data = (getNode sv w).map Node.data := by
  unfold subscribeRefs
  generalize travGlobal sv pm false cbContinue = V
  induction V generalizing sv with
  | nil => rfl
  | cons v r ih =>
    rw [List.foldl_cons, ih]
    exact getNode_setField_data_all (f := fun n => n.setSubs (adjustSubs n.subs sid delta)) (fun _ => rfl) (fun _ => rfl)
      (fun _ => rfl) sv v w

/-- the subscriber tables after the reference-count pass over pairwise distinct paths `V` -/
theorem foldl_adjustSubs_subs (sid : Nat) (delta : Option Int) : ∀ (V : List (List Bytes)) (sv : Server), V.Nodup → ∀ w,
    (getNode (V.foldl (fun sv v => setNode sv v (fun n => n.setSubs (adjustSubs n.subs sid delta))) sv) w).map Node.subs
      = ((getNode sv w).map Node.subs).map (fun s => if w ∈ V then adjustSubs s sid delta else s) := by
  intro V
  induction V with
  | nil => intro sv _ w; simp; rfl
  | cons v r ih =>
    intro sv hnd w
    simp only [List.nodup_cons] at hnd
    simp only [List.foldl_cons]
    rw [ih _ hnd.2 w]
    have h1 : (getNode (setNode sv v (fun n => n.setSubs (adjustSubs n.subs sid delta))) w).map Node.subs =
        ((getNode sv w).map Node.subs).map (fun s => if w = v then adjustSubs s sid delta else s) := by
      have := nodeAt_updateAt_proj Node.subs (fun _ _ => rfl) (f := fun n => n.setSubs (adjustSubs n.subs sid delta)) (fun _ => rfl) (fun _ => rfl)
        fuelDepth sv.root v w
      simp only [getNode, setNode]
      rw [this, Option.map_map]
      rfl
    rw [h1, Option.map_map]
    congr 1
    funext s
    simp only [Function.comp, List.mem_cons]
    by_cases hwv : w = v
    · subst hwv
      simp [hnd.1]
    · simp [hwv]

/-! ## reads after the two structural writes: a leaf put below `parent`, a child of `parent` removed -/

theorem nodeAt_nokids {root : Node} (h : root.kids.isEmpty = true) {v : List Bytes} (hv : v ≠ []) (fuel : Nat) :
    nodeAt fuel root v = none := by
  cases v with
  | nil => exact absurd rfl hv
  | cons a r =>
    cases fuel with
    | zero => rw [nodeAt_zero_cons]
    | succ k =>
      rw [nodeAt_succ_cons]
      have : root.kids = [] := by simpa using h
      rw [this]; rfl

theorem of_map_subs {n' : Node} {o : Option Node} (h : o.map Node.subs = some n'.subs) : ∃ n, o = some n ∧ n.subs = n'.subs := by
  cases o with
  | none => cases h
  | some n => exact ⟨n, rfl, Option.some.inj h⟩

theorem getNode_child {sv : Server} {cur : List Bytes} {node child : Node} (hp : getNode sv cur = some node) (cl : Bytes)
    (hk : findKid cl node.kids = some child) (hlen : cur.length < fuelDepth) : getNode sv (cur ++ [cl]) = some child := by
  obtain ⟨k, hk'⟩ : ∃ k, fuelDepth - cur.length = k + 1 := ⟨fuelDepth - cur.length - 1, by omega⟩
  rw [getNode_cons hp, hk, hk']
  simp only [Option.bind_some, nodeAt_nil]

theorem getNode_child_none (sv : Server) (parent : List Bytes) (nm : Bytes) {p : Node}
    (hp : getNode sv parent = some p) (hk : findKid nm p.kids = none) : getNode sv (parent ++ [nm]) = none := by
  rw [getNode_cons hp, hk]
  cases fuelDepth - parent.length <;> rfl

theorem getNode_putKid_at (sv : Server) (parent : List Bytes) (child : Node) {p : Node}
    (hp : getNode sv parent = some p) (hlen : parent.length < fuelDepth) :
    getNode (setNode sv parent (fun q => q.setKids (putKid child q.kids))) (parent ++ [child.name]) = some child := by
  obtain ⟨k, hk⟩ : ∃ k, fuelDepth - parent.length = k + 1 := ⟨fuelDepth - parent.length - 1, by omega⟩
  rw [getNode_setKids_cons hp, findKid_putKid_same, hk]
  simp only [Option.bind_some, nodeAt_nil]

/-- Reads after `PutChild` of a leaf, through a projection that ignores the children: at the child's path the child (if the parent
    exists within `getNode`'s depth bound), strictly below it nothing, everywhere else what was there before. -/
theorem getNode_putKid_leaf {α : Type} (π : Node → α) (hπ : ∀ n k, π (n.setKids k) = π n) (sv : Server) (parent : List Bytes)
    (child : Node) (hc : child.kids = []) (w : List Bytes) :
    (getNode (setNode sv parent (fun q => q.setKids (putKid child q.kids))) w).map π =
      if (parent ++ [child.name]) <+: w then
        (if w = parent ++ [child.name] ∧ (getNode sv parent).isSome ∧ parent.length < fuelDepth then some (π child) else none)
      else (getNode sv w).map π := by
  split
  · rename_i hpre
    obtain ⟨r, rfl⟩ := hpre
    rw [List.append_assoc, List.singleton_append]
    cases hp : getNode sv parent with
    | none => rw [getNode_setNode_below (by intro _; rfl), hp, if_neg (by simp)]; rfl
    | some p =>
      rw [getNode_setKids_cons hp, findKid_putKid_same]
      cases hk : fuelDepth - parent.length with
      | zero => rw [if_neg (fun h => by omega)]; rfl
      | succ k =>
        cases r with
        | nil => rw [if_pos ⟨rfl, rfl, by omega⟩]; simp only [Option.bind_some, nodeAt_nil, Option.map_some]
        | cons b r' => rw [if_neg (by simp)]; simp only [Option.bind_some, nodeAt_leaf_cons hc, Option.map_none]
  · rename_i hpre
    exact getNode_setKids_off π hπ sv parent (putKid child) (fun ks b hb => findKid_putKid_ne (fun e => hb e.symm) ks) w hpre

/-- a node read after `PutChild` of a leaf is the new child, or a node that was there before -/
theorem getNode_putKid_cases {sv : Server} (parent : List Bytes) (child : Node) (hc : child.kids = [])
    (v : List Bytes) (n' : Node) (h : getNode (setNode sv parent (fun p => p.setKids (putKid child p.kids))) v = some n') :
    (v = parent ++ [child.name] ∧ n' = child) ∨ (∃ n, getNode sv v = some n ∧ n.subs = n'.subs) := by
  have e := getNode_putKid_leaf Node.subs (fun _ _ => rfl) sv parent child hc v
  rw [h] at e
  split at e
  · left
    split at e
    · rename_i hw
      obtain ⟨hv, hsome, hlen⟩ := hw
      obtain ⟨p, hp⟩ := Option.isSome_iff_exists.1 hsome
      subst hv
      exact ⟨rfl, Option.some.inj (h.symm.trans (getNode_putKid_at sv parent child hp hlen))⟩
    · cases e
  · right; exact of_map_subs e.symm

/-- the payloads elsewhere after `PutChild` of a leaf that was not there before -/
theorem getNode_putKid_data (sv : Server) (parent : List Bytes) (child : Node) (hc : child.kids = []) {p : Node}
    (hp : getNode sv parent = some p) (hk : findKid child.name p.kids = none) (w : List Bytes)
    (hw : w ≠ parent ++ [child.name]) :
    (getNode (setNode sv parent (fun q => q.setKids (putKid child q.kids))) w).map Node.data =
      (getNode sv w).map Node.data := by
  rw [getNode_putKid_leaf Node.data (fun _ _ => rfl) sv parent child hc w]
  split
  · rename_i hpre
    obtain ⟨r, rfl⟩ := hpre
    -- below the new leaf there is nothing, and there was nothing
    rw [if_neg (fun h => hw h.1), getNode_append_none sv _ r (getNode_child_none sv parent child.name hp hk)]; rfl
  · rfl

/-- Reads after the removal of the child `key` of `parent` (sibling names distinct), through a projection that ignores the children: nothing
    at or below the removed child, everywhere else what was there before. -/
theorem getNode_removeKid {α : Type} (π : Node → α) (hπ : ∀ n k, π (n.setKids k) = π n) {sv : Server}
    (hti : AllNodes NodeInv sv.root) (parent : List Bytes) (key : Bytes) (w : List Bytes) :
    (getNode (setNode sv parent (fun q => q.setKids (removeKid key q.kids))) w).map π =
      if (parent ++ [key]) <+: w then none else (getNode sv w).map π := by
  split
  · rename_i hpre
    obtain ⟨r, rfl⟩ := hpre
    rw [List.append_assoc, List.singleton_append]
    cases hp : getNode sv parent with
    | none => rw [getNode_setNode_below (by intro _; rfl), hp]; rfl
    | some p =>
      rw [getNode_setKids_cons hp, findKid_removeKid_nodup key p.kids (AllNodes.nodeAt hti hp).here.2]
      cases fuelDepth - parent.length <;> rfl
  · rename_i hpre
    exact getNode_setKids_off π hπ sv parent (removeKid key) (fun ks b hb => findKid_removeKid_ne hb ks) w hpre

/-- a node read after the removal of a child was there before, outside the removed subtree -/
theorem getNode_removeKid_cases {sv : Server} (hti : AllNodes NodeInv sv.root) (parent : List Bytes) (key : Bytes)
    (v : List Bytes) (n' : Node) (h : getNode (setNode sv parent (fun p => p.setKids (removeKid key p.kids))) v = some n') :
    ∃ n, getNode sv v = some n ∧ n.subs = n'.subs := by
  have e := getNode_removeKid Node.subs (fun _ _ => rfl) hti parent key v
  rw [h] at e
  split at e
  · cases e
  · exact of_map_subs e.symm

/-- the tree has no node strictly below `v` (as far as `getNode`'s depth bound reaches) -/
def NoDesc (sv : Server) (v : List Bytes) : Prop := ∀ ext, ext ≠ [] → getNode sv (v ++ ext) = none

theorem noDesc_of_leaf {sv : Server} {v : List Bytes} {c : Node} (hc : getNode sv v = some c) (hleaf : c.kids = []) :
    NoDesc sv v := by
  intro ext he
  cases ext with
  | nil => exact absurd rfl he
  | cons b r => exact getNode_below_leaf sv v hc hleaf b r

/-- the payloads elsewhere after the removal of a node without descendants -/
theorem getNode_removeKid_data {sv : Server} (hti : AllNodes NodeInv sv.root) (parent : List Bytes) (key : Bytes)
    (hnd : NoDesc sv (parent ++ [key])) (w : List Bytes) (hw : w ≠ parent ++ [key]) :
    (getNode (setNode sv parent (fun q => q.setKids (removeKid key q.kids))) w).map Node.data =
      (getNode sv w).map Node.data := by
  rw [getNode_removeKid Node.data (fun _ _ => rfl) hti parent key w]
  split
  · rename_i hpre
    obtain ⟨r, rfl⟩ := hpre
    -- below the removed node there was nothing
    rw [hnd r (fun e => hw (by rw [e, List.append_nil]))]; rfl
  · rfl

theorem getNode_removeKid_gone {sv : Server} (hti : AllNodes NodeInv sv.root) (parent : List Bytes) (key : Bytes) :
    getNode (setNode sv parent (fun q => q.setKids (removeKid key q.kids))) (parent ++ [key]) = none := by
  have := getNode_removeKid (fun _ => ()) (fun _ _ => rfl) hti parent key (parent ++ [key])
  rwa [if_pos (List.prefix_refl _), Option.map_eq_none_iff] at this

theorem getNode_too_long (sv : Server) (w : List Bytes) (h : fuelDepth < w.length) : getNode sv w = none := by
  unfold getNode
  have : ∀ (fuel : Nat) (n : Node) (w : List Bytes), fuel < w.length → nodeAt fuel n w = none := by
    intro fuel
    induction fuel with
    | zero =>
      intro n w hw
      cases w with
      | nil => simp at hw
      | cons a r => exact nodeAt_zero_cons n a r
    | succ fuel ih =>
      intro n w hw
      cases w with
      | nil => simp at hw
      | cons a r =>
        rw [nodeAt_succ_cons]
        cases findKid a n.kids with
        | none => rfl
        | some k => exact ih k r (by simp at hw; omega)
  exact this _ _ _ h

theorem noDesc_of_long (sv : Server) {v : List Bytes} (h : fuelDepth ≤ v.length) : NoDesc sv v := by
  intro ext he
  apply getNode_too_long
  have : 0 < ext.length := List.length_pos_iff.2 he
  simp only [List.length_append]; omega

theorem getNode_putChild_leaf {X : Server} {by_ : Nat} {parent : List Bytes} {child : Node} (hc : child.kids = [])
    {v : List Bytes} {n : Node} (hg : getNode (putChild X by_ parent child true) v = some n) :
    v = parent ++ [child.name] ∨ ∃ n0, getNode X v = some n0 := by
  unfold putChild at hg
  simp only [if_true, getNode_notifyChanged] at hg
  rcases getNode_putKid_cases parent _ (show (child.setSubs _).kids = [] from hc) v n hg with ⟨hv, _⟩ | ⟨n0, hn0, _⟩
  · exact Or.inl hv
  · exact Or.inr ⟨n0, hn0⟩

theorem foldl_setNode_sessions (g : Node → Node) (V : List (List Bytes)) (X : Server) :
    (V.foldl (fun sv v => setNode sv v g) X).sessions = X.sessions := by
  induction V generalizing X with
  | nil => rfl
  | cons v r ih => simp only [List.foldl_cons]; rw [ih]; rfl

end Muscle.Reflector
