import MuscleModel.Reflector.NoSlash

/-!
# The client of a subscriber (specification)

Beside `Mirror`, `applyEv`, `applyMsg` of `Reflector/Update.lean`, this is the client the convergence theorems of `Props/C04.lean` speak of:
after its own unsubscribe it drops what no remaining subscription matches (`applyUnsub`, reading a mirrored path back into node names with
`namesOf` of `NoSlash`); `In` is what it consumes (a PR_RESULT_DATAITEMS Message, or its own unsubscribe with the remaining subscription
set), `client` its fold, `msgsOf` the Messages among what it consumed.  Definitions only; their lemmas are in `OwnSubscribe` and `Runs`.
-/

namespace Muscle.Reflector
open Muscle Muscle.Eng.SrvEngine

/-- the client's step after its own unsubscribe -/
def applyUnsub (pm : PM) (m : Mirror) : Mirror := fun p =>
  match m p with
  | some d => if pmMatchesPath pm (namesOf p) true d then some d else none
  | none => none

inductive In where
  | data (u : UpdMsg)
  | unsub (remaining : PM)

def clientStep (m : Mirror) : In → Mirror
  | .data u => applyMsg m u
  | .unsub pm => applyUnsub pm m

def client (m : Mirror) (items : List In) : Mirror := items.foldl clientStep m

def msgsOf (items : List In) : List UpdMsg := items.filterMap (fun i => match i with | .data u => some u | .unsub _ => none)

end Muscle.Reflector
