import MuscleModel.Reflector.MirrorNodes

/-!
# `DoGetData`: the snapshot a SUBSCRIBE sends straight to the inbox

`gdStep` (`gdIdx` after `gdData`; `CommandEffects`, with `doGetData_eq`) is the step function of `DoGetData`'s fold.  `doGetData_replay`: whatever `maxItems` is, and with
index Messages (no data lines) interleaved, the data lines appended to the inbox are the text of Messages whose in-order
application is one `set` per visited existing node (`snapEvs`); the tree and the rest of the session stay (`SD`, the session's data lines).  After these
events the mirror holds, at an existing node, its payload if the node was visited and the old value otherwise (`snapFold_node`).
-/


namespace Muscle.Reflector
open Muscle

theorem gdIdx_shape (s : Sess) (sid : Nat) (v : Visit) (n : Node) (X : Server) (dm : UpdMsg) (im : IdxMsg) :
    (gdIdx s sid v n X dm im).2.1 = dm ∧
      ((gdIdx s sid v n X dm im).1 = X ∨ ∃ im', (gdIdx s sid v n X dm im).1 = X.deliver sid (idxText im')) := by
  unfold gdIdx
  by_cases he : n.index.isEmpty = true
  · rw [if_pos he]; exact ⟨rfl, Or.inl rfl⟩
  · rw [if_neg he]
    simp only []
    split
    · exact ⟨rfl, Or.inr ⟨_, rfl⟩⟩
    · exact ⟨rfl, Or.inl rfl⟩

/-- the tree of `C`; session `sid` is `sC` but for the inbox, whose data lines grew by the text of `sent` -/
def SD (C : Server) (sid : Nat) (sC : Sess) (X : Server) (sent : List UpdMsg) : Prop :=
  X.root = C.root ∧ ∃ si, X.sess? sid = some si ∧ si.core = sC.core ∧ si.nextData = sC.nextData ∧
    dataLines si = dataLines sC ++ sent.map dataText

theorem SD.deliver {C : Server} {sid : Nat} {sC : Sess} {X : Server} {sent : List UpdMsg} (h : SD C sid sC X sent)
    (text : String) (more : List UpdMsg) (hm : [text].filter isData = more.map dataText) :
    SD C sid sC (X.deliver sid text) (sent ++ more) := by
  obtain ⟨hr, si, hs, hc, hn, hd⟩ := h
  refine ⟨hr, { si with inbox := si.inbox ++ [text] }, ?_, hc, hn, ?_⟩
  · unfold Server.deliver
    exact sess?_updSess_same X sid _ hs
  · show List.filter isData (si.inbox ++ [text]) = _
    rw [List.filter_append, hm, List.map_append, ← List.append_assoc]
    exact congrArg (· ++ more.map dataText) hd

theorem SD.deliver_data {C : Server} {sid : Nat} {sC : Sess} {X : Server} {sent : List UpdMsg} (h : SD C sid sC X sent)
    (u : UpdMsg) : SD C sid sC (X.deliver sid (dataText u)) (sent ++ [u]) :=
  h.deliver (dataText u) [u] (by simp [isData_dataText])

theorem SD.deliver_idx {C : Server} {sid : Nat} {sC : Sess} {X : Server} {sent : List UpdMsg} (h : SD C sid sC X sent)
    (im : IdxMsg) : SD C sid sC (X.deliver sid (idxText im)) sent := by
  have := h.deliver (idxText im) [] (by simp [isData_idxText])
  rwa [List.append_nil] at this

/-- the events of a snapshot: one `set` per visited node that exists, in the order of the visits -/
def snapEvs (C : Server) (vs : List Visit) : List Ev :=
  vs.filterMap (fun v => (getNode C v).map (fun n => Ev.set (pathString v) n.data))

theorem gdStep_spec (C : Server) (sid : Nat) (sC s : Sess) (m : Mirror) (st : Server × UpdMsg × IdxMsg)
    (sent : List UpdMsg) (h : SD C sid sC st.1 sent) (v : Visit) :
    ∃ sent', SD C sid sC (gdStep s sid st v).1 sent' ∧
      applyMsg (applyMsgs m sent') (gdStep s sid st v).2.1 =
        (snapEvs C [v]).foldl applyEv (applyMsg (applyMsgs m sent) st.2.1) := by
  unfold gdStep snapEvs
  rw [getNode_congr h.1 v]
  simp only [List.filterMap_cons, List.filterMap_nil]
  cases hn : getNode C v with
  | none => exact ⟨sent, h, rfl⟩
  | some n =>
    simp only [Option.map_some, List.foldl_cons, List.foldl_nil, applyEv]
    -- the data part: the view advances by the `set`, whether or not the Message goes out
    have hd : ∃ sent', SD C sid sC (gdData s sid v n st.1 st.2.1).1 sent' ∧
        applyMsg (applyMsgs m sent') (gdData s sid v n st.1 st.2.1).2 =
          (applyMsg (applyMsgs m sent) st.2.1).upd (pathString v) (some n.data) := by
      unfold gdData
      simp only []
      split
      · refine ⟨_, h.deliver_data _, ?_⟩
        rw [applyMsg_empty, applyMsgs_append]
        exact applyMsg_addSet _ _ _ _
      · exact ⟨sent, h, applyMsg_addSet _ _ _ _⟩
    obtain ⟨sent', h1, hv1⟩ := hd
    -- the index part hands the pending data Message on and delivers no data line
    obtain ⟨hdm, hX⟩ := gdIdx_shape s sid v n (gdData s sid v n st.1 st.2.1).1 (gdData s sid v n st.1 st.2.1).2 st.2.2
    rw [hdm]
    rcases hX with hX | ⟨im', hX⟩
    · exact ⟨sent', by rw [hX]; exact h1, hv1⟩
    · exact ⟨sent', by rw [hX]; exact h1.deliver_idx im', hv1⟩

theorem snapEvs_append (C : Server) (a b : List Visit) : snapEvs C (a ++ b) = snapEvs C a ++ snapEvs C b := by
  simp [snapEvs, List.filterMap_append]

theorem gdFold_spec (C : Server) (sid : Nat) (sC s : Sess) (m : Mirror) :
    ∀ (vs : List Visit) (st : Server × UpdMsg × IdxMsg) (sent : List UpdMsg), SD C sid sC st.1 sent →
      ∃ sent', SD C sid sC (vs.foldl (gdStep s sid) st).1 sent' ∧
        applyMsg (applyMsgs m sent') (vs.foldl (gdStep s sid) st).2.1 =
          (snapEvs C vs).foldl applyEv (applyMsg (applyMsgs m sent) st.2.1) := by
  intro vs
  induction vs with
  | nil => intro st sent h; exact ⟨sent, h, rfl⟩
  | cons v r ih =>
    intro st sent h
    simp only [List.foldl_cons]
    obtain ⟨sent1, h1, hv1⟩ := gdStep_spec C sid sC s m st sent h v
    obtain ⟨sent2, h2, hv2⟩ := ih (gdStep s sid st v) sent1 h1
    refine ⟨sent2, h2, ?_⟩
    rw [hv2, hv1]
    have : snapEvs C (v :: r) = snapEvs C [v] ++ snapEvs C r := snapEvs_append C [v] r
    rw [this, List.foldl_append]

/-- `DoGetData` for session `sid` (record `sC`, nothing else assumed): tree unchanged, session unchanged but for
    the inbox, whose data lines grew by the text of Messages `sent` whose in-order application is the fold of one `set`
    per visited node. -/
theorem doGetData_replay (C : Server) (sid : Nat) (sC : Sess) (hs : C.sess? sid = some sC)
    (keys : List (Bytes × Option Filt)) (m : Mirror) :
    ∃ sent, SD C sid sC (doGetData C sid keys) sent ∧
      applyMsgs m sent =
        (snapEvs C (travGlobal C (pmOfKeys keys (some defaultPrefix)) true (getDataCb sC))).foldl applyEv m := by
  rw [doGetData_eq, hs]
  simp only []
  have h0 : SD C sid sC (C, ({} : UpdMsg), ([] : IdxMsg)).1 [] := ⟨rfl, sC, hs, rfl, rfl, by simp⟩
  obtain ⟨sent1, h1, hv1⟩ := gdFold_spec C sid sC sC m
    (travGlobal C (pmOfKeys keys (some defaultPrefix)) true (getDataCb sC)) (C, {}, []) [] h0
  simp only [applyMsgs, List.foldl_nil, applyMsg_empty] at hv1
  generalize (travGlobal C (pmOfKeys keys (some defaultPrefix)) true (getDataCb sC)).foldl (gdStep sC sid) (C, {}, []) = res
    at h1 hv1
  by_cases hnn : res.2.1.numNames > 0
  · simp only [hnn, if_true]
    have h2 := h1.deliver_data res.2.1
    have hv2 : applyMsgs m (sent1 ++ [res.2.1]) = List.foldl applyEv m
        (snapEvs C (travGlobal C (pmOfKeys keys (some defaultPrefix)) true (getDataCb sC))) := by
      rw [applyMsgs_append]
      simp only [applyMsgs, List.foldl_cons, List.foldl_nil]
      exact hv1
    split
    · exact ⟨_, h2.deliver_idx _, hv2⟩
    · exact ⟨_, h2, hv2⟩
  · simp only [hnn, if_false]
    have hz : res.2.1.numNames = 0 := by omega
    rw [applyMsg_noNames _ _ hz] at hv1
    split
    · exact ⟨_, h1.deliver_idx _, hv1⟩
    · exact ⟨_, h1, hv1⟩

theorem snapEvs_eq (C : Server) (vs : List Visit) :
    snapEvs C vs = nodeEvs (fun v n => some (Ev.set (pathString v) n.data)) C vs := by
  unfold snapEvs nodeEvs
  congr 1; funext v
  cases getNode C v <;> rfl

theorem snapFold_node {C : Server} (hNS : NS C) (vs : List Visit) (m : Mirror) {v : List Bytes} {n : Node}
    (hn : getNode C v = some n) :
    ((snapEvs C vs).foldl applyEv m) (pathString v) = if v ∈ vs then some n.data else m (pathString v) := by
  rw [snapEvs_eq, nodeFold_node hNS (fun _ _ _ h => by cases h; rfl) vs m hn]; rfl

end Muscle.Reflector
