import MuscleModel.Reflector.Handlers

/-!
# What `subscribe` and `unsubscribe` do, branch by branch

`subscribe` ends in `DoGetData` on one of three states: `subC` (a path not held: entry put, reference counts adjusted, parameter
recorded), `rfC` (a held path: `ChangeQueryFilterCallback` over the nodes the path matches, `rfStep`, then the filter replaced), or,
for an empty path, the state with the parameter alone.  A property of `subscribe` is a property of `doGetData`, `subC` and `rfC`.
-/


namespace Muscle.Reflector
open Muscle

def subC (sv : Server) (sid : Nat) (path : Bytes) (f : Option Filt) : Server :=
  (subscribeRefs (sv.updSess sid (fun s => { s with subs := pmPut s.subs (adjustPrefix path (some defaultPrefix)) f })) sid
    (pmPut [] (adjustPrefix path (some defaultPrefix)) none) (some 1)).updSess sid
    (fun s => { s with params := subParams s.params path })

def verdict (g : Option Filt) (d : Option Nat) : Bool := match g with | none => true | some h => h.eval d

/-- the condition under which `ChangeQueryFilterCallback` reports the node -/
def rfCond (s : Sess) (fix : Bytes) (e : Entry) (f : Option Filt) (v : Visit) (n : Node) : Bool :=
  decide (verdict e.filter n.data ≠ verdict f n.data) && !pmMatchesPath (pmRemove s.subs fix) v true n.data

/-- `ChangeQueryFilterCallback` on one visited node -/
def rfStep (s : Sess) (sid : Nat) (fix : Bytes) (e : Entry) (f : Option Filt) (X : Server) (v : Visit) : Server :=
  match getNode X v with
  | none => X
  | some n =>
    if rfCond s fix e f v n then nodeChangedAux X sid (pathString v) n.data (verdict e.filter n.data) else X

theorem rfStep_cases {P : Server → Prop} (s : Sess) (sid : Nat) (fix : Bytes) (e : Entry) (f : Option Filt) {X : Server} (v : Visit)
    (h0 : P X) (h1 : ∀ np d r, P (nodeChangedAux X sid np d r)) : P (rfStep s sid fix e f X v) := by
  unfold rfStep
  split
  · exact h0
  · split
    · exact h1 ..
    · exact h0

def rfC (sv : Server) (sid : Nat) (s : Sess) (path : Bytes) (e : Entry) (f : Option Filt) : Server :=
  (((if s.subsEnabled && (f.isSome || e.filter.isSome) then
      (travGlobal sv (pmPut [] (adjustPrefix path (some defaultPrefix)) none) false (getDataCb s)).foldl
        (rfStep s sid (adjustPrefix path (some defaultPrefix)) e f) sv
    else sv).updSess sid (fun t => { t with subs := pmPut t.subs (adjustPrefix path (some defaultPrefix)) f })).updSess sid
    (fun t => { t with params := subParams t.params path }))

theorem subscribe_refilter_eq {sv : Server} {sid : Nat} {s : Sess} (hs : sv.sess? sid = some s) (path : Bytes) (f : Option Filt)
    {e : Entry} (hf : pmFind s.subs (adjustPrefix path (some defaultPrefix)) = some e) :
    subscribe sv sid path f = doGetData (rfC sv sid s path e f) sid [(path, f)] := by
  unfold subscribe rfC
  rw [hs]
  simp only [hf]
  rfl

theorem subscribe_new_eq {sv : Server} {sid : Nat} {s : Sess} (hs : sv.sess? sid = some s) (path : Bytes) (f : Option Filt)
    (hf : pmFind s.subs (adjustPrefix path (some defaultPrefix)) = none)
    (hne : adjustPrefix path (some defaultPrefix) ≠ []) :
    subscribe sv sid path f = doGetData (subC sv sid path f) sid [(path, f)] := by
  unfold subscribe subC
  rw [hs]
  simp only [hf]
  have : (adjustPrefix path (some defaultPrefix)).isEmpty = false := by
    cases h : adjustPrefix path (some defaultPrefix) with
    | nil => exact absurd h hne
    | cons _ _ => rfl
  simp only [this, Bool.false_eq_true, if_false]

theorem subscribe_cases {P : Server → Prop} (sv : Server) (sid : Nat) (path : Bytes) (f : Option Filt)
    (hnone : sv.sess? sid = none → P sv)
    (hnew : ∀ s, sv.sess? sid = some s → pmFind s.subs (adjustPrefix path (some defaultPrefix)) = none →
      adjustPrefix path (some defaultPrefix) ≠ [] → P (doGetData (subC sv sid path f) sid [(path, f)]))
    (hempty : ∀ s, sv.sess? sid = some s → adjustPrefix path (some defaultPrefix) = [] →
      P (doGetData (sv.updSess sid (fun t => { t with params := subParams t.params path })) sid [(path, f)]))
    (hre : ∀ s e, sv.sess? sid = some s → pmFind s.subs (adjustPrefix path (some defaultPrefix)) = some e →
      P (doGetData (rfC sv sid s path e f) sid [(path, f)])) :
    P (subscribe sv sid path f) := by
  cases hs : sv.sess? sid with
  | none => unfold subscribe; rw [hs]; exact hnone hs
  | some s =>
    cases hf : pmFind s.subs (adjustPrefix path (some defaultPrefix)) with
    | some e => rw [subscribe_refilter_eq hs path f hf]; exact hre s e hs hf
    | none =>
      by_cases hne : adjustPrefix path (some defaultPrefix) = []
      · have := hempty s hs hne
        unfold subscribe
        rw [hs]
        simp only [hf]
        simp only [hne, List.isEmpty_nil, if_true]
        exact this
      · rw [subscribe_new_eq hs path f hf hne]; exact hnew s hs hf hne

theorem unsubscribe_cases {P : Server → Prop} (sv : Server) (sid : Nat) (path : Bytes) (h0 : P sv)
    (hparam : ∀ s, sv.sess? sid = some s →
      P (sv.updSess sid (fun t => { t with params := t.params.filter (· ≠ subscribePrefix ++ path) })))
    (hentry : ∀ s e, sv.sess? sid = some s → pmFind s.subs (adjustPrefix path (some defaultPrefix)) = some e →
      P ((subscribeRefs (sv.updSess sid (fun t => { t with subs := pmRemove t.subs (adjustPrefix path (some defaultPrefix)) }))
        sid (pmPut [] (adjustPrefix path (some defaultPrefix)) none) (some (-1))).updSess sid
        (fun t => { t with params := t.params.filter (· ≠ subscribePrefix ++ path) }))) :
    P (unsubscribe sv sid path) := by
  unfold unsubscribe
  cases hs : sv.sess? sid with
  | none => exact h0
  | some s =>
    simp only []
    by_cases hp : (!s.params.contains (subscribePrefix ++ path)) = true
    · rw [if_pos hp]; exact h0
    · rw [if_neg hp]
      cases hf : pmFind s.subs (adjustPrefix path (some defaultPrefix)) with
      | some e => exact hentry s e hs hf
      | none => exact hparam s hs

end Muscle.Reflector
