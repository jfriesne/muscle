import MuscleModel.Reflector.Marks
import MuscleModel.Reflector.IndexProofsTreeInv
import MuscleModel.Reflector.CommandFrame

/-!
# The marking invariant `MK` under the writes of the handlers

Notifications (`MK.of_notif`), every write of the closure `Grow` of EffectSteps (`MK.of_grow`: a field of a node, `PutChild` of a leaf
with the table `NodeCreated` gives it), the removal of a child (`MK.removeKid`; with `TreeInv`: `MKT.removeOne`, `removeChild`, REMOVEDATA),
REORDERDATA.  The remaining commands are one line each in `MKT.runCmd` (MarksReach).
-/


namespace Muscle.Reflector
open Muscle

theorem SessOK.of_skel {a b : Server} (h : skel b = skel a) (hs : SessOK a) : SessOK b := by
  have h1 : b.nextSid = a.nextSid := congrArg Prod.fst h
  have h2 : sessKeys b = sessKeys a := congrArg Prod.snd h
  exact ⟨by rw [h2]; exact hs.nodup, by rw [h1, h2]; exact hs.bound, by rw [h2]; exact hs.wf⟩

theorem MK.of_same {a b : Server} (hr : b.root = a.root) (hk : skel b = skel a) (h : MK a) : MK b := by
  have h2 : sessKeys b = sessKeys a := congrArg Prod.snd hk
  exact ⟨h.sess.of_skel hk, by rw [hr, h2]; exact h.counts⟩

/-- notifications keep the marking invariant: they touch neither the tree nor the subscriptions -/
theorem MK.of_notif {a b : Server} (hn : Notif a b) (h : MK a) : MK b := h.of_same hn.notifyOnly.1 hn.skel

theorem MK.notifyChanged {sv : Server} (by_ : Nat) (names : List Bytes) (node : Node) (od : Option (Option Nat))
    (removed : Bool) (h : MK sv) : MK (notifyChanged sv by_ names node od removed) :=
  h.of_notif (notifyChanged_notif sv by_ names node od removed)

theorem MK.pushAll {sv : Server} (h : MK sv) : MK (pushAll sv) := h.of_notif (pushAll_notif sv)

theorem MK.deliver {sv : Server} (sid : Nat) (w : String) (h : MK sv) : MK (sv.deliver sid w) :=
  h.of_notif (.deliver sv sid w)

theorem MK.nodeChangedAux {sv : Server} (sid : Nat) (np : Bytes) (d : Option Nat) (removed : Bool) (h : MK sv) :
    MK (nodeChangedAux sv sid np d removed) :=
  h.of_notif (nodeChangedAux_notif sv sid np d removed)

theorem MK.updSess_keep {sv : Server} (sid : Nat) (f : Sess → Sess)
    (hf : ∀ t, (f t).sid = t.sid ∧ (f t).subs = t.subs) (h : MK sv) : MK (sv.updSess sid f) :=
  MK.of_same (a := sv) rfl (skel_updSess sv sid f hf) h

theorem MK.setField {sv : Server} (path : List Bytes) (f : Node → Node)
    (hname : ∀ n, (f n).name = n.name) (hkids : ∀ n, (f n).kids = n.kids) (hsubs : ∀ n, (f n).subs = n.subs)
    (h : MK sv) : MK (setNode sv path f) :=
  ⟨h.sess.of_skel (skel_setNode ..), MarksOK.setField path f hname hkids hsubs h.counts⟩

theorem MK.putChild {sv : Server} (by_ : Nat) (parent : List Bytes) (child : Node) (notify : Bool)
    (hc : child.kids = []) (h : MK sv) : MK (putChild sv by_ parent child notify) := by
  have core : MK (setNode sv parent (fun p => p.setKids (putKid
      (child.setSubs (marksForNewNode sv (parent ++ [child.name]))) p.kids))) := by
    refine ⟨h.sess.of_skel (skel_setNode ..), ?_⟩
    intro v n' hv hn'
    rcases getNode_putKid_cases parent (child.setSubs (marksForNewNode sv (parent ++ [child.name]))) hc v n' hn' with
      ⟨hv', hn⟩ | ⟨n, hn, hs⟩
    · subst hn
      rw [hv']
      refine ⟨fun sid => ?_, TabOK.of_marksForNewNode sv _⟩
      exact subCount_marksForNewNode sv h.sess.nodup _ sid
    · rw [← hs]; exact h.counts v n hv hn
  unfold Reflector.putChild
  simp only []
  split
  · exact core.notifyChanged ..
  · exact core

theorem MK.of_grow {sid : Nat} {own : List Bytes} {N : Bytes → Prop} {a b : Server} (h : Grow sid own N a b) (ha : MK a) : MK b := by
  refine h.inv (fun x op hp hx => ?_) ha
  cases op with
  | dirty d => exact MK.of_same (a := x) rfl rfl hx
  | push => exact MK.of_same (a := x) rfl (skel_pushOnce x) hx
  | sess t f =>
    rcases hp with hp | ⟨rfl, rfl⟩
    · exact hx.updSess_keep t f (fun s => ⟨(congrArg Sess.sid (hp s).1 :), (congrArg Sess.subs (hp s).1 :)⟩)
    · exact hx.updSess_keep t _ (fun _ => ⟨rfl, rfl⟩)
  | node path f =>
    obtain ⟨_, hf | ⟨c, hk, _, rfl⟩⟩ := hp
    · exact hx.setField path f hf.name hf.kids hf.subs
    · have := hx.putChild 0 path c false hk
      rwa [putChild_quiet] at this

theorem MK.removeKid {sv : Server} (hti : TreeInv sv) (parent : List Bytes) (key : Bytes) (h : MK sv) :
    MK (setNode sv parent (fun p => p.setKids (removeKid key p.kids))) := by
  refine ⟨h.sess.of_skel (skel_setNode ..), ?_⟩
  apply MarksOK.of_sub h.counts
  intro v n' _ hn'
  obtain ⟨n, hn, hs⟩ := getNode_removeKid_cases hti parent key v n' hn'
  exact ⟨n, hn, hs⟩

/-- `MKT` ("marks, tree"): `TreeInv` together with `MK`; it is the invariant carried along `MReach` (`mkt_reach`, read by `MReach.tree`,
    `MReach.marks`) and is used no further: from SyncFor on the invariants are `Good` and `Inv`, which contains it (`Inv.mkt`) -/
def MKT (sv : Server) : Prop := TreeInv sv ∧ MK sv

theorem MKT.tree {sv : Server} (h : MKT sv) : TreeInv sv := h.1
theorem MKT.marks {sv : Server} (h : MKT sv) : MK sv := h.2

theorem MKT.removeOne {sv : Server} (by_ : Nat) (notify : Bool) (names : List Bytes) (h : MKT sv) :
    MKT (removeOne sv by_ notify names) := by
  refine ⟨treeInv_removeOne by_ notify names h.tree, ?_⟩
  unfold Reflector.removeOne
  split
  · simp only []
    have h1 : MK (removeIndexEntry sv names.dropLast ‹Bytes› notify) :=
      h.marks.of_grow (removeIndexEntry_grow (sid := 0) (N := fun _ => True) sv _ notify (List.nil_prefix))
    have t1 : TreeInv (removeIndexEntry sv names.dropLast ‹Bytes› notify) := treeInv_removeIndexEntry _ _ _ h.tree
    apply MK.removeKid
    · split
      · split
        · exact treeInv_of_root (by simp) t1
        · exact t1
      · exact t1
    · split
      · split
        · exact h1.notifyChanged ..
        · exact h1
      · exact h1
  · exact h.marks

theorem MKT.removeChild {sv : Server} (by_ : Nat) (notify : Bool) (names : List Bytes) (h : MKT sv) :
    MKT (removeChild sv by_ notify names) := by
  unfold Reflector.removeChild
  split
  · exact h
  · exact foldl_inv MKT _ (fun sv nm hsv => hsv.removeOne by_ notify nm) _ _ h

theorem MKT.removeData {sv : Server} (sid : Nat) (keys : List Bytes) (h : MKT sv) : MKT (removeData sv sid keys) := by
  unfold Reflector.removeData
  split
  · exact h
  · simp only []
    exact foldl_inv MKT _ (fun sv v hsv => hsv.removeChild sid true v) _ _ h

theorem MK.reorder {sv : Server} (sid : Nat) (key before : Bytes) (h : MK sv) : MK (reorder sv sid key before) := by
  cases hs : sv.sess? sid with
  | none => rw [show Reflector.reorder sv sid key before = sv from Muscle.Eng.SrvEngine.runCmd_absent sv sid hs (.reorder key before)]; exact h
  | some s => exact h.of_grow (reorder_grow (N := fun _ => True) sv sid s hs key before)

end Muscle.Reflector
