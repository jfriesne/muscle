import MuscleModel.Reflector.IndexProofsClone
import MuscleModel.Reflector.EngineStep
import MuscleModel.Reflector.CommandEffects

/-!
# C13: `TreeInv` for every command of the engine (`runCmd`, `attach`, `detach`, `pushAll`) and every engine step
-/

namespace Muscle.Reflector
open Muscle Muscle.Eng.SrvEngine

theorem doGetData_root (sv : Server) (sid : Nat) (keys : List (Bytes × Option Filt)) :
    (doGetData sv sid keys).root = sv.root := (doGetData_delivers sv sid keys).notif.root

theorem treeInv_subscribeRefs {sv : Server} (sid : Nat) (pm : PM) (delta : Option Int) (h : TreeInv sv) :
    TreeInv (subscribeRefs sv sid pm delta) := by
  unfold subscribeRefs
  apply foldl_inv (P := TreeInv)
  · intro sv v hv
    exact treeInv_setNode_keep_index _ (by simp) (by simp) hv
  · exact h

theorem treeInv_subscribe {sv : Server} (sid : Nat) (path : Bytes) (f : Option Filt) (h : TreeInv sv) :
    TreeInv (subscribe sv sid path f) := by
  refine subscribe_cases (P := TreeInv) sv sid path f (fun _ => h) (fun _ _ _ _ => ?_) (fun _ _ _ => ?_) (fun s e _ _ => ?_) <;>
    refine treeInv_of_root (doGetData_root _ _ _) (treeInv_updSess _ _ ?_)
  · exact treeInv_subscribeRefs _ _ _ (treeInv_updSess _ _ h)
  · exact h
  · exact treeInv_updSess _ _ (ite_pred (foldl_inv TreeInv _ (fun sv v hv =>
      rfStep_cases (P := TreeInv) _ _ _ _ _ v hv (fun _ _ _ => treeInv_of_root (nodeChangedAux_root _ _ _ _ _) hv)) _ _ h) h)

theorem treeInv_unsubscribe {sv : Server} (sid : Nat) (path : Bytes) (h : TreeInv sv) :
    TreeInv (unsubscribe sv sid path) :=
  unsubscribe_cases (P := TreeInv) sv sid path h (fun _ _ => treeInv_updSess _ _ h)
    (fun _ _ _ _ => treeInv_updSess _ _ (treeInv_subscribeRefs _ _ _ (treeInv_updSess _ _ h)))

theorem sendMsg_root (sv : Server) (sid tag : Nat) (keys : List Bytes) : (sendMsg sv sid tag keys).root = sv.root :=
  (sendMsg_delivers sv sid tag keys).notif.root

theorem treeInv_runCmd {sv : Server} (sid : Nat) (c : Cmd) (h : TreeInv sv) : TreeInv (runCmd sv sid c) := by
  refine runCmd_cases (motive := fun _ x => TreeInv x) sv sid (fun c hc => ?_) (fun _ _ => h)
    (fun _ _ _ => treeInv_setDataNode _ _ _ _ h) (fun _ => treeInv_removeData _ _ h) (fun _ _ => treeInv_subscribe _ _ _ h)
    (fun _ => treeInv_unsubscribe _ _ h) (fun _ _ _ => treeInv_insertOrdered _ _ _ _ h) (fun _ _ => treeInv_reorder _ _ _ h)
    (fun _ _ => treeInv_of_root (sendMsg_root _ _ _ _) h) c
  obtain ⟨f, _, e⟩ := runCmd_param_eq sv sid c hc
  rw [e]; exact h

theorem treeInv_pushAll {sv : Server} (h : TreeInv sv) : TreeInv (pushAll sv) :=
  treeInv_of_root (pushAll_root _) h

/-- the servers the engine can reach -/
inductive Reach : Server → Prop
  | init : Reach {}
  | attach {sv : Server} (slot : Nat) (host : Bytes) : Reach sv → Reach (attach sv slot host).1
  | detach {sv : Server} (sid : Nat) : Reach sv → Reach (detach sv sid)
  | cmd {sv : Server} (sid : Nat) (c : Cmd) : Reach sv → Reach (runCmd sv sid c)
  | push {sv : Server} : Reach sv → Reach (pushAll sv)
  /-- a server-side `CloneDataNodeSubtree` by session `sid` (any source path, destination clauses, ADDTOINDEX or not) -/
  | clone {sv : Server} (sid : Nat) (src dest : List Bytes) (ati : Bool) :
      Reach sv → Reach (cloneDataNodeSubtree sv sid src dest ati).1
  /-- a server-side `RestoreNodeTreeFromMessage` by session `sid` of ANY saved tree (not only one `saveTree` wrote) -/
  | restore {sv : Server} (sid : Nat) (t : Node) (dest : List Bytes) (ati : Bool) (maxDepth : Nat) :
      Reach sv → Reach (restoreNodeTree sv sid t dest ati maxDepth).1
  /-- the session table replaced by any other (in particular `pump`, which empties the inboxes): `TreeInv` does not read it -/
  | sessions {sv : Server} (ss : List Sess) : Reach sv → Reach { sv with sessions := ss }

theorem treeInv_reach {sv : Server} (h : Reach sv) : TreeInv sv := by
  induction h with
  | init => exact treeInv_init
  | attach slot host _ ih => exact treeInv_attach slot host ih
  | detach sid _ ih => exact treeInv_detach sid ih
  | cmd sid c _ ih => exact treeInv_runCmd sid c ih
  | push _ ih => exact treeInv_pushAll ih
  | clone sid src dest ati _ ih => exact treeInv_cloneDataNodeSubtree sid src dest ati ih
  | restore sid t dest ati md _ ih => exact treeInv_restoreNodeTree sid t dest ati md ih
  | sessions ss _ ih => exact ih

theorem treeInv_pumpLine {st : St} (h : TreeInv st.sv) : TreeInv (pumpLine st).1.sv := h

theorem treeInv_setm (sid : Nat) (p : Bytes) (vs : List Nat) {sv : Server} (h : TreeInv sv) :
    TreeInv (vs.foldl (fun sv v => runCmd sv sid (.set p v false)) sv) :=
  foldl_inv TreeInv _ (fun _ _ hsv => treeInv_runCmd sid _ hsv) vs sv h

/-! ## every state of the engine is `Reach`

Every op line of the engine is a reset to the initial server or a (possibly empty) sequence of the moves `Reach` is
generated by. -/

/-- `ite_pred` for the server of an engine step's result (the branches are the rest of `step`, which `split` would rewrite with
    `simp`); under the projections unification does not find the predicate by itself -/
theorem sv_ite {P : Server → Prop} {c : Prop} [Decidable c] {a b : St × String} (ha : P a.1.sv) (hb : P b.1.sv) :
    P (if c then a else b).1.sv :=
  ite_pred (P := fun r : St × String => P r.1.sv) ha hb

theorem subtreeStep_reach {st : St} (sl sid : Nat) (op : String) (toks : List String)
    (h : Reach st.sv) : Reach (subtreeStep st sl sid op toks).1.sv := by
  have hop : ∀ r : Server × CStat, Reach r.1 → Reach (subtreeOp st r).1.sv := fun r hr => sv_ite h (.push hr)
  unfold subtreeStep
  refine sv_ite ?_ (sv_ite ?_ (sv_ite ?_ (sv_ite ?_ h)))
  · split
    · split
      · exact sv_ite h (sv_ite h (hop _ (.clone _ _ _ _ h)))
      · exact h
    · exact h
  · split
    · split
      · refine sv_ite h ?_
        split <;> exact h
      · exact h
    · exact h
  · split
    · split
      · exact sv_ite h (hop _ (.restore _ _ _ _ _ h))
      · exact h
    · exact h
  · split
    · split
      · exact sv_ite h (.push (.sessions _ h))
      · exact h
    · exact h

theorem step_reach {st : St} (toks : List String) (h : Reach st.sv) : Reach (step st toks).1.sv :=
  step_cases (motive := fun s => Reach s.sv) st toks h .init h (.sessions _ h) (fun _ _ => .attach _ _ h)
    (fun _ _ => .detach _ h)
    (fun _ _ _ => .push (foldl_inv Reach _ (fun _ _ hsv => .cmd _ _ hsv) _ _ h))
    (fun sl sid op _ _ _ => subtreeStep_reach sl sid op toks h) (fun _ => h)
    (fun _ _ _ _ => .push (foldl_inv Reach _ (fun _ _ hsv => .push (.cmd _ _ hsv)) _ _ h))
    (fun _ _ _ => h) (fun _ _ _ => .push (.cmd _ _ h))

theorem reach_engine (lines : List (List String)) :
    Reach (lines.foldl (fun st toks => (step st toks).1) ({} : St)).sv :=
  foldl_inv (fun (st : St) => Reach st.sv) (fun (st : St) toks => (step st toks).1)
    (fun _ toks hst => step_reach toks hst) lines ({} : St) .init

end Muscle.Reflector
