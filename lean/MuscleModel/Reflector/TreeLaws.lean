import MuscleModel.Reflector.Server
import MuscleModel.Base.Lists

/-!
# Laws of the node tree

The field setters, the children lists (`findKid`, `putKid`, `removeKid`), `updateAt` / `nodeAt`, and their server forms
`setNode` / `getNode`.  A read after an update is answered by the position of the read relative to the updated path: below it
(`nodeAt_updateAt_below`), at a prefix of it (`nodeAt_updateAt_prefix`), apart from it (`nodeAt_updateAt_apart`); a step into a
non-empty path changes of the node it starts from only the children, not their names (`updateAt_cons_setKids`).
-/


namespace Muscle.Reflector
open Muscle

@[simp] theorem Node.setData_name (n : Node) (v) : (n.setData v).name = n.name := rfl
@[simp] theorem Node.setData_data (n : Node) (v) : (n.setData v).data = v := rfl
@[simp] theorem Node.setData_kids (n : Node) (v) : (n.setData v).kids = n.kids := rfl
@[simp] theorem Node.setData_index (n : Node) (v) : (n.setData v).index = n.index := rfl
@[simp] theorem Node.setData_ctr (n : Node) (v) : (n.setData v).ctr = n.ctr := rfl
@[simp] theorem Node.setData_subs (n : Node) (v) : (n.setData v).subs = n.subs := rfl
@[simp] theorem Node.setKids_name (n : Node) (v) : (n.setKids v).name = n.name := rfl
@[simp] theorem Node.setKids_data (n : Node) (v) : (n.setKids v).data = n.data := rfl
@[simp] theorem Node.setKids_kids (n : Node) (v) : (n.setKids v).kids = v := rfl
@[simp] theorem Node.setKids_index (n : Node) (v) : (n.setKids v).index = n.index := rfl
@[simp] theorem Node.setKids_ctr (n : Node) (v) : (n.setKids v).ctr = n.ctr := rfl
@[simp] theorem Node.setKids_subs (n : Node) (v) : (n.setKids v).subs = n.subs := rfl
@[simp] theorem Node.setIndex_name (n : Node) (v) : (n.setIndex v).name = n.name := rfl
@[simp] theorem Node.setIndex_data (n : Node) (v) : (n.setIndex v).data = n.data := rfl
@[simp] theorem Node.setIndex_kids (n : Node) (v) : (n.setIndex v).kids = n.kids := rfl
@[simp] theorem Node.setIndex_index (n : Node) (v) : (n.setIndex v).index = v := rfl
@[simp] theorem Node.setIndex_ctr (n : Node) (v) : (n.setIndex v).ctr = n.ctr := rfl
@[simp] theorem Node.setIndex_subs (n : Node) (v) : (n.setIndex v).subs = n.subs := rfl
@[simp] theorem Node.setCtr_name (n : Node) (v) : (n.setCtr v).name = n.name := rfl
@[simp] theorem Node.setCtr_data (n : Node) (v) : (n.setCtr v).data = n.data := rfl
@[simp] theorem Node.setCtr_kids (n : Node) (v) : (n.setCtr v).kids = n.kids := rfl
@[simp] theorem Node.setCtr_index (n : Node) (v) : (n.setCtr v).index = n.index := rfl
@[simp] theorem Node.setCtr_ctr (n : Node) (v) : (n.setCtr v).ctr = v := rfl
@[simp] theorem Node.setCtr_subs (n : Node) (v) : (n.setCtr v).subs = n.subs := rfl
@[simp] theorem Node.setSubs_name (n : Node) (v) : (n.setSubs v).name = n.name := rfl
@[simp] theorem Node.setSubs_data (n : Node) (v) : (n.setSubs v).data = n.data := rfl
@[simp] theorem Node.setSubs_kids (n : Node) (v) : (n.setSubs v).kids = n.kids := rfl
@[simp] theorem Node.setSubs_index (n : Node) (v) : (n.setSubs v).index = n.index := rfl
@[simp] theorem Node.setSubs_ctr (n : Node) (v) : (n.setSubs v).ctr = n.ctr := rfl
@[simp] theorem Node.setSubs_subs (n : Node) (v) : (n.setSubs v).subs = v := rfl
@[simp] theorem Node.fresh_name (nm : Bytes) (d : Option Nat) : (Node.fresh nm d).name = nm := rfl
@[simp] theorem Node.fresh_data (nm : Bytes) (d : Option Nat) : (Node.fresh nm d).data = d := rfl
@[simp] theorem Node.fresh_kids (nm : Bytes) (d : Option Nat) : (Node.fresh nm d).kids = [] := rfl
@[simp] theorem Node.fresh_index (nm : Bytes) (d : Option Nat) : (Node.fresh nm d).index = [] := rfl
@[simp] theorem Node.fresh_ctr (nm : Bytes) (d : Option Nat) : (Node.fresh nm d).ctr = 0 := rfl
@[simp] theorem Node.fresh_subs (nm : Bytes) (d : Option Nat) : (Node.fresh nm d).subs = [] := rfl

theorem Node.setIndex_self (n : Node) : n.setIndex n.index = n := by cases n; rfl
theorem Node.setKids_self (n : Node) : n.setKids n.kids = n := by cases n; rfl
@[simp] theorem Node.setIndex_setIndex (n : Node) (a b : List Bytes) : (n.setIndex a).setIndex b = n.setIndex b := rfl
@[simp] theorem Node.setKids_setKids (n : Node) (a b : List Node) : (n.setKids a).setKids b = n.setKids b := rfl

theorem findKid_eq (nm : Bytes) (kids : List Node) : findKid nm kids = kids.find? (fun k => k.name = nm) := by
  induction kids with
  | nil => rfl
  | cons a r ih =>
    rw [findKid, List.find?_cons, ih]
    by_cases h : a.name = nm
    · rw [if_pos h, decide_eq_true h]
    · rw [if_neg h, decide_eq_false h]

theorem findKid_name {nm : Bytes} {kids : List Node} {k : Node} (h : findKid nm kids = some k) : k.name = nm := by
  rw [findKid_eq] at h
  have := List.find?_some h
  exact of_decide_eq_true this

theorem findKid_some_mem {nm : Bytes} {ks : List Node} {k : Node} (h : findKid nm ks = some k) : k ∈ ks := by
  rw [findKid_eq] at h
  exact List.mem_of_find?_eq_some h

theorem findKid_none {nm : Bytes} {kids : List Node} (h : findKid nm kids = none) : ∀ k ∈ kids, k.name ≠ nm := by
  rw [findKid_eq, List.find?_eq_none] at h
  exact fun k hk e => h k hk (decide_eq_true e)

theorem findKid_none_not_mem {nm : Bytes} {ks : List Node} (h : findKid nm ks = none) : nm ∉ ks.map Node.name :=
  fun hm => by obtain ⟨k, hk, e⟩ := List.mem_map.1 hm; exact findKid_none h k hk e

theorem findKid_isSome_iff {nm : Bytes} {kids : List Node} : (findKid nm kids).isSome ↔ nm ∈ kids.map Node.name := by
  rw [findKid_eq, List.find?_isSome, List.mem_map]
  exact ⟨fun ⟨k, hk, e⟩ => ⟨k, hk, of_decide_eq_true e⟩, fun ⟨k, hk, e⟩ => ⟨k, hk, decide_eq_true e⟩⟩

theorem findKid_of_mem {kids : List Node} (hn : (kids.map Node.name).Nodup) {k : Node} (hk : k ∈ kids) :
    findKid k.name kids = some k :=
  (findKid_eq k.name kids).trans (find_of_mem hn hk)

theorem findKid_putKid_same (c : Node) (kids : List Node) : findKid c.name (putKid c kids) = some c := by
  induction kids with
  | nil => simp [putKid, findKid]
  | cons a r ih =>
    simp only [putKid]
    split
    · simp [findKid]
    · rename_i h; simp [findKid, h, ih]

theorem findKid_putKid_ne {c : Node} {nm : Bytes} (h : c.name ≠ nm) (kids : List Node) :
    findKid nm (putKid c kids) = findKid nm kids := by
  induction kids with
  | nil => simp [putKid, findKid, h]
  | cons a r ih =>
    simp only [putKid]
    split
    · rename_i h1
      have : a.name ≠ nm := by rw [h1]; exact h
      simp [findKid, h, this]
    · simp only [findKid, ih]

theorem findKid_putKid_isSome {nm : Bytes} (c : Node) {ks : List Node} (h : (findKid nm ks).isSome) :
    (findKid nm (putKid c ks)).isSome := by
  by_cases hc : c.name = nm
  · subst hc; simp [findKid_putKid_same]
  · rw [findKid_putKid_ne hc]; exact h

theorem map_name_putKid (c : Node) (ks : List Node) :
    (putKid c ks).map Node.name =
      if (findKid c.name ks).isSome then ks.map Node.name else ks.map Node.name ++ [c.name] := by
  induction ks with
  | nil => simp [putKid, findKid]
  | cons x r ih =>
    simp only [putKid, findKid]
    by_cases hx : x.name = c.name
    · simp [hx]
    · simp only [hx, if_false, List.map_cons, ih]
      split <;> simp

theorem mem_putKid {c k : Node} {ks : List Node} (h : k ∈ putKid c ks) : k = c ∨ k ∈ ks := by
  induction ks with
  | nil => simp [putKid] at h; exact Or.inl h
  | cons x r ih =>
    simp only [putKid] at h
    split at h
    · simp only [List.mem_cons] at h ⊢
      rcases h with h | h
      · exact Or.inl h
      · exact Or.inr (Or.inr h)
    · simp only [List.mem_cons] at h ⊢
      rcases h with h | h
      · exact Or.inr (Or.inl h)
      · rcases ih h with h | h
        · exact Or.inl h
        · exact Or.inr (Or.inr h)

theorem putKid_self {nm : Bytes} {ks : List Node} {k : Node} (h : findKid nm ks = some k) : putKid k ks = ks := by
  induction ks with
  | nil => simp [findKid] at h
  | cons x r ih =>
    simp only [findKid] at h
    simp only [putKid]
    split at h
    · cases h; simp
    · rename_i hx
      rw [if_neg (by rw [findKid_name h]; exact hx), ih h]

theorem putKid_putKid {c c' : Node} (ks : List Node) (h : c.name = c'.name) : putKid c (putKid c' ks) = putKid c ks := by
  induction ks with
  | nil => simp [putKid, h]
  | cons x r ih =>
    simp only [putKid]
    by_cases hx : x.name = c'.name
    · simp [hx, putKid, h]
    · simp [hx, putKid, h, ih]

theorem findKid_removeKid_ne {key b : Bytes} (h : b ≠ key) (kids : List Node) :
    findKid b (removeKid key kids) = findKid b kids := by
  induction kids with
  | nil => rfl
  | cons a r ih =>
    simp only [removeKid]
    split
    · rename_i ha
      have : ¬ a.name = b := by rw [ha]; exact fun e => h e.symm
      simp [findKid, this]
    · simp only [findKid, ih]

theorem findKid_removeKid_nodup (nm : Bytes) (kids : List Node) (h : (kids.map Node.name).Nodup) :
    findKid nm (removeKid nm kids) = none := by
  induction kids with
  | nil => rfl
  | cons a r ih =>
    simp only [List.map_cons, List.nodup_cons] at h
    simp only [removeKid]
    split
    · rename_i ha
      cases hf : findKid nm r with
      | none => rfl
      | some k =>
        have : nm ∈ r.map Node.name := findKid_isSome_iff.mp (by rw [hf]; rfl)
        rw [← ha] at this
        exact absurd this h.1
    · rename_i ha
      simp only [findKid, ha, if_false]
      exact ih h.2

theorem removeKid_sublist (nm : Bytes) (ks : List Node) : (removeKid nm ks).Sublist ks := by
  induction ks with
  | nil => simp [removeKid]
  | cons x r ih =>
    simp only [removeKid]
    split
    · exact List.sublist_cons_self x r
    · exact List.Sublist.cons_cons x ih

theorem updateAt_nil (fuel : Nat) (n : Node) (f : Node → Node) : updateAt fuel n [] f = f n := by
  cases fuel <;> rfl

theorem updateAt_zero_cons (n : Node) (a : Bytes) (r : List Bytes) (f : Node → Node) : updateAt 0 n (a :: r) f = n := rfl

theorem updateAt_succ_cons (fuel : Nat) (n : Node) (a : Bytes) (r : List Bytes) (f : Node → Node) :
    updateAt (fuel + 1) n (a :: r) f =
      match findKid a n.kids with
      | none => n
      | some k => n.setKids (putKid (updateAt fuel k r f) n.kids) := by
  cases h : findKid a n.kids <;> simp [updateAt, h]

theorem nodeAt_nil (fuel : Nat) (n : Node) : nodeAt fuel n [] = some n := by
  cases fuel <;> rfl

theorem nodeAt_zero_cons (n : Node) (a : Bytes) (r : List Bytes) : nodeAt 0 n (a :: r) = none := rfl

theorem nodeAt_succ_cons (fuel : Nat) (n : Node) (a : Bytes) (r : List Bytes) :
    nodeAt (fuel + 1) n (a :: r) =
      match findKid a n.kids with
      | none => none
      | some k => nodeAt fuel k r := by
  cases h : findKid a n.kids <;> simp [nodeAt, h]

theorem nodeAt_singleton (fuel : Nat) (n : Node) (a : Bytes) : nodeAt (fuel + 1) n [a] = findKid a n.kids := by
  rw [nodeAt_succ_cons]
  cases findKid a n.kids <;> simp only [nodeAt_nil]

/-- a path read in two steps; the second step has the fuel the first has left -/
theorem nodeAt_append : ∀ (fuel : Nat) (n : Node) (p w : List Bytes),
    nodeAt fuel n (p ++ w) = (nodeAt fuel n p).bind (fun m => nodeAt (fuel - p.length) m w) := by
  intro fuel
  induction fuel with
  | zero =>
    intro n p w
    cases p with
    | nil => simp only [List.nil_append, nodeAt_nil, Option.bind_some, List.length_nil, Nat.sub_zero]
    | cons a r => simp only [List.cons_append, nodeAt_zero_cons, Option.bind_none]
  | succ fuel ih =>
    intro n p w
    cases p with
    | nil => simp only [List.nil_append, nodeAt_nil, Option.bind_some, List.length_nil, Nat.sub_zero]
    | cons a r =>
      rw [List.cons_append, nodeAt_succ_cons, nodeAt_succ_cons, List.length_cons, Nat.add_sub_add_right]
      cases findKid a n.kids with
      | none => rfl
      | some k => exact ih k r w

theorem updateAt_append (f : Node → Node) (fuel : Nat) (n : Node) (pre ext : List Bytes) :
    updateAt fuel n (pre ++ ext) f = updateAt fuel n pre (fun p => updateAt (fuel - pre.length) p ext f) := by
  induction pre generalizing fuel n with
  | nil => simp [updateAt_nil]
  | cons a r ih =>
    cases fuel with
    | zero => rfl
    | succ fuel =>
      simp only [List.cons_append, updateAt, List.length_cons, Nat.add_sub_add_right]
      cases findKid a n.kids with
      | none => rfl
      | some k => simp only [ih]

theorem updateAt_name {f : Node → Node} (hf : ∀ n, (f n).name = n.name) (fuel : Nat) (n : Node) (path : List Bytes) :
    (updateAt fuel n path f).name = n.name := by
  cases path with
  | nil => rw [updateAt_nil]; exact hf n
  | cons a r =>
    cases fuel with
    | zero => rfl
    | succ fuel =>
      rw [updateAt_succ_cons]
      split <;> rfl

theorem updateAt_cons_index (f : Node → Node) (fuel : Nat) (n : Node) (a : Bytes) (r : List Bytes) :
    (updateAt fuel n (a :: r) f).index = n.index := by
  cases fuel with
  | zero => rfl
  | succ fuel =>
    rw [updateAt_succ_cons]
    split <;> rfl

theorem updateAt_cons_setKids {f : Node → Node} (hname : ∀ n, (f n).name = n.name) (fuel : Nat) (n : Node) (a : Bytes)
    (r : List Bytes) : ∃ k, k.map Node.name = n.kids.map Node.name ∧ updateAt fuel n (a :: r) f = n.setKids k := by
  cases fuel with
  | zero => exact ⟨n.kids, rfl, n.setKids_self.symm⟩
  | succ fuel =>
    rw [updateAt_succ_cons]
    cases hk : findKid a n.kids with
    | none => exact ⟨n.kids, rfl, n.setKids_self.symm⟩
    | some k =>
      refine ⟨_, ?_, rfl⟩
      rw [map_name_putKid, if_pos]
      rw [updateAt_name hname, findKid_name hk, hk]; rfl

/-- one step down an updated path: the step along the path meets the updated child, any other step the old tree -/
theorem nodeAt_updateAt_cons {f : Node → Node} (hname : ∀ n, (f n).name = n.name) (fuel : Nat) (n : Node)
    (a : Bytes) (r : List Bytes) (b : Bytes) (rest : List Bytes) :
    nodeAt (fuel + 1) (updateAt (fuel + 1) n (a :: r) f) (b :: rest) =
      if b = a then (findKid a n.kids).bind (fun k => nodeAt fuel (updateAt fuel k r f) rest)
      else nodeAt (fuel + 1) n (b :: rest) := by
  rw [updateAt_succ_cons]
  cases hk : findKid a n.kids with
  | none =>
    by_cases hb : b = a
    · rw [if_pos hb, hb, nodeAt_succ_cons, hk]; rfl
    · rw [if_neg hb]
  | some k =>
    have hkn : (updateAt fuel k r f).name = a := by rw [updateAt_name hname]; exact findKid_name hk
    simp only []
    rw [nodeAt_succ_cons, Node.setKids_kids]
    by_cases hb : b = a
    · rw [if_pos hb, hb, ← hkn, findKid_putKid_same]; rfl
    · rw [if_neg hb, findKid_putKid_ne (by rw [hkn]; exact fun e => hb e.symm), nodeAt_succ_cons]

theorem nodeAt_updateAt_below {f : Node → Node} (hname : ∀ n, (f n).name = n.name) :
    ∀ (path : List Bytes) (fuel : Nat) (n : Node) (ext : List Bytes),
      nodeAt fuel (updateAt fuel n path f) (path ++ ext) =
        (nodeAt fuel n path).bind (fun t => nodeAt (fuel - path.length) (f t) ext) := by
  intro path
  induction path with
  | nil => intro fuel n ext; simp [updateAt_nil, nodeAt_nil]
  | cons a r ih =>
    intro fuel n ext
    cases fuel with
    | zero => rfl
    | succ fuel =>
      rw [List.cons_append, nodeAt_updateAt_cons hname, if_pos rfl, nodeAt_succ_cons, List.length_cons,
        Nat.add_sub_add_right]
      cases findKid a n.kids with
      | none => rfl
      | some k => exact ih fuel k ext

theorem nodeAt_updateAt_same {f : Node → Node} (hf : ∀ n, (f n).name = n.name) (fuel : Nat) (n : Node)
    (path : List Bytes) :
    nodeAt fuel (updateAt fuel n path f) path = (nodeAt fuel n path).map f := by
  have := nodeAt_updateAt_below hf path fuel n []
  rw [List.append_nil] at this
  rw [this]; cases nodeAt fuel n path <;> simp [nodeAt_nil]

theorem nodeAt_updateAt_prefix {f : Node → Node} (hf : ∀ n, (f n).name = n.name) (fuel : Nat) (n : Node)
    (pre ext : List Bytes) :
    nodeAt fuel (updateAt fuel n (pre ++ ext) f) pre =
      (nodeAt fuel n pre).map (fun p => updateAt (fuel - pre.length) p ext f) := by
  rw [updateAt_append, nodeAt_updateAt_same (fun p => updateAt_name hf _ p ext)]

theorem nodeAt_updateAt_apart {f : Node → Node} (hname : ∀ n, (f n).name = n.name) :
    ∀ (fuel : Nat) (n : Node) (path names : List Bytes), ¬ path <+: names → ¬ names <+: path →
      nodeAt fuel (updateAt fuel n path f) names = nodeAt fuel n names := by
  intro fuel
  induction fuel with
  | zero =>
    intro n path names h1 _
    cases path with
    | nil => exact absurd List.nil_prefix h1
    | cons a r => rw [updateAt_zero_cons]
  | succ fuel ih =>
    intro n path names h1 h2
    cases path with
    | nil => exact absurd List.nil_prefix h1
    | cons a r =>
      cases names with
      | nil => exact absurd List.nil_prefix h2
      | cons b rest =>
        rw [nodeAt_updateAt_cons hname]
        by_cases hb : b = a
        · subst hb
          rw [if_pos rfl, nodeAt_succ_cons]
          cases findKid b n.kids with
          | none => rfl
          | some k =>
            exact ih k r rest (fun hp => h1 (List.cons_prefix_cons.2 ⟨rfl, hp⟩)) (fun hp => h2 (List.cons_prefix_cons.2 ⟨rfl, hp⟩))
        · rw [if_neg hb]

theorem nodeAt_updateAt_off {α : Type _} (π : Node → α)
    (hπ : ∀ (n : Node) k, k.map Node.name = n.kids.map Node.name → π (n.setKids k) = π n)
    {f : Node → Node} (hname : ∀ n, (f n).name = n.name) (fuel : Nat) (n : Node) (path w : List Bytes) (h : ¬ path <+: w) :
    (nodeAt fuel (updateAt fuel n path f) w).map π = (nodeAt fuel n w).map π := by
  by_cases hw : w <+: path
  · obtain ⟨ext, rfl⟩ := hw
    cases ext with
    | nil => exact absurd (by simp) h
    | cons a r =>
      rw [nodeAt_updateAt_prefix hname]
      cases nodeAt fuel n w with
      | none => rfl
      | some p =>
        obtain ⟨k, hk, e⟩ := updateAt_cons_setKids hname (fuel - w.length) p a r
        simp only [Option.map_some, e, hπ p k hk]
  · rw [nodeAt_updateAt_apart hname _ _ _ _ h hw]

/-- Through a projection that ignores the children, an update that keeps names and children shows at `path` only. -/
theorem nodeAt_updateAt_proj {α} (π : Node → α) (hπ : ∀ n k, π (n.setKids k) = π n) {f : Node → Node}
    (hname : ∀ n, (f n).name = n.name) (hkids : ∀ n, (f n).kids = n.kids) (fuel : Nat) (n : Node) (path names : List Bytes) :
    (nodeAt fuel (updateAt fuel n path f) names).map π
      = (nodeAt fuel n names).map (fun m => if names = path then π (f m) else π m) := by
  by_cases hp : path <+: names
  · obtain ⟨ext, rfl⟩ := hp
    rw [nodeAt_updateAt_below hname, nodeAt_append]
    cases nodeAt fuel n path with
    | none => rfl
    | some t =>
      cases ext with
      | nil => simp [nodeAt_nil]
      | cons b rest =>
        -- `f` keeps the children, so nothing changes below `path`
        have : ¬ (path ++ b :: rest = path) := by simp
        cases hj : fuel - path.length with
        | zero => simp [nodeAt_zero_cons]
        | succ j => simp only [Option.bind_some, nodeAt_succ_cons, hkids, this, if_false]
  · have hne : ¬ names = path := fun e => hp (e ▸ List.prefix_refl _)
    simp only [hne, if_false]
    exact nodeAt_updateAt_off π (fun n k _ => hπ n k) hname fuel n path names hp

theorem updateAt_congr {f g : Node → Node} (fuel : Nat) (n : Node) (path : List Bytes)
    (h : ∀ p, nodeAt fuel n path = some p → f p = g p) : updateAt fuel n path f = updateAt fuel n path g := by
  induction path generalizing fuel n with
  | nil => rw [updateAt_nil, updateAt_nil]; exact h n (nodeAt_nil _ _)
  | cons a r ih =>
    cases fuel with
    | zero => rfl
    | succ fuel =>
      simp only [updateAt]
      cases hk : findKid a n.kids with
      | none => rfl
      | some k => simp only []; rw [ih fuel k (fun p hp => h p (by simpa [nodeAt, hk] using hp))]

theorem updateAt_id (fuel : Nat) (n : Node) (path : List Bytes) : updateAt fuel n path (fun q => q) = n := by
  induction path generalizing fuel n with
  | nil => exact updateAt_nil _ _ _
  | cons a r ih =>
    cases fuel with
    | zero => rfl
    | succ fuel =>
      simp only [updateAt]
      cases hk : findKid a n.kids with
      | none => rfl
      | some k => simp only []; rw [ih, putKid_self hk, Node.setKids_self]

theorem updateAt_updateAt {f g : Node → Node} (hf : ∀ n, (f n).name = n.name) (hg : ∀ n, (g n).name = n.name)
    (fuel : Nat) (n : Node) (path : List Bytes) :
    updateAt fuel (updateAt fuel n path f) path g = updateAt fuel n path (fun q => g (f q)) := by
  induction path generalizing fuel n with
  | nil => simp only [updateAt_nil]
  | cons a r ih =>
    cases fuel with
    | zero => rfl
    | succ fuel =>
      simp only [updateAt]
      cases hk : findKid a n.kids with
      | none => simp only [hk]
      | some k =>
        have hs := findKid_putKid_same (updateAt fuel k r f) n.kids
        rw [updateAt_name hf, findKid_name hk] at hs
        simp only [Node.setKids_kids, hs, Node.setKids_setKids, ih]
        rw [putKid_putKid _ (by rw [updateAt_name (fun q => (hg (f q)).trans (hf q)), updateAt_name hf])]

theorem getNode_congr {sv sv' : Server} (h : sv'.root = sv.root) (names : List Bytes) :
    getNode sv' names = getNode sv names := by
  simp [getNode, h]

@[simp] theorem setNode_root (sv : Server) (names : List Bytes) (f : Node → Node) :
    (setNode sv names f).root = updateAt fuelDepth sv.root names f := rfl

theorem getNode_setNode {f : Node → Node} (hf : ∀ n, (f n).name = n.name) (sv : Server) (path : List Bytes) :
    getNode (setNode sv path f) path = (getNode sv path).map f :=
  nodeAt_updateAt_same hf _ _ _

theorem setIndex_name_pres (g : Node → List Bytes) : ∀ n : Node, (n.setIndex (g n)).name = n.name := by
  intro n; simp
theorem setKids_name_pres (g : Node → List Node) : ∀ n : Node, (n.setKids (g n)).name = n.name := by
  intro n; simp
theorem setCtr_name_pres (c : Nat) : ∀ n : Node, (n.setCtr c).name = n.name := by
  intro n; simp

theorem getNode_setIndex {sv : Server} {parent : List Bytes} {p : Node} (g : Node → List Bytes)
    (h : getNode sv parent = some p) :
    getNode (setNode sv parent (fun q => q.setIndex (g q))) parent = some (p.setIndex (g p)) := by
  rw [getNode_setNode (setIndex_name_pres g), h]; rfl

theorem getNode_setNode_prefix {f : Node → Node} (hf : ∀ n, (f n).name = n.name) (sv : Server)
    (pre ext : List Bytes) :
    getNode (setNode sv (pre ++ ext) f) pre =
      (getNode sv pre).map (fun p => updateAt (fuelDepth - pre.length) p ext f) :=
  nodeAt_updateAt_prefix hf _ _ _ _

theorem setNode_root_congr {sv sv' : Server} (h : sv'.root = sv.root) (path : List Bytes) (f : Node → Node) :
    (setNode sv' path f).root = (setNode sv path f).root := by
  simp only [setNode_root, h]

theorem setNode_congr {f g : Node → Node} (sv : Server) (path : List Bytes)
    (h : ∀ p, getNode sv path = some p → f p = g p) : setNode sv path f = setNode sv path g := by
  unfold setNode; rw [updateAt_congr _ _ _ h]

theorem setNode_fix {f : Node → Node} (sv : Server) (path : List Bytes)
    (h : ∀ p, getNode sv path = some p → f p = p) : setNode sv path f = sv := by
  unfold setNode; rw [updateAt_congr _ _ _ h, updateAt_id]

theorem setNode_setNode {f g : Node → Node} (hf : ∀ n, (f n).name = n.name) (hg : ∀ n, (g n).name = n.name)
    (sv : Server) (path : List Bytes) :
    setNode (setNode sv path f) path g = setNode sv path (fun q => g (f q)) := by
  unfold setNode; simp only [updateAt_updateAt hf hg]

theorem getNode_append (sv : Server) (p w : List Bytes) :
    getNode sv (p ++ w) = (getNode sv p).bind (fun m => nodeAt (fuelDepth - p.length) m w) :=
  nodeAt_append _ _ _ _

theorem getNode_snoc {sv : Server} {pre : List Bytes} {k : Bytes} {c : Node}
    (h : getNode sv (pre ++ [k]) = some c) : ∃ p, getNode sv pre = some p ∧ findKid k p.kids = some c := by
  rw [getNode_append] at h
  cases hp : getNode sv pre with
  | none => rw [hp] at h; cases h
  | some p =>
    rw [hp, Option.bind_some] at h
    cases hj : fuelDepth - pre.length with
    | zero => rw [hj, nodeAt_zero_cons] at h; cases h
    | succ j => rw [hj, nodeAt_singleton] at h; exact ⟨p, rfl, h⟩

theorem getNode_snoc_eq (sv : Server) (p : List Bytes) (k : Bytes) (hp : p.length < fuelDepth) :
    getNode sv (p ++ [k]) = (getNode sv p).bind (fun m => findKid k m.kids) := by
  obtain ⟨j, hj⟩ : ∃ j, fuelDepth - p.length = j + 1 := ⟨fuelDepth - p.length - 1, by omega⟩
  simp only [getNode_append, hj, nodeAt_singleton]

theorem getNode_append_none (sv : Server) (p w : List Bytes) (h : getNode sv p = none) : getNode sv (p ++ w) = none := by
  rw [getNode_append, h]; rfl

theorem nodeAt_leaf_cons {c : Node} (hc : c.kids = []) (k : Nat) (b : Bytes) (r : List Bytes) :
    nodeAt k c (b :: r) = none := by
  cases k with
  | zero => exact nodeAt_zero_cons _ _ _
  | succ k => rw [nodeAt_succ_cons, hc]; rfl

theorem getNode_below_leaf (sv : Server) (p : List Bytes) {n : Node} (h : getNode sv p = some n) (hk : n.kids = [])
    (b : Bytes) (w : List Bytes) : getNode sv (p ++ b :: w) = none := by
  rw [getNode_append, h]
  exact nodeAt_leaf_cons hk _ b w

theorem getNode_setNode_below {f : Node → Node} (hname : ∀ n, (f n).name = n.name) (sv : Server)
    (path ext : List Bytes) :
    getNode (setNode sv path f) (path ++ ext) =
      (getNode sv path).bind (fun t => nodeAt (fuelDepth - path.length) (f t) ext) :=
  nodeAt_updateAt_below hname path _ _ ext

theorem getNode_setNode_off {α : Type _} (π : Node → α)
    (hπ : ∀ (n : Node) k, k.map Node.name = n.kids.map Node.name → π (n.setKids k) = π n)
    {f : Node → Node} (hname : ∀ n, (f n).name = n.name) (sv : Server) (path w : List Bytes) (h : ¬ path <+: w) :
    (getNode (setNode sv path f) w).map π = (getNode sv w).map π :=
  nodeAt_updateAt_off π hπ hname _ _ _ _ h

theorem getNode_nil (sv : Server) : getNode sv [] = some sv.root := nodeAt_nil _ _

theorem getNode_cons {sv : Server} {parent : List Bytes} {p : Node} (hp : getNode sv parent = some p) (b : Bytes)
    (r : List Bytes) :
    getNode sv (parent ++ b :: r) =
      match fuelDepth - parent.length with
      | 0 => none
      | k + 1 => (findKid b p.kids).bind (fun c => nodeAt k c r) := by
  rw [getNode_append, hp]
  simp only [Option.bind_some]
  cases fuelDepth - parent.length with
  | zero => exact nodeAt_zero_cons _ _ _
  | succ k => rw [nodeAt_succ_cons]; cases findKid b p.kids <;> rfl

theorem getNode_setKids_cons {sv : Server} {parent : List Bytes} {p : Node} (hp : getNode sv parent = some p)
    (g : List Node → List Node) (b : Bytes) (r : List Bytes) :
    getNode (setNode sv parent (fun q => q.setKids (g q.kids))) (parent ++ b :: r) =
      match fuelDepth - parent.length with
      | 0 => none
      | k + 1 => (findKid b (g p.kids)).bind (fun c => nodeAt k c r) :=
  getNode_cons (p := p.setKids (g p.kids)) (by rw [getNode_setNode (by intro _; rfl), hp]; rfl) b r

theorem getNode_setNode_sibling {f : Node → Node} (hname : ∀ n, (f n).name = n.name) {key : Bytes}
    (hk : ∀ m b, b ≠ key → findKid b (f m).kids = findKid b m.kids) (sv : Server) (parent : List Bytes) {b : Bytes} (hb : b ≠ key)
    (r : List Bytes) : getNode (setNode sv parent f) (parent ++ b :: r) = getNode sv (parent ++ b :: r) := by
  rw [getNode_setNode_below hname, getNode_append]
  cases getNode sv parent with
  | none => rfl
  | some p =>
    cases fuelDepth - parent.length with
    | zero => rfl
    | succ j => simp only [Option.bind_some, nodeAt_succ_cons, hk p b hb]

/-- Replacing the children of the node at `parent` in a way that touches the child named `key` only is invisible, through
    any projection that ignores the children, outside the subtree at `parent ++ [key]`. -/
theorem getNode_setKids_off {α : Type} (π : Node → α) (hπ : ∀ n k, π (n.setKids k) = π n) (sv : Server)
    (parent : List Bytes) (g : List Node → List Node) {key : Bytes}
    (hg : ∀ ks b, b ≠ key → findKid b (g ks) = findKid b ks) (w : List Bytes) (hw : ¬ (parent ++ [key]) <+: w) :
    (getNode (setNode sv parent (fun q => q.setKids (g q.kids))) w).map π = (getNode sv w).map π := by
  by_cases hpre : parent <+: w
  · obtain ⟨ext, rfl⟩ := hpre
    cases ext with
    | nil => rw [List.append_nil, getNode_setNode (by intro _; rfl)]; cases getNode sv parent <;> simp [hπ]
    | cons b r =>
      rw [getNode_setNode_sibling (f := fun q => q.setKids (g q.kids)) (fun _ => rfl) (fun m b hb => hg m.kids b hb) sv parent
        (fun e => hw ⟨r, by rw [e, List.append_assoc, List.singleton_append]⟩)]
  · exact getNode_setNode_off π (fun n k _ => hπ n k) (by intro _; rfl) sv parent w hpre

/-- every path `RemoveChild` takes apart lies at or below the node it was called on -/
theorem removalOrder_prefix (fuel : Nat) (names : List Bytes) (n : Node) :
    ∀ nm ∈ removalOrder fuel names n, names <+: nm := by
  induction fuel generalizing names n with
  | zero => intro nm h; simp [removalOrder] at h; subst h; exact List.prefix_refl _
  | succ fuel ih =>
    intro nm h
    simp only [removalOrder, List.mem_append, List.mem_flatMap, List.mem_singleton] at h
    rcases h with ⟨k, _, hk⟩ | h
    · exact (List.prefix_append names [k.name]).trans (ih _ _ nm hk)
    · subst h; exact List.prefix_refl _

end Muscle.Reflector
