import MuscleModel.Reflector.Changes
import MuscleModel.Engines.Srv
import MuscleModel.Reflector.TravProofsCands
import MuscleModel.Reflector.SubscribeShape

/-!
# The command handlers and `runCmd` as sequences of steps

One lemma per handler: a handler of session `sid` that only adds to the tree is `Grow sid (sessNames s) N`, any other write handler
`Data sid (sessNames s) N`, a handler that only sends is `Delivers`; `runCmd_cases` is the case analysis of `runCmd`.
-/


namespace Muscle.Reflector
open Muscle

def VisitsNE (vs : List Visit) : Prop := ∀ v ∈ vs, v ≠ []

theorem VisitsNE.append {a b : List Visit} (ha : VisitsNE a) (hb : VisitsNE b) : VisitsNE (a ++ b) := by
  intro v h
  rcases List.mem_append.mp h with h | h
  · exact ha v h
  · exact hb v h

theorem doTraversal_ne (pm : PM) (uf : Bool) (rd : Nat) (cb : Visit → Nat → Node → Bool × Int) (node : Node) (fuel : Nat) :
    VisitsNE (doTraversal pm uf rd cb node fuel) := by
  intro v hv e
  have := (travAux_prefix _ fuel node [] rd v hv).2.1
  rw [e] at this
  exact Nat.lt_irrefl _ this

theorem travSession_suffix (sv : Server) (s : Sess) (pm : PM) (cb : Visit → Nat → Node → Bool × Int) :
    ∀ v ∈ travSession sv s pm cb, ∃ n w, getNode sv (sessNames s) = some n ∧ w ∈ doTraversal pm true 2 cb n fuelDepth ∧
      v = sessNames s ++ w := by
  intro v hv
  unfold travSession at hv
  split at hv
  · simp at hv
  · rename_i n hn
    obtain ⟨w, hw, rfl⟩ := List.mem_map.1 hv
    exact ⟨n, w, hn, hw, rfl⟩

theorem travSession_prefix (sv : Server) (s : Sess) (pm : PM) (cb : Visit → Nat → Node → Bool × Int) :
    ∀ v ∈ travSession sv s pm cb, sessNames s <+: v := by
  intro v hv
  obtain ⟨_, w, _, _, rfl⟩ := travSession_suffix sv s pm cb v hv
  exact List.prefix_append _ _

theorem travSession_length (sv : Server) (s : Sess) (pm : PM) (cb : Visit → Nat → Node → Bool × Int) :
    ∀ v ∈ travSession sv s pm cb, (sessNames s).length < v.length := by
  intro v hv
  obtain ⟨_, w, _, hw, rfl⟩ := travSession_suffix sv s pm cb v hv
  cases w with
  | nil => exact absurd rfl (doTraversal_ne _ _ _ _ _ _ [] hw)
  | cons a r => simp

/-- the clauses PR_COMMAND_SETDATA walks: the `/`-split of the path without its empty clauses (`a//b` means `a/b`) -/
def pathClauses (path : Bytes) : List Bytes := (splitSlash path).filter (· ≠ [])

theorem Chg.setDataNode {N : Bytes → Prop} {L : Nat → Prop} {a : Nat} {own : List Bytes} {s0 x : Server} (hauto : AutoOK N)
    {sa : Sess} (hsa : x.sess? a = some sa) (hown : own = sessNames sa) (path : Bytes)
    (hpath : ∀ c ∈ pathClauses path, N c)
    (hL : ∀ k, k ≤ 2 + (pathClauses path).length → L k) (d : Option Nat) (ati : Bool)
    (h : Chg N L a own s0 x) : Chg N L a own s0 (setDataNode x a path d ati) := by
  unfold Reflector.setDataNode
  rw [hsa]
  simp only []
  split
  · exact h
  · exact ite_pred h (Chg.setDataClauses hauto d ati _ x (sessNames sa) (hown ▸ List.prefix_refl _) hpath
      (fun k _ hk => hL k (by simpa [sessNames, pathClauses] using hk)) h)

theorem setDataNode_grow {N : Bytes → Prop} (hauto : AutoOK N) (sv : Server) (sid : Nat) (s : Sess) (hs : sv.sess? sid = some s)
    (path : Bytes) (d : Option Nat) (ati : Bool) (hpath : ∀ c ∈ pathClauses path, N c) :
    Grow sid (sessNames s) N sv (setDataNode sv sid path d ati) :=
  (Chg.refl.setDataNode (L := fun _ => True) hauto hs rfl path hpath (fun _ _ => trivial) d ati).grow

theorem subscribeRefs_data (sv : Server) (sid : Nat) (own : List Bytes) (N : Bytes → Prop) (pm : PM) (delta : Option Int) :
    Data sid own N sv (subscribeRefs sv sid pm delta) := by
  unfold subscribeRefs
  exact Acts.foldl _ _ (fun sv1 v _ => Data.mark sv1 v delta) sv

/-- `DoGetData` cut into its steps (`gd…`).  The data part of one visit: the node's payload joins the pending Message, which goes out when full -/
def gdData (s : Sess) (sid : Nat) (v : Visit) (n : Node) (X : Server) (dm : UpdMsg) : Server × UpdMsg :=
  let dm := dm.addSet (pathString v) n.data
  if dm.numNames ≥ s.maxItems then (X.deliver sid (dataText dm), ({} : UpdMsg)) else (X, dm)

/-- the index part: the node's index, if it has one, joins the pending index Message, which goes out when full -/
def gdIdx (s : Sess) (sid : Nat) (v : Visit) (n : Node) (X : Server) (dm : UpdMsg) (im : IdxMsg) : Server × UpdMsg × IdxMsg :=
  if n.index.isEmpty then (X, dm, im) else
    let np := pathString v
    let im := IdxMsg.add im np "c".toUTF8.toList
    let im := (n.index.zipIdx).foldl (fun im (nm, i) => IdxMsg.add im np (instrOf 'i' i nm)) im
    if im.length ≥ s.maxItems then (X.deliver sid (idxText im), dm, []) else (X, dm, im)

/-- one visit of `DoGetData` -/
def gdStep (s : Sess) (sid : Nat) (st : Server × UpdMsg × IdxMsg) (v : Visit) : Server × UpdMsg × IdxMsg :=
  match getNode st.1 v with
  | none => st
  | some n =>
    let r := gdData s sid v n st.1 st.2.1
    gdIdx s sid v n r.1 r.2 st.2.2

theorem doGetData_eq (sv : Server) (sid : Nat) (keys : List (Bytes × Option Filt)) :
    doGetData sv sid keys =
      match sv.sess? sid with
      | none => sv
      | some s =>
        let res := (travGlobal sv (pmOfKeys keys (some defaultPrefix)) true (getDataCb s)).foldl (gdStep s sid) (sv, {}, [])
        let sv1 := if res.2.1.numNames > 0 then res.1.deliver sid (dataText res.2.1) else res.1
        if res.2.2.length > 0 then sv1.deliver sid (idxText res.2.2) else sv1 := by
  unfold doGetData
  cases sv.sess? sid with
  | none => rfl
  | some s => rfl

theorem gdStep_delivers (s : Sess) (sid : Nat) (st : Server × UpdMsg × IdxMsg) (v : Visit) :
    Delivers (· = sid) AnyLine st.1 (gdStep s sid st v).1 := by
  have one : ∀ (x : Server) (w : String), Delivers (· = sid) AnyLine x (x.deliver sid w) := fun x w => .one x rfl trivial
  unfold gdStep
  split
  · exact .refl ..
  · rename_i n _
    have hd : Delivers (· = sid) AnyLine st.1 (gdData s sid v n st.1 st.2.1).1 := by
      unfold gdData
      simp only [apply_ite Prod.fst]
      exact ite_pred (one ..) (.refl ..)
    refine hd.trans ?_
    unfold gdIdx
    simp only [apply_ite Prod.fst]
    exact ite_pred (.refl ..) (ite_pred (one ..) (.refl ..))

theorem doGetData_delivers (sv : Server) (sid : Nat) (keys : List (Bytes × Option Filt)) :
    Delivers (· = sid) AnyLine sv (doGetData sv sid keys) := by
  rw [doGetData_eq]
  split
  · exact .refl ..
  · rename_i s _
    have h := foldl_inv (fun st : Server × UpdMsg × IdxMsg => Delivers (· = sid) AnyLine sv st.1) (gdStep s sid)
      (fun st v hst => hst.trans (gdStep_delivers s sid st v))
      (travGlobal sv (pmOfKeys keys (some defaultPrefix)) true (getDataCb s)) (sv, {}, []) (.refl ..)
    have one : ∀ (x : Server) (w : String), Delivers (· = sid) AnyLine x (x.deliver sid w) := fun x w => .one x rfl trivial
    simp only []
    exact ite_pred ((ite_pred (h.trans (one ..)) h).trans (one ..)) (ite_pred (h.trans (one ..)) h)

theorem isPrefixOf_subscribe (path : Bytes) : subscribePrefix.isPrefixOf (subscribePrefix ++ path) = true :=
  List.isPrefixOf_iff_prefix.mpr (List.prefix_append _ _)

theorem filter_noSub_filter (params : List Bytes) (p : Bytes → Bool) (hp : ∀ n, subscribePrefix.isPrefixOf n = false → p n = true) :
    (params.filter p).filter (fun n => !subscribePrefix.isPrefixOf n) = params.filter (fun n => !subscribePrefix.isPrefixOf n) := by
  rw [List.filter_filter]
  apply List.filter_congr
  intro n _
  cases hn : subscribePrefix.isPrefixOf n with
  | true => rfl
  | false => simp [hp n hn]

theorem subParams_noSub (params : List Bytes) (path : Bytes) :
    (subParams params path).filter (fun n => !subscribePrefix.isPrefixOf n)
      = params.filter (fun n => !subscribePrefix.isPrefixOf n) := by
  have hf := filter_noSub_filter params
    (fun n => n = subscribePrefix ++ path ||
      !(subscribePrefix.isPrefixOf n && adjustPrefix (n.drop subscribePrefix.length) (some defaultPrefix) = adjustPrefix path (some defaultPrefix)))
    (by intro n hn; simp [hn])
  unfold subParams
  simp only []
  split
  · exact hf
  · rw [List.filter_append, hf]
    simp [isPrefixOf_subscribe]

theorem subscribe_data (sv : Server) (sid : Nat) (own : List Bytes) (N : Bytes → Prop) (path : Bytes) (f : Option Filt) :
    Data sid own N sv (subscribe sv sid path f) := by
  -- every branch of `subscribe` ends: the branch's own writes; the parameter list (`subParams`); `doGetData`
  refine subscribe_cases (P := Data sid own N sv) sv sid path f (fun _ => .refl) (fun _ _ _ _ => ?_) (fun _ _ _ => ?_)
      (fun s e _ _ => ?_) <;>
    refine Acts.trans (Acts.trans ?_ (Data.self _ _ fun t => by simp only [Sess.dataFrame, subParams_noSub]))
      (doGetData_delivers ..).notif.data
  · exact (Data.self sv _ (by intro _; rfl)).trans (subscribeRefs_data ..)
  · exact .refl
  · -- re-subscription: the sessions's view of the matching nodes changes with the filter
    refine Acts.trans (ite_pred ?_ .refl) (Data.self _ _ (by intro _; rfl))
    exact Notif.data (Notif.foldl _ (fun sv1 v => rfStep_cases (P := Notif sv1) _ _ _ _ _ v .refl (nodeChangedAux_notif sv1 sid)) _ sv)

theorem unsubscribe_data (sv : Server) (sid : Nat) (own : List Bytes) (N : Bytes → Prop) (path : Bytes) :
    Data sid own N sv (unsubscribe sv sid path) := by
  have hpar : ∀ X : Server, Data sid own N X
      (X.updSess sid (fun t => { t with params := t.params.filter (· ≠ subscribePrefix ++ path) })) := fun X =>
    Data.self X _ fun t => by
      simp only [Sess.dataFrame]
      rw [filter_noSub_filter]
      intro n hn
      have : n ≠ subscribePrefix ++ path := by
        intro e; rw [e, isPrefixOf_subscribe] at hn; cases hn
      simpa using this
  exact unsubscribe_cases (P := Data sid own N sv) sv sid path .refl (fun _ _ => hpar sv)
    (fun _ _ _ _ => ((Data.self sv _ (by intro _; rfl)).trans (subscribeRefs_data ..)).trans (hpar _))

theorem sessNames_length (s : Sess) : (sessNames s).length = 2 := rfl

section
variable {N : Bytes → Prop}

theorem removeData_data (sv : Server) (sid : Nat) (s : Sess) (hs : sv.sess? sid = some s) (keys : List Bytes) :
    Data sid (sessNames s) N sv (removeData sv sid keys) := by
  unfold removeData
  rw [hs]
  simp only []
  apply Acts.foldl
  intro sv1 v hv
  rw [List.mem_reverse] at hv
  exact removeChild_data sv1 sid true v (travSession_prefix _ _ _ _ v hv) (travSession_length _ _ _ _ v hv)

theorem Chg.insertOrdered {L : Nat → Prop} {a : Nat} {own : List Bytes} {s0 x : Server} (hauto : AutoOK N) {sa : Sess}
    (hsa : x.sess? a = some sa) (hown : own = sessNames sa) (key before : Bytes) (vals : List Nat)
    (hd : ∀ v ∈ travSession x sa (pmOfKeys [(key, none)] none) cbContinue, L (v.length + 1))
    (h : Chg N L a own s0 x) : Chg N L a own s0 (insertOrdered x a key before vals) := by
  unfold Reflector.insertOrdered
  rw [hsa]
  refine Chg.foldl _ _ (fun y v hv hy => Chg.foldl _ _ (fun z val _ hz => ?_) y hy) x h
  cases hp : getNode z v with
  | none =>
    have : Reflector.insertOrderedChild z a v (some val) before [] true = z := by
      simp [Reflector.insertOrderedChild, hp]
    rw [this]; exact hz.indexing
  | some p =>
    have hnm : N (ordPair p []).1 := by rw [ordPair_of_empty p rfl]; exact hauto _ _ _
    exact (hz.insertOrderedChild (hown ▸ travSession_prefix x sa _ _ v hv) hp (some val) before []
      (ordPair_fresh p rfl) hnm (hd v hv)).indexing

theorem insertOrdered_grow (hauto : AutoOK N) (sv : Server) (sid : Nat) (s : Sess) (hs : sv.sess? sid = some s)
    (key before : Bytes) (vals : List Nat) : Grow sid (sessNames s) N sv (insertOrdered sv sid key before vals) :=
  (Chg.refl.insertOrdered (L := fun _ => True) hauto hs rfl key before vals (fun _ _ => trivial)).grow

/-- PR_COMMAND_REORDERDATA -/
theorem Chg.reorder {L : Nat → Prop} {a : Nat} {own : List Bytes} {s0 x : Server} {sa : Sess} (hsa : x.sess? a = some sa)
    (hown : own = sessNames sa) (key before : Bytes) (h : Chg N L a own s0 x) :
    Chg N L a own s0 (reorder x a key before) := by
  have hcore : Chg N L a own s0 (reorderCore x a key before) := by
    unfold reorderCore
    rw [hsa]
    refine Chg.foldl _ _ (fun y v hv hy => ?_) x h
    split
    · exact hy
    · by_cases hl : v.length ≤ 2
      · rw [if_pos hl]; exact hy
      · rw [if_neg hl]
        exact hy.reorderChild (hown ▸ prefix_dropLast (travSession_prefix _ _ _ _ v hv) (by rw [sessNames_length]; omega)) _ _
  unfold Reflector.reorder
  rw [hsa]
  exact ite_pred hcore.indexing hcore

theorem reorder_grow (sv : Server) (sid : Nat) (s : Sess) (hs : sv.sess? sid = some s) (key before : Bytes) :
    Grow sid (sessNames s) N sv (reorder sv sid key before) :=
  (Chg.refl.reorder (L := fun _ => False) hs rfl key before).grow

end

theorem route_delivers (sv : Server) (sid : Nat) (pm : PM) (what : String) :
    Delivers (fun _ => True) (· = what) sv (route sv sid pm what) := by
  unfold route
  split
  · exact .refl ..
  · apply Delivers.foldl
    intro sv1 v _
    split
    · exact .refl ..
    · split
      · exact .refl ..
      · exact ite_pred (.one sv1 trivial rfl) (.refl ..)

theorem sendMsg_delivers (sv : Server) (sid : Nat) (tag : Nat) (keys : List Bytes) :
    Delivers (fun _ => True) (· = msgText sid tag) sv (sendMsg sv sid tag keys) := by
  unfold sendMsg
  split
  · exact .refl ..
  · refine ite_pred (route_delivers ..) (ite_pred (route_delivers ..) ?_)
    apply Delivers.foldl
    intro sv1 t _
    exact ite_pred (.one sv1 trivial rfl) (.refl ..)

/-- after the new session has been put into the table, `attach` is made of the same writes as a command of the new session; the
    subtree is the whole tree (`own = []`) because the host node is put below the root -/
theorem attach_grow {N : Bytes → Prop} (sv : Server) (slot : Nat) (host : Bytes) (hh : N host) (hs : N (sidName sv.nextSid)) :
    Grow sv.nextSid [] N
      { sv with nextSid := sv.nextSid + 1, live := true,
                sessions := sv.sessions ++ [{ slot := slot, sid := sv.nextSid, host := host, maxItems := sv.maxItemsDefault }] }
      (attach sv slot host).1 := by
  unfold attach
  simp only []
  refine (Acts.trans ?_ (putChild_grow _ _ _ true (List.nil_prefix) rfl hs)).trans (pushAll_notif _).grow
  exact ite_pred .refl (putChild_grow _ _ _ true (List.nil_prefix) rfl hh)

/-- what a parameter command keeps of its own session: all but `params` and the parameters themselves -/
def Sess.paramFrame (s : Sess) : Sess :=
  { s with params := [], reflectSelf := false, maxItems := 0, route := [], hasRouteKeys := false, routeKeys := [],
           routeFilts := none }

theorem Sess.ident_of_paramFrame {s s' : Sess} (h : s'.paramFrame = s.paramFrame) :
    s'.sid = s.sid ∧ s'.host = s.host ∧ s'.slot = s.slot :=
  ⟨(congrArg Sess.sid h :), (congrArg Sess.host h :), (congrArg Sess.slot h :)⟩

end Muscle.Reflector

namespace Muscle.Eng.SrvEngine
open Muscle Muscle.Eng Muscle.Reflector

/-- the commands that set or remove a parameter other than a subscription: one update of the sender's own session -/
def Cmd.isParam : Cmd → Bool
  | .paramSelf | .paramMax _ | .paramRoute _ | .paramRouteF _ _ | .unparamMax | .unparamRoute | .unparamRouteF => true
  | _ => false

theorem runCmd_param_eq (sv : Server) (sid : Nat) (c : Cmd) (hc : c.isParam = true) :
    ∃ f, (∀ s, (f s).paramFrame = s.paramFrame) ∧ runCmd sv sid c = sv.updSess sid f := by
  cases c with
  | paramSelf | paramMax n | paramRoute keys | paramRouteF keys fs => refine ⟨_, ?_, rfl⟩; intro _; rfl
  | unparamMax | unparamRoute | unparamRouteF => refine ⟨_, ?_, rfl⟩; intro _; split <;> rfl
  | _ => cases hc

/-- The case analysis of `runCmd` every statement about "all commands" goes through: a parameter command is one update of the
    sender's own session (`runCmd_param_eq` says what it keeps), PING and GETPARAMETERS deliver one line to the sender, every
    other command is its handler. -/
theorem runCmd_cases {motive : Cmd → Server → Prop} (sv : Server) (sid : Nat)
    (param : ∀ c, c.isParam = true → motive c (runCmd sv sid c))
    (line : ∀ c w, motive c (sv.deliver sid w))
    (set : ∀ path v ati, motive (.set path v ati) (setDataNode sv sid path (some v) ati))
    (rm : ∀ keys, motive (.rm keys) (removeData sv sid keys))
    (sub : ∀ path f, motive (.sub path f) (subscribe sv sid path f))
    (unsub : ∀ path, motive (.unsub path) (unsubscribe sv sid path))
    (ins : ∀ key before vals, motive (.ins key before vals) (insertOrdered sv sid key before vals))
    (reorder : ∀ key before, motive (.reorder key before) (Reflector.reorder sv sid key before))
    (send : ∀ tag keys, motive (.send tag keys) (sendMsg sv sid tag keys))
    (c : Cmd) : motive c (runCmd sv sid c) := by
  cases c with
  | set path v ati => exact set path v ati
  | rm keys => exact rm keys
  | sub path f => exact sub path f
  | unsub path => exact unsub path
  | ins key before vals => exact ins key before vals
  | reorder key before => exact reorder key before
  | send tag keys => exact send tag keys
  | ping tag => exact line _ _
  | getparams =>
    cases hs : sv.sess? sid with
    -- an absent session gets nothing: written as a delivery to it, so that the case `line` applies
    | none => simp only [runCmd, hs]; rw [← updSess_absent hs (fun s => { s with inbox := s.inbox ++ [""] })]; exact line _ ""
    | some s => simp only [runCmd, hs]; exact line _ _
  | _ => exact param _ rfl

theorem runCmd_absent (sv : Server) (sid : Nat) (hs : sv.sess? sid = none) (c : Cmd) : runCmd sv sid c = sv := by
  refine runCmd_cases (motive := fun _ x => x = sv) sv sid (fun c hc => ?_) (fun _ _ => updSess_absent hs _) ?_ ?_ ?_ ?_ ?_ ?_ ?_ c
  · obtain ⟨f, _, e⟩ := runCmd_param_eq sv sid c hc
    rw [e, updSess_absent hs]
  · intro path v ati; simp only [setDataNode, hs]
  · intro keys; simp only [removeData, hs]
  · intro path f; simp only [subscribe, hs]
  · intro path; simp only [unsubscribe, hs]
  · intro key before vals; simp only [insertOrdered, hs]
  · intro key before; simp only [Muscle.Reflector.reorder, Muscle.Reflector.reorderCore, hs]
  · intro tag keys; simp only [sendMsg, hs]

/-- the names a command gives to new nodes (besides generated ones) satisfy `N` -/
def Cmd.NamesOK (N : Bytes → Prop) : Cmd → Prop
  | .set path _ _ => ∀ cl ∈ pathClauses path, N cl
  | _ => True

theorem runCmd_data {N : Bytes → Prop} (hauto : AutoOK N) (sv : Server) (sid : Nat) (s : Sess)
    (hs : sv.sess? sid = some s) (c : Cmd) (hc : c.isParam = false) (hn : c.NamesOK N) :
    Data sid (sessNames s) N sv (runCmd sv sid c) :=
  runCmd_cases (motive := fun c x => c.isParam = false → c.NamesOK N → Data sid (sessNames s) N sv x) sv sid
    (fun c h h' => by rw [h] at h'; cases h')
    (fun _ _ _ _ => Notif.data (.deliver ..))
    (fun path v ati _ hn => (setDataNode_grow hauto sv sid s hs path _ ati hn).data)
    (fun keys _ _ => removeData_data sv sid s hs keys)
    (fun path f _ _ => subscribe_data sv sid _ N path f)
    (fun path _ _ => unsubscribe_data sv sid _ N path)
    (fun key before vals _ _ => (insertOrdered_grow hauto sv sid s hs key before vals).data)
    (fun key before _ _ => (reorder_grow sv sid s hs key before).data)
    (fun tag keys _ _ => (sendMsg_delivers sv sid tag keys).notif.data) c hc hn

theorem autoOK_true : AutoOK (fun _ => True) := fun _ _ _ => trivial

theorem runCmd_data_any (sv : Server) (sid : Nat) (s : Sess) (hs : sv.sess? sid = some s) (c : Cmd) (hc : c.isParam = false) :
    Data sid (sessNames s) (fun _ => True) sv (runCmd sv sid c) :=
  runCmd_data autoOK_true sv sid s hs c hc (by cases c <;> first | trivial | exact fun _ _ => trivial)

/-- The three kinds of command a reading of "all commands" meets: the sender is absent and nothing happens; a parameter command, one
    update of the sender's own session that keeps `Sess.paramFrame`; any other command of a present sender, a `Data` sequence. -/
theorem runCmd_three {P : Server → Prop} (sv : Server) (sid : Nat) (c : Cmd) (absent : P sv)
    (param : ∀ f, (∀ s, (f s).paramFrame = s.paramFrame) → P (sv.updSess sid f))
    (data : ∀ s, sv.sess? sid = some s → Data sid (sessNames s) (fun _ => True) sv (runCmd sv sid c) → P (runCmd sv sid c)) :
    P (runCmd sv sid c) := by
  cases hs : sv.sess? sid with
  | none => rw [runCmd_absent sv sid hs c]; exact absent
  | some s =>
    cases hc : c.isParam with
    | false => exact data s hs (runCmd_data_any sv sid s hs c hc)
    | true => obtain ⟨f, hf, e⟩ := runCmd_param_eq sv sid c hc; rw [e]; exact param f hf

theorem nextSid_runCmd (sv : Server) (sid : Nat) (c : Cmd) : (runCmd sv sid c).nextSid = sv.nextSid :=
  runCmd_three (P := fun x => x.nextSid = sv.nextSid) sv sid c rfl (fun _ _ => rfl) (fun _ _ h => h.nextSid)

end Muscle.Eng.SrvEngine
