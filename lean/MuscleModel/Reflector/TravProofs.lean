import MuscleModel.Reflector.TreeLaws

/-!
# One child of `CheckChildForTraversal` (lemmas for C05 and C07)

For one child the entry loop runs at most two actions: the callback, at the first hit terminal entry that passes the
guard, and the descent, at the first hit non-terminal entry.  `plan` lists them in order; it is computed from the
matcher and the child alone.  `checkChild_eq`: for any callback and any recursive call, `checkChild` is `runActs` over
the results of the planned actions.  Everything else about one child is read off that equation.  One level is treated
the same way in `TravProofsLevel` (`travLevel_eq_scan`: `scanKids` over `levelKids`); the files after it argue from
these two equations.
-/

namespace Muscle.Reflector
open Muscle

/-- entry `e`'s clause at relative depth `rel` matches the name -/
def hitB (rel : Nat) (nm : Bytes) (e : Entry) : Bool :=
  match e.clauses[rel]? with
  | some c => clauseMatch c nm
  | none => false

/-- the clause at relative depth `rel` is the last one of `e` (absolute form, as in the code) -/
def termB (rd depth : Nat) (e : Entry) : Bool := decide (depth + 1 = rd + e.clauses.length)

/-- the multi-pattern guard of `CheckChildForTraversal` -/
def guardB (pm : PM) (uf : Bool) (cn : Visit) (d : Option Nat) (e : Entry) : Bool :=
  (onlyOneEntry pm && (!uf || e.filter.isNone)) || matchesNode pm cn uf d

theorem checkEntries_nil (ctx : TCtx) (rec : Rec) (child : Node) (cn : Visit) (depth : Nat) (known : Option Nat)
    (idx : Nat) (st : CState) : checkEntries ctx rec child cn depth known [] idx st = st := rfl

theorem checkEntries_stop (ctx : TCtx) (rec : Rec) (child : Node) (cn : Visit) (depth : Nat) (known : Option Nat)
    (es : List Entry) (idx : Nat) (st : CState) (h : (st.done || st.abort.isSome) = true) :
    checkEntries ctx rec child cn depth known es idx st = st := by
  cases es with
  | nil => rfl
  | cons e es => simp only [checkEntries, h, if_true]

/-- One iteration of the entry loop: the body of `checkEntries` (Traverse.lean), word for word, so that `checkEntries_cons` below holds
    by `rfl`.  A change of the rule in `checkEntries` has to be repeated here (and in `OldRule.checkEntriesOld`, Props/C05, the rule
    before muscle's fix `fa53600`); that `rfl` is what notices a difference. -/
def stepG (ctx : TCtx) (rec : Rec) (child : Node) (cnames : Visit) (depth : Nat) (hit : Bool) (e : Entry) (st : CState) : CState :=
  let childDepth : Int := depth + 1
  if !hit then st
  else if depth + 1 = ctx.rootDepth + e.clauses.length then
    if st.matched then st else
    if (onlyOneEntry ctx.pm && (!ctx.useFilters || e.filter.isNone)) || matchesNode ctx.pm cnames ctx.useFilters child.data then
      let (rc, nd) := ctx.cb cnames (depth + 1) child
      let vs := if rc then st.visits ++ [cnames] else st.visits
      if nd < childDepth - 1 then { st with visits := vs, abort := some nd }
      else { st with visits := vs, matched := true, recursed := st.recursed || decide (nd < childDepth),
                     done := st.recursed || decide (nd < childDepth) }
    else st
  else
    if st.recursed then st else
    let (vs, nd) := rec child cnames (depth + 1)
    if nd < childDepth - 1 then { st with visits := st.visits ++ vs, abort := some nd }
    else { st with visits := st.visits ++ vs, recursed := true, matched := st.matched || decide (nd < childDepth),
                   done := st.matched || decide (nd < childDepth) }

theorem checkEntries_cons (ctx : TCtx) (rec : Rec) (child : Node) (cn : Visit) (depth : Nat) (known : Option Nat)
    (e : Entry) (es : List Entry) (idx : Nat) (st : CState) :
    checkEntries ctx rec child cn depth known (e :: es) idx st =
      if st.done || st.abort.isSome then st else
      checkEntries ctx rec child cn depth known es (idx + 1)
        (stepG ctx rec child cn depth (decide (known = some idx) || hitB (depth - ctx.rootDepth) child.name e) e st) := rfl

/-- what the callback (`true`) and the descent (`false`) record and return for the child -/
def actOf (ctx : TCtx) (rec : Rec) (child : Node) (cn : Visit) (depth : Nat) : Bool → List Visit × Int
  | true => (if (ctx.cb cn (depth + 1) child).1 then [cn] else [], (ctx.cb cn (depth + 1) child).2)
  | false => rec child cn (depth + 1)

/-- the loop state after action `a` returned `r`: a depth above the child's parent aborts; one above the child also sets the
    other action's flag and ends the loop -/
def afterAct (depth : Nat) (a : Bool) (r : List Visit × Int) (st : CState) : CState :=
  if r.2 < (depth : Int) then { st with visits := st.visits ++ r.1, abort := some r.2 }
  else if a then
    { st with visits := st.visits ++ r.1, matched := true, recursed := st.recursed || decide (r.2 < (depth : Int) + 1),
              done := st.recursed || decide (r.2 < (depth : Int) + 1) }
  else
    { st with visits := st.visits ++ r.1, recursed := true, matched := st.matched || decide (r.2 < (depth : Int) + 1),
              done := st.matched || decide (r.2 < (depth : Int) + 1) }

theorem stepG_eq (ctx : TCtx) (rec : Rec) (child : Node) (cn : Visit) (depth : Nat) (hit : Bool) (e : Entry) (st : CState) :
    stepG ctx rec child cn depth hit e st =
      if (hit && termB ctx.rootDepth depth e && !st.matched && guardB ctx.pm ctx.useFilters cn child.data e) = true then
        afterAct depth true (actOf ctx rec child cn depth true) st
      else if (hit && !termB ctx.rootDepth depth e && !st.recursed) = true then
        afterAct depth false (actOf ctx rec child cn depth false) st
      else st := by
  have hd : ((depth : Int) + 1 - 1) = depth := by omega
  have happ : ∀ (c : Bool) (l x : List Visit), (if c = true then l ++ x else l) = l ++ (if c = true then x else []) := by
    intro c l x; cases c <;> simp
  have ht : (depth + 1 = ctx.rootDepth + e.clauses.length) ↔ termB ctx.rootDepth depth e = true := by simp [termB]
  have hg : (onlyOneEntry ctx.pm && (!ctx.useFilters || e.filter.isNone) || matchesNode ctx.pm cn ctx.useFilters child.data) =
      guardB ctx.pm ctx.useFilters cn child.data e := rfl
  unfold stepG afterAct actOf
  simp only [hd, happ, ht, hg]
  cases hit <;> cases termB ctx.rootDepth depth e <;> cases st.matched <;> cases st.recursed <;>
    cases guardB ctx.pm ctx.useFilters cn child.data e <;> simp

/-- what the entry loop will still run for the child, in order, given which of the two actions have run already: `true` = the
    callback, `false` = the descent.  Neither the callback nor the recursive call has a say in it. -/
def plan (pm : PM) (uf : Bool) (rd : Nat) (child : Node) (cn : Visit) (depth : Nat) (known : Option Nat) : List Entry → Nat → Bool → Bool → List Bool
  | [], _, _, _ => []
  | e :: es, idx, m, r =>
    if ((decide (known = some idx) || hitB (depth - rd) child.name e) && termB rd depth e && !m &&
        guardB pm uf cn child.data e) = true then true :: plan pm uf rd child cn depth known es (idx + 1) true r
    else if ((decide (known = some idx) || hitB (depth - rd) child.name e) && !termB rd depth e && !r) = true then
      false :: plan pm uf rd child cn depth known es (idx + 1) m true
    else plan pm uf rd child cn depth known es (idx + 1) m r

theorem plan_done (pm : PM) (uf : Bool) (rd : Nat) (child : Node) (cn : Visit) (depth : Nat) (known : Option Nat) :
    ∀ (es : List Entry) (idx : Nat), plan pm uf rd child cn depth known es idx true true = [] := by
  intro es
  induction es with
  | nil => intro idx; rfl
  | cons e es ih => intro idx; simp only [plan, Bool.not_true, Bool.and_false, Bool.false_and, Bool.false_eq_true, if_false, ih]

/-- run the results of the planned actions: a returned depth above the child's parent aborts the traversal, one above the
    child ends the loop for this child -/
def runActs (depth : Nat) : List (List Visit × Int) → List Visit → List Visit × Option Int
  | [], acc => (acc, none)
  | r :: rest, acc =>
    if r.2 < (depth : Int) then (acc ++ r.1, some r.2)
    else if r.2 < (depth : Int) + 1 then (acc ++ r.1, none)
    else runActs depth rest (acc ++ r.1)

/-- nothing aborted, and the loop is over exactly when both actions have run -/
def CState.wf (st : CState) : Prop := st.abort = none ∧ st.done = (st.matched && st.recursed)

theorem checkEntries_eq_runActs (ctx : TCtx) (rec : Rec) (child : Node) (cn : Visit) (depth : Nat) (known : Option Nat) :
    ∀ (es : List Entry) (idx : Nat) (st : CState), st.wf →
      ((checkEntries ctx rec child cn depth known es idx st).visits, (checkEntries ctx rec child cn depth known es idx st).abort) =
        runActs depth ((plan ctx.pm ctx.useFilters ctx.rootDepth child cn depth known es idx st.matched st.recursed).map (actOf ctx rec child cn depth)) st.visits := by
  intro es
  induction es with
  | nil => intro idx st h; simp only [checkEntries_nil, plan, List.map_nil, runActs, h.1]
  | cons e es ih =>
    intro idx st ⟨ha, hdn⟩
    rw [checkEntries_cons]
    by_cases hs : (st.done || st.abort.isSome) = true
    · have hmr : st.matched = true ∧ st.recursed = true := by simpa [ha, hdn] using hs
      rw [if_pos hs, hmr.1, hmr.2, plan_done]
      simp only [List.map_nil, runActs, ha]
    · -- whichever action `a` the step runs, with result `r`
      have key : ∀ (a : Bool) (r : List Visit × Int),
          ((checkEntries ctx rec child cn depth known es (idx + 1) (afterAct depth a r st)).visits,
           (checkEntries ctx rec child cn depth known es (idx + 1) (afterAct depth a r st)).abort) =
            runActs depth (r :: (plan ctx.pm ctx.useFilters ctx.rootDepth child cn depth known es (idx + 1)
              (a || st.matched) (!a || st.recursed)).map (actOf ctx rec child cn depth)) st.visits := by
        intro a r
        rw [runActs]
        by_cases h1 : r.2 < (depth : Int)
        · rw [checkEntries_stop _ _ _ _ _ _ _ _ _ (by simp [afterAct, h1])]
          simp [afterAct, h1]
        · rw [ih _ _ (by cases a <;> simp [afterAct, h1, CState.wf, ha])]
          by_cases h2 : r.2 < (depth : Int) + 1
          · cases a <;> simp [afterAct, h1, h2, plan_done, runActs]
          · cases a <;> simp [afterAct, h1, h2]
      rw [if_neg hs, stepG_eq, plan]
      by_cases hT : ((decide (known = some idx) || hitB (depth - ctx.rootDepth) child.name e) && termB ctx.rootDepth depth e &&
          !st.matched && guardB ctx.pm ctx.useFilters cn child.data e) = true
      · simp only [if_pos hT]; exact key true _
      · simp only [if_neg hT]
        by_cases hR : ((decide (known = some idx) || hitB (depth - ctx.rootDepth) child.name e) && !termB ctx.rootDepth depth e &&
            !st.recursed) = true
        · simp only [if_pos hR]; exact key false _
        · simp only [if_neg hR]; exact ih _ _ ⟨ha, hdn⟩

def childPlan (pm : PM) (uf : Bool) (rd : Nat) (k : Node) (names : Visit) (depth : Nat) (known : Option Nat) : List Bool :=
  plan pm uf rd k (names ++ [k.name]) depth known (activeEntries pm (depth - rd)) 0 false false

theorem checkChild_eq (ctx : TCtx) (rec : Rec) (k : Node) (names : Visit) (depth : Nat) (known : Option Nat) :
    checkChild ctx rec k names depth known =
      runActs depth ((childPlan ctx.pm ctx.useFilters ctx.rootDepth k names depth known).map (actOf ctx rec k (names ++ [k.name]) depth)) [] :=
  checkEntries_eq_runActs ctx rec k (names ++ [k.name]) depth known _ 0 {} ⟨rfl, rfl⟩

theorem runActs_sublist {α : Type} (depth : Nat) (h : α → List Visit × Int) (g : α → List Visit) :
    ∀ (l : List α) (acc : List Visit), (∀ a ∈ l, (h a).1.Sublist (g a)) →
      (runActs depth (l.map h) acc).1.Sublist (acc ++ l.flatMap g) := by
  intro l
  induction l with
  | nil => intro acc _; simp [runActs]
  | cons a rest ih =>
    intro acc hs
    have ha := hs a List.mem_cons_self
    have hstop : (acc ++ (h a).1).Sublist (acc ++ (a :: rest).flatMap g) := by
      rw [List.flatMap_cons]
      exact (List.Sublist.refl acc).append (ha.trans (List.sublist_append_left _ _))
    rw [List.map_cons, runActs]
    split
    · exact hstop
    · split
      · exact hstop
      · refine (ih _ (fun b hb => hs b (List.mem_cons_of_mem _ hb))).trans ?_
        rw [List.flatMap_cons, ← List.append_assoc]
        exact ((List.Sublist.refl acc).append ha).append (List.Sublist.refl _)

theorem runActs_all (depth : Nat) : ∀ (l : List (List Visit × Int)) (acc : List Visit),
    (∀ r ∈ l, ¬ r.2 < (depth : Int) + 1) → runActs depth l acc = (acc ++ l.flatMap (·.1), none) := by
  intro l
  induction l with
  | nil => intro acc _; simp only [runActs, List.flatMap_nil, List.append_nil]
  | cons r rest ih =>
    intro acc h
    have h1 := h r List.mem_cons_self
    rw [runActs, if_neg (by omega), if_neg h1, ih _ (fun r' hr' => h r' (List.mem_cons_of_mem _ hr'))]
    simp only [List.flatMap_cons, List.append_assoc]

section
variable (pm : PM) (uf : Bool) (rd : Nat) (child : Node) (cn : Visit) (depth : Nat)

theorem plan_one (known : Option Nat) (a : Bool) :
    ∀ (es : List Entry) (idx : Nat), plan pm uf rd child cn depth known es idx a (!a) = [] ∨
      plan pm uf rd child cn depth known es idx a (!a) = [!a] := by
  intro es
  induction es with
  | nil => intro idx; exact Or.inl rfl
  | cons e es ih =>
    intro idx
    rw [plan]
    split
    · rename_i h; cases a
      · exact Or.inr (by simp only [Bool.not_false, plan_done])
      · simp at h
    · split
      · rename_i h; cases a
        · simp at h
        · exact Or.inr (by simp only [Bool.not_true, plan_done])
      · exact ih _

theorem plan_cases (known : Option Nat) :
    ∀ (es : List Entry) (idx : Nat), plan pm uf rd child cn depth known es idx false false ∈
      [[], [true], [false], [true, false], [false, true]] := by
  intro es
  induction es with
  | nil => intro idx; simp [plan]
  | cons e es ih =>
    intro idx
    rw [plan]
    split
    · rcases plan_one pm uf rd child cn depth known true es (idx + 1) with h | h <;> simp [show plan _ _ _ _ _ _ _ _ _ true false = _ from h]
    · split
      · rcases plan_one pm uf rd child cn depth known false es (idx + 1) with h | h <;> simp [show plan _ _ _ _ _ _ _ _ _ false true = _ from h]
      · exact ih _

theorem plan_true_term (known : Option Nat) :
    ∀ (es : List Entry) (idx : Nat) (m r : Bool), true ∈ plan pm uf rd child cn depth known es idx m r →
      ∃ e ∈ es, termB rd depth e = true := by
  intro es
  induction es with
  | nil => intro idx m r h; cases h
  | cons e es ih =>
    intro idx m r h
    rw [plan] at h
    split at h
    · rename_i hT
      simp only [Bool.and_eq_true] at hT
      exact ⟨e, List.mem_cons_self, hT.1.1.2⟩
    · have h' : true ∈ plan pm uf rd child cn depth known es (idx + 1) m true ∨ true ∈ plan pm uf rd child cn depth known es (idx + 1) m r := by
        split at h
        · exact Or.inl (by simpa using h)
        · exact Or.inr h
      obtain ⟨e', he', ht⟩ := h'.elim (ih _ _ _) (ih _ _ _)
      exact ⟨e', List.mem_cons_of_mem _ he', ht⟩

theorem plan_mem (a : Bool) :
    ∀ (es : List Entry) (idx : Nat) (m r : Bool), a ∈ plan pm uf rd child cn depth none es idx m r ↔
      (if a then m else r) = false ∧ ∃ e ∈ es, hitB (depth - rd) child.name e = true ∧ termB rd depth e = a ∧
        (a = true → guardB pm uf cn child.data e = true) := by
  intro es
  induction es with
  | nil => intro idx m r; simp [plan]
  | cons e es ih =>
    intro idx m r
    simp only [plan, reduceCtorEq, decide_false, Bool.false_or, List.mem_cons, exists_eq_or_imp]
    by_cases hT : (hitB (depth - rd) child.name e && termB rd depth e && !m && guardB pm uf cn child.data e) = true
    · rw [if_pos hT, List.mem_cons, ih]
      simp only [Bool.and_eq_true, Bool.not_eq_true'] at hT
      cases a <;> simp [hT.1.1.1, hT.1.1.2, hT.1.2, hT.2]
    · rw [if_neg hT]
      by_cases hR : (hitB (depth - rd) child.name e && !termB rd depth e && !r) = true
      · rw [if_pos hR, List.mem_cons, ih]
        simp only [Bool.and_eq_true, Bool.not_eq_true'] at hR
        cases a <;> simp [hR.1.1, hR.1.2, hR.2]
      · -- `e` runs nothing: it does not qualify for either action
        rw [if_neg hR, ih]
        refine and_congr_right fun h0 => (or_iff_right ?_).symm
        rintro ⟨hh, ht, hg⟩
        cases a
        · exact hR (by simp [hh, ht, show r = false from h0])
        · exact hT (by simp [hh, ht, hg rfl, show m = false from h0])

theorem plan_known (i : Nat) :
    ∀ (es : List Entry) (idx : Nat) (m r : Bool),
      (∀ e, idx ≤ i → es[i - idx]? = some e → hitB (depth - rd) child.name e = true) →
      plan pm uf rd child cn depth (some i) es idx m r = plan pm uf rd child cn depth none es idx m r := by
  intro es
  induction es with
  | nil => intros; rfl
  | cons e es ih =>
    intro idx m r h
    have hb : (decide (some i = some idx) || hitB (depth - rd) child.name e)
            = (decide ((none : Option Nat) = some idx) || hitB (depth - rd) child.name e) := by
      by_cases hi : i = idx
      · subst hi
        simp [h e (Nat.le_refl _) (by simp)]
      · simp [hi]
    have hes : ∀ m r, plan pm uf rd child cn depth (some i) es (idx + 1) m r = plan pm uf rd child cn depth none es (idx + 1) m r := by
      intro m r
      apply ih
      intro e' hle hget
      apply h e' (by omega)
      rw [show i - idx = (i - (idx + 1)) + 1 by omega]
      simpa using hget
    simp only [plan, hb, hes]

end

theorem checkChild_all (ctx : TCtx) (rec : Rec) (k : Node) (names : Visit) (depth : Nat) (known : Option Nat)
    (h : ∀ act, (actOf ctx rec k (names ++ [k.name]) depth act).2 = ((depth + 1 : Nat) : Int)) :
    checkChild ctx rec k names depth known =
      ((childPlan ctx.pm ctx.useFilters ctx.rootDepth k names depth known).flatMap
        (fun act => (actOf ctx rec k (names ++ [k.name]) depth act).1), none) := by
  rw [checkChild_eq, runActs_all, List.flatMap_map, List.nil_append]
  intro r hr
  obtain ⟨act, _, rfl⟩ := List.mem_map.1 hr
  rw [h act]; omega

theorem checkChild_cont (ctx : TCtx) (rec : Rec) (k : Node) (names : Visit) (depth : Nat) (known : Option Nat)
    (hcb : ctx.cb = cbContinue) (hrec : (rec k (names ++ [k.name]) (depth + 1)).2 = ((depth + 1 : Nat) : Int)) :
    checkChild ctx rec k names depth known =
      ((childPlan ctx.pm ctx.useFilters ctx.rootDepth k names depth known).flatMap
        (fun a => if a = true then [names ++ [k.name]] else (rec k (names ++ [k.name]) (depth + 1)).1), none) := by
  rw [checkChild_all ctx rec k names depth known (fun act => by cases act <;> simp [actOf, hcb, cbContinue, hrec])]
  congr 2
  funext a
  cases a <;> simp [actOf, hcb, cbContinue]

theorem checkChild_snd (ctx : TCtx) (rec : Rec) (child : Node) (names : Visit) (depth : Nat) (known : Option Nat)
    (hcb : ctx.cb = cbContinue) (hrec : ∀ k n d, (rec k n d).2 = (d : Int)) :
    (checkChild ctx rec child names depth known).2 = none := by
  rw [checkChild_cont ctx rec child names depth known hcb (hrec _ _ _)]

end Muscle.Reflector
