import MuscleModel.Reflector.SyncSet
import MuscleModel.Reflector.SyncRemove

/-!
# The steps a subscriber only watches: data and quiet commands of any sender, departures and arrivals of other sessions; histories of them

The departure of another session (`syncFor_detach`): `detach sv t` for `t ≠ sid` takes the departing session's subtree apart with
notifications, removes an emptied host node, pushes, clears the marks of `t` and drops it from the table.  Quiet commands (`QuietCmd`).  SETDATA and REMOVEDATA (in `Steady`) and PING, GETPARAMETERS, client-to-client
Messages (in `QuietCmd`) may be the subscriber's own; departures, arrivals, parameter and SUBSCRIBE commands are those of other sessions.
The arrival of another session (`syncFor_attach`): for a subscriber that is already attached, one or two notified creations, under
`FreshSessNode`: the host node has no child named like the id the new session gets (`SessNodeNames` proves it for reachable states).

Under the hypothesis `Inv` the histories form a chain of inclusions by constructor: `Steady` (SETDATA without flags, REMOVEDATA, pushes,
departures of others) in `Hist` (and quiet commands) in `History` (and arrivals, which need `FreshSessNode`); each is a `SyncFor`.
-/


namespace Muscle.Reflector
open Muscle Muscle.Eng.SrvEngine

theorem syncFor_removeHost {sv : Server} (h : Inv sv) (t : Nat) (host : Bytes) {hn : Node}
    (hh : getNode sv [host] = some hn) (hk : hn.kids = []) {sid : Nat} (hne : sid ≠ t) :
    SyncFor sid sv (removeChild sv t true [host]) := by
  unfold removeChild
  rw [hh]
  simp only [removalOrder_leaf _ _ _ hk, List.foldl_cons, List.foldl_nil]
  intro s hs hen m
  have hnd : NoDesc sv ([] ++ [host]) := noDesc_of_leaf (v := [host]) hh hk
  exact sync_removeOne_core h t [] host hh hnd hs hen (fun s1 _ => iff_of_true (Or.inl hne) (visible_host s1 host)) m

theorem syncFor_detach_tail (X : Server) (t : Nat) {sid : Nat} (hne : sid ≠ t) (subs : PM) :
    SyncFor sid X
      (let sv4 := if X.root.kids.isEmpty then { X with live := false }
        else (travGlobal X subs false cbContinue).foldl
          (fun sv v => setNode sv v (fun n => n.setSubs (adjustSubs n.subs t none))) X
       { sv4 with sessions := sv4.sessions.filter (fun x => x.sid ≠ t) }) := by
  simp only []
  split
  · apply Quiet.syncFor
    apply quiet_of_sess
    · exact sess?_filter_ne rfl hne
    · intro w; rfl
  · apply Quiet.syncFor
    apply quiet_of_sess
    · exact sess?_filter_ne (congrArg (List.filter _) (foldl_setNode_sessions ..)) hne
    · intro w
      exact subscribeRefs_payload X t _ none w

theorem syncFor_detach {sv : Server} (h : Inv sv) (t : Nat) {sid : Nat} (hne : sid ≠ t) :
    SyncFor sid sv (detach sv t) := by
  unfold detach
  cases hst : sv.sess? t with
  | none => exact SyncFor.refl sid sv
  | some st =>
    simp only []
    have hnames : sessNames st = [st.host] ++ [sidName st.sid] := rfl
    obtain ⟨s1, i1⟩ := syncKept_removeChild h (a := t) (own := sessNames st) (ownerName_sessNames hst) [st.host]
      (sidName st.sid) (by rw [← hnames]; exact List.prefix_refl _)
    rw [← hnames] at s1 i1
    generalize hsv1 : removeChild sv t true (sessNames st) = sv1 at s1 i1 ⊢
    have fin : ∀ Y, SyncFor sid sv1 Y → SyncFor sid sv
        (let sv4 := if (pushAll Y).root.kids.isEmpty then { pushAll Y with live := false }
          else (travGlobal (pushAll Y) st.subs false cbContinue).foldl
            (fun sv v => setNode sv v (fun n => n.setSubs (adjustSubs n.subs t none))) (pushAll Y)
         { sv4 with sessions := sv4.sessions.filter (fun x => x.sid ≠ t) }) := by
      intro Y s2
      exact (s1.for sid).trans (s2.trans (((SyncAll.pushAll Y).for sid).trans
        (syncFor_detach_tail (pushAll Y) t hne st.subs)))
    split
    · rename_i hn hh
      split
      · rename_i hk
        exact fin _ (syncFor_removeHost i1 t st.host hh (by simpa using hk) hne)
      · exact fin _ (SyncFor.refl sid sv1)
    · exact fin _ (SyncFor.refl sid sv1)

inductive Steady (sid : Nat) : Server → Server → Prop
  | refl (sv : Server) : Steady sid sv sv
  | set {sv : Server} (a : Nat) (path : Bytes) (x : Nat) : SetOK path → Steady sid sv (runCmd sv a (.set path x false))
  | rm {sv : Server} (a : Nat) (keys : List Bytes) : Steady sid sv (runCmd sv a (.rm keys))
  | push {sv : Server} : Steady sid sv (pushAll sv)
  | detach {sv : Server} (t : Nat) : t ≠ sid → Steady sid sv (detach sv t)
  | trans {a b c : Server} : Steady sid a b → Steady sid b c → Steady sid a c

theorem steady_sync {sid : Nat} {sv sv' : Server} (hst : Steady sid sv sv') (h : Inv sv) :
    SyncFor sid sv sv' ∧ Inv sv' := by
  induction hst with
  | refl sv => exact ⟨SyncFor.refl sid sv, h⟩
  | set a path x hok =>
    exact ⟨(syncKept_setDataNode h.good a path hok (some x) false).sync.for sid, h.runCmd a _ trivial⟩
  | rm a keys => exact (syncKept_removeData h a keys).for sid
  | push => exact ⟨(SyncAll.pushAll _).for sid, h.pushAll⟩
  | detach t hne => exact ⟨syncFor_detach h t (fun e => hne e.symm), h.detach t⟩
  | trans _ _ ih1 ih2 =>
    obtain ⟨s1, i1⟩ := ih1 h
    obtain ⟨s2, i2⟩ := ih2 i1
    exact ⟨s1.trans s2, i2⟩

theorem steady_setm (sid : Nat) (a : Nat) (path : Bytes) (hok : SetOK path) (vs : List Nat) (sv : Server) :
    Steady sid sv (vs.foldl (fun sv v => runCmd sv a (.set path v false)) sv) := by
  induction vs generalizing sv with
  | nil => exact .refl sv
  | cons v r ih => simp only [List.foldl_cons]; exact .trans (.set a path v hok) (ih _)

theorem quiet_subscribe_other {sid t : Nat} (ht : t ≠ sid) (sv : Server) (path : Bytes) (f : Option Filt) :
    Quiet sid sv (subscribe sv t path f) := by
  refine subscribe_cases (P := Quiet sid sv) sv t path f (fun _ => Quiet.refl sid sv) (fun _ _ _ _ => ?_) (fun _ _ _ => ?_)
      (fun s e _ _ => ?_) <;>
    refine Quiet.trans (Quiet.trans ?_ (quiet_updSess_other ht _ _ (by intro _; rfl))) (quiet_doGetData_other ht _ _)
  · exact (quiet_updSess_other ht sv _ (by intro _; rfl)).trans (quiet_subscribeRefs sid t _ _ _)
  · exact Quiet.refl sid sv
  · refine Quiet.trans (ite_pred (P := Quiet sid _) (Quiet.foldl _ (fun X v => ?_) _ sv) (Quiet.refl sid sv))
      (quiet_updSess_other ht _ _ (by intro _; rfl))
    exact rfStep_cases _ _ _ _ _ v (Quiet.refl sid X) (fun _ _ _ => quiet_nodeChangedAux_other ht X _ _ _)

theorem quiet_unsubscribe_other {sid t : Nat} (ht : t ≠ sid) (sv : Server) (path : Bytes) :
    Quiet sid sv (unsubscribe sv t path) :=
  unsubscribe_cases (P := Quiet sid sv) sv t path (Quiet.refl sid sv) (fun _ _ => quiet_updSess_other ht sv _ (by intro _; rfl))
    (fun _ _ _ _ => ((quiet_updSess_other ht sv _ (by intro _; rfl)).trans (quiet_subscribeRefs sid t _ _ _)).trans
      (quiet_updSess_other ht _ _ (by intro _; rfl)))

/-- the commands that are quiet for `sid`: PING, GETPARAMETERS, client-to-client Messages of anybody; parameter, SUBSCRIBE and
    unsubscribe commands of other sessions -/
def QuietCmd (sid a : Nat) : Cmd → Prop
  | .ping _ => True
  | .getparams => True
  | .send _ _ => True
  | .sub _ _ => a ≠ sid
  | .unsub _ => a ≠ sid
  | .paramSelf => a ≠ sid
  | .paramMax _ => a ≠ sid
  | .paramRoute _ => a ≠ sid
  | .paramRouteF _ _ => a ≠ sid
  | .unparamMax => a ≠ sid
  | .unparamRoute => a ≠ sid
  | .unparamRouteF => a ≠ sid
  | _ => False

theorem quiet_runCmd {sid a : Nat} (sv : Server) (c : Cmd) (h : QuietCmd sid a c) : Quiet sid sv (runCmd sv a c) := by
  cases c with
  | ping tag => exact quiet_deliver sid a sv _ (Or.inr (isData_pong tag))
  | getparams =>
    simp only [runCmd]
    split
    · exact Quiet.refl sid sv
    · exact quiet_deliver sid a sv _ (Or.inr (isData_params _))
  | send tag keys => exact quiet_sendMsg sid a tag sv keys
  | sub path f => exact quiet_subscribe_other h sv path f
  | unsub path => exact quiet_unsubscribe_other h sv path
  | paramSelf | paramMax _ | paramRoute _ | paramRouteF _ _ => exact quiet_updSess_other h sv _ (fun _ => rfl)
  | unparamMax | unparamRoute | unparamRouteF => exact quiet_updSess_other h sv _ (fun s => by split <;> rfl)
  | set _ _ _ | rm _ | ins _ _ _ | reorder _ _ => exact False.elim h

inductive Hist (sid : Nat) : Server → Server → Prop
  | steady {a b : Server} : Steady sid a b → Hist sid a b
  | quiet {sv : Server} (a : Nat) (c : Cmd) : QuietCmd sid a c → CmdOK c → Hist sid sv (runCmd sv a c)
  | trans {a b c : Server} : Hist sid a b → Hist sid b c → Hist sid a c

theorem hist_sync {sid : Nat} {sv sv' : Server} (hh : Hist sid sv sv') (h : Inv sv) : SyncFor sid sv sv' ∧ Inv sv' := by
  induction hh with
  | steady hs => exact steady_sync hs h
  | quiet a c hq hc => exact ⟨(quiet_runCmd _ c hq).syncFor, h.runCmd a c hc⟩
  | trans _ _ ih1 ih2 =>
    obtain ⟨s1, i1⟩ := ih1 h
    obtain ⟨s2, i2⟩ := ih2 i1
    exact ⟨s1.trans s2, i2⟩

def FreshSessNode (sv : Server) (host : Bytes) : Prop :=
  ∀ hn, getNode sv [host] = some hn → findKid (sidName sv.nextSid) hn.kids = none

/-- `attach` as a term; the state `A` with the new session in the table stays behind `∃` so that users rewrite with the shape and do not
    unfold the session record -/
theorem attach_shape (sv : Server) (slot : Nat) (host : Bytes) :
    ∃ A : Server, A.root = sv.root ∧ A.nextSid = sv.nextSid + 1 ∧
      (∃ ns : Sess, A.sessions = sv.sessions ++ [ns] ∧ ns.sid = sv.nextSid ∧ ns.subs = []) ∧
      (attach sv slot host).1 = pushAll (putChild (if (findKid host A.root.kids).isSome then A
        else putChild A sv.nextSid [] (Node.fresh host none) true) sv.nextSid [host]
        (Node.fresh (sidName sv.nextSid) none) true) :=
  ⟨{ sv with nextSid := sv.nextSid + 1, live := true, sessions := sv.sessions ++ [_] }, rfl, rfl, ⟨_, rfl, rfl, rfl⟩, rfl⟩

theorem syncFor_attach {sv : Server} (h : Inv sv) (slot : Nat) (host : Bytes) (hh : cSlash ∉ host)
    (hfresh : FreshSessNode sv host) {sid : Nat} (hold : (sv.sess? sid).isSome) :
    SyncFor sid sv (attach sv slot host).1 := by
  obtain ⟨s0, hs0⟩ := Option.isSome_iff_exists.1 hold
  have hne : sid ≠ sv.nextSid := by
    have := h.marks.sess.sid_lt hs0
    rw [sid_of_sess? hs0] at this
    exact Nat.ne_of_lt this
  obtain ⟨A, hAr, hAn, ⟨ns, hAss, hns1, hns2⟩, hshape⟩ := attach_shape sv slot host
  rw [hshape]
  have hAs : ∀ t s, sv.sess? t = some s → A.sess? t = some s := fun _ _ hs => sess?_append_old hAss hs
  have hAg : Good A := ⟨h.marks.addSess ns hAr hAn hAss hns1 hns2, NS.of_root hAr h.noSlash⟩
  have q1 : SyncFor sid sv A := (quiet_of_sess (sid := sid) (by rw [hAs sid s0 hs0, hs0]) (fun w => by rw [getNode_congr hAr])).syncFor
  have step2 : ∃ B, B = (if (findKid host A.root.kids).isSome then A
      else putChild A sv.nextSid [] (Node.fresh host none) true) ∧ SyncFor sid A B ∧ Good B ∧
      (∃ hn, getNode B [host] = some hn ∧ findKid (sidName sv.nextSid) hn.kids = none) := by
    refine ⟨_, rfl, ?_⟩
    have hroot : getNode A [] = some A.root := rfl
    split
    · rename_i hex
      refine ⟨SyncFor.refl sid A, hAg, ?_⟩
      obtain ⟨hn, hhn⟩ := Option.isSome_iff_exists.1 hex
      have hg : getNode A [host] = some hn := by
        have := getNode_child hroot host hhn (by decide)
        simpa using this
      refine ⟨hn, hg, ?_⟩
      apply hfresh hn
      rw [← getNode_congr hAr]; exact hg
    · rename_i hex
      have hk : findKid host A.root.kids = none := by
        cases hf : findKid host A.root.kids with
        | none => rfl
        | some _ => rw [hf] at hex; simp at hex
      rw [putChild_notify_absent A sv.nextSid [] host none hroot hk]
      refine ⟨fun s hs hen m => sync_createStep hAg sv.nextSid hroot host hk (by decide) hh none hs hen
        (iff_of_true (Or.inl hne) (visible_host s host)) m, good_createStep hAg _ _ _ _ hh, ?_⟩
      unfold createStep
      refine ⟨(Node.fresh host none).setSubs (marksForNewNode A ([] ++ [host])), ?_, rfl⟩
      rw [getNode_notifyChanged]
      have := getNode_putKid_at A [] ((Node.fresh host none).setSubs (marksForNewNode A ([] ++ [host]))) hroot (by decide)
      simpa using this
  obtain ⟨B, hB, s2, gB, hn, hhn, hkn⟩ := step2
  rw [← hB]
  rw [putChild_notify_absent B sv.nextSid [host] (sidName sv.nextSid) none hhn hkn]
  have s3 : SyncFor sid B (createStep B sv.nextSid [host] (sidName sv.nextSid) none) :=
    fun s hs hen m => sync_createStep gB sv.nextSid hhn (sidName sv.nextSid) hkn (by simp [fuelDepth]) (noSlash_sidName _)
      none hs hen (caller_visible_owner hs (by simp [ownerName])) m
  exact q1.trans (s2.trans (s3.trans ((SyncAll.pushAll _).for sid)))

inductive History (sid : Nat) : Server → Server → Prop
  | hist {a b : Server} : Hist sid a b → History sid a b
  | attach {sv : Server} (slot : Nat) (host : Bytes) : cSlash ∉ host → FreshSessNode sv host → (sv.sess? sid).isSome →
      History sid sv (attach sv slot host).1
  | trans {a b c : Server} : History sid a b → History sid b c → History sid a c

theorem history_sync {sid : Nat} {sv sv' : Server} (hh : History sid sv sv') (h : Inv sv) :
    SyncFor sid sv sv' ∧ Inv sv' := by
  induction hh with
  | hist hs => exact hist_sync hs h
  | attach slot host hno hfr hold => exact ⟨syncFor_attach h slot host hno hfr hold, h.attach slot host hno⟩
  | trans _ _ ih1 ih2 =>
    obtain ⟨s1, i1⟩ := ih1 h
    obtain ⟨s2, i2⟩ := ih2 i1
    exact ⟨s1.trans s2, i2⟩

end Muscle.Reflector
