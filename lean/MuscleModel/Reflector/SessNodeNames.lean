import MuscleModel.Reflector.OtherSessions

/-!
# The children of host nodes are named by ids below the id counter

`HK sv` (the kids of host nodes): every node `[host, x]` has `x = sidName k` with `k < sv.nextSid`.  `attach` names the new session node by the counter
and advances it; no write of a command touches the counter (`Acts.nextSid`) or creates a node outside the sender's subtree.
Hence `FreshSessNode` in every `CReach` state (`CReach.fresh`).
-/


namespace Muscle.Reflector
open Muscle Muscle.Eng.SrvEngine

theorem nextSid_updSess (sv : Server) (sid : Nat) (f : Sess → Sess) : (sv.updSess sid f).nextSid = sv.nextSid := rfl
theorem nextSid_setNode (sv : Server) (p : List Bytes) (f : Node → Node) : (setNode sv p f).nextSid = sv.nextSid := rfl
theorem nextSid_deliver (sv : Server) (sid : Nat) (w : String) : (sv.deliver sid w).nextSid = sv.nextSid := rfl

theorem nextSid_putChild (sv : Server) (by_ : Nat) (parent : List Bytes) (child : Node) (notify : Bool) :
    (putChild sv by_ parent child notify).nextSid = sv.nextSid := by
  unfold putChild
  simp only []
  split
  · exact (notifyChanged_notif ..).nextSid
  · rfl

def HK (sv : Server) : Prop :=
  ∀ host x n, getNode sv [host, x] = some n → ∃ k, k < sv.nextSid ∧ x = sidName k

theorem HK.of_root {a b : Server} (hr : b.root = a.root) (hn : b.nextSid = a.nextSid) (h : HK a) : HK b := by
  intro host x n hg
  rw [getNode_congr hr] at hg
  obtain ⟨k, hk, hx⟩ := h host x n hg
  exact ⟨k, by omega, hx⟩

theorem HK.pushAll {sv : Server} (h : HK sv) : HK (pushAll sv) :=
  h.of_root (pushAll_root sv) (nextSid_pushAll sv)

theorem hostWF_of_treeInv {sv : Server} (h : TreeInv sv) (s : Sess) : HostWF sv s :=
  ⟨h.here.2, fun _ hp => (treeInv_getNode h hp).here.2⟩

/-- a step of session `t` that keeps the id counter and, outside the subtree of `t`, which nodes exist: the only depth-2
    node it can add is the session node of `t`, named by the id of `t` -/
theorem HK.of_frame {sv sv' : Server} (h : HK sv) (hs : SessOK sv) (hn : sv'.nextSid = sv.nextSid) {t : Nat} {st : Sess}
    (hst : sv.sess? t = some st)
    (hframe : ∀ host x, ¬ sessNames st <+: [host, x] →
      (getNode sv' [host, x]).map (strip t) = (getNode sv [host, x]).map (strip t)) : HK sv' := by
  intro host x n hg
  rw [hn]
  by_cases hown : sessNames st <+: [host, x]
  · obtain ⟨u, hu⟩ := hown
    have hx : x = sidName st.sid := by
      cases u with
      | nil => simp [sessNames] at hu; exact hu.2.symm
      | cons y ys => have hl := congrArg List.length hu; simp [sessNames] at hl
    exact ⟨st.sid, hs.sid_lt hst, hx⟩
  · have hsome := congrArg Option.isSome (hframe host x hown)
    rw [hg, Option.isSome_map, Option.isSome_map] at hsome
    obtain ⟨n0, hn0⟩ := Option.isSome_iff_exists.1 hsome.symm
    exact h host x n0 hn0

theorem HK.runCmd {sv : Server} (h : HK sv) (hs : SessOK sv) (a : Nat) (c : Cmd) : HK (runCmd sv a c) := by
  cases hsa : sv.sess? a with
  | none => exact h.of_root (congrArg Server.root (runCmd_absent sv a hsa c)) (nextSid_runCmd sv a c)
  | some sa => exact h.of_frame hs (nextSid_runCmd sv a c) hsa (fun host x hown => (runCmd_own sv a sa hsa c).1 [host, x] hown)

theorem HK.detach {sv : Server} (h : HK sv) (hti : TreeInv sv) (hs : SessOK sv) (t : Nat) : HK (Reflector.detach sv t) := by
  cases hst : sv.sess? t with
  | none =>
    have : Reflector.detach sv t = sv := by unfold Reflector.detach; rw [hst]
    rw [this]; exact h
  | some st =>
    exact h.of_frame hs (nextSid_detach sv t) hst (fun host x hown =>
      detach_frame sv t st hst (hostWF_of_treeInv hti st) [host, x] (by simp) (by simp) hown)

theorem FreshSessNode.of_hk {sv : Server} (h : HK sv) (host : Bytes) : FreshSessNode sv host := by
  intro hn hg
  cases hf : findKid (sidName sv.nextSid) hn.kids with
  | none => rfl
  | some c =>
    have hc : getNode sv ([host] ++ [sidName sv.nextSid]) = some c :=
      getNode_child hg (sidName sv.nextSid) hf (by simp [fuelDepth])
    obtain ⟨k, hk, hx⟩ := h host (sidName sv.nextSid) c (by simpa using hc)
    have := sidName_inj hx
    omega

theorem HK.attach {sv : Server} (h : HK sv) (slot : Nat) (host : Bytes) : HK (attach sv slot host).1 := by
  obtain ⟨A, hAr, hAn, _, hshape⟩ := attach_shape sv slot host
  rw [hshape]
  intro h' x n hg
  have hn2 : (if (findKid host A.root.kids).isSome then A else putChild A sv.nextSid [] (Node.fresh host none) true).nextSid
      = sv.nextSid + 1 :=
    (ite_pred (P := fun X : Server => X.nextSid = A.nextSid) rfl (nextSid_putChild ..)).trans hAn
  rw [nextSid_pushAll, nextSid_putChild, hn2]
  rw [getNode_congr (pushAll_root _)] at hg
  -- the new session node is named by the old counter; an older node was there before the host put or is the host node
  rcases getNode_putChild_leaf rfl hg with hv | ⟨n1, hn1⟩
  · exact ⟨sv.nextSid, Nat.lt_succ_self _, (List.cons.inj (List.cons.inj hv).2).1⟩
  · have hold : ∃ n0, getNode A [h', x] = some n0 := by
      by_cases hk : (findKid host A.root.kids).isSome = true
      · rw [if_pos hk] at hn1; exact ⟨n1, hn1⟩
      · rw [if_neg hk] at hn1
        rcases getNode_putChild_leaf rfl hn1 with hv | hold
        · cases hv
        · exact hold
    obtain ⟨n0, hn0⟩ := hold
    rw [getNode_congr hAr] at hn0
    obtain ⟨k, hk, hx⟩ := h h' x n0 hn0
    exact ⟨k, Nat.lt_succ_of_lt hk, hx⟩

theorem hk_init : HK ({} : Server) := by
  intro host x n hg
  have : getNode ({} : Server) [host, x] = none := by
    simp [getNode, fuelDepth, nodeAt, Node.fresh, Node.kids, findKid]
  rw [this] at hg; cases hg

theorem CReach.hk {sv : Server} (h : CReach sv) : HK sv := by
  induction h with
  | init => exact hk_init
  | attach slot host _ _ ih => exact ih.attach slot host
  | @detach sv0 sid hr ih => exact ih.detach hr.inv.tree hr.inv.marks.sess sid
  | @cmd sv0 sid c _ hr ih => exact ih.runCmd hr.inv.marks.sess sid c
  | push _ ih => exact ih.pushAll
  | pump _ ih => exact ih.of_root rfl rfl

theorem CReach.fresh {sv : Server} (h : CReach sv) (host : Bytes) : FreshSessNode sv host :=
  FreshSessNode.of_hk h.hk host

end Muscle.Reflector
