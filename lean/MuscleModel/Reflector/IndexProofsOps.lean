import MuscleModel.Reflector.IndexProofsList
import MuscleModel.Reflector.DecBytes
import MuscleModel.Reflector.EffectSteps

/-!
# C13: each index-changing model function, seen from the parent node

For every function the parent node afterwards (`getNode_…`); for those that hand an instruction to `notifyIndex` the equation that
exposes it (`…_emits`; `removeOne_eq` for `RemoveChild`); the one `setNode` of the parent the function amounts to on the tree
(`…_root`; `InsertOrderedChild` has none: it is three `setNode`s, see `insertOrderedPre`).
-/

namespace Muscle.Reflector
open Muscle

theorem removeIndexEntry_none {sv : Server} {parent : List Bytes} {p : Node} {key : Bytes} (notify : Bool)
    (h : getNode sv parent = some p) (hi : lastIndexOf p.index key = none) :
    removeIndexEntry sv parent key notify = sv := by
  simp [removeIndexEntry, h, hi]

theorem removeIndexEntry_emits {sv : Server} {parent : List Bytes} {p : Node} {key : Bytes} {i : Nat}
    (h : getNode sv parent = some p) (hi : lastIndexOf p.index key = some i) :
    removeIndexEntry sv parent key true =
      notifyIndex (setNode sv parent (fun q => q.setIndex (q.index.eraseIdx i))) parent
        (p.setIndex (p.index.eraseIdx i)) (instrOf 'r' i key) := by
  have := getNode_setIndex (fun q => q.index.eraseIdx i) h
  simp only [removeIndexEntry, h, hi, this, if_true]

theorem removeIndexEntry_quiet {sv : Server} {parent : List Bytes} {p : Node} {key : Bytes} {i : Nat}
    (h : getNode sv parent = some p) (hi : lastIndexOf p.index key = some i) :
    removeIndexEntry sv parent key false = setNode sv parent (fun q => q.setIndex (q.index.eraseIdx i)) := by
  simp [removeIndexEntry, h, hi]

theorem removeIndexEntry_root (sv : Server) (parent : List Bytes) (key : Bytes) (notify : Bool) :
    (removeIndexEntry sv parent key notify).root =
      (setNode sv parent (fun q => q.setIndex (eraseLast q.index key))).root := by
  cases h : getNode sv parent with
  | none => rw [setNode_fix _ _ (by simp [h])]; simp [removeIndexEntry, h]
  | some p =>
    cases hi : lastIndexOf p.index key with
    | none =>
      rw [removeIndexEntry_none notify h hi, setNode_fix]
      intro q hq; rw [h] at hq; cases hq
      simp [eraseLast, hi, Node.setIndex_self]
    | some i =>
      rw [setNode_congr (g := fun q => q.setIndex (q.index.eraseIdx i)) _ _
        (fun q hq => by rw [h] at hq; cases hq; simp [eraseLast, hi])]
      cases notify with
      | true => rw [removeIndexEntry_emits h hi, notifyIndex_root]
      | false => rw [removeIndexEntry_quiet h hi]

theorem getNode_removeIndexEntry {sv : Server} {parent : List Bytes} {p : Node} (key : Bytes) (notify : Bool)
    (h : getNode sv parent = some p) :
    getNode (removeIndexEntry sv parent key notify) parent = some (p.setIndex (eraseLast p.index key)) := by
  rw [getNode_congr (removeIndexEntry_root sv parent key notify), getNode_setNode (setIndex_name_pres _), h]; rfl

/-- the child as stored: with the subscriber table every session's `NodeCreated` gives it -/
def storedChild (sv : Server) (parent : List Bytes) (child : Node) : Node :=
  child.setSubs (marksForNewNode sv (parent ++ [child.name]))

@[simp] theorem storedChild_name (sv : Server) (parent : List Bytes) (child : Node) :
    (storedChild sv parent child).name = child.name := by simp [storedChild]
@[simp] theorem storedChild_index (sv : Server) (parent : List Bytes) (child : Node) :
    (storedChild sv parent child).index = child.index := by simp [storedChild]
@[simp] theorem storedChild_kids (sv : Server) (parent : List Bytes) (child : Node) :
    (storedChild sv parent child).kids = child.kids := by simp [storedChild]

theorem putChild_root (sv : Server) (by_ : Nat) (parent : List Bytes) (child : Node) (notify : Bool) :
    (putChild sv by_ parent child notify).root =
      (setNode sv parent (fun p => p.setKids (putKid (storedChild sv parent child) p.kids))).root := by
  unfold putChild storedChild
  simp only
  split <;> simp

theorem getNode_putChild {sv : Server} {parent : List Bytes} {p : Node} (by_ : Nat) (child : Node) (notify : Bool)
    (h : getNode sv parent = some p) :
    getNode (putChild sv by_ parent child notify) parent =
      some (p.setKids (putKid (storedChild sv parent child) p.kids)) := by
  rw [getNode_congr (putChild_root sv by_ parent child notify),
    getNode_setNode (setKids_name_pres _), h]; rfl

/-- the state of `InsertOrderedChild` after the child has been put: counter advanced, child stored -/
def insertOrderedPut (sv : Server) (by_ : Nat) (parent : List Bytes) (d : Option Nat) (nm : Bytes) (ctr' : Nat)
    (nc : Bool) : Server :=
  putChild (setNode sv parent (fun p => p.setCtr ctr')) by_ parent (Node.fresh nm d) nc

/-- the parent node at that point -/
def insertOrderedPutNode (sv : Server) (parent : List Bytes) (p : Node) (d : Option Nat) (nm : Bytes) (ctr' : Nat) : Node :=
  (p.setCtr ctr').setKids (putKid (storedChild (setNode sv parent (fun p => p.setCtr ctr')) parent (Node.fresh nm d)) p.kids)

/-- the state `InsertOrderedChild` is in when it notifies: counter advanced, child put, index entry inserted -/
def insertOrderedPre (sv : Server) (by_ : Nat) (parent : List Bytes) (d : Option Nat) (nm : Bytes) (ctr' i : Nat)
    (nc : Bool) : Server :=
  setNode (insertOrderedPut sv by_ parent d nm ctr' nc) parent
    (fun p => p.setIndex (p.index.take i ++ [nm] ++ p.index.drop i))

/-- the parent node at that point -/
def insertOrderedNode (sv : Server) (parent : List Bytes) (p : Node) (d : Option Nat) (nm : Bytes) (ctr' i : Nat) : Node :=
  (insertOrderedPutNode sv parent p d nm ctr').setIndex (insertAt p.index i nm)

theorem getNode_insertOrderedPut {sv : Server} {parent : List Bytes} {p : Node} (by_ : Nat) (d : Option Nat)
    (nm : Bytes) (ctr' : Nat) (nc : Bool) (h : getNode sv parent = some p) :
    getNode (insertOrderedPut sv by_ parent d nm ctr' nc) parent = some (insertOrderedPutNode sv parent p d nm ctr') := by
  unfold insertOrderedPut insertOrderedPutNode
  have h1 : getNode (setNode sv parent (fun p => p.setCtr ctr')) parent = some (p.setCtr ctr') := by
    rw [getNode_setNode (setCtr_name_pres ctr'), h]; rfl
  have h2 := getNode_putChild by_ (Node.fresh nm d) nc h1
  simpa using h2

theorem getNode_insertOrderedPre {sv : Server} {parent : List Bytes} {p : Node} (by_ : Nat) (d : Option Nat)
    (nm : Bytes) (ctr' i : Nat) (nc : Bool) (h : getNode sv parent = some p) :
    getNode (insertOrderedPre sv by_ parent d nm ctr' i nc) parent =
      some (insertOrderedNode sv parent p d nm ctr' i) := by
  unfold insertOrderedPre insertOrderedNode
  rw [getNode_setIndex (fun q => q.index.take i ++ [nm] ++ q.index.drop i)
    (getNode_insertOrderedPut by_ d nm ctr' nc h)]
  simp [insertAt, insertOrderedPutNode]

/-- `optInsertBefore == "!Rmv"`: the child is created but not indexed, and nothing is handed to `notifyIndex` -/
theorem insertOrderedChild_unindexed {sv : Server} {parent : List Bytes} {p : Node} (by_ : Nat) (d : Option Nat)
    {before : Bytes} (name : Bytes) (nc : Bool) (h : getNode sv parent = some p) (hb : before = removeFromIndexName) :
    insertOrderedChild sv by_ parent d before name nc =
      insertOrderedPut sv by_ parent d (ordPair p name).1 (ordPair p name).2 nc := by
  unfold insertOrderedChild
  simp only [h]
  exact if_pos hb

theorem insertOrderedChild_emits {sv : Server} {parent : List Bytes} {p : Node} (by_ : Nat) (d : Option Nat)
    {before : Bytes} (name : Bytes) (nc : Bool) (h : getNode sv parent = some p) (hb : before ≠ removeFromIndexName) :
    insertOrderedChild sv by_ parent d before name nc =
      notifyIndex (insertOrderedPre sv by_ parent d (ordPair p name).1 (ordPair p name).2 (insertPos p.index before) nc)
        parent (insertOrderedNode sv parent p d (ordPair p name).1 (ordPair p name).2 (insertPos p.index before))
        (instrOf 'i' (insertPos p.index before) (ordPair p name).1) := by
  have hg := getNode_insertOrderedPre by_ d (ordPair p name).1 (ordPair p name).2 (insertPos p.index before) nc h
  unfold insertOrderedChild
  simp only [h]
  refine (if_neg hb).trans ?_
  show (match getNode (insertOrderedPre sv by_ parent d (ordPair p name).1 (ordPair p name).2 (insertPos p.index before) nc)
      parent with | some p' => _ | none => _) = _
  rw [hg]; rfl

/-- the parent after an `InsertOrderedChild` that indexes (otherwise: `insertOrderedChild_unindexed`, `getNode_insertOrderedPut`) -/
theorem getNode_insertOrderedChild {sv : Server} {parent : List Bytes} {p : Node} (by_ : Nat) (d : Option Nat)
    {before : Bytes} (name : Bytes) (nc : Bool) (h : getNode sv parent = some p) (hb : before ≠ removeFromIndexName) :
    getNode (insertOrderedChild sv by_ parent d before name nc) parent =
      some (insertOrderedNode sv parent p d (ordPair p name).1 (ordPair p name).2 (insertPos p.index before)) := by
  rw [insertOrderedChild_emits by_ d name nc h hb, getNode_notifyIndex]
  exact getNode_insertOrderedPre _ _ _ _ _ _ h

@[simp] theorem insertOrderedPutNode_index (sv : Server) (parent : List Bytes) (p : Node) (d : Option Nat) (nm : Bytes)
    (ctr' : Nat) : (insertOrderedPutNode sv parent p d nm ctr').index = p.index := by
  simp [insertOrderedPutNode]

@[simp] theorem insertOrderedNode_index (sv : Server) (parent : List Bytes) (p : Node) (d : Option Nat) (nm : Bytes)
    (ctr' i : Nat) : (insertOrderedNode sv parent p d nm ctr' i).index = insertAt p.index i nm := by
  simp [insertOrderedNode]

theorem insertOrderedPutNode_kids (sv : Server) (parent : List Bytes) (p : Node) (d : Option Nat) (nm : Bytes)
    (ctr' : Nat) : ∃ c, c.name = nm ∧ (insertOrderedPutNode sv parent p d nm ctr').kids = putKid c p.kids :=
  ⟨storedChild (setNode sv parent (fun p => p.setCtr ctr')) parent (Node.fresh nm d), by simp, by simp [insertOrderedPutNode]⟩

theorem insertOrderedNode_kids (sv : Server) (parent : List Bytes) (p : Node) (d : Option Nat) (nm : Bytes)
    (ctr' i : Nat) : ∃ c, c.name = nm ∧ (insertOrderedNode sv parent p d nm ctr' i).kids = putKid c p.kids := by
  obtain ⟨c, h1, h2⟩ := insertOrderedPutNode_kids sv parent p d nm ctr'
  exact ⟨c, h1, by simp [insertOrderedNode, h2]⟩

theorem removeFromIndexName_bytes : removeFromIndexName = [33, 82, 109, 118] := by
  unfold removeFromIndexName
  have : "!Rmv" = String.ofList ['!', 'R', 'm', 'v'] := rfl
  rw [this, asciiBytes _ (by decide)]
  rfl

theorem nil_ne_removeFromIndexName : ([] : Bytes) ≠ removeFromIndexName := by
  rw [removeFromIndexName_bytes]; simp

/-- the parent's index after `ReorderChild(child, before)` -/
def reorderIndex (p : Node) (child before : Bytes) : List Bytes :=
  if before = child then p.index else
  if p.index.isEmpty && !(p.index.contains child) && before = removeFromIndexName then p.index else
  if before = removeFromIndexName then eraseLast p.index child
  else insertAt (eraseLast p.index child) (reorderTarget p child before) child

theorem reorderChild_self {sv : Server} {parent : List Bytes} {p : Node} {child before : Bytes}
    (h : getNode sv parent = some p) (hb : before = child) : reorderChild sv parent child before = sv := by
  simp [reorderChild, h, hb]

theorem reorderChild_nothing {sv : Server} {parent : List Bytes} {p : Node} {child before : Bytes}
    (h : getNode sv parent = some p)
    (hg : (p.index.isEmpty && !(p.index.contains child) && before = removeFromIndexName) = true) :
    reorderChild sv parent child before = sv := by
  unfold reorderChild
  simp only [h]
  by_cases hb : before = child
  · rw [if_pos hb]
  · rw [if_neg hb, if_pos hg]

theorem reorderChild_remove {sv : Server} {parent : List Bytes} {p : Node} {child before : Bytes}
    (h : getNode sv parent = some p) (hb : before ≠ child)
    (hg : ¬ (p.index.isEmpty && !(p.index.contains child) && before = removeFromIndexName) = true)
    (hr : before = removeFromIndexName) :
    reorderChild sv parent child before = removeIndexEntry sv parent child true := by
  unfold reorderChild
  simp only [h]
  rw [if_neg hb, if_neg hg, if_pos hr]

/-- the equation exposing the insert `ReorderChild` hands to `notifyIndex` (after the removal, which is
    `removeIndexEntry … true`, see `removeIndexEntry_emits`) -/
theorem reorderChild_emits {sv : Server} {parent : List Bytes} {p : Node} {child before : Bytes}
    (h : getNode sv parent = some p) (hb : before ≠ child)
    (hg : ¬ (p.index.isEmpty && !(p.index.contains child) && before = removeFromIndexName) = true)
    (hr : before ≠ removeFromIndexName) :
    reorderChild sv parent child before =
      notifyIndex
        (setNode (removeIndexEntry sv parent child true) parent
          (fun q => q.setIndex (q.index.take (reorderTarget p child before) ++ [child] ++
            q.index.drop (reorderTarget p child before))))
        parent
        (p.setIndex (insertAt (eraseLast p.index child) (reorderTarget p child before) child))
        (instrOf 'i' (reorderTarget p child before) child) := by
  have h1 := getNode_removeIndexEntry child true h
  have h2 := getNode_setIndex (fun q => q.index.take (reorderTarget p child before) ++ [child] ++
            q.index.drop (reorderTarget p child before)) h1
  simp only [Node.setIndex_setIndex, Node.setIndex_index] at h2
  unfold reorderChild
  simp only [h]
  rw [if_neg hb, if_neg hg]
  rw [if_neg hr]
  simp only [h1]
  show (match getNode (setNode (removeIndexEntry sv parent child true) parent
          (fun q => q.setIndex (q.index.take (reorderTarget p child before) ++ [child] ++
            q.index.drop (reorderTarget p child before)))) parent with
    | some p2 => _ | none => _) = _
  rw [h2]
  rfl

theorem reorderChild_root {sv : Server} {parent : List Bytes} {p : Node} (child before : Bytes)
    (h : getNode sv parent = some p) :
    (reorderChild sv parent child before).root =
      (setNode sv parent (fun q => q.setIndex (reorderIndex p child before))).root := by
  have hp : ∀ {f g : Node → Node}, f p = g p → (setNode sv parent f).root = (setNode sv parent g).root :=
    fun e => congrArg Server.root (setNode_congr _ _ (fun q hq => by rw [h] at hq; cases hq; exact e))
  unfold reorderIndex
  by_cases hb : before = child
  · rw [reorderChild_self h hb, if_pos hb, hp (g := fun q => q) (Node.setIndex_self p), setNode_fix _ _ (fun _ _ => rfl)]
  · rw [if_neg hb]
    by_cases hg : (p.index.isEmpty && !(p.index.contains child) && before = removeFromIndexName) = true
    · rw [reorderChild_nothing h hg, if_pos hg, hp (g := fun q => q) (Node.setIndex_self p),
        setNode_fix _ _ (fun _ _ => rfl)]
    · rw [if_neg hg]
      by_cases hr : before = removeFromIndexName
      · rw [reorderChild_remove h hb hg hr, if_pos hr, removeIndexEntry_root]
        exact hp rfl
      · rw [reorderChild_emits h hb hg hr, if_neg hr, notifyIndex_root,
          setNode_root_congr (removeIndexEntry_root sv parent child true),
          setNode_setNode (setIndex_name_pres _) (setIndex_name_pres _)]
        exact hp (by simp [insertAt])

theorem getNode_reorderChild {sv : Server} {parent : List Bytes} {p : Node} (child before : Bytes)
    (h : getNode sv parent = some p) :
    getNode (reorderChild sv parent child before) parent = some (p.setIndex (reorderIndex p child before)) := by
  rw [getNode_congr (reorderChild_root child before h), getNode_setNode (setIndex_name_pres _), h]; rfl

theorem reorderTarget_le (p : Node) (child before : Bytes) :
    reorderTarget p child before ≤ (eraseLast p.index child).length := by
  unfold reorderTarget
  split
  · exact insertPos_le _ _
  · exact Nat.le_refl _

/-- the branches of `ReorderChild` as the client sees them: nothing, the removal alone, the removal and an insert; each with the
    instructions emitted and the parent's index afterwards -/
theorem reorderLog_cases {P : List Instr → List Bytes → Prop} (p : Node) (child before : Bytes) (h0 : P [] p.index)
    (hrm : before = removeFromIndexName → P (remLog p.index child) (eraseLast p.index child))
    (hins : before ≠ removeFromIndexName →
      P (remLog p.index child ++ [.ins (reorderTarget p child before) child])
        (insertAt (eraseLast p.index child) (reorderTarget p child before) child)) :
    P (reorderLog p child before) (reorderIndex p child before) := by
  unfold reorderLog reorderIndex
  by_cases hb : before = child
  · rw [if_pos hb, if_pos hb]; exact h0
  · rw [if_neg hb, if_neg hb]
    by_cases hg : (p.index.isEmpty && !(p.index.contains child) && before = removeFromIndexName) = true
    · rw [if_pos hg, if_pos hg]; exact h0
    · rw [if_neg hg, if_neg hg]
      by_cases hr : before = removeFromIndexName
      · rw [if_pos hr, if_pos hr, List.append_nil]; exact hrm hr
      · rw [if_neg hr, if_neg hr]; exact hins hr

theorem applyAll_reorderLog (p : Node) (child before : Bytes) :
    applyAll p.index (reorderLog p child before) = some (reorderIndex p child before) :=
  reorderLog_cases (P := fun l ix => applyAll p.index l = some ix) p child before rfl (fun _ => applyAll_remLog _ _)
    (fun _ => by simp [applyAll_append, applyAll_remLog, applyAll, apply_ins_le child (reorderTarget_le p child before)])

/-- `RemoveChild` after `RemoveIndexEntry`: the removed-notification (tree untouched) -/
def removeOneMid (sv1 : Server) (by_ : Nat) (notify : Bool) (parent : List Bytes) (key : Bytes) : Server :=
  match getNode sv1 (parent ++ [key]) with
  | some c => if notify then notifyChanged sv1 by_ (parent ++ [key]) c (some c.data) true else sv1
  | none => sv1

@[simp] theorem removeOneMid_root (sv1 : Server) (by_ : Nat) (notify : Bool) (parent : List Bytes) (key : Bytes) :
    (removeOneMid sv1 by_ notify parent key).root = sv1.root := by
  unfold removeOneMid
  split
  · exact ite_pred (P := fun x : Server => x.root = sv1.root) (notifyChanged_root _ _ _ _ _ _) rfl
  · rfl

/-- what `RemoveChild` does after `RemoveIndexEntry`: the removed-notification, then the child goes -/
def removeOneRest (sv1 : Server) (by_ : Nat) (notify : Bool) (parent : List Bytes) (key : Bytes) : Server :=
  setNode (removeOneMid sv1 by_ notify parent key) parent (fun p => p.setKids (removeKid key p.kids))

theorem removeOne_eq {sv : Server} {parent : List Bytes} {key : Bytes} {c : Node} (by_ : Nat) (notify : Bool)
    (hc : getNode sv (parent ++ [key]) = some c) :
    removeOne sv by_ notify (parent ++ [key]) =
      removeOneRest (removeIndexEntry sv parent key notify) by_ notify parent key := by
  unfold removeOne removeOneRest removeOneMid
  simp only [List.getLast?_append, List.getLast?_singleton, Option.some_or, hc, List.dropLast_concat]
  rfl

theorem removeOne_absent {sv : Server} {names : List Bytes} (by_ : Nat) (notify : Bool)
    (hc : getNode sv names = none) : removeOne sv by_ notify names = sv := by
  unfold removeOne
  simp only [hc]
  split <;> simp_all

theorem removeOne_root {sv : Server} {parent : List Bytes} {key : Bytes} {c : Node} (by_ : Nat) (notify : Bool)
    (hc : getNode sv (parent ++ [key]) = some c) :
    (removeOne sv by_ notify (parent ++ [key])).root =
      (setNode sv parent (fun q => (q.setIndex (eraseLast q.index key)).setKids (removeKid key q.kids))).root := by
  rw [removeOne_eq by_ notify hc]
  unfold removeOneRest
  rw [setNode_root_congr (removeOneMid_root _ by_ notify parent key),
    setNode_root_congr (removeIndexEntry_root sv parent key notify),
    setNode_setNode (setIndex_name_pres _) (setKids_name_pres _)]
  rfl

theorem getNode_removeOne {sv : Server} {parent : List Bytes} {p c : Node} {key : Bytes} (by_ : Nat) (notify : Bool)
    (h : getNode sv parent = some p) (hc : getNode sv (parent ++ [key]) = some c) :
    getNode (removeOne sv by_ notify (parent ++ [key])) parent =
      some ((p.setIndex (eraseLast p.index key)).setKids (removeKid key p.kids)) := by
  rw [getNode_congr (removeOne_root by_ notify hc), getNode_setNode (fun n => by simp), h]; rfl

end Muscle.Reflector
