import MuscleModel.Reflector.Snapshot
import MuscleModel.Reflector.SyncFor
import MuscleModel.Reflector.Client

/-!
# The subscriber's own SUBSCRIBE of a path it does not hold, and its own unsubscribe

`subC sv sid path f` (`SubscribeShape`) is the state `DoGetData` runs on inside `subscribe`.  `SnapVisits`: the snapshot traversal visits
exactly the existing nodes the new entry matches, path and filter, that are visible to the subscriber (a hypothesis here).
`subscribe_new_replay`: a right mirror for the old subscription set becomes, after the Messages of the snapshot, a right mirror for the
new one (`mirrorOK_snapshot`, node by node); `converges_after_subscribe`: from the empty mirror, one SUBSCRIBE and then anything `SyncFor`
covers.  The server sends nothing on `RemoveParameter("SUBSCRIBE:…")`: the client drops what no remaining subscription matches
(`applyUnsub`); `unsubscribe_step`: a right mirror stays right, whatever the command did.
-/


namespace Muscle.Reflector
open Muscle Muscle.Eng.SrvEngine

/-- the subscriber's record in `subC` -/
def subSess (s : Sess) (path : Bytes) (f : Option Filt) : Sess :=
  { s with subs := pmPut s.subs (adjustPrefix path (some defaultPrefix)) f,
           params := subParams s.params path }

theorem sess?_subscribeRefs (sv : Server) (t : Nat) (pm : PM) (delta : Option Int) (sid : Nat) :
    (subscribeRefs sv t pm delta).sess? sid = sv.sess? sid := by
  unfold subscribeRefs Server.sess?
  rw [foldl_setNode_sessions]

theorem subC_sess {sv : Server} {sid : Nat} {s : Sess} (hs : sv.sess? sid = some s) (path : Bytes) (f : Option Filt) :
    (subC sv sid path f).sess? sid = some (subSess s path f) := by
  unfold subC
  rw [sess?_updSess_same _ sid _
    ((sess?_subscribeRefs ..).trans (sess?_updSess_same sv sid _ hs))]
  rfl

theorem subC_data (sv : Server) (sid : Nat) (path : Bytes) (f : Option Filt) (w : List Bytes) :
    (getNode (subC sv sid path f) w).map Node.data = (getNode sv w).map Node.data := by
  unfold subC
  rw [getNode_updSess, subscribeRefs_payload, getNode_updSess]

theorem treeInv_subC {sv : Server} (h : TreeInv sv) (sid : Nat) (path : Bytes) (f : Option Filt) :
    TreeInv (subC sv sid path f) := by
  unfold subC
  exact treeInv_updSess _ _ (treeInv_subscribeRefs _ _ _ (treeInv_updSess _ _ h))

theorem noSlash_subC {sv : Server} (h : NS sv) (sid : Nat) (path : Bytes) (f : Option Filt) : NS (subC sv sid path f) := by
  unfold subC
  apply NS.updSess
  exact NS.of_data (subscribeRefs_data _ sid [] _ _ _) (h.updSess ..)

def SnapVisits (C : Server) (sC : Sess) (fix : Bytes) (f : Option Filt) : Prop :=
  ∀ v, v ∈ travGlobal C (pmPut [] fix f) true (getDataCb sC) ↔
    ∃ n, v ≠ [] ∧ getNode C v = some n ∧ pmMatchesPath (pmPut [] fix f) v true n.data = true ∧ visible sC v = true

theorem pmOfKeys_single (path : Bytes) (f : Option Filt) :
    pmOfKeys [(path, f)] (some defaultPrefix) = pmPut [] (adjustPrefix path (some defaultPrefix)) f := rfl

theorem mirrorOK_snapshot {C : Server} (hNS : NS C) {s sC : Sess} (hsid : sC.sid = s.sid)
    (hrs : sC.reflectSelf = s.reflectSelf) {pmNew : PM}
    (hwants : ∀ v d, wants sC v d = (wants s v d || pmMatchesPath pmNew v true d)) {vs : List Visit}
    (hV : ∀ v, v ∈ vs ↔ ∃ n, v ≠ [] ∧ getNode C v = some n ∧ pmMatchesPath pmNew v true n.data = true ∧ visible sC v = true)
    {m : Mirror} (hm : MirrorOK C s m) : MirrorOK C sC ((snapEvs C vs).foldl applyEv m) := by
  obtain ⟨h1, h2⟩ := (mirrorOK_iff_nodes hNS).1 hm
  refine (mirrorOK_iff_nodes hNS).2 ⟨fun v n hv hn => ?_, fun p hp => ?_⟩
  · -- visited: the node is visible and the new entry matches it; not visited: the new entry adds nothing at this node
    have hvis := visible_congr hsid hrs v
    rw [snapFold_node hNS vs m hn, h1 v n hv hn, expected_some, expected_some, hwants, hvis]
    have hin : v ∈ vs ↔ pmMatchesPath pmNew v true n.data = true ∧ visible s v = true := by
      rw [← hvis]; exact visits_at hV hv hn
    by_cases hvs : v ∈ vs
    · rw [if_pos hvs, (hin.1 hvs).1, (hin.1 hvs).2]; simp
    · rw [if_neg hvs]
      cases hA : visible s v
      · simp
      · cases hB : pmMatchesPath pmNew v true n.data
        · simp
        · exact absurd (hin.2 ⟨hB, hA⟩) hvs
  · rw [snapEvs_eq, nodeFold_nopath (fun _ _ _ h => by cases h; rfl) vs (visits_ne_nil hV) m hp, h2 p hp]

theorem subscribe_new_replay {sv : Server} (hinv : Inv sv) {sid : Nat} {s : Sess} (hs : sv.sess? sid = some s) (path : Bytes)
    (f : Option Filt) (hgood : GoodPath (adjustPrefix path (some defaultPrefix)))
    (hf : pmFind s.subs (adjustPrefix path (some defaultPrefix)) = none)
    (hV : SnapVisits (subC sv sid path f) (subSess s path f) (adjustPrefix path (some defaultPrefix)) f)
    (m : Mirror) (hm : MirrorOK sv s m) :
    ∃ sD sent, (subscribe sv sid path f).sess? sid = some sD ∧ sD.core = (subSess s path f).core ∧
      sD.nextData = s.nextData ∧ dataLines sD = dataLines s ++ sent.map dataText ∧
      MirrorOK (subscribe sv sid path f) sD (applyMsgs m sent) := by
  rw [subscribe_new_eq hs path f hf (ne_nil_of_noEmptyClause hgood.1)]
  -- the state the snapshot runs on: the payloads of `sv`, the subscriber's record with the new entry
  have hNS : NS (subC sv sid path f) := noSlash_subC hinv.noSlash sid path f
  generalize hC : subC sv sid path f = C at hV hNS
  have hsC : C.sess? sid = some (subSess s path f) := by rw [← hC]; exact subC_sess hs path f
  have hmC : MirrorOK C s m := fun p d => by
    rw [matches_congr (a := sv) (b := C) (fun w => by rw [← hC]; exact subC_data sv sid path f w) s p d]
    exact hm p d
  obtain ⟨sent, ⟨hroot, sD, hsD, hcD, hnD, hdD⟩, hview⟩ := doGetData_replay C sid _ hsC [(path, f)] m
  rw [pmOfKeys_single] at hview
  refine ⟨sD, sent, hsD, hcD, hnD, hdD, fun p d => ?_⟩
  rw [matches_vcore (vcore_of_core hcD), matches_congr (a := C) (b := doGetData C sid [(path, f)])
    (fun w => by rw [getNode_congr hroot]) _ p d, hview]
  exact mirrorOK_snapshot hNS (s := s) (sC := subSess s path f) rfl rfl
    (fun v d => pmMatchesPath_put_new (hinv.subsWF hs) hgood.1 hf f v true d) hV hmC p d

theorem unsubscribe_shape {sv : Server} {sid : Nat} {s : Sess} (hs : sv.sess? sid = some s) (path : Bytes) :
    (∃ pm ps, (unsubscribe sv sid path).sess? sid = some { s with subs := pm, params := ps } ∧
      (pm = s.subs ∨ pm = pmRemove s.subs (adjustPrefix path (some defaultPrefix)))) ∧
    ∀ w, (getNode (unsubscribe sv sid path) w).map Node.data = (getNode sv w).map Node.data := by
  refine unsubscribe_cases (P := fun X => (∃ pm ps, X.sess? sid = some { s with subs := pm, params := ps } ∧
      (pm = s.subs ∨ pm = pmRemove s.subs (adjustPrefix path (some defaultPrefix)))) ∧
      ∀ w, (getNode X w).map Node.data = (getNode sv w).map Node.data) sv sid path
    ⟨⟨s.subs, s.params, hs, Or.inl rfl⟩, fun _ => rfl⟩ (fun _ _ => ?_) (fun _ _ _ _ => ?_)
  · exact ⟨⟨_, _, sess?_updSess_same sv sid _ hs, Or.inl rfl⟩, fun _ => rfl⟩
  · refine ⟨⟨pmRemove s.subs (adjustPrefix path (some defaultPrefix)), s.params.filter (· ≠ subscribePrefix ++ path), ?_,
      Or.inr rfl⟩, fun w => by rw [getNode_updSess, subscribeRefs_payload, getNode_updSess]⟩
    exact sess?_updSess_same _ sid _
      ((sess?_subscribeRefs ..).trans (sess?_updSess_same sv sid _ hs))

theorem mirrorOK_applyUnsub {sv : Server} (hNS : NS sv) {s s' : Sess} (hsid : s'.sid = s.sid)
    (hrs : s'.reflectSelf = s.reflectSelf) (hmono : ∀ v d, wants s' v d = true → wants s v d = true) {m : Mirror}
    (hm : MirrorOK sv s m) : MirrorOK sv s' (applyUnsub s'.subs m) := by
  obtain ⟨h1, h2⟩ := (mirrorOK_iff_nodes hNS).1 hm
  refine (mirrorOK_iff_nodes hNS).2 ⟨fun v n hv hn => ?_, fun p hp => ?_⟩
  · -- a mirrored path is the path string of an existing node with slash-free names: `namesOf` recovers them
    unfold applyUnsub
    rw [h1 v n hv hn, namesOf_pathString v hv (hNS.names hn), expected_some, expected_some, visible_congr hsid hrs v]
    simp only [show ∀ d, pmMatchesPath s'.subs v true d = wants s' v d from fun _ => rfl]
    cases hA : visible s v
    · simp
    cases hB : wants s' v n.data
    · cases hC : wants s v n.data <;> simp [hB]
    · simp [hmono v n.data hB, hB]
  · unfold applyUnsub; rw [h2 p hp]

theorem unsubscribe_step {sv : Server} (hinv : Inv sv) {sid : Nat} {s : Sess} (hs : sv.sess? sid = some s) (path : Bytes)
    (m : Mirror) (hm : MirrorOK sv s m) :
    ∃ pm ps, (unsubscribe sv sid path).sess? sid = some { s with subs := pm, params := ps } ∧
      MirrorOK (unsubscribe sv sid path) { s with subs := pm, params := ps } (applyUnsub pm m) := by
  obtain ⟨⟨pm, ps, hs', hsubs⟩, hdata⟩ := unsubscribe_shape hs path
  refine ⟨pm, ps, hs', fun p d => ?_⟩
  rw [matches_congr (a := sv) (b := unsubscribe sv sid path) hdata _ p d]
  refine mirrorOK_applyUnsub hinv.noSlash (s := s) (s' := { s with subs := pm, params := ps }) rfl rfl (fun v d h => ?_) hm p d
  rcases hsubs with e | e
  · rw [e] at h; exact h
  · rw [e] at h; exact pmMatchesPath_remove_mono (hinv.subsWF hs).keys _ v true d h

/-- Convergence for a subscription set established by ONE SUBSCRIBE: from the empty mirror, SUBSCRIBE `path` (filter `f`; `GoodPath`;
    `SnapVisits`), and then anything that `SyncFor sid` covers (`hist_sync`, `history_sync`, `story_sync`). -/
theorem converges_after_subscribe {sv0 sv' : Server} (h0 : Inv sv0) {sid : Nat} {s0 : Sess} (hs0 : sv0.sess? sid = some s0)
    (hnos : s0.subs = []) (hen : s0.subsEnabled = true) (hq0 : pend s0 = {}) (path : Bytes) (f : Option Filt)
    (hgood : GoodPath (adjustPrefix path (some defaultPrefix)))
    (hV : SnapVisits (subC sv0 sid path f) (subSess s0 path f) (adjustPrefix path (some defaultPrefix)) f)
    (hsync : SyncFor sid (runCmd sv0 sid (.sub path f)) sv')
    (hq' : ∀ s', sv'.sess? sid = some s' → pend s' = {}) :
    ∃ s' sent, sv'.sess? sid = some s' ∧ dataLines s' = dataLines s0 ++ sent.map dataText ∧
      s'.subs = pmPut [] (adjustPrefix path (some defaultPrefix)) f ∧
      MirrorOK sv' s' (applyMsgs (fun _ => none) sent) := by
  have hf : pmFind s0.subs (adjustPrefix path (some defaultPrefix)) = none := by rw [hnos]; rfl
  obtain ⟨sD, sent1, hsD, hcD, hnD, hdD, hmD⟩ := subscribe_new_replay h0 hs0 path f hgood hf hV (fun _ => none)
    (mirrorOK_nosubs sv0 hnos)
  have hvD := vcore_of_core hcD
  obtain ⟨s', sent2, hs', hc', hd', hm'⟩ := hsync.replay hsD ((vcore_subsEnabled hvD).trans hen)
    ((pend_of_nextData hnD).trans hq0) hq' _ hmD
  refine ⟨s', sent1 ++ sent2, hs', ?_, ?_, ?_⟩
  · rw [hd', hdD, List.map_append, List.append_assoc]
  · rw [vcore_subs hc', vcore_subs hvD]
    show pmPut s0.subs _ f = _
    rw [hnos]
  · rw [applyMsgs_append]; exact hm'

end Muscle.Reflector
