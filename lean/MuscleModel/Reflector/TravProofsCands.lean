import MuscleModel.Reflector.TravProofsLevel

/-!
# The whole traversal: the candidates, by induction over the tree (lemmas for C05, C07, C13)

`cands`: the (path, node) pairs the loops hand to the callback as long as no callback prunes; they are descendants
(`mem_cands`).  For any callback the recorded visits are part of the candidates' paths (`travAux_sublist`), so they are proper
extensions of `names`, at most `fuel` names longer (`travAux_prefix`); the callback is consulted on extensions of `names` only
(`travAux_congr`).  The continue-callback records every candidate and returns its own depth (`travAux_cont_cands`), records no
path twice, and records exactly the descendants whose path the matcher accepts (`travAux_mem`).
`depth` and `names` are separate arguments of the model.  The facts about which paths are candidates (`callback_planned_iff`,
`descent_planned_iff`, `mem_cands_iff`, `travAux_mem`) hold at `depth = ctx.rootDepth + names.length`, which their statements say; all others
hold for any `depth`.
-/

namespace Muscle.Reflector
open Muscle

/-- sibling names pairwise distinct at every level reachable with `fuel` -/
def kidsNodup : Nat → Node → Bool
  | 0, _ => true
  | fuel+1, n => decide ((n.kids.map Node.name).Nodup) && n.kids.all (kidsNodup fuel)

/-- pointwise: clause `i` matches name `i` wherever both exist -/
def PrefOK (cs ns : List Bytes) : Prop := ∀ (i : Nat) (c x : Bytes), cs[i]? = some c → ns[i]? = some x → clauseMatch c x = true

theorem clausesMatch_iff (cs ns : List Bytes) :
    clausesMatch cs ns = true ↔ cs.length = ns.length ∧ PrefOK cs ns := by
  induction cs generalizing ns with
  | nil =>
    cases ns with
    | nil => simp [clausesMatch, PrefOK]
    | cons n ns => simp [clausesMatch]
  | cons c cs ih =>
    cases ns with
    | nil => simp [clausesMatch]
    | cons n ns =>
      simp only [clausesMatch, Bool.and_eq_true, ih, List.length_cons, Nat.add_right_cancel_iff, PrefOK]
      constructor
      · rintro ⟨h0, hl, hp⟩
        refine ⟨hl, ?_⟩
        intro i c' x hc hx
        cases i with
        | zero => simp at hc hx; subst hc hx; exact h0
        | succ i => simp at hc hx; exact hp i c' x hc hx
      · rintro ⟨hl, hp⟩
        refine ⟨hp 0 c n (by simp) (by simp), hl, ?_⟩
        intro i c' x hc hx
        exact hp (i+1) c' x (by simpa using hc) (by simpa using hx)

theorem PrefOK_snoc {cs ns : List Bytes} {y : Bytes} (h : PrefOK cs ns)
    (hy : ∀ c, cs[ns.length]? = some c → clauseMatch c y = true) : PrefOK cs (ns ++ [y]) := by
  intro i c x hc hx
  by_cases hi : i < ns.length
  · rw [List.getElem?_append_left hi] at hx; exact h i c x hc hx
  · by_cases hi2 : i = ns.length
    · subst hi2
      simp at hx; subst hx; exact hy c hc
    · have : (ns ++ [y])[i]? = none := by
        apply List.getElem?_eq_none; simp; omega
      rw [this] at hx; cases hx

theorem PrefOK_prefix {cs ns ms : List Bytes} (h : PrefOK cs ms) (hp : ns <+: ms) : PrefOK cs ns := by
  obtain ⟨t, rfl⟩ := hp
  intro i c x hc hx
  apply h i c x hc
  obtain ⟨hi, _⟩ := List.getElem?_eq_some_iff.1 hx
  rw [List.getElem?_append_left hi]; exact hx

theorem PrefOK_of_snoc {cs ns : List Bytes} {y : Bytes} (h : PrefOK cs (ns ++ [y])) :
    PrefOK cs ns ∧ ∀ c, cs[ns.length]? = some c → clauseMatch c y = true :=
  ⟨PrefOK_prefix h (List.prefix_append ns [y]), fun c hc => h ns.length c y hc (by simp)⟩

theorem descendants_prefix : ∀ (fuel : Nat) (n : Node) (pre : List Bytes) (p : List Bytes × Node),
    p ∈ descendants fuel n pre → pre <+: p.1 ∧ pre.length < p.1.length ∧ p.1.length ≤ pre.length + fuel := by
  intro fuel
  induction fuel with
  | zero => intro n pre p h; simp [descendants] at h
  | succ fuel ih =>
    intro n pre p h
    rw [descendants] at h
    obtain ⟨k, _, hk⟩ := List.mem_flatMap.1 h
    rcases List.mem_cons.1 hk with rfl | hk
    · simp
    · obtain ⟨h1, h2, h3⟩ := ih k _ p hk
      refine ⟨(List.prefix_append _ _).trans h1, ?_, ?_⟩
      · simp at h2; omega
      · simp at h3; omega

def childCands (pm : PM) (uf : Bool) (rd : Nat) (deeper : Node → Visit → Nat → List (Visit × Node)) (names : Visit) (depth : Nat)
    (p : Node × Option Nat) : List (Visit × Node) :=
  (childPlan pm uf rd p.1 names depth p.2).flatMap fun a =>
    if a = true then [(names ++ [p.1.name], p.1)] else deeper p.1 (names ++ [p.1.name]) (depth + 1)

/-- the (path, node) pairs the loops hand to the callback as long as no callback prunes, in the order of the loops.  Neither the
    callback nor its answers have a say in it. -/
def cands (pm : PM) (uf : Bool) (rd : Nat) : Nat → Node → Visit → Nat → List (Visit × Node)
  | 0, _, _, _ => []
  | fuel+1, node, names, depth => (levelKids pm rd node depth).flatMap (childCands pm uf rd (cands pm uf rd fuel) names depth)

theorem checkChild_sub_cands (ctx : TCtx) (rec : Rec) (deeper : Node → Visit → Nat → List (Visit × Node))
    (h : ∀ k n d, (rec k n d).1.Sublist ((deeper k n d).map (·.1))) (p : Node × Option Nat) (names : Visit) (depth : Nat) :
    (checkChild ctx rec p.1 names depth p.2).1.Sublist
      ((childCands ctx.pm ctx.useFilters ctx.rootDepth deeper names depth p).map (·.1)) := by
  have hs := runActs_sublist depth (actOf ctx rec p.1 (names ++ [p.1.name]) depth)
    (fun a => (if a = true then [(names ++ [p.1.name], p.1)] else deeper p.1 (names ++ [p.1.name]) (depth + 1)).map (·.1))
    (childPlan ctx.pm ctx.useFilters ctx.rootDepth p.1 names depth p.2) [] (fun a _ => ?_)
  · rw [List.nil_append] at hs
    rw [checkChild_eq, childCands, List.map_flatMap]
    exact hs
  · cases a
    · exact h _ _ _
    · simp only [actOf, if_true, List.map_cons, List.map_nil]
      split
      · exact List.Sublist.refl _
      · exact List.nil_sublist _

theorem travAux_sublist (ctx : TCtx) : ∀ (fuel : Nat) (node : Node) (names : Visit) (depth : Nat),
    (travAux ctx fuel node names depth).1.Sublist
      ((cands ctx.pm ctx.useFilters ctx.rootDepth fuel node names depth).map (·.1)) := by
  intro fuel
  induction fuel with
  | zero => intros; exact List.Sublist.refl _
  | succ fuel ih =>
    intro node names depth
    have h := scanKids_sublist (fun p => checkChild ctx (travAux ctx fuel) p.1 names depth p.2)
      (fun p => (childCands ctx.pm ctx.useFilters ctx.rootDepth (cands ctx.pm ctx.useFilters ctx.rootDepth fuel) names depth p).map (·.1))
      (levelKids ctx.pm ctx.rootDepth node depth) [] (fun p _ => checkChild_sub_cands ctx _ _ ih p names depth)
    rw [List.nil_append] at h
    rw [travAux, travLevel_eq_scan, cands, List.map_flatMap]
    exact h

theorem mem_childCands (pm : PM) (uf : Bool) (rd : Nat) (deeper : Node → Visit → Nat → List (Visit × Node)) (names : Visit)
    (depth : Nat) (p : Node × Option Nat) (c : Visit × Node) :
    c ∈ childCands pm uf rd deeper names depth p ↔
      (true ∈ childPlan pm uf rd p.1 names depth p.2 ∧ c = (names ++ [p.1.name], p.1)) ∨
      (false ∈ childPlan pm uf rd p.1 names depth p.2 ∧ c ∈ deeper p.1 (names ++ [p.1.name]) (depth + 1)) := by
  simp only [childCands, List.mem_flatMap, Bool.exists_bool, Bool.false_eq_true, if_false, if_true, List.mem_singleton]
  exact Or.comm

theorem mem_cands (pm : PM) (uf : Bool) (rd : Nat) : ∀ (fuel : Nat) (node : Node) (names : Visit) (depth : Nat),
    ∀ c ∈ cands pm uf rd fuel node names depth, c ∈ descendants fuel node names := by
  intro fuel
  induction fuel with
  | zero => intro node names depth c hc; cases hc
  | succ fuel ih =>
    intro node names depth c hc
    rw [cands] at hc
    obtain ⟨p, hp, hc⟩ := List.mem_flatMap.1 hc
    rw [descendants]
    refine List.mem_flatMap.2 ⟨p.1, levelKids_sub pm rd node depth p hp, ?_⟩
    rcases (mem_childCands _ _ _ _ _ _ _ c).1 hc with ⟨_, rfl⟩ | ⟨_, hc⟩
    · exact List.mem_cons_self
    · exact List.mem_cons_of_mem _ (ih p.1 _ _ c hc)

theorem travAux_prefix (ctx : TCtx) (fuel : Nat) (node : Node) (names : Visit) (depth : Nat) :
    ∀ v ∈ (travAux ctx fuel node names depth).1, names <+: v ∧ names.length < v.length ∧ v.length ≤ names.length + fuel := by
  intro v hv
  obtain ⟨c, hc, rfl⟩ := List.mem_map.1 ((travAux_sublist ctx fuel node names depth).subset hv)
  have hd := mem_cands _ _ _ fuel node names depth c hc
  exact descendants_prefix fuel node names c hd

theorem childCands_prefix (pm : PM) (uf : Bool) (rd fuel : Nat) (names : Visit) (depth : Nat) (p : Node × Option Nat) :
    ∀ c ∈ childCands pm uf rd (cands pm uf rd fuel) names depth p, (names ++ [p.1.name]) <+: c.1 := by
  intro c hc
  rcases (mem_childCands _ _ _ _ _ _ _ c).1 hc with ⟨_, rfl⟩ | ⟨_, hc⟩
  · exact List.prefix_refl _
  · exact (descendants_prefix fuel p.1 _ c (mem_cands pm uf rd fuel p.1 _ _ c hc)).1

theorem checkChild_prefix (ctx : TCtx) (fuel : Nat) (k : Node) (names : Visit) (depth : Nat) (known : Option Nat) :
    ∀ v ∈ (checkChild ctx (travAux ctx fuel) k names depth known).1, (names ++ [k.name]) <+: v := by
  intro v hv
  obtain ⟨c, hc, rfl⟩ := List.mem_map.1
    ((checkChild_sub_cands ctx _ _ (travAux_sublist ctx fuel) (k, known) names depth).subset hv)
  exact childCands_prefix _ _ _ fuel names depth (k, known) c hc

theorem travAux_cont_cands (ctx : TCtx) (hcb : ctx.cb = cbContinue) :
    ∀ (fuel : Nat) (node : Node) (names : Visit) (depth : Nat),
      travAux ctx fuel node names depth =
        ((cands ctx.pm ctx.useFilters ctx.rootDepth fuel node names depth).map (·.1), (depth : Int)) := by
  intro fuel
  induction fuel with
  | zero => intros; rfl
  | succ fuel ih =>
    intro node names depth
    have hs : ∀ k n d, (travAux ctx fuel k n d).2 = (d : Int) := fun k n d => by rw [ih]
    rw [travAux, travLevel_eq_levelKids ctx _ node names depth (fun k known => checkChild_snd ctx _ k names depth known hcb hs),
      cands, List.map_flatMap]
    refine congrArg (·, _) (flatMap_congr_mem fun p _ => ?_)
    rw [checkChild_cont ctx _ p.1 names depth p.2 hcb (hs _ _ _), childCands, List.map_flatMap]
    refine flatMap_congr_mem fun a _ => ?_
    cases a
    · simp only [Bool.false_eq_true, if_false, ih]
    · rfl

theorem travAux_snd (ctx : TCtx) (hcb : ctx.cb = cbContinue) (fuel : Nat) (node : Node) (names : Visit) (depth : Nat) :
    (travAux ctx fuel node names depth).2 = (depth : Int) := by
  rw [travAux_cont_cands ctx hcb]

theorem travAux_congr (pm : PM) (uf : Bool) (rd : Nat) (cb₁ cb₂ : Visit → Nat → Node → Bool × Int) :
    ∀ (fuel : Nat) (node : Node) (names : Visit) (depth : Nat), (∀ v d n, names <+: v → cb₁ v d n = cb₂ v d n) →
      travAux { pm := pm, useFilters := uf, rootDepth := rd, cb := cb₁ } fuel node names depth =
        travAux { pm := pm, useFilters := uf, rootDepth := rd, cb := cb₂ } fuel node names depth := by
  intro fuel
  induction fuel with
  | zero => intros; rfl
  | succ fuel ih =>
    intro node names depth h
    rw [travAux, travAux, travLevel_eq_scan, travLevel_eq_scan]
    refine congrArg (fun f => levelRet depth (scanKids f (levelKids pm rd node depth) [])) (funext fun p => ?_)
    rw [checkChild_eq, checkChild_eq]
    refine congrArg (fun l => runActs depth l []) (List.map_congr_left fun a _ => ?_)
    cases a
    · exact ih p.1 _ _ (fun v d n hv => h v d n ((List.prefix_append _ _).trans hv))
    · simp only [actOf, h _ _ _ (List.prefix_append _ _)]

theorem kidsNodup_succ {fuel : Nat} {n : Node} (h : kidsNodup (fuel+1) n = true) :
    (n.kids.map Node.name).Nodup ∧ ∀ k ∈ n.kids, kidsNodup fuel k = true := by
  simpa [kidsNodup] using h

theorem cands_nodup (pm : PM) (uf : Bool) (rd : Nat) : ∀ (fuel : Nat) (node : Node) (names : Visit) (depth : Nat),
    kidsNodup fuel node = true → ((cands pm uf rd fuel node names depth).map (·.1)).Nodup := by
  intro fuel
  induction fuel with
  | zero => intros; exact List.nodup_nil
  | succ fuel ih =>
    intro node names depth hk
    obtain ⟨hkn, hkk⟩ := kidsNodup_succ hk
    rw [cands, List.map_flatMap]
    show List.Pairwise (· ≠ ·) _
    rw [List.pairwise_flatMap]
    constructor
    · intro p hp
      -- one child: its own path, and the candidates below it, which are longer
      have hnd := ih p.1 (names ++ [p.1.name]) (depth + 1) (hkk p.1 (levelKids_sub _ _ _ _ p hp))
      have hcn : names ++ [p.1.name] ∉ (cands pm uf rd fuel p.1 (names ++ [p.1.name]) (depth + 1)).map (·.1) := by
        intro h
        obtain ⟨c, hc, he⟩ := List.mem_map.1 h
        have := (descendants_prefix fuel p.1 _ c (mem_cands _ _ _ fuel p.1 _ _ c hc)).2.1
        rw [he] at this; exact Nat.lt_irrefl _ this
      have hc := plan_cases pm uf rd p.1 (names ++ [p.1.name]) depth p.2 (activeEntries pm (depth - rd)) 0
      simp only [List.mem_cons, List.not_mem_nil, or_false] at hc
      show List.Nodup _
      rcases hc with h | h | h | h | h <;> simp [childCands, childPlan, h, hnd, hcn, List.nodup_append]
      -- left over from the plans with both actions: the child's own path is none of the candidates below it
      exact fun a x ha he => hcn (List.mem_map.2 ⟨(a, x), ha, he⟩)
    · refine List.Pairwise.imp_of_mem ?_ (levelKids_pairwise pm rd node depth hkn)
      -- candidates of different children differ at position `names.length`
      intro a b _ _ hab x hx y hy hxy
      subst hxy
      obtain ⟨cx, hcx, rfl⟩ := List.mem_map.1 hx
      obtain ⟨cy, hcy, he⟩ := List.mem_map.1 hy
      have h3 := List.prefix_of_prefix_length_le (childCands_prefix _ _ _ fuel names depth a cx hcx)
        (he ▸ childCands_prefix _ _ _ fuel names depth b cy hcy) (by simp)
      have h4 := h3.eq_of_length (by simp)
      apply hab
      simpa using h4

theorem travAux_cont_nodup (ctx : TCtx) (hcb : ctx.cb = cbContinue) (fuel : Nat) (node : Node) (names : Visit) (depth : Nat)
    (hk : kidsNodup fuel node = true) : (travAux ctx fuel node names depth).1.Nodup := by
  rw [travAux_cont_cands ctx hcb]
  exact cands_nodup _ _ _ fuel node names depth hk

/-- the single-match-string invariant: the names on the way down matched that string's clauses.  With one match string the entry loop
    skips `MatchesNode` (`onlyOneEntry`), so that the path matches has to be remembered from the levels above. -/
def SingleInv (pm : PM) (names : Visit) : Prop := ∀ kk e, pm = [(kk, [e])] → PrefOK e.clauses names

theorem onlyOneEntry_iff (pm : PM) : onlyOneEntry pm = true ↔ ∃ kk e, pm = [(kk, [e])] := by
  unfold onlyOneEntry
  split
  · simp
  · rename_i h
    simp only [Bool.false_eq_true, false_iff]
    rintro ⟨kk, e, rfl⟩
    exact h kk e rfl

theorem pmGroup_mem {pm : PM} {d : Nat} {e : Entry} (h : e ∈ pmGroup pm d) : ∃ g ∈ pm, g.1 = d ∧ e ∈ g.2 := by
  induction pm with
  | nil => simp [pmGroup] at h
  | cons g r ih =>
    obtain ⟨k, es⟩ := g
    rw [pmGroup] at h
    split at h
    · exact ⟨(k, es), List.mem_cons_self, by assumption, h⟩
    · obtain ⟨g, hg, h2⟩ := ih h
      exact ⟨g, List.mem_cons_of_mem _ hg, h2⟩

theorem hitB_iff (rel : Nat) (nm : Bytes) (e : Entry) :
    hitB rel nm e = true ↔ ∃ c, e.clauses[rel]? = some c ∧ clauseMatch c nm = true := by
  unfold hitB
  split <;> simp_all

theorem hitB_clause {rel : Nat} {nm : Bytes} {e : Entry} {c : Bytes} (hh : hitB rel nm e = true)
    (hc : e.clauses[rel]? = some c) : clauseMatch c nm = true := by
  obtain ⟨c', hc', hm⟩ := (hitB_iff rel nm e).1 hh
  rw [hc] at hc'; cases hc'; exact hm

theorem active_single {kk rel : Nat} {e e0 : Entry} (he : e ∈ activeEntries [(kk, [e0])] rel) : e = e0 := by
  obtain ⟨g, hg, _, heg⟩ := mem_activeEntries.1 he
  simp at hg; subst hg; simpa using heg

theorem hit_of_match {e : Entry} {v : Visit} (hm : clausesMatch e.clauses v = true) {i : Nat} {x : Bytes}
    (hx : v[i]? = some x) : hitB i x e = true := by
  obtain ⟨hl, hp⟩ := (clausesMatch_iff _ _).1 hm
  obtain ⟨hi, _⟩ := List.getElem?_eq_some_iff.1 hx
  rw [hitB_iff]
  exact ⟨e.clauses[i]'(by omega), List.getElem?_eq_getElem _, hp i _ x (List.getElem?_eq_getElem _) hx⟩

theorem termB_iff (rd : Nat) (names : Visit) (e : Entry) :
    termB rd (rd + names.length) e = true ↔ names.length + 1 = e.clauses.length := by
  simp only [termB, decide_eq_true_eq]; omega

/-- the callback is planned for the child iff the matcher accepts the child's path -/
theorem callback_planned_iff (ctx : TCtx) (hwf : pmWF ctx.pm = true) (names : Visit) (hinv : SingleInv ctx.pm names) (k : Node) :
    true ∈ childPlan ctx.pm ctx.useFilters ctx.rootDepth k names (ctx.rootDepth + names.length) none ↔
      pmMatchesPath ctx.pm (names ++ [k.name]) ctx.useFilters k.data = true := by
  have hrel : ctx.rootDepth + names.length - ctx.rootDepth = names.length := by omega
  simp only [childPlan, plan_mem, hrel, termB_iff, if_true, true_and, forall_const]
  constructor
  · rintro ⟨e, he, hh, ht, hg⟩
    simp only [guardB, Bool.or_eq_true, Bool.and_eq_true] at hg
    rcases hg with ⟨h1, hf⟩ | hg
    · obtain ⟨kk, e0, hpm⟩ := (onlyOneEntry_iff _).1 h1
      have hinv' := hinv kk e0 hpm
      rw [hpm] at he hwf ⊢
      obtain rfl := active_single he
      have hkk : e.clauses.length = kk := pmWF_iff.1 hwf _ List.mem_cons_self e List.mem_cons_self
      have hcm : clausesMatch e.clauses (names ++ [k.name]) = true := by
        rw [clausesMatch_iff]
        exact ⟨by simp; omega, PrefOK_snoc hinv' fun c hc => hitB_clause hh hc⟩
      have hfo : e.filterOk ctx.useFilters k.data = true := by
        unfold Entry.filterOk
        split
        · rfl
        · rename_i f hf'
          simp [hf'] at hf
          simp [hf]
      simp [pmMatchesPath, pmGroup, ← ht, hkk.symm, hcm, hfo]
    · exact hg
  · intro hP
    have hP' := hP
    simp only [pmMatchesPath, List.any_eq_true, Bool.and_eq_true] at hP'
    obtain ⟨e, he, hcm, hfo⟩ := hP'
    obtain ⟨g, hg, hg1, heg⟩ := pmGroup_mem he
    refine ⟨e, mem_activeEntries.2 ⟨g, hg, by rw [hg1]; simp, heg⟩, ?_, ?_, ?_⟩
    · exact hit_of_match hcm (by simp)
    · have := ((clausesMatch_iff _ _).1 hcm).1; simp at this; omega
    · simp only [guardB, Bool.or_eq_true]; right; exact hP

/-- the descent is planned for the child iff some longer entry matches the child's name at this level -/
theorem descent_planned_iff (ctx : TCtx) (names : Visit) (k : Node) :
    false ∈ childPlan ctx.pm ctx.useFilters ctx.rootDepth k names (ctx.rootDepth + names.length) none ↔
      ∃ e ∈ activeEntries ctx.pm names.length, hitB names.length k.name e = true ∧ names.length + 1 ≠ e.clauses.length := by
  have hrel : ctx.rootDepth + names.length - ctx.rootDepth = names.length := by omega
  simp only [childPlan, plan_mem, hrel, ← Bool.not_eq_true, termB_iff, Bool.false_eq_true, if_false, true_and, false_imp_iff,
    and_true, ne_eq]

theorem SingleInv_snoc {pm : PM} {names : Visit} (hinv : SingleInv pm names) {x : Bytes}
    (h : ∃ e ∈ activeEntries pm names.length, hitB names.length x e = true) : SingleInv pm (names ++ [x]) := by
  intro kk e0 hpm
  obtain ⟨e, he, hh⟩ := h
  rw [hpm] at he
  obtain rfl := active_single he
  exact PrefOK_snoc (hinv kk e hpm) fun c hc => hitB_clause hh hc

/-- a matching node strictly below child `k` forces the descent into `k` -/
theorem descent_of_deeper_match (pm : PM) (names : Visit) (x : Bytes) (v : Visit) (uf : Bool) (d : Option Nat)
    (hpre : (names ++ [x]) <+: v) (hlen : (names ++ [x]).length < v.length)
    (hP : pmMatchesPath pm v uf d = true) :
    ∃ e ∈ activeEntries pm names.length, hitB names.length x e = true ∧ names.length + 1 ≠ e.clauses.length := by
  simp only [pmMatchesPath, List.any_eq_true, Bool.and_eq_true] at hP
  obtain ⟨e, he, hcm, _⟩ := hP
  obtain ⟨g, hg, hg1, heg⟩ := pmGroup_mem he
  simp at hlen
  refine ⟨e, mem_activeEntries.2 ⟨g, hg, by rw [hg1]; omega, heg⟩, ?_, ?_⟩
  · apply hit_of_match hcm
    obtain ⟨t, rfl⟩ := hpre
    simp
  · have := ((clausesMatch_iff _ _).1 hcm).1; omega

theorem mem_cands_iff (ctx : TCtx) (hwf : pmWF ctx.pm = true) (hl : ClauseLaws ctx.pm) :
    ∀ (fuel : Nat) (node : Node) (names : Visit), kidsNodup fuel node = true → SingleInv ctx.pm names →
      ∀ c, c ∈ cands ctx.pm ctx.useFilters ctx.rootDepth fuel node names (ctx.rootDepth + names.length) ↔
        c ∈ descendants fuel node names ∧ pmMatchesPath ctx.pm c.1 ctx.useFilters c.2.data = true := by
  intro fuel
  induction fuel with
  | zero => intro node names _ _ c; simp [cands, descendants]
  | succ fuel ih =>
    intro node names hk hinv c
    obtain ⟨hkn, hkk⟩ := kidsNodup_succ hk
    have hdep : ∀ k : Node, ctx.rootDepth + names.length + 1 = ctx.rootDepth + (names ++ [k.name]).length := by
      intro k; simp; omega
    -- membership in one child's candidates, when the known-entry short cut changes nothing for it
    have hone : ∀ p : Node × Option Nat, p.1 ∈ node.kids →
        childPlan ctx.pm ctx.useFilters ctx.rootDepth p.1 names (ctx.rootDepth + names.length) p.2 =
          childPlan ctx.pm ctx.useFilters ctx.rootDepth p.1 names (ctx.rootDepth + names.length) none →
        (c ∈ childCands ctx.pm ctx.useFilters ctx.rootDepth (cands ctx.pm ctx.useFilters ctx.rootDepth fuel) names
            (ctx.rootDepth + names.length) p ↔
          (c = (names ++ [p.1.name], p.1) ∧ pmMatchesPath ctx.pm c.1 ctx.useFilters c.2.data = true) ∨
          (c ∈ descendants fuel p.1 (names ++ [p.1.name]) ∧ pmMatchesPath ctx.pm c.1 ctx.useFilters c.2.data = true)) := by
      intro p hk' hpl
      rw [mem_childCands, hpl, callback_planned_iff ctx hwf names hinv p.1, descent_planned_iff, hdep p.1]
      constructor
      · rintro (⟨hP, rfl⟩ | ⟨⟨e, he, hh, _⟩, h⟩)
        · exact Or.inl ⟨rfl, hP⟩
        · exact Or.inr ((ih p.1 _ (hkk p.1 hk') (SingleInv_snoc hinv ⟨e, he, hh⟩) c).1 h)
      · rintro (⟨rfl, hP⟩ | ⟨hd, hP⟩)
        · exact Or.inl ⟨hP, rfl⟩
        · obtain ⟨h1, h2, _⟩ := descendants_prefix fuel p.1 _ _ hd
          obtain ⟨e, he, hh, hne⟩ := descent_of_deeper_match ctx.pm names p.1.name c.1 ctx.useFilters c.2.data h1 h2 hP
          exact Or.inr ⟨⟨e, he, hh, hne⟩, (ih p.1 _ (hkk p.1 hk') (SingleInv_snoc hinv ⟨e, he, hh⟩) c).2 ⟨hd, hP⟩⟩
    rw [cands, List.mem_flatMap, descendants, List.mem_flatMap]
    constructor
    · rintro ⟨p, hp, hc⟩
      have hkm := levelKids_sub _ _ _ _ p hp
      rcases (hone p hkm (levelKids_known _ _ _ node names _ hwf hl p hp)).1 hc with ⟨rfl, hP⟩ | ⟨hd, hP⟩
      · exact ⟨⟨p.1, hkm, List.mem_cons_self⟩, hP⟩
      · exact ⟨⟨p.1, hkm, List.mem_cons_of_mem _ hd⟩, hP⟩
    · rintro ⟨⟨k, hkm, hd⟩, hP⟩
      have hck := (hone (k, none) hkm rfl).2 ((List.mem_cons.1 hd).imp (fun h => ⟨h, hP⟩) (fun h => ⟨h, hP⟩))
      -- `k` is one of the children the level looks at: for any other nothing is planned
      by_cases hks : k ∈ (levelKids ctx.pm ctx.rootDepth node (ctx.rootDepth + names.length)).map (·.1)
      · obtain ⟨p, hp, rfl⟩ := List.mem_map.1 hks
        exact ⟨p, hp, (hone p hkm (levelKids_known _ _ _ node names _ hwf hl p hp)).2 ((hone (p.1, none) hkm rfl).1 hck)⟩
      · rw [childCands, levelKids_complete _ _ _ node names _ hwf hl hkn k hkm hks] at hck
        cases hck

/-- the traversal records exactly the descendants whose path the matcher accepts -/
theorem travAux_mem (ctx : TCtx) (hcb : ctx.cb = cbContinue) (hwf : pmWF ctx.pm = true) (hl : ClauseLaws ctx.pm)
    (fuel : Nat) (node : Node) (names : Visit) (hk : kidsNodup fuel node = true) (hinv : SingleInv ctx.pm names) (v : Visit) :
    v ∈ (travAux ctx fuel node names (ctx.rootDepth + names.length)).1 ↔
      ∃ n, (v, n) ∈ descendants fuel node names ∧ pmMatchesPath ctx.pm v ctx.useFilters n.data = true := by
  rw [travAux_cont_cands ctx hcb, List.mem_map]
  constructor
  · rintro ⟨c, hc, rfl⟩
    exact ⟨c.2, (mem_cands_iff ctx hwf hl fuel node names hk hinv c).1 hc⟩
  · rintro ⟨n, h⟩
    exact ⟨(v, n), (mem_cands_iff ctx hwf hl fuel node names hk hinv (v, n)).2 h, rfl⟩

/-- the tree below `n` is at most `fuel` levels deep -/
def fits : Nat → Node → Bool
  | 0, n => n.kids.isEmpty
  | fuel+1, n => n.kids.all (fits fuel)

theorem descendants_stable : ∀ (fuel : Nat) (n : Node) (pre : List Bytes), fits fuel n = true →
    ∀ j, descendants (fuel + j) n pre = descendants fuel n pre := by
  intro fuel
  induction fuel with
  | zero =>
    intro n pre h j
    simp only [fits, List.isEmpty_iff] at h
    cases j with
    | zero => rfl
    | succ j => simp [descendants, h]
  | succ fuel ih =>
    intro n pre h j
    simp only [fits, List.all_eq_true] at h
    rw [show fuel + 1 + j = (fuel + j) + 1 by omega, descendants, descendants]
    apply flatMap_congr_mem
    intro k hk
    rw [ih k _ (h k hk) j]

theorem SingleInv_nil (pm : PM) : SingleInv pm [] := by
  intro kk e _ i c x _ hx; simp at hx

end Muscle.Reflector
