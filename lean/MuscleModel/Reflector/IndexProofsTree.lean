import MuscleModel.Reflector.IndexProofsOps

/-!
# C13 tree lemmas: `AllNodes P` read at a path and kept by an update (`AllNodes.updateAt`); `IdxInv`, `KidsDistinct`, `NodeInv`
under `putKid`/`removeKid` and under the list operations on the index (`idxInv_insert`, `_eraseLast`, `_reorder`, `_removeKid`); fresh leaves
-/

namespace Muscle.Reflector
open Muscle

theorem AllNodes.here {P : Node → Prop} {n : Node} (h : AllNodes P n) : P n := by
  cases h; assumption

theorem AllNodes.kid {P : Node → Prop} {n : Node} (h : AllNodes P n) : ∀ k ∈ n.kids, AllNodes P k := by
  cases h; assumption

theorem AllNodes.nodeAt {P : Node → Prop} {fuel : Nat} {n : Node} {path : List Bytes} {t : Node}
    (h : AllNodes P n) (ht : nodeAt fuel n path = some t) : AllNodes P t := by
  induction path generalizing fuel n with
  | nil => rw [nodeAt_nil] at ht; cases ht; exact h
  | cons a r ih =>
    cases fuel with
    | zero => simp [Reflector.nodeAt] at ht
    | succ fuel =>
      simp only [Reflector.nodeAt] at ht
      cases hk : findKid a n.kids with
      | none => simp [hk] at ht
      | some k =>
        simp only [hk] at ht
        exact ih (h.kid k (findKid_some_mem hk)) ht

/-- `P` survives an update below a node when it is insensitive to replacing a child by a same-named one
    and the update itself re-establishes it at the target -/
theorem AllNodes.updateAt {P : Node → Prop} {f : Node → Node}
    (hstable : ∀ n c, P n → P (n.setKids (putKid c n.kids)))
    (fuel : Nat) (n : Node) (path : List Bytes) (h : AllNodes P n)
    (ht : ∀ t, Reflector.nodeAt fuel n path = some t → AllNodes P t → AllNodes P (f t)) :
    AllNodes P (Reflector.updateAt fuel n path f) := by
  induction path generalizing fuel n with
  | nil => rw [updateAt_nil]; exact ht n (nodeAt_nil _ _) h
  | cons a r ih =>
    cases fuel with
    | zero => exact h
    | succ fuel =>
      simp only [Reflector.updateAt]
      cases hk : findKid a n.kids with
      | none => exact h
      | some k =>
        simp only
        refine AllNodes.mk _ (hstable _ _ h.here) ?_
        intro x hx
        simp only [Node.setKids_kids] at hx
        rcases mem_putKid hx with hx | hx
        · subst hx
          apply ih fuel k (h.kid k (findKid_some_mem hk))
          intro t ht'
          apply ht
          simp only [Reflector.nodeAt, hk]
          exact ht'
        · exact h.kid x hx

theorem IdxInv.putKid {n : Node} (c : Node) (h : IdxInv n) : IdxInv (n.setKids (putKid c n.kids)) := by
  refine ⟨by simpa using h.1, ?_⟩
  intro x hx
  simp only [Node.setKids_index] at hx
  simp only [Node.setKids_kids]
  exact findKid_putKid_isSome c (h.2 x hx)

theorem KidsDistinct.putKid {n : Node} (c : Node) (h : KidsDistinct n) :
    KidsDistinct (n.setKids (Reflector.putKid c n.kids)) := by
  unfold KidsDistinct at *
  simp only [Node.setKids_kids, map_name_putKid]
  split
  · exact h
  · rename_i hf
    have hnone : findKid c.name n.kids = none := by
      cases hh : findKid c.name n.kids with
      | none => rfl
      | some k => simp [hh] at hf
    rw [List.nodup_append]
    refine ⟨h, by simp, ?_⟩
    intro a ha b hb
    simp only [List.mem_singleton] at hb
    subst hb
    intro e; subst e
    exact findKid_none_not_mem hnone ha

theorem KidsDistinct.removeKid {n : Node} (key : Bytes) (h : KidsDistinct n) :
    KidsDistinct (n.setKids (Reflector.removeKid key n.kids)) := by
  unfold KidsDistinct at *
  simp only [Node.setKids_kids]
  exact List.Sublist.nodup (List.Sublist.map _ (removeKid_sublist key n.kids)) h

theorem NodeInv.putKid {n : Node} (c : Node) (h : NodeInv n) : NodeInv (n.setKids (Reflector.putKid c n.kids)) :=
  ⟨IdxInv.putKid c h.1, KidsDistinct.putKid c h.2⟩

theorem AllNodes.fresh (nm : Bytes) (d : Option Nat) : AllNodes NodeInv (Node.fresh nm d) :=
  AllNodes.mk _ ⟨⟨by simp, by intro c hc; simp at hc⟩, by simp [KidsDistinct]⟩ (by intro k hk; simp at hk)

theorem IdxInv.of_same {p q : Node} (hi : q.index = p.index)
    (hk : ∀ c, (findKid c q.kids).isSome = (findKid c p.kids).isSome) (h : IdxInv p) : IdxInv q := by
  refine ⟨by rw [hi]; exact h.1, ?_⟩
  intro c hc
  rw [hi] at hc
  rw [hk]; exact h.2 c hc

/-! ## `IdxInv` under the list operations on the index (for any node with that index and those children) -/

theorem IdxInv.insertAt {p : Node} {nm : Bytes} (i : Nat) (h : IdxInv p) (hn : nm ∉ p.index)
    (hk : (findKid nm p.kids).isSome) : IdxInv (p.setIndex (insertAt p.index i nm)) := by
  refine ⟨by simpa using nodup_insertAt i h.1 hn, ?_⟩
  intro x hx
  simp only [Node.setIndex_index, mem_insertAt] at hx
  rcases hx with rfl | hx
  · simpa using hk
  · simpa using h.2 x hx

theorem idxInv_insert {p p' : Node} {i : Nat} {nm : Bytes} (h : IdxInv p)
    (hok : findKid nm p.kids = none ∨ nm ∉ p.index)
    (hi : p'.index = insertAt p.index i nm) (hk : ∃ c, c.name = nm ∧ p'.kids = putKid c p.kids) : IdxInv p' := by
  obtain ⟨c, rfl, hk⟩ := hk
  have hnm : c.name ∉ p.index := by
    rcases hok with hok | hok
    · intro hc
      have := h.2 _ hc
      rw [hok] at this; simp at this
    · exact hok
  have := (IdxInv.putKid c h).insertAt i (by simpa using hnm) (by simp [findKid_putKid_same])
  exact IdxInv.of_same (by simpa using hi) (by intro x; rw [hk]; simp) this

theorem idxInv_eraseLast {p p' : Node} (key : Bytes) (h : IdxInv p) (hi : p'.index = eraseLast p.index key)
    (hk : ∀ c, c ≠ key → (findKid c p'.kids).isSome = (findKid c p.kids).isSome) : IdxInv p' := by
  refine ⟨by rw [hi]; exact (eraseLast_sublist _ key).nodup h.1, ?_⟩
  intro x hx
  rw [hi] at hx
  have hne : x ≠ key := by
    intro he; subst he; exact not_mem_eraseLast x h.1 hx
  rw [hk x hne]
  exact h.2 x ((eraseLast_sublist _ _).subset hx)

theorem IdxInv.eraseLast {p : Node} (key : Bytes) (h : IdxInv p) : IdxInv (p.setIndex (eraseLast p.index key)) :=
  idxInv_eraseLast key h (by simp) (by intro c _; simp)

theorem idxInv_reorder {p : Node} {child before : Bytes} (h : IdxInv p)
    (hok : before = removeFromIndexName ∨ (findKid child p.kids).isSome) :
    IdxInv (p.setIndex (reorderIndex p child before)) := by
  have he : IdxInv (p.setIndex (eraseLast p.index child)) :=
    h.eraseLast child
  refine reorderLog_cases (P := fun _ ix => IdxInv (p.setIndex ix)) p child before ?_ (fun _ => he) (fun hr => ?_)
  · rw [Node.setIndex_self]; exact h
  · have := he.insertAt (reorderTarget p child before) (by simpa using not_mem_eraseLast child h.1)
      (by simpa using hok.resolve_left hr)
    simpa using this

theorem idxInv_removeKid {p : Node} (key : Bytes) (h : IdxInv p) :
    IdxInv ((p.setIndex (eraseLast p.index key)).setKids (removeKid key p.kids)) :=
  idxInv_eraseLast key h (by simp) (by intro c hc; simp [findKid_removeKid_ne hc])

end Muscle.Reflector
