import MuscleModel.Reflector.ChangeEvents
import MuscleModel.Reflector.UpdateProofs

/-!
# The structured twin of delivery for ONE session (C04)

The model keeps what a client received as canonical TEXT (`inbox`).  The structured view of session `s`:
* `pend s` = its pending PR_RESULT_DATAITEMS Message (`nextData`, empty if none);
* `dataLines s` = the PR_RESULT_DATAITEMS lines of its inbox (`isData`: the lines `dataText` produces start with `D`,
  every other line the model delivers — `I[…]`, `PONG`, `PARAMS`, `MSG` — does not).

`auxSess s np d removed` is `NodeChangedAux` seen from the session record alone; `nodeChangedAux_sessions` proves it IS what the
model does to that session, and `auxSess_feed` that it IS `feed s.maxItems` of `Reflector/Update.lean` on the abstract pipe
`⟨pend s, []⟩`: same pending Message afterwards, and the data lines appended to the inbox are exactly
`(feed …).sent.map dataText` (`twin_text` in Props/C04).  For every OTHER session the same call is the identity or a flush
(`pushSess`).  `PipeStep sid sv sv' evs` packages this.
-/


namespace Muscle.Reflector
open Muscle

def isData (l : String) : Bool := l.toList.head? == some 'D'

theorem isData_dataText (m : UpdMsg) : isData (dataText m) = true := by
  simp [isData, dataText, String.toList_append]

theorem isData_idxText (m : IdxMsg) : isData (idxText m) = false := by
  simp [isData, idxText, String.toList_append]

def dataLines (s : Sess) : List String := s.inbox.filter isData

def pend (s : Sess) : UpdMsg := s.nextData.getD {}

/-- what `PushSubscriptionMessages` does to one session -/
def pushSess (s : Sess) : Sess :=
  let s1 := match s.nextData with
    | some m => { s with nextData := none, inbox := s.inbox ++ [dataText m] }
    | none => s
  match s1.nextIdx with
  | some m => { s1 with nextIdx := none, inbox := s1.inbox ++ [idxText m] }
  | none => s1

theorem pushOnce_eq (sv : Server) : pushOnce sv = { sv with subsDirty := false, sessions := sv.sessions.map pushSess } := rfl

theorem pushSess_core (s : Sess) : (pushSess s).core = s.core := by
  unfold pushSess
  cases h1 : s.nextData <;> cases h2 : s.nextIdx <;> simp [Sess.core, h1, h2]

theorem pushSess_nextData (s : Sess) : (pushSess s).nextData = none := by
  unfold pushSess
  cases h1 : s.nextData <;> cases h2 : s.nextIdx <;> simp [h1, h2]

theorem pushSess_dataLines (s : Sess) :
    dataLines (pushSess s) = dataLines s ++ (match s.nextData with | some m => [dataText m] | none => []) := by
  unfold pushSess dataLines
  cases h1 : s.nextData <;> cases h2 : s.nextIdx <;>
    simp [h1, h2, List.filter_append, isData_dataText, isData_idxText]

theorem pushSess_idem (s : Sess) : pushSess (pushSess s) = pushSess s := by
  have h1 := pushSess_nextData s
  have h2 : (pushSess s).nextIdx = none := by
    unfold pushSess
    cases h1 : s.nextData <;> cases h2 : s.nextIdx <;> simp [h1, h2]
  generalize pushSess s = t at h1 h2
  unfold pushSess
  simp [h1, h2]

theorem sess?_pushOnce (sv : Server) (t : Nat) : (pushOnce sv).sess? t = (sv.sess? t).map pushSess := by
  rw [pushOnce_eq]
  unfold Server.sess?
  apply find?_map_pred
  intro x
  rw [show (pushSess x).sid = x.sid from (congrArg Sess.sid (pushSess_core x) :)]

theorem sess?_pushAll_dirty (sv : Server) (h : sv.subsDirty = true) (t : Nat) :
    (pushAll sv).sess? t = (sv.sess? t).map pushSess := by
  unfold pushAll
  rw [if_pos h]
  exact sess?_pushOnce sv t

theorem sess?_pushAll (sv : Server) (t : Nat) :
    (pushAll sv).sess? t = sv.sess? t ∨ (pushAll sv).sess? t = (sv.sess? t).map pushSess := by
  unfold pushAll
  split
  · right; exact sess?_pushOnce sv t
  · left; rfl

/-- the flush at `maxItems` -/
def tailSess (x : Sess) : Sess :=
  match x.nextData with
  | some m => if m.numNames ≥ x.maxItems then pushSess x else x
  | none => x

def auxSess (s : Sess) (np : Bytes) (d : Option Nat) (removed : Bool) : Sess :=
  tailSess
    (if removed then
      if (pend s).hasSet np then
        { (pushSess { s with nextData := some (pend s) }) with nextData := some { removed := [np] } }
      else { s with nextData := some { pend s with removed := (pend s).removed ++ [np] } }
    else { s with nextData := some ((pend s).addSet np d) })

/-- the flush at `maxItems` on the server: everything is pushed when the pending Message of `sid` is full (the tail of `NodeChangedAux`) -/
def flushFull (sid : Nat) (X : Server) : Server :=
  match X.sess? sid with
  | none => X
  | some s => match s.nextData with
    | some m => if m.numNames ≥ s.maxItems then pushAll X else X
    | none => X

/-- from a dirty state `X` that has `y` for `sid` and, of the sessions `x` of `sv`, `x` or `pushSess x` for the others -/
theorem sess?_flushFull {sv X : Server} {sid : Nat} {y : Sess} (hX : X.subsDirty = true) (hy : X.sess? sid = some y)
    (hoth : ∀ {t : Nat} {x : Sess}, t ≠ sid → sv.sess? t = some x → X.sess? t = some x ∨ X.sess? t = some (pushSess x)) :
    (flushFull sid X).sess? sid = some (tailSess y) ∧
      ∀ {t : Nat} {x : Sess}, t ≠ sid → sv.sess? t = some x →
        (flushFull sid X).sess? t = some x ∨ (flushFull sid X).sess? t = some (pushSess x) := by
  unfold flushFull
  rw [hy]
  unfold tailSess
  dsimp only
  cases hn : y.nextData with
  | none => exact ⟨hy, hoth⟩
  | some m =>
    dsimp only
    split
    · refine ⟨by rw [sess?_pushAll_dirty X hX, hy]; rfl, fun ht hx => Or.inr ?_⟩
      rw [sess?_pushAll_dirty X hX]
      rcases hoth ht hx with h | h <;> rw [h]
      · rfl
      · exact congrArg some (pushSess_idem _)
    · exact ⟨hy, hoth⟩

theorem nodeChangedAux_sessions {sv : Server} {sid : Nat} {s : Sess} (hs : sv.sess? sid = some s) (np : Bytes)
    (d : Option Nat) (removed : Bool) :
    (nodeChangedAux sv sid np d removed).sess? sid = some (auxSess s np d removed) ∧
    ∀ {t : Nat} {x : Sess}, t ≠ sid → sv.sess? t = some x →
      (nodeChangedAux sv sid np d removed).sess? t = some x ∨
      (nodeChangedAux sv sid np d removed).sess? t = some (pushSess x) := by
  unfold nodeChangedAux
  rw [hs]
  dsimp only
  have hd : ∀ {t : Nat} {x : Sess}, sv.sess? t = some x → ({ sv with subsDirty := true } : Server).sess? t = some x :=
    fun h => h
  unfold auxSess
  cases removed with
  | false =>
    simp only [Bool.false_eq_true, if_false]
    exact sess?_flushFull rfl (sess?_updSess_same _ sid _ (hd hs))
      (fun ht hx => Or.inl (sess?_updSess_other _ sid _ (hd hx) ht))
  | true =>
    simp only [if_true, pend]
    by_cases hh : (s.nextData.getD {}).hasSet np = true
    · -- remove-after-set: everybody is flushed before the removal is recorded
      simp only [hh, if_true]
      have h1 : ∀ {t : Nat} {x : Sess}, sv.sess? t = some x →
          (pushAll (Server.updSess { sv with subsDirty := true } sid
            (fun s' => { s' with nextData := some (s.nextData.getD {}) }))).sess? t =
          some (pushSess (if t = sid then { x with nextData := some (s.nextData.getD {}) } else x)) := by
        intro t x hx
        rw [sess?_pushAll_dirty _ rfl]
        by_cases ht : t = sid
        · subst ht; rw [if_pos rfl, sess?_updSess_same _ t _ (hd hx)]; rfl
        · rw [if_neg ht, sess?_updSess_other _ sid _ (hd hx) ht]; rfl
      refine sess?_flushFull rfl (sess?_updSess_same _ sid _ ((h1 hs).trans (by rw [if_pos rfl])))
        (fun ht hx => Or.inr (sess?_updSess_other _ sid _ ((h1 hx).trans (by rw [if_neg ht])) ht))
    · simp only [hh, if_false, Bool.false_eq_true]
      exact sess?_flushFull rfl (sess?_updSess_same _ sid _ (hd hs))
        (fun ht hx => Or.inl (sess?_updSess_other _ sid _ (hd hx) ht))

theorem nodeChangedAux_other {sv : Server} {sid t : Nat} {x : Sess} (hx : sv.sess? t = some x) (ht : t ≠ sid)
    (np : Bytes) (d : Option Nat) (removed : Bool) :
    (nodeChangedAux sv sid np d removed).sess? t = some x ∨
    (nodeChangedAux sv sid np d removed).sess? t = some (pushSess x) := by
  cases hs : sv.sess? sid with
  | none => left; simpa [nodeChangedAux, hs] using hx
  | some s => exact (nodeChangedAux_sessions hs np d removed).2 ht hx

theorem numNames_addSet_pos (m : UpdMsg) (np : Bytes) (d : Option Nat) : (m.addSet np d).numNames ≠ 0 := by
  unfold UpdMsg.addSet UpdMsg.numNames
  split
  · rename_i h
    unfold UpdMsg.hasSet at h
    cases hs : m.sets with
    | nil => rw [hs] at h; simp at h
    | cons a r => simp
  · simp

/-- the event `NodeChangedAux(np, d, removed)` feeds -/
def evOf (np : Bytes) (d : Option Nat) (removed : Bool) : Ev := if removed then .removed np else .set np d

theorem tailSess_pipe (x : Sess) (m : UpdMsg) (hx : x.nextData = some m) (hm0 : m.numNames ≠ 0) (sent : List UpdMsg)
    (base : List String) (hb : dataLines x = base ++ sent.map dataText) :
    pend (tailSess x) =
      (if m.numNames ≥ x.maxItems then ({ cur := m, sent := sent } : Pipe).flush else { cur := m, sent := sent }).cur ∧
    dataLines (tailSess x) = base ++
      (if m.numNames ≥ x.maxItems then ({ cur := m, sent := sent } : Pipe).flush else { cur := m, sent := sent }).sent.map dataText ∧
    (tailSess x).core = x.core := by
  unfold tailSess
  rw [hx]
  simp only []
  by_cases hm : m.numNames ≥ x.maxItems
  · simp only [hm, if_true, Pipe.flush, hm0, if_false]
    refine ⟨by simp [pend, pushSess_nextData], ?_, pushSess_core x⟩
    rw [pushSess_dataLines, hx, hb]
    simp
  · simp only [hm, if_false]
    exact ⟨by simp [pend, hx], hb, trivial⟩

/-- `NodeChangedAux` on the session record is `feed` on the abstract pipe: same pending Message, and the data
    lines appended to the inbox are the text of exactly the Messages `feed` sends. -/
theorem auxSess_feed (s : Sess) (np : Bytes) (d : Option Nat) (removed : Bool) :
    pend (auxSess s np d removed) = (feed s.maxItems { cur := pend s, sent := [] } (evOf np d removed)).cur ∧
    dataLines (auxSess s np d removed) =
      dataLines s ++ (feed s.maxItems { cur := pend s, sent := [] } (evOf np d removed)).sent.map dataText ∧
    (auxSess s np d removed).core = s.core := by
  unfold auxSess evOf
  cases removed with
  | false =>
    simp only [Bool.false_eq_true, if_false, feed]
    exact tailSess_pipe { s with nextData := some ((pend s).addSet np d) } _ rfl (numNames_addSet_pos _ _ _) []
      (dataLines s) (by simp [dataLines])
  | true =>
    simp only [if_true, feed]
    by_cases hh : (pend s).hasSet np = true
    · have hfl : ({ cur := pend s, sent := [] } : Pipe).flush = { cur := {}, sent := [pend s] } := by
        simp [Pipe.flush, numNames_pos_of_hasSet hh]
      simp only [hh, if_true, hfl]
      have hQ := pushSess_dataLines { s with nextData := some (pend s) }
      have hQc := pushSess_core { s with nextData := some (pend s) }
      generalize pushSess { s with nextData := some (pend s) } = Q at hQ hQc
      have h := tailSess_pipe { Q with nextData := some { removed := [np] } } { removed := [np] } rfl
        (by simp [UpdMsg.numNames]) [pend s] (dataLines s) (by
          have : dataLines { Q with nextData := some { removed := [np] } } = dataLines Q := rfl
          rw [this, hQ]; simp [dataLines])
      have hk : Q.maxItems = s.maxItems := (congrArg Sess.maxItems hQc :)
      rw [← hk]
      refine ⟨h.1, h.2.1, ?_⟩
      rw [h.2.2]
      have : ({ Q with nextData := some { removed := [np] } } : Sess).core = Q.core := rfl
      rw [this, hQc]; rfl
    · simp only [hh, if_false, Bool.false_eq_true]
      exact tailSess_pipe { s with nextData := some { pend s with removed := (pend s).removed ++ [np] } } _ rfl
        (by simp [UpdMsg.numNames]) [] (dataLines s) (by simp [dataLines])

/-- the part of `core` the data view reads: everything but max-items, the parameter list, the indexing flag and the
    default route -/
def Sess.vcore (t : Sess) : Sess :=
  { t.core with maxItems := 0, params := [], indexingPresent := false, route := [], hasRouteKeys := false,
                routeKeys := [], routeFilts := none }

theorem vcore_of_core {s t : Sess} (h : s.core = t.core) : s.vcore = t.vcore := by
  unfold Sess.vcore; rw [h]

/-- session `sid` keeps identity, subscriptions and the two flags the data view reads (`Sess.vcore`) from `sv` to `sv'`, receives
    structured Messages `sent` whose text is what was appended to its data lines, and its client's view advances by exactly the events `evs` -/
def PipeStep (sid : Nat) (sv sv' : Server) (evs : List Ev) : Prop :=
  ∀ s, sv.sess? sid = some s → ∃ s' sent, sv'.sess? sid = some s' ∧ s'.vcore = s.vcore ∧
    dataLines s' = dataLines s ++ sent.map dataText ∧
    ∀ m, applyMsg (applyMsgs m sent) (pend s') = evs.foldl applyEv (applyMsg m (pend s))

theorem PipeStep.sess {sid : Nat} {sv sv' : Server} {evs : List Ev} (h : PipeStep sid sv sv' evs) {s : Sess}
    (hs : sv.sess? sid = some s) : ∃ s', sv'.sess? sid = some s' ∧ s'.vcore = s.vcore :=
  let ⟨s', _, hs', hc, _⟩ := h s hs
  ⟨s', hs', hc⟩

theorem PipeStep.refl (sid : Nat) (sv : Server) : PipeStep sid sv sv [] := by
  intro s hs
  exact ⟨s, [], hs, rfl, by simp, fun m => rfl⟩

theorem pipeStep_sessions {sid : Nat} {sv sv' : Server} (h : sv'.sessions = sv.sessions) : PipeStep sid sv sv' [] :=
  fun s hs => ⟨s, [], (sess?_of_sessions h sid).trans hs, rfl, by simp, fun m => rfl⟩

theorem PipeStep.trans {sid : Nat} {a b c : Server} {e1 e2 : List Ev} (h1 : PipeStep sid a b e1)
    (h2 : PipeStep sid b c e2) : PipeStep sid a c (e1 ++ e2) := by
  intro s hs
  obtain ⟨s1, sent1, hs1, hc1, hd1, hv1⟩ := h1 s hs
  obtain ⟨s2, sent2, hs2, hc2, hd2, hv2⟩ := h2 s1 hs1
  refine ⟨s2, sent1 ++ sent2, hs2, hc2.trans hc1, ?_, ?_⟩
  · rw [hd2, hd1, List.map_append, List.append_assoc]
  · intro m
    rw [applyMsgs_append, hv2, hv1, List.foldl_append]

theorem pipeStep_of_push {sid : Nat} {sv sv' : Server}
    (h : ∀ s, sv.sess? sid = some s → sv'.sess? sid = some s ∨ sv'.sess? sid = some (pushSess s)) :
    PipeStep sid sv sv' [] := by
  intro s hs
  rcases h s hs with h | h
  · exact ⟨s, [], h, rfl, by simp, fun m => rfl⟩
  · refine ⟨pushSess s, (match s.nextData with | some m => [m] | none => []), h, vcore_of_core (pushSess_core s), ?_, ?_⟩
    · rw [pushSess_dataLines]
      cases s.nextData <;> rfl
    · intro m
      simp only [pend, pushSess_nextData, Option.getD_none, applyMsg_empty, List.foldl_nil]
      cases hn : s.nextData with
      | none => simp [applyMsgs, applyMsg_empty]
      | some mm => simp [applyMsgs]

theorem pipeStep_pushAll (sid : Nat) (sv : Server) : PipeStep sid sv (pushAll sv) [] := by
  apply pipeStep_of_push
  intro s hs
  rcases sess?_pushAll sv sid with h | h
  · left; rw [h]; exact hs
  · right; rw [h, hs]; rfl

theorem feedSrv_eq (sv : Server) (sid : Nat) (ev : Ev) :
    ∃ np d removed, feedSrv sv sid ev = nodeChangedAux sv sid np d removed ∧ evOf np d removed = ev := by
  cases ev with
  | set np d => exact ⟨np, d, false, rfl, rfl⟩
  | removed np => exact ⟨np, none, true, rfl, rfl⟩

theorem pipeStep_nodeChangedAux (sv : Server) (sid : Nat) (np : Bytes) (d : Option Nat) (removed : Bool) :
    PipeStep sid sv (nodeChangedAux sv sid np d removed) [evOf np d removed] := by
  intro s hs
  obtain ⟨h1, h2, h3⟩ := auxSess_feed s np d removed
  refine ⟨auxSess s np d removed, (feed s.maxItems { cur := pend s, sent := [] } (evOf np d removed)).sent,
    (nodeChangedAux_sessions hs np d removed).1, vcore_of_core h3, h2, ?_⟩
  intro m
  rw [h1]
  have := view_feed s.maxItems { cur := pend s, sent := [] } m (evOf np d removed)
  simp only [Pipe.view] at this
  rw [this]
  simp [applyMsgs]

theorem pipeStep_feed_self (sv : Server) (sid : Nat) (ev : Ev) : PipeStep sid sv (feedSrv sv sid ev) [ev] := by
  obtain ⟨np, d, removed, he, hev⟩ := feedSrv_eq sv sid ev
  rw [he, ← hev]
  exact pipeStep_nodeChangedAux sv sid np d removed

theorem pipeStep_feed_other (sv : Server) {sid t : Nat} (ht : t ≠ sid) (ev : Ev) :
    PipeStep t sv (feedSrv sv sid ev) [] := by
  apply pipeStep_of_push
  intro x hx
  obtain ⟨np, d, removed, he, _⟩ := feedSrv_eq sv sid ev
  rw [he]
  exact nodeChangedAux_other hx ht np d removed

/-- the events of a list of (session id, event) pairs that are for `sid` -/
def evsFor (sid : Nat) (l : List (Nat × Ev)) : List Ev := l.filterMap (fun p => if p.1 = sid then some p.2 else none)

theorem pipeStep_fold (sid : Nat) (l : List (Nat × Ev)) (sv : Server) :
    PipeStep sid sv (l.foldl (fun sv (p : Nat × Ev) => feedSrv sv p.1 p.2) sv) (evsFor sid l) := by
  induction l generalizing sv with
  | nil => exact PipeStep.refl sid sv
  | cons p r ih =>
    simp only [List.foldl_cons, evsFor, List.filterMap_cons]
    by_cases hp : p.1 = sid
    · simp only [hp, if_true]
      have := (pipeStep_feed_self sv sid p.2).trans (ih (feedSrv sv sid p.2))
      rw [← hp] at this ⊢
      simpa [evsFor, hp] using this
    · simp only [hp, if_false]
      have := (pipeStep_feed_other sv (t := sid) (sid := p.1) (fun e => hp e.symm) p.2).trans (ih (feedSrv sv p.1 p.2))
      simpa [evsFor] using this

/-- `NotifySubscribersThatNodeChanged`, seen by session `sid`: its pipe is fed the events `changeEvents` holds for it -/
theorem pipeStep_notifyChanged (sid : Nat) (sv : Server) (by_ : Nat) (names : List Bytes) (node : Node)
    (od : Option (Option Nat)) (removed : Bool) :
    PipeStep sid sv (notifyChanged sv by_ names node od removed) (evsFor sid (changeEvents sv by_ names node od removed)) := by
  rw [notifyChanged_twin]
  exact pipeStep_fold sid _ sv

theorem evsFor_changeEvents (sv : Server) (by_ : Nat) (names : List Bytes) (node : Node) (od : Option (Option Nat))
    (removed : Bool) (sid : Nat) (h : (node.subs.map (·.1)).Nodup) :
    evsFor sid (changeEvents sv by_ names node od removed) =
      if node.subs.any (fun p => p.1 = sid) && (sid ≠ by_ || bySelfOf sv by_) then
        (sessEv sv sid names node.data od removed).toList else [] := by
  unfold changeEvents evsFor
  rw [List.filterMap_filterMap]
  have : (fun p : Nat × Nat => (if (p.1 ≠ by_ || bySelfOf sv by_) = true then
        (sessEv sv p.1 names node.data od removed).map (fun ev => (p.1, ev)) else none).bind
        (fun q : Nat × Ev => if q.1 = sid then some q.2 else none)) =
      fun p => if p.1 = sid then
        (if (sid ≠ by_ || bySelfOf sv by_) = true then sessEv sv sid names node.data od removed else none) else none := by
    funext p
    by_cases hp : p.1 = sid
    · rw [if_pos hp, hp]
      split
      · cases sessEv sv sid names node.data od removed <;> simp
      · rfl
    · rw [if_neg hp]
      split
      · cases sessEv sv p.1 names node.data od removed <;> simp [hp]
      · rfl
  rw [this, filterMap_key h]
  cases node.subs.any (fun p => p.1 = sid) <;> cases (sid ≠ by_ || bySelfOf sv by_) <;> simp

end Muscle.Reflector
