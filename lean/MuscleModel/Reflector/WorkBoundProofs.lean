import MuscleModel.Reflector.TravProofsCands
import MuscleModel.Base.Adds
import MuscleModel.Reflector.Handlers
import MuscleModel.Reflector.SessRel

/-!
# The work of one traversal, and of `route`, is bounded by the tree (C07)

`wbCnt fuel n` = the number of nodes strictly below `n` within `fuel` levels = `(descendants fuel n pre).length`.
For ANY callback, matcher, tree (sibling names need not be distinct) and fuel, `travAux ctx fuel node names depth` records at most
`wbCnt fuel node` visits: they are part of the candidates (`travAux_sublist`), and there are at most that many candidates
(`cands_length_le`): a level hands each child to `CheckChildForTraversal` at most once (the literal-lookup path by its `alreadyDid`
set: `levelKids_sum_le`), and for one child the callback and the descent are planned at most once each (`plan_cases`).
Deliveries (`wbTotal`, the lines queued for all clients together): `route` adds at most one per recorded visit (`wb_route`).
The instrumented twins (`…C`) count the pattern entries the entry loops examine.
-/

namespace Muscle.Reflector
open Muscle

/-- the number of nodes strictly below `n`, at most `fuel` levels down -/
def wbCnt : Nat → Node → Nat
  | 0, _ => 0
  | f+1, n => (n.kids.map (fun k => 1 + wbCnt f k)).sum

theorem wb_descendants_length : ∀ (fuel : Nat) (n : Node) (pre : List Bytes), (descendants fuel n pre).length = wbCnt fuel n := by
  intro fuel
  induction fuel with
  | zero => intro n pre; simp [descendants, wbCnt]
  | succ f ih =>
    intro n pre
    simp only [descendants, wbCnt, List.length_flatMap, List.length_cons, ih]
    congr 1
    apply List.map_congr_left
    intro k _
    omega

/-- the weight of the children whose names are not yet in the `alreadyDid` set -/
def wbPhi (g : Node → Nat) : List Node → List Bytes → Nat
  | [], _ => 0
  | k :: r, did => (if did.contains k.name then 0 else g k) + wbPhi g r did

theorem wb_phi_mono (g : Node → Nat) (nm : Bytes) (did : List Bytes) : ∀ kids : List Node,
    wbPhi g kids (nm :: did) ≤ wbPhi g kids did := by
  intro kids
  induction kids with
  | nil => exact Nat.le_refl _
  | cons a r ih =>
    simp only [wbPhi, List.contains_cons]
    cases (a.name == nm) <;> cases did.contains a.name <;> simp <;> omega

theorem wb_phi_drop (g : Node → Nat) (nm : Bytes) (did : List Bytes) (hd : did.contains nm = false) : ∀ (kids : List Node) (k : Node),
    findKid nm kids = some k → wbPhi g kids (nm :: did) + g k ≤ wbPhi g kids did := by
  intro kids
  induction kids with
  | nil => intro k h; cases h
  | cons a r ih =>
    intro k h
    rw [findKid] at h
    simp only [wbPhi, List.contains_cons]
    by_cases ha : a.name = nm
    · rw [if_pos ha] at h
      cases h
      have := wb_phi_mono g nm did r
      simp only [ha, BEq.rfl, Bool.true_or, if_true, hd, Bool.false_eq_true, if_false]
      omega
    · rw [if_neg ha] at h
      have := ih k h
      simp only [beq_eq_false_iff_ne.2 ha, Bool.false_or]
      omega

theorem wb_phi_nil (g : Node → Nat) : ∀ kids : List Node, wbPhi g kids [] = (kids.map g).sum := by
  intro kids
  induction kids with
  | nil => rfl
  | cons a r ih => simp [wbPhi, ih]

theorem wb_firstByName_sum {β : Type} (g : Node → Nat) (kids : List Node) : ∀ (l : List (Node × β)) (did : List Bytes),
    (∀ p ∈ l, findKid p.1.name kids = some p.1) →
      ((firstByName l did).map (fun p => g p.1)).sum ≤ wbPhi g kids did := by
  intro l
  induction l with
  | nil => intro did _; exact Nat.zero_le _
  | cons a r ih =>
    intro did h
    have hr := fun p hp => h p (List.mem_cons_of_mem _ hp)
    rw [firstByName]
    by_cases hd : did.contains a.1.name = true
    · rw [if_pos hd]; exact ih did hr
    · rw [if_neg hd, List.map_cons, List.sum_cons]
      have := ih (a.1.name :: did) hr
      have := wb_phi_drop g a.1.name did (by simpa using hd) kids a.1 (h a List.mem_cons_self)
      omega

/-- a level hands each child to `CheckChildForTraversal` at most once, whether or not sibling names are distinct -/
theorem levelKids_sum_le (g : Node → Nat) (pm : PM) (rd : Nat) (node : Node) (depth : Nat) :
    ((levelKids pm rd node depth).map (fun p => g p.1)).sum ≤ (node.kids.map g).sum := by
  rcases levelKids_cases pm rd node depth with ⟨_, heq⟩ | ⟨_, heq⟩ <;> rw [heq]
  · rw [List.map_map]; exact Nat.le_refl _
  · rw [← wb_phi_nil]
    apply wb_firstByName_sum
    intro p hp
    obtain ⟨_, _, _, _, _, _, hf⟩ := mem_lkCands.1 hp
    rw [findKid_name hf]; exact hf

theorem cands_length_le (pm : PM) (uf : Bool) (rd : Nat) : ∀ (fuel : Nat) (node : Node) (names : Visit) (depth : Nat),
    (cands pm uf rd fuel node names depth).length ≤ wbCnt fuel node := by
  intro fuel
  induction fuel with
  | zero => intros; exact Nat.le_refl _
  | succ fuel ih =>
    intro node names depth
    rw [cands, List.length_flatMap, wbCnt]
    refine Nat.le_trans (sum_map_le _ (fun p => 1 + wbCnt fuel p.1) _ (fun p _ => ?_))
      (levelKids_sum_le (fun k => 1 + wbCnt fuel k) pm rd node depth)
    have hc := plan_cases pm uf rd p.1 (names ++ [p.1.name]) depth p.2 (activeEntries pm (depth - rd)) 0
    have := ih p.1 (names ++ [p.1.name]) (depth + 1)
    simp only [List.mem_cons, List.not_mem_nil, or_false] at hc
    unfold childCands childPlan
    rcases hc with h | h | h | h | h <;> rw [h] <;> simp <;> omega

/-- **the work bound of `DoTraversalAux`**, any callback, matcher, tree, fuel: at most one recorded visit per node below `node` -/
theorem wb_travAux (ctx : TCtx) (fuel : Nat) (node : Node) (names : Visit) (depth : Nat) :
    (travAux ctx fuel node names depth).1.length ≤ wbCnt fuel node :=
  Nat.le_trans (by simpa using (travAux_sublist ctx fuel node names depth).length_le) (cands_length_le _ _ _ fuel node names depth)

mutual
/-- the number of nodes of the tree rooted at `n`, `n` included (no fuel) -/
def Node.size : Node → Nat
  | .mk _ _ kids _ _ _ => 1 + Node.sizeList kids
def Node.sizeList : List Node → Nat
  | [] => 0
  | k :: r => k.size + Node.sizeList r
end

theorem wb_cnt_lt_size : ∀ (fuel : Nat) (n : Node), wbCnt fuel n + 1 ≤ n.size := by
  intro fuel
  induction fuel with
  | zero => intro n; cases n; simp [wbCnt, Node.size]
  | succ f ih =>
    intro n
    cases n with
    | mk nm d kids ix c sb =>
      have key : ∀ l : List Node, (l.map (fun k => 1 + wbCnt f k)).sum ≤ Node.sizeList l := by
        intro l
        induction l with
        | nil => simp [Node.sizeList]
        | cons a r ihl =>
          have := ih a
          simp only [List.map_cons, List.sum_cons, Node.sizeList]
          omega
      have := key kids
      simp only [wbCnt, Node.kids, Node.size]
      omega

theorem wb_cnt_stable (fuel : Nat) (n : Node) (hfit : fits fuel n = true) (j : Nat) : wbCnt (fuel + j) n = wbCnt fuel n := by
  rw [← wb_descendants_length (fuel + j) n [], ← wb_descendants_length fuel n [], descendants_stable fuel n [] hfit j]

/-- the number of lines queued for all clients together -/
def wbTotal (sv : Server) : Nat := (sv.sessions.map (fun t => t.inbox.length)).sum

theorem wb_deliver_sum (sid : Nat) (w : String) : ∀ l : List Sess,
    ((l.map (fun s => if s.sid = sid then { s with inbox := s.inbox ++ [w] } else s)).map (fun t => t.inbox.length)).sum =
      (l.map (fun t => t.inbox.length)).sum + l.countP (fun s => s.sid == sid) := by
  intro l
  induction l with
  | nil => rfl
  | cons a r ih =>
    simp only [List.map_cons, List.sum_cons, List.countP_cons, ih]
    by_cases ha : a.sid = sid <;> simp [ha] <;> omega

theorem wb_deliver (sv : Server) (sid : Nat) (w : String) (hnd : (sv.sessions.map (·.sid)).Nodup) :
    wbTotal (sv.deliver sid w) ≤ wbTotal sv + 1 ∧ (sv.deliver sid w).sessions.map (·.sid) = sv.sessions.map (·.sid) := by
  have h := List.nodup_iff_count.1 hnd sid
  rw [List.count_eq_countP, List.countP_map] at h
  refine ⟨Nat.le_trans (Nat.le_of_eq (wb_deliver_sum sid w sv.sessions))
    (Nat.add_le_add_left (by simpa [Function.comp_def] using h) _), ?_⟩
  exact map_updSess (·.sid) sv sid _ (fun _ => rfl)

theorem wb_fold {α} (g : Server → α → Server)
    (hg : ∀ sv a, (sv.sessions.map (·.sid)).Nodup →
      wbTotal (g sv a) ≤ wbTotal sv + 1 ∧ (g sv a).sessions.map (·.sid) = sv.sessions.map (·.sid)) :
    ∀ (l : List α) (sv : Server), (sv.sessions.map (·.sid)).Nodup →
      wbTotal (l.foldl g sv) ≤ wbTotal sv + l.length ∧ (l.foldl g sv).sessions.map (·.sid) = sv.sessions.map (·.sid) := by
  intro l
  induction l with
  | nil => intro sv _; exact ⟨by simp, rfl⟩
  | cons a r ih =>
    intro sv hnd
    obtain ⟨g1, g2⟩ := hg sv a hnd
    obtain ⟨i1, i2⟩ := ih (g sv a) (by rw [g2]; exact hnd)
    simp only [List.foldl_cons, List.length_cons]
    exact ⟨by omega, i2.trans g2⟩

theorem wb_route (sv : Server) (sid : Nat) (pm : PM) (what : String) (hnd : (sv.sessions.map (·.sid)).Nodup) :
    wbTotal (route sv sid pm what) ≤ wbTotal sv + (travGlobal sv pm true (fun _ _ _ => (true, 1))).length ∧
    (route sv sid pm what).sessions.map (·.sid) = sv.sessions.map (·.sid) := by
  unfold route
  cases sv.sess? sid with
  | none => exact ⟨Nat.le_add_right _ _, rfl⟩
  | some s =>
    -- each recorded visit leaves the server as it is or delivers one line
    refine wb_fold _ (fun sv1 v h1 => ?_) _ sv hnd
    have hstep : ∀ x : Server, (x = sv1 ∨ ∃ t, x = sv1.deliver t what) →
        wbTotal x ≤ wbTotal sv1 + 1 ∧ x.sessions.map (·.sid) = sv1.sessions.map (·.sid) := by
      rintro x (rfl | ⟨t, rfl⟩)
      · exact ⟨Nat.le_succ _, rfl⟩
      · exact wb_deliver _ _ _ h1
    apply hstep
    split
    · exact Or.inl rfl
    · split
      · exact Or.inl rfl
      · split
        · exact Or.inr ⟨_, rfl⟩
        · exact Or.inl rfl

theorem wb_size_of_kids (n : Node) : n.size = 1 + Node.sizeList n.kids := by
  cases n; simp only [Node.size, Node.kids]

theorem wb_findKid_size {nm : Bytes} : ∀ {kids : List Node} {k : Node}, findKid nm kids = some k → k.size ≤ Node.sizeList kids := by
  intro kids
  induction kids with
  | nil => intro k h; simp [findKid] at h
  | cons a r ih =>
    intro k h
    simp only [findKid] at h
    simp only [Node.sizeList]
    split at h
    · cases h; omega
    · have := ih h; omega

theorem wb_nodeAt_size : ∀ (path : List Bytes) (fuel : Nat) (n m : Node), nodeAt fuel n path = some m → m.size ≤ n.size := by
  intro path
  induction path with
  | nil =>
    intro fuel n m h
    cases fuel <;> simp [nodeAt] at h <;> subst h <;> exact Nat.le_refl _
  | cons nm rest ih =>
    intro fuel n m h
    cases fuel with
    | zero => simp [nodeAt] at h
    | succ f =>
      simp only [nodeAt] at h
      split at h
      · cases h
      · rename_i k hk
        have h1 := ih f k m h
        have h2 := wb_findKid_size hk
        rw [wb_size_of_kids n]
        omega

theorem wb_getNode_size {sv : Server} {path : List Bytes} {n : Node} (h : getNode sv path = some n) : n.size ≤ sv.root.size :=
  wb_nodeAt_size path fuelDepth sv.root n h

/-- `checkEntries` with a counter: the number of entries examined (one clause test, `hitB`, per examined entry; the loop stops examining
    at `done` / abort) -/
def checkEntriesCost (ctx : TCtx) (rec : Rec) (child : Node) (cn : Visit) (depth : Nat) (known : Option Nat) :
    List Entry → Nat → CState → CState × Nat
  | [], _, st => (st, 0)
  | e :: es, idx, st =>
    if st.done || st.abort.isSome then (st, 0) else
    let r := checkEntriesCost ctx rec child cn depth known es (idx + 1)
      (stepG ctx rec child cn depth (decide (known = some idx) || hitB (depth - ctx.rootDepth) child.name e) e st)
    (r.1, r.2 + 1)

theorem wb_checkEntriesCost (ctx : TCtx) (rec : Rec) (child : Node) (cn : Visit) (depth : Nat) (known : Option Nat) :
    ∀ (es : List Entry) (idx : Nat) (st : CState),
      (checkEntriesCost ctx rec child cn depth known es idx st).1 = checkEntries ctx rec child cn depth known es idx st ∧
      (checkEntriesCost ctx rec child cn depth known es idx st).2 ≤ es.length := by
  intro es
  induction es with
  | nil => intro idx st; exact ⟨rfl, Nat.le_refl _⟩
  | cons e es ih =>
    intro idx st
    rw [checkEntries_cons]
    simp only [checkEntriesCost]
    split
    · exact ⟨rfl, Nat.zero_le _⟩
    · obtain ⟨i1, i2⟩ := ih (idx + 1)
        (stepG ctx rec child cn depth (decide (known = some idx) || hitB (depth - ctx.rootDepth) child.name e) e st)
      exact ⟨i1, by simp only [List.length_cons]; omega⟩

theorem wb_sum_filter_le (f : (Nat × List Entry) → Nat) (p : (Nat × List Entry) → Bool) : ∀ pm : PM,
    ((pm.filter p).map f).sum ≤ (pm.map f).sum := by
  intro pm
  induction pm with
  | nil => simp
  | cons a r ih =>
    simp only [List.filter_cons]
    split
    · simp only [List.map_cons, List.sum_cons]; omega
    · simp only [List.map_cons, List.sum_cons]; omega

theorem wb_activeEntries_length (pm : PM) (rel : Nat) : (activeEntries pm rel).length ≤ pmNumEntries pm := by
  unfold activeEntries pmNumEntries
  rw [List.length_flatMap]
  exact wb_sum_filter_le (fun x => x.2.length) _ pm

/-! ## the whole traversal, instrumented with the number of pattern-entry tests

`…C` = the function of Traverse.lean returning (result, number of entries examined by the entry loops of `CheckChildForTraversal`);
the recursive call carries its own count (`RecC`).  For each of them: the first component is the real function (run with the projected
recursive call), and the count is at most the sum of the counts for the children it looked at. -/

abbrev RecC := Node → Visit → Nat → (List Visit × Int) × Nat
def projR (recC : RecC) : Rec := fun k n d => (recC k n d).1

/-- the condition under which one step of the entry loop (`stepG`) makes the recursive call: the second condition of `stepG_eq`, with
    `termB` written out -/
def descends (ctx : TCtx) (depth : Nat) (hit : Bool) (e : Entry) (st : CState) : Bool :=
  hit && !decide (depth + 1 = ctx.rootDepth + e.clauses.length) && !st.recursed

theorem wb_stepG_recursed (ctx : TCtx) (rec : Rec) (child : Node) (cn : Visit) (depth : Nat) (hit : Bool) (e : Entry) (st : CState)
    (h : st.recursed = true ∨ st.abort.isSome = true ∨ descends ctx depth hit e st = true) :
    (stepG ctx rec child cn depth hit e st).recursed = true ∨ (stepG ctx rec child cn depth hit e st).abort.isSome = true := by
  have hafter : ∀ (a : Bool) (r : List Visit × Int), (a = false ∨ st.recursed = true ∨ st.abort.isSome = true) →
      (afterAct depth a r st).recursed = true ∨ (afterAct depth a r st).abort.isSome = true := by
    intro a r ha
    unfold afterAct
    by_cases h1 : r.2 < (depth : Int)
    · rw [if_pos h1]; exact Or.inr rfl
    · rw [if_neg h1]
      cases a with
      | false => exact Or.inl rfl
      | true =>
        rcases ha with ha | ha | ha
        · cases ha
        · exact Or.inl (by simp [ha])
        · exact Or.inr ha
  rw [stepG_eq]
  by_cases hT : (hit && termB ctx.rootDepth depth e && !st.matched && guardB ctx.pm ctx.useFilters cn child.data e) = true
  · rw [if_pos hT]
    -- a terminal entry: this step does not descend
    have hnd : descends ctx depth hit e st = false := by
      simp only [Bool.and_eq_true, termB] at hT
      simp only [descends, hT.1.1.2, Bool.not_true, Bool.and_false, Bool.false_and]
    rw [hnd] at h
    exact hafter true _ (Or.inr (h.imp_right fun h => h.resolve_right Bool.false_ne_true))
  · rw [if_neg hT]
    by_cases hR : (hit && !termB ctx.rootDepth depth e && !st.recursed) = true
    · rw [if_pos hR]; exact hafter false _ (Or.inl rfl)
    · rw [if_neg hR]
      rcases h with h | h | h
      · exact Or.inl h
      · exact Or.inr h
      · exact absurd h hR

def checkEntriesC (ctx : TCtx) (recC : RecC) (child : Node) (cn : Visit) (depth : Nat) (known : Option Nat) :
    List Entry → Nat → CState → CState × Nat
  | [], _, st => (st, 0)
  | e :: es, idx, st =>
    if st.done || st.abort.isSome then (st, 0) else
    let r := checkEntriesC ctx recC child cn depth known es (idx + 1)
      (stepG ctx (projR recC) child cn depth (decide (known = some idx) || hitB (depth - ctx.rootDepth) child.name e) e st)
    -- one entry examined, plus the tests of the recursive call when this step descends
    (r.1, r.2 + 1 + (if descends ctx depth (decide (known = some idx) || hitB (depth - ctx.rootDepth) child.name e) e st = true
                     then (recC child cn (depth + 1)).2 else 0))

theorem wb_checkEntriesC_fst (ctx : TCtx) (recC : RecC) (child : Node) (cn : Visit) (depth : Nat) (known : Option Nat) :
    ∀ (es : List Entry) (idx : Nat) (st : CState),
      (checkEntriesC ctx recC child cn depth known es idx st).1 = checkEntries ctx (projR recC) child cn depth known es idx st := by
  intro es
  induction es with
  | nil => intro idx st; rfl
  | cons e es ih =>
    intro idx st
    rw [checkEntries_cons]
    simp only [checkEntriesC]
    split
    · rfl
    · exact ih _ _

theorem wb_checkEntriesC_cost (ctx : TCtx) (recC : RecC) (child : Node) (cn : Visit) (depth : Nat) (known : Option Nat) (C : Nat)
    (hC : (recC child cn (depth + 1)).2 ≤ C) :
    ∀ (es : List Entry) (idx : Nat) (st : CState),
      ((st.recursed = true ∨ st.abort.isSome = true) → (checkEntriesC ctx recC child cn depth known es idx st).2 ≤ es.length) ∧
      (checkEntriesC ctx recC child cn depth known es idx st).2 ≤ es.length + C := by
  intro es
  induction es with
  | nil => intro idx st; exact ⟨fun _ => Nat.le_refl _, Nat.zero_le _⟩
  | cons e es ih =>
    intro idx st
    simp only [checkEntriesC]
    by_cases hgo : (st.done || st.abort.isSome) = true
    · rw [if_pos hgo]; exact ⟨fun _ => Nat.zero_le _, Nat.zero_le _⟩
    · rw [if_neg hgo]
      obtain ⟨i1, i2⟩ := ih (idx + 1)
        (stepG ctx (projR recC) child cn depth (decide (known = some idx) || hitB (depth - ctx.rootDepth) child.name e) e st)
      simp only [List.length_cons]
      by_cases hd : descends ctx depth (decide (known = some idx) || hitB (depth - ctx.rootDepth) child.name e) e st = true
      · -- the one step that descends: afterwards the recursive call's tests are not charged again
        rw [if_pos hd]
        have hr := i1 (wb_stepG_recursed ctx (projR recC) child cn depth _ e st (Or.inr (Or.inr hd)))
        refine ⟨fun h => ?_, by omega⟩
        simp only [descends, Bool.and_eq_true, Bool.not_eq_true'] at hd
        rcases h with h | h
        · rw [hd.2] at h; cases h
        · exact absurd (by simp [h]) hgo
      · rw [if_neg hd]
        refine ⟨fun h => ?_, by omega⟩
        have := i1 (wb_stepG_recursed ctx (projR recC) child cn depth _ e st (h.imp_right Or.inl))
        omega

def checkChildC (ctx : TCtx) (recC : RecC) (child : Node) (names : Visit) (depth : Nat) (known : Option Nat) :
    (List Visit × Option Int) × Nat :=
  ((( checkEntriesC ctx recC child (names ++ [child.name]) depth known (activeEntries ctx.pm (depth - ctx.rootDepth)) 0 {}).1.visits,
    (checkEntriesC ctx recC child (names ++ [child.name]) depth known (activeEntries ctx.pm (depth - ctx.rootDepth)) 0 {}).1.abort),
   (checkEntriesC ctx recC child (names ++ [child.name]) depth known (activeEntries ctx.pm (depth - ctx.rootDepth)) 0 {}).2)

theorem wb_checkChildC_fst (ctx : TCtx) (recC : RecC) (child : Node) (names : Visit) (depth : Nat) (known : Option Nat) :
    (checkChildC ctx recC child names depth known).1 = checkChild ctx (projR recC) child names depth known := by
  unfold checkChildC checkChild
  simp only [wb_checkEntriesC_fst]

theorem wb_checkChildC_cost (ctx : TCtx) (recC : RecC) (child : Node) (names : Visit) (depth : Nat) (known : Option Nat) (C : Nat)
    (hC : (recC child (names ++ [child.name]) (depth + 1)).2 ≤ C) :
    (checkChildC ctx recC child names depth known).2 ≤ pmNumEntries ctx.pm + C := by
  have := (wb_checkEntriesC_cost ctx recC child (names ++ [child.name]) depth known C hC
    (activeEntries ctx.pm (depth - ctx.rootDepth)) 0 {}).2
  have := wb_activeEntries_length ctx.pm (depth - ctx.rootDepth)
  unfold checkChildC
  simp only []
  omega

def travKidsC (ctx : TCtx) (recC : RecC) (names : Visit) (depth : Nat) : List Node → List Visit → (List Visit × Int) × Nat
  | [], acc => ((acc, depth), 0)
  | k :: r, acc =>
    match checkChildC ctx recC k names depth none with
    | ((vs, some d), c) => ((acc ++ vs, d), c)
    | ((vs, none), c) => ((travKidsC ctx recC names depth r (acc ++ vs)).1, (travKidsC ctx recC names depth r (acc ++ vs)).2 + c)

theorem wb_travKidsC (ctx : TCtx) (recC : RecC) (names : Visit) (depth : Nat) : ∀ (kids : List Node) (acc : List Visit),
    (travKidsC ctx recC names depth kids acc).1 = travKids ctx (projR recC) names depth kids acc ∧
    (travKidsC ctx recC names depth kids acc).2 ≤ (kids.map (fun k => (checkChildC ctx recC k names depth none).2)).sum := by
  intro kids
  induction kids with
  | nil => intro acc; exact ⟨rfl, Nat.le_refl _⟩
  | cons k r ih =>
    intro acc
    rw [travKidsC, travKids, ← wb_checkChildC_fst, List.map_cons, List.sum_cons]
    generalize checkChildC ctx recC k names depth none = R
    obtain ⟨⟨vs, o⟩, c⟩ := R
    cases o with
    | some d => exact ⟨rfl, Nat.le_add_right _ _⟩
    | none => exact ⟨(ih _).1, by have := (ih (acc ++ vs)).2; simp only at this ⊢; omega⟩

def lookupElemsC (ctx : TCtx) (recC : RecC) (node : Node) (names : Visit) (depth : Nat) (idx : Nat) :
    List Bytes → List Bytes → List Visit → (List Visit × List Bytes × Option Int) × Nat
  | [], did, acc => ((acc, did, none), 0)
  | el :: els, did, acc =>
    match findKid (unescape el) node.kids with
    | none => lookupElemsC ctx recC node names depth idx els did acc
    | some k =>
      if did.contains (unescape el) then lookupElemsC ctx recC node names depth idx els did acc else
      match checkChildC ctx recC k names depth (some idx) with
      | ((vs, some d), c) => ((acc ++ vs, did, some d), c)
      | ((vs, none), c) =>
        ((lookupElemsC ctx recC node names depth idx els (unescape el :: did) (acc ++ vs)).1,
         (lookupElemsC ctx recC node names depth idx els (unescape el :: did) (acc ++ vs)).2 + c)

theorem wb_lookupElemsC (ctx : TCtx) (recC : RecC) (node : Node) (names : Visit) (depth : Nat) (idx : Nat) :
    ∀ (els : List Bytes) (did : List Bytes) (acc : List Visit),
      (lookupElemsC ctx recC node names depth idx els did acc).1 = lookupElems ctx (projR recC) node names depth idx els did acc ∧
      (lookupElemsC ctx recC node names depth idx els did acc).2 ≤
        ((firstByName (elemCands node idx els) did).map (fun p => (checkChildC ctx recC p.1 names depth p.2).2)).sum := by
  intro els
  induction els with
  | nil => intro did acc; exact ⟨rfl, Nat.le_refl _⟩
  | cons el els ih =>
    intro did acc
    rw [lookupElemsC, lookupElems, elemCands, List.filterMap_cons]
    cases hf : findKid (unescape el) node.kids with
    | none => exact ih did acc
    | some k =>
      simp only [Option.map_some, firstByName, findKid_name hf]
      by_cases hd : did.contains (unescape el) = true
      · simp only [hd, if_true]; exact ih did acc
      · simp only [hd, Bool.false_eq_true, if_false, ← wb_checkChildC_fst, List.map_cons, List.sum_cons]
        generalize checkChildC ctx recC k names depth (some idx) = R
        obtain ⟨⟨vs, o⟩, c⟩ := R
        cases o with
        | some d => exact ⟨rfl, Nat.le_add_right _ _⟩
        | none => exact ⟨(ih _ _).1, by have := (ih (unescape el :: did) (acc ++ vs)).2; simp only [elemCands] at this ⊢; omega⟩

def travLookupsC (ctx : TCtx) (recC : RecC) (node : Node) (names : Visit) (depth : Nat) :
    List Entry → Nat → List Bytes → List Visit → (List Visit × Int) × Nat
  | [], _, _, acc => ((acc, depth), 0)
  | e :: es, idx, did, acc =>
    match lookupElemsC ctx recC node names depth idx
        (if isUVList ((e.clauses[depth - ctx.rootDepth]?).getD []) = true
         then (splitCommas ((e.clauses[depth - ctx.rootDepth]?).getD [])).filter (fun x => !x.isEmpty)
         else [(e.clauses[depth - ctx.rootDepth]?).getD []]) did acc with
    | ((acc', _, some d), c) => ((acc', d), c)
    | ((acc', did', none), c) =>
      ((travLookupsC ctx recC node names depth es (idx + 1) did' acc').1,
       (travLookupsC ctx recC node names depth es (idx + 1) did' acc').2 + c)

theorem travLookupsC_cons (ctx : TCtx) (recC : RecC) (node : Node) (names : Visit) (depth : Nat) (e : Entry) (es : List Entry)
    (idx : Nat) (did : List Bytes) (acc : List Visit) :
    travLookupsC ctx recC node names depth (e :: es) idx did acc =
      match lookupElemsC ctx recC node names depth idx (elemsOf ((e.clauses[depth - ctx.rootDepth]?).getD [])) did acc with
      | ((acc', _, some d), c) => ((acc', d), c)
      | ((acc', did', none), c) =>
        ((travLookupsC ctx recC node names depth es (idx + 1) did' acc').1,
         (travLookupsC ctx recC node names depth es (idx + 1) did' acc').2 + c) := rfl

theorem wb_travLookupsC (ctx : TCtx) (recC : RecC) (node : Node) (names : Visit) (depth : Nat) :
    ∀ (es : List Entry) (idx : Nat) (did : List Bytes) (acc : List Visit),
      (travLookupsC ctx recC node names depth es idx did acc).1 = travLookups ctx (projR recC) node names depth es idx did acc ∧
      (travLookupsC ctx recC node names depth es idx did acc).2 ≤
        ((firstByName (lkCands node (depth - ctx.rootDepth) es idx) did).map
          (fun p => (checkChildC ctx recC p.1 names depth p.2).2)).sum := by
  intro es
  induction es with
  | nil => intro idx did acc; exact ⟨rfl, Nat.le_refl _⟩
  | cons e es ih =>
    intro idx did acc
    obtain ⟨l1, l2⟩ := wb_lookupElemsC ctx recC node names depth idx (elemsOf ((e.clauses[depth - ctx.rootDepth]?).getD [])) did acc
    -- without an abort the `alreadyDid` set the next entry starts from is the one `lkCands` is thinned by
    have l3 := (lookupElems_scan ctx (projR recC) node names depth idx (elemsOf ((e.clauses[depth - ctx.rootDepth]?).getD [])) did acc).2.2
    rw [← l1] at l3
    rw [travLookupsC_cons, travLookups_cons, ← l1, lkCands, firstByName_append, List.map_append, List.sum_append]
    generalize lookupElemsC ctx recC node names depth idx (elemsOf ((e.clauses[depth - ctx.rootDepth]?).getD [])) did acc = R at l2 l3 ⊢
    obtain ⟨⟨acc', did', o⟩, c⟩ := R
    cases o with
    | some d => exact ⟨rfl, Nat.le_trans l2 (Nat.le_add_right _ _)⟩
    | none =>
      rw [← l3 rfl]
      exact ⟨(ih _ _ _).1, by have := (ih (idx + 1) did' acc').2; simp only at l2 this ⊢; omega⟩

def travLevelC (ctx : TCtx) (recC : RecC) (node : Node) (names : Visit) (depth : Nat) : (List Visit × Int) × Nat :=
  if parsersHaveWildcards ctx.pm (depth - ctx.rootDepth) then travKidsC ctx recC names depth node.kids []
  else travLookupsC ctx recC node names depth (activeEntries ctx.pm (depth - ctx.rootDepth)) 0 [] []

theorem wb_travLevelC (ctx : TCtx) (recC : RecC) (node : Node) (names : Visit) (depth : Nat) :
    (travLevelC ctx recC node names depth).1 = travLevel ctx (projR recC) node names depth ∧
    (travLevelC ctx recC node names depth).2 ≤
      ((levelKids ctx.pm ctx.rootDepth node depth).map (fun p => (checkChildC ctx recC p.1 names depth p.2).2)).sum := by
  unfold travLevelC travLevel levelKids
  by_cases hw : parsersHaveWildcards ctx.pm (depth - ctx.rootDepth) = true
  · simp only [hw, if_true, List.map_map]; exact wb_travKidsC ctx recC names depth _ _
  · simp only [hw, Bool.false_eq_true, if_false]; exact wb_travLookupsC ctx recC node names depth _ _ _ _

theorem wb_travLevelC_cost (ctx : TCtx) (recC : RecC) (node : Node) (names : Visit) (depth : Nat) (W : Node → Nat)
    (hW : ∀ (k : Node) (n : Visit) (d : Nat), (recC k n d).2 ≤ W k) :
    (travLevelC ctx recC node names depth).2 ≤ (node.kids.map (fun k => pmNumEntries ctx.pm + W k)).sum :=
  Nat.le_trans (wb_travLevelC ctx recC node names depth).2
    (Nat.le_trans (sum_map_le _ (fun p => pmNumEntries ctx.pm + W p.1) _
        (fun p _ => wb_checkChildC_cost ctx recC p.1 names depth p.2 (W p.1) (hW _ _ _)))
      (levelKids_sum_le (fun k => pmNumEntries ctx.pm + W k) ctx.pm ctx.rootDepth node depth))

/-- `DoTraversalAux` with the number of pattern-entry tests -/
def travAuxC (ctx : TCtx) : Nat → Node → Visit → Nat → (List Visit × Int) × Nat
  | 0, _, _, depth => (([], depth), 0)
  | fuel+1, node, names, depth => travLevelC ctx (travAuxC ctx fuel) node names depth

theorem wb_travAuxC_fst (ctx : TCtx) : ∀ (fuel : Nat) (node : Node) (names : Visit) (depth : Nat),
    (travAuxC ctx fuel node names depth).1 = travAux ctx fuel node names depth := by
  intro fuel
  induction fuel with
  | zero => intro node names depth; rfl
  | succ f ih =>
    intro node names depth
    simp only [travAuxC, travAux]
    rw [(wb_travLevelC ctx (travAuxC ctx f) node names depth).1]
    have : projR (travAuxC ctx f) = travAux ctx f := by
      funext k n d
      exact ih k n d
    rw [this]

theorem wb_sum_mul (c : Node → Nat) (E : Nat) : ∀ l : List Node,
    (l.map (fun k => E + c k * E)).sum = (l.map (fun k => 1 + c k)).sum * E := by
  intro l
  induction l with
  | nil => simp
  | cons a r ih =>
    simp only [List.map_cons, List.sum_cons, ih, Nat.add_mul, Nat.one_mul]

theorem wb_travAuxC_cost (ctx : TCtx) : ∀ (fuel : Nat) (node : Node) (names : Visit) (depth : Nat),
    (travAuxC ctx fuel node names depth).2 ≤ wbCnt fuel node * pmNumEntries ctx.pm := by
  intro fuel
  induction fuel with
  | zero => intro node names depth; exact Nat.zero_le _
  | succ f ih =>
    intro node names depth
    have := wb_travLevelC_cost ctx (travAuxC ctx f) node names depth (fun k => wbCnt f k * pmNumEntries ctx.pm)
      (fun k n d => ih k n d)
    rw [wb_sum_mul] at this
    simpa only [travAuxC, wbCnt] using this

end Muscle.Reflector
