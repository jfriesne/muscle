import MuscleModel.Reflector.SyncFor

/-!
# `RemoveChild` (recursive) and REMOVEDATA keep every subscriber in sync (C04)

* `syncKept_removeOne` (a node with no existing descendant), and by induction over `removalOrder` (children first, always the first
  remaining child) `syncKept_removeChild`;
* `syncKept_removeData`: the handler (a fold of `removeChild` over the visits of the session traversal).
-/


namespace Muscle.Reflector
open Muscle Muscle.Eng.SrvEngine

theorem removalOrder_leaf (fuel : Nat) (names : List Bytes) (n : Node) (h : n.kids = []) :
    removalOrder fuel names n = [names] := by
  cases fuel with
  | zero => rfl
  | succ f => simp [removalOrder, h]

/-- `removeOne` of a node with no existing descendant (`NoDesc`), for one subscriber, with the caller test given on the state the
    notification runs on (after `removeIndexEntry`) -/
theorem sync_removeOne_core {sv : Server} (h : Inv sv) (a : Nat) (parent : List Bytes) (key : Bytes) {c : Node}
    (hc : getNode sv (parent ++ [key]) = some c) (hnd : NoDesc sv (parent ++ [key]))
    {sid : Nat} {s : Sess} (hs : sv.sess? sid = some s) (hen : s.subsEnabled = true)
    (hcv : ∀ s1, (removeIndexEntry sv parent key true).sess? sid = some s1 →
      ((sid ≠ a ∨ bySelfOf (removeIndexEntry sv parent key true) a = true) ↔ visible s1 (parent ++ [key]) = true))
    (m : Mirror) : ∃ evs, Sync sid s sv (removeOne sv a true (parent ++ [key])) m evs := by
  rw [removeOne_eq a true hc]
  have hq := quiet_removeIndexEntry sid sv parent key true
  generalize hX : removeIndexEntry sv parent key true = X at hq hcv
  have hXt : TreeInv X := by rw [← hX]; exact treeInv_removeIndexEntry _ _ _ h.tree
  have hg : Grow 0 [] (cSlash ∉ ·) sv X := by rw [← hX]; exact removeIndexEntry_grow sv key true List.nil_prefix
  have hXk : MK X := h.marks.of_grow hg
  have hXn : NS X := NS.of_data hg.data h.noSlash
  obtain ⟨c', hc', _⟩ := Option.map_eq_some_iff.1 ((hq.data (parent ++ [key])).trans (congrArg _ hc))
  have hndX : NoDesc X (parent ++ [key]) := fun ext he =>
    Option.map_eq_none_iff.1 ((hq.data (parent ++ [key] ++ ext)).trans (congrArg _ (hnd ext he)))
  obtain ⟨s1, hs1, hc1⟩ := hq.pipe.sess hs
  have h2 := sync_removeRest hXt hXk parent key hc' hndX (hXn.unamb (hXn.names hc')) hs1
    ((vcore_subsEnabled hc1).trans hen) a (hcv s1 hs1) m
  exact ⟨_, (hq.sync s m).trans (sync_vcore hc1 h2)⟩

theorem Upd.parent_kids {parent : List Bytes} {key : Bytes} {sv sv' : Server} (h : Upd (parent ++ [key]) sv sv') {p : Node}
    (hp : getNode sv parent = some p) : ∃ p', getNode sv' parent = some p' ∧ removeKid key p'.kids = removeKid key p.kids := by
  obtain ⟨f, hf, e⟩ := h
  rw [getNode_congr e, getNode_setNode_prefix hf, hp]
  refine ⟨_, rfl, ?_⟩
  dsimp only
  cases hk : fuelDepth - parent.length with
  | zero => rw [updateAt_zero_cons]
  | succ k =>
    rw [updateAt_succ_cons]
    cases hf' : findKid key p.kids with
    | none => rfl
    | some c =>
      simp only [Node.setKids_kids]
      have hn : (updateAt k c [] f).name = key := by rw [updateAt_name hf]; exact findKid_name hf'
      rw [← hn, removeKid_putKid]

theorem foldl_removeOne_too_long (by_ : Nat) (qs : List (List Bytes)) (sv : Server) (h : ∀ q ∈ qs, fuelDepth < q.length) :
    qs.foldl (fun sv nm => removeOne sv by_ true nm) sv = sv := by
  induction qs generalizing sv with
  | nil => rfl
  | cons q r ih =>
    simp only [List.foldl_cons]
    rw [removeOne_absent by_ true (getNode_too_long sv q (h q List.mem_cons_self))]
    exact ih sv (fun q' hq' => h q' (List.mem_cons_of_mem _ hq'))

theorem syncKept_removeOne {sv : Server} (h : Inv sv) {a : Nat} {own : List Bytes} (ho : ownerName own = some (sidName a))
    (parent : List Bytes) (key : Bytes) (hpre : own <+: parent ++ [key]) {c : Node}
    (hc : getNode sv (parent ++ [key]) = some c) (hnd : NoDesc sv (parent ++ [key])) :
    SyncKept Inv sv (removeOne sv a true (parent ++ [key])) :=
  ⟨fun _ _ hs hen m => sync_removeOne_core h a parent key hc hnd hs hen
    (fun _ hs1 => caller_visible_owner hs1 (ownerName_extend ho hpre)) m, h.removeOne a _⟩

/-- `RemoveChild` of the subtree at `parent ++ [key]` (node `n0` with the kids of the static node `n` the order was
    computed from), in the sender's own subtree; afterwards the node at `parent` has lost the child `key` only.  `fuel` is the fuel of
    `removalOrder`: with `fuelDepth ≤ fuel + depth`, at `fuel = 0` the node sits at the depth the model sees and has no descendant
    (`noDesc_of_long`) -/
theorem syncKept_removalOrder (a : Nat) (own : List Bytes) (ho : ownerName own = some (sidName a)) :
    ∀ (fuel : Nat) (parent : List Bytes) (key : Bytes) (n : Node) (sv : Server), Inv sv →
      own <+: parent ++ [key] → ∀ n0, getNode sv (parent ++ [key]) = some n0 → n0.kids = n.kids →
      fuelDepth ≤ fuel + (parent ++ [key]).length →
      SyncKept Inv sv ((removalOrder fuel (parent ++ [key]) n).foldl (fun sv nm => removeOne sv a true nm) sv) ∧
      (∀ p, getNode sv parent = some p → ∃ p',
        getNode ((removalOrder fuel (parent ++ [key]) n).foldl (fun sv nm => removeOne sv a true nm) sv) parent = some p' ∧
        p'.kids = removeKid key p.kids) := by
  intro fuel
  induction fuel with
  | zero =>
    intro parent key n sv hinv hpre n0 hn0 _ hlen
    simp only [removalOrder, List.foldl_cons, List.foldl_nil]
    exact ⟨syncKept_removeOne hinv ho parent key hpre hn0 (noDesc_of_long sv (by omega)),
      fun p hp => ⟨_, getNode_removeOne a true hp hn0, by simp⟩⟩
  | succ fuel ih =>
    intro parent key n sv hinv hpre n0 hn0 hkids hlen
    rw [removalOrder_eq, List.foldl_append]
    simp only [List.foldl_cons, List.foldl_nil]
    -- the descendants' phase
    have hdesc : ∃ sv1, sv1 = (removalDesc (fuel + 1) (parent ++ [key]) n).foldl (fun sv nm => removeOne sv a true nm) sv ∧
        SyncKept Inv sv sv1 ∧ ∃ nf, getNode sv1 (parent ++ [key]) = some nf ∧ NoDesc sv1 (parent ++ [key]) := by
      refine ⟨_, rfl, ?_⟩
      by_cases hdeep : fuelDepth ≤ (parent ++ [key]).length
      · -- below the depth the model sees no node exists: every step is a no-op
        have hall : ∀ q ∈ removalDesc (fuel + 1) (parent ++ [key]) n, fuelDepth < q.length := by
          intro q hq
          obtain ⟨e, x, rfl⟩ := removalDesc_ext _ _ _ q hq
          simp at hdeep ⊢; omega
        rw [foldl_removeOne_too_long a _ sv hall]
        exact ⟨.refl hinv, n0, hn0, noDesc_of_long sv hdeep⟩
      · have hshort : (parent ++ [key]).length < fuelDepth := by omega
        simp only [removalDesc]
        rw [List.foldl_flatMap]
        -- fold over the remaining kids `ks` of the node at `parent ++ [key]`
        have kidsFold : ∀ (ks : List Node) (sv0 : Server) (ni : Node), Inv sv0 →
            getNode sv0 (parent ++ [key]) = some ni → ni.kids = ks →
            SyncKept Inv sv0 (ks.foldl (fun acc k => (removalOrder fuel ((parent ++ [key]) ++ [k.name]) k).foldl
              (fun sv nm => removeOne sv a true nm) acc) sv0) ∧
            ∃ nf, getNode (ks.foldl (fun acc k => (removalOrder fuel ((parent ++ [key]) ++ [k.name]) k).foldl
              (fun sv nm => removeOne sv a true nm) acc) sv0) (parent ++ [key]) = some nf ∧ nf.kids = [] := by
          intro ks
          induction ks with
          | nil => intro sv0 ni hi hni hk; exact ⟨.refl hi, ni, hni, hk⟩
          | cons k ks' ihk =>
            intro sv0 ni hi hni hk
            simp only [List.foldl_cons]
            have hfk : findKid k.name ni.kids = some k := by rw [hk]; simp [findKid]
            have hck : getNode sv0 ((parent ++ [key]) ++ [k.name]) = some k := getNode_child hni k.name hfk hshort
            obtain ⟨k1, pk⟩ := ih (parent ++ [key]) k.name k sv0 hi
              (hpre.trans (List.prefix_append _ _)) k hck rfl (by simp at hlen ⊢; omega)
            obtain ⟨p', hp', hpk⟩ := pk ni hni
            have hks' : p'.kids = ks' := by rw [hpk, hk]; simp [removeKid]
            obtain ⟨k2, nf⟩ := ihk _ p' k1.inv hp' hks'
            exact ⟨k1.trans k2, nf⟩
        obtain ⟨k1, nf, hnf, hnfk⟩ := kidsFold n.kids sv n0 hinv hn0 hkids
        exact ⟨k1, nf, hnf, noDesc_of_leaf hnf hnfk⟩
    obtain ⟨sv1, hsv1, k1, nf, hnf, hnd⟩ := hdesc
    rw [← hsv1]
    have hupd : Upd (parent ++ [key]) sv sv1 := by
      rw [hsv1]
      exact foldl_removeOne_upd a true (parent ++ [key]) _ (removalDesc_ext _ _ _) sv
    refine ⟨k1.trans (syncKept_removeOne k1.inv ho parent key hpre hnf hnd), fun p hp => ?_⟩
    obtain ⟨p1, hp1, hpk⟩ := hupd.parent_kids hp
    exact ⟨_, getNode_removeOne a true hp1 hnf, by simp [hpk]⟩

/-- `parent.RemoveChild(key, notify := a, recurse := true)` for a node of the sender's subtree (strictly below its
    session node) -/
theorem syncKept_removeChild {sv : Server} (h : Inv sv) {a : Nat} {own : List Bytes} (ho : ownerName own = some (sidName a))
    (parent : List Bytes) (key : Bytes) (hpre : own <+: parent ++ [key]) :
    SyncKept Inv sv (removeChild sv a true (parent ++ [key])) := by
  unfold removeChild
  cases hn : getNode sv (parent ++ [key]) with
  | none => exact .refl h
  | some n => exact (syncKept_removalOrder a own ho fuelDepth parent key n sv h hpre n hn rfl (by omega)).1

/-- PR_COMMAND_REMOVEDATA -/
theorem syncKept_removeData {sv : Server} (h : Inv sv) (a : Nat) (keys : List Bytes) :
    SyncKept Inv sv (removeData sv a keys) := by
  unfold removeData
  cases hsa : sv.sess? a with
  | none => exact .refl h
  | some sa =>
    simp only []
    have hvis : ∀ v ∈ (travSession sv sa (pmOfKeys (keys.map (fun k => (k, none))) none) removeDataCb).reverse,
        ∃ parent key, v = parent ++ [key] ∧ sessNames sa <+: parent := by
      intro v hv
      have hv' := List.mem_reverse.1 hv
      have hp := travSession_prefix sv sa _ _ v hv'
      have hl := travSession_length sv sa _ _ v hv'
      obtain ⟨t, rfl⟩ := hp
      have hne : t ≠ [] := by
        intro e; subst e; simp [sessNames] at hl
      refine ⟨sessNames sa ++ t.dropLast, t.getLast hne, ?_, List.prefix_append _ _⟩
      rw [List.append_assoc, List.dropLast_concat_getLast]
    generalize (travSession sv sa (pmOfKeys (keys.map (fun k => (k, none))) none) removeDataCb).reverse = V at hvis
    have ho := ownerName_sessNames hsa
    have : ∀ (V : List (List Bytes)) (sv0 : Server), Inv sv0 →
        (∀ v ∈ V, ∃ parent key, v = parent ++ [key] ∧ sessNames sa <+: parent) →
        SyncKept Inv sv0 (V.foldl (fun sv v => removeChild sv a true v) sv0) := by
      intro V
      induction V with
      | nil => intro sv0 hi _; exact .refl hi
      | cons v r ih =>
        intro sv0 hi hV
        simp only [List.foldl_cons]
        obtain ⟨parent, key, rfl, hpre⟩ := hV _ List.mem_cons_self
        have k1 := syncKept_removeChild hi ho parent key (hpre.trans (List.prefix_append _ _))
        exact k1.trans (ih _ k1.inv (fun v hv => hV v (List.mem_cons_of_mem _ hv)))
    exact this V sv h hvis

end Muscle.Reflector
