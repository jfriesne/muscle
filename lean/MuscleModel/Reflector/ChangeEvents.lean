import MuscleModel.Reflector.SubsWF
import MuscleModel.Reflector.EffectSteps
import MuscleModel.Reflector.Update

/-!
# Which node event reaches which subscriber (`NotifySubscribersThatNodeChanged`), and that it is the right one

* `changeEv s names new old removed`: the event `NodeChanged` hands to `NodeChangedAux` for session `s` — nothing, a set
  or a removal — as a function of the session's subscriptions alone (the filter transition rule).
* `nodeChanged_twin`, `notifyChanged_twin`: the model functions ARE the fold of `feedSrv` (`NodeChangedAux` for one
  event) over `changeEvents`, the explicit list of (session id, event) pairs.
-/


namespace Muscle.Reflector
open Muscle

/-- the filter transition rule of `NodeChanged` -/
def changeEv (s : Sess) (names : List Bytes) (newData : Option Nat) (oldData : Option (Option Nat)) (removed : Bool) :
    Option Ev :=
  if !s.subsEnabled then none else
  let np := pathString names
  if pmNumFilters s.subs > 0 then
    let matchedBefore := match oldData with
      | none => pmMatchesPath s.subs names false none
      | some od => pmMatchesPath s.subs names true od
    if removed then (if matchedBefore then some (.removed np) else none)
    else
      let matchesNow := pmMatchesPath s.subs names true newData
      match oldData with
      | some _ => if matchesNow then some (.set np newData) else (if matchedBefore then some (.removed np) else none)
      | none => if matchesNow then some (.set np newData) else none
  else some (if removed then .removed np else .set np newData)

/-- `NodeChangedAux` for one event -/
def feedSrv (sv : Server) (sid : Nat) : Ev → Server
  | .set np d => nodeChangedAux sv sid np d false
  | .removed np => nodeChangedAux sv sid np none true

theorem nodeChangedAux_removed (sv : Server) (sid : Nat) (np : Bytes) (d : Option Nat) :
    nodeChangedAux sv sid np d true = nodeChangedAux sv sid np none true := by
  unfold nodeChangedAux
  rfl

theorem nodeChanged_twin (sv : Server) (sid : Nat) (names : List Bytes) (newData : Option Nat)
    (oldData : Option (Option Nat)) (removed : Bool) :
    nodeChanged sv sid names newData oldData removed =
      match sv.sess? sid with
      | none => sv
      | some s =>
        match changeEv s names newData oldData removed with
        | none => sv
        | some ev => feedSrv sv sid ev := by
  unfold nodeChanged
  cases hs : sv.sess? sid with
  | none => rfl
  | some s =>
    simp only [changeEv]
    cases hen : s.subsEnabled with
    | false => simp
    | true =>
      simp only [Bool.not_true, Bool.false_eq_true, if_false]
      by_cases hf : pmNumFilters s.subs > 0
      · simp only [hf, if_true]
        cases removed with
        | true =>
          simp only [if_true]
          cases oldData with
          | none =>
            simp only []
            cases pmMatchesPath s.subs names false none with
            | false => simp
            | true => simp [feedSrv]; exact nodeChangedAux_removed ..
          | some od =>
            simp only []
            by_cases hm : pmMatchesPath s.subs names true od = true
            · simp [hm, feedSrv]; exact nodeChangedAux_removed ..
            · simp [hm]
        | false =>
          simp only [Bool.false_eq_true, if_false]
          cases oldData with
          | none =>
            simp only []
            by_cases hm : pmMatchesPath s.subs names true newData = true
            · simp [hm, feedSrv]
            · simp [hm]
          | some od =>
            simp only []
            by_cases hm : pmMatchesPath s.subs names true newData = true
            · simp [hm, feedSrv]
            · by_cases hb : pmMatchesPath s.subs names true od = true
              · simp [hm, hb, feedSrv]; exact nodeChangedAux_removed ..
              · simp [hm, hb]
      · simp only [hf, if_false]
        cases removed with
        | true => simp [feedSrv]; exact nodeChangedAux_removed ..
        | false => simp [feedSrv]

theorem NotifyOnly.sess?_core {a b : Server} (h : NotifyOnly a b) (sid : Nat) :
    (b.sess? sid).map Sess.core = (a.sess? sid).map Sess.core := by
  unfold Server.sess?
  rw [← find?_map_pred Sess.core _ (fun _ => rfl), ← find?_map_pred Sess.core _ (fun _ => rfl), h.2]

theorem changeEv_core (s t : Sess) (h : s.core = t.core) (names : List Bytes) (nd : Option Nat)
    (od : Option (Option Nat)) (removed : Bool) : changeEv s names nd od removed = changeEv t names nd od removed := by
  have h1 : s.subs = t.subs := (congrArg Sess.subs h :)
  have h2 : s.subsEnabled = t.subsEnabled := (congrArg Sess.subsEnabled h :)
  unfold changeEv
  rw [h1, h2]

/-- the event (if any) for session `sid`, decided on the state `sv` -/
def sessEv (sv : Server) (sid : Nat) (names : List Bytes) (nd : Option Nat) (od : Option (Option Nat)) (removed : Bool) :
    Option Ev :=
  (sv.sess? sid).bind (fun s => changeEv s names nd od removed)

theorem sessEv_of_sess? {sv : Server} {sid : Nat} {s : Sess} (hs : sv.sess? sid = some s) (names : List Bytes) (nd : Option Nat)
    (od : Option (Option Nat)) (removed : Bool) : sessEv sv sid names nd od removed = changeEv s names nd od removed := by
  unfold sessEv; rw [hs]; rfl

theorem NotifyOnly.sessEv_eq {a b : Server} (h : NotifyOnly a b) (sid : Nat) (names : List Bytes) (nd : Option Nat)
    (od : Option (Option Nat)) (removed : Bool) : sessEv b sid names nd od removed = sessEv a sid names nd od removed := by
  have := NotifyOnly.sess?_core h sid
  unfold sessEv
  cases hb : b.sess? sid with
  | none =>
    rw [hb] at this
    cases ha : a.sess? sid with
    | none => rfl
    | some s => rw [ha] at this; simp at this
  | some t =>
    rw [hb] at this
    cases ha : a.sess? sid with
    | none => rw [ha] at this; simp at this
    | some s =>
      rw [ha] at this
      simp only [Option.map_some, Option.some.injEq] at this
      simp only [Option.bind_some]
      exact changeEv_core t s this names nd od removed

theorem nodeChanged_sessEv (sv : Server) (sid : Nat) (names : List Bytes) (nd : Option Nat)
    (od : Option (Option Nat)) (removed : Bool) :
    nodeChanged sv sid names nd od removed =
      match sessEv sv sid names nd od removed with
      | none => sv
      | some ev => feedSrv sv sid ev := by
  rw [nodeChanged_twin]
  unfold sessEv
  cases sv.sess? sid with
  | none => rfl
  | some s => rfl

theorem feedSrv_notifyOnly (sv : Server) (sid : Nat) (ev : Ev) : NotifyOnly sv (feedSrv sv sid ev) := by
  cases ev with
  | set np d => exact (nodeChangedAux_notif ..).notifyOnly
  | removed np => exact (nodeChangedAux_notif ..).notifyOnly

/-- whether the caller `by_` reflects its own changes to itself -/
def bySelfOf (sv : Server) (by_ : Nat) : Bool := match sv.sess? by_ with | some s => s.reflectSelf | none => false

/-- the (session id, event) pairs `NotifySubscribersThatNodeChanged` produces, in the order of the node's
    subscriber table, all decided on the state before the call -/
def changeEvents (sv : Server) (by_ : Nat) (names : List Bytes) (node : Node) (od : Option (Option Nat))
    (removed : Bool) : List (Nat × Ev) :=
  node.subs.filterMap (fun (p : Nat × Nat) =>
    if p.1 ≠ by_ || bySelfOf sv by_ then (sessEv sv p.1 names node.data od removed).map (fun ev => (p.1, ev)) else none)

theorem notifyChanged_twin (sv : Server) (by_ : Nat) (names : List Bytes) (node : Node) (od : Option (Option Nat))
    (removed : Bool) :
    notifyChanged sv by_ names node od removed =
      (changeEvents sv by_ names node od removed).foldl (fun sv (p : Nat × Ev) => feedSrv sv p.1 p.2) sv := by
  unfold notifyChanged changeEvents
  -- generalise the running state: it differs from `sv` by notifications only
  suffices H : ∀ (bs : Bool) (l : List (Nat × Nat)) (cur : Server), NotifyOnly sv cur →
      l.foldl (fun sv (x : Nat × Nat) =>
        if x.1 ≠ by_ || bs then nodeChanged sv x.1 names node.data od removed else sv) cur =
      (l.filterMap (fun (p : Nat × Nat) =>
        if p.1 ≠ by_ || bs then (sessEv sv p.1 names node.data od removed).map (fun ev => (p.1, ev)) else none)).foldl
        (fun sv (p : Nat × Ev) => feedSrv sv p.1 p.2) cur by
    exact H (bySelfOf sv by_) node.subs sv (NotifyOnly.refl sv)
  intro bs
  intro l
  induction l with
  | nil => intro cur _; rfl
  | cons x r ih =>
    intro cur hcur
    simp only [List.foldl_cons, List.filterMap_cons]
    by_cases hx : (x.1 ≠ by_ || bs) = true
    · simp only [hx, if_true]
      rw [nodeChanged_sessEv, NotifyOnly.sessEv_eq hcur]
      cases hev : sessEv sv x.1 names node.data od removed with
      | none => simp only [Option.map_none]; exact ih cur hcur
      | some ev =>
        simp only [Option.map_some, List.foldl_cons]
        exact ih _ (hcur.trans (feedSrv_notifyOnly cur x.1 ev))
    · simp only [hx, if_false, Bool.false_eq_true]
      exact ih cur hcur

theorem mem_changeEvents {sv : Server} {by_ : Nat} {names : List Bytes} {node : Node} {od : Option (Option Nat)}
    {removed : Bool} {sid : Nat} {ev : Ev} :
    (sid, ev) ∈ changeEvents sv by_ names node od removed ↔
      (∃ c, (sid, c) ∈ node.subs) ∧ (sid ≠ by_ ∨ bySelfOf sv by_ = true) ∧
        sessEv sv sid names node.data od removed = some ev := by
  unfold changeEvents
  simp only [List.mem_filterMap]
  constructor
  · rintro ⟨⟨k, c⟩, hm, hx⟩
    simp only [] at hx
    split at hx
    · rename_i hc
      cases hse : sessEv sv k names node.data od removed with
      | none => rw [hse] at hx; simp at hx
      | some e =>
        rw [hse] at hx
        simp only [Option.map_some, Option.some.injEq, Prod.mk.injEq] at hx
        obtain ⟨rfl, rfl⟩ := hx
        exact ⟨⟨c, hm⟩, by simpa using hc, hse⟩
    · cases hx
  · rintro ⟨⟨c, hm⟩, hc, hse⟩
    refine ⟨(sid, c), hm, ?_⟩
    simp only []
    rw [if_pos (by simpa using hc), hse]
    rfl

theorem changeEvents_nodup (sv : Server) (by_ : Nat) (names : List Bytes) (node : Node) (od : Option (Option Nat))
    (removed : Bool) (h : (node.subs.map (·.1)).Nodup) :
    ((changeEvents sv by_ names node od removed).map (·.1)).Nodup := by
  have key : ∀ (x : Nat × Nat) (b : Nat × Ev), (if (x.1 ≠ by_ || bySelfOf sv by_) = true then
      (sessEv sv x.1 names node.data od removed).map (fun ev => (x.1, ev)) else none) = some b → b.1 = x.1 := by
    intro x b hb
    split at hb
    · cases hse : sessEv sv x.1 names node.data od removed with
      | none => rw [hse] at hb; simp at hb
      | some e => rw [hse] at hb; simp at hb; rw [← hb]
    · cases hb
  unfold changeEvents
  generalize node.subs = l at h
  induction l with
  | nil => simp
  | cons x r ih =>
    simp only [List.map_cons, List.nodup_cons] at h
    simp only [List.filterMap_cons]
    split
    · exact ih h.2
    · rename_i b hb
      simp only [List.map_cons, List.nodup_cons]
      refine ⟨?_, ih h.2⟩
      intro hm
      obtain ⟨q, hq, hq1⟩ := List.mem_map.1 hm
      obtain ⟨y, hy, hyq⟩ := List.mem_filterMap.1 hq
      apply h.1
      rw [← key x b hb, ← hq1, key y q hyq]
      exact List.mem_map_of_mem hy

/-! ## the filter transition rule is sound for one node and one subscriber

`wants s v d` = some subscription entry of `s` matches the path `v` and its filter accepts the payload `d`
(`PathMatcher::MatchesPath(path, data)`), i.e. the node belongs to the view `s` should hold.  `entryFor s v x` = what the
mirror of `s` should hold at that path (`x = none`: the node does not exist).  `applyOpt` = apply the event, if any. -/

def wants (s : Sess) (v : List Bytes) (d : Option Nat) : Bool := pmMatchesPath s.subs v true d

def entryFor (s : Sess) (v : List Bytes) : Option (Option Nat) → Option (Option Nat)
  | none => none
  | some x => if wants s v x then some x else none

def applyOpt (m : Mirror) : Option Ev → Mirror
  | none => m
  | some e => applyEv m e

theorem filter_none_of_numFilters_zero {pm : PM} (h : pmNumFilters pm = 0) (k : Nat) : ∀ e ∈ pmGroup pm k, e.filter = none := by
  induction pm with
  | nil => intro e he; simp [pmGroup] at he
  | cons g r ih =>
    obtain ⟨k0, es⟩ := g
    have h' : (es.filter (fun e => e.filter.isSome)).length + pmNumFilters r = 0 := h
    have h1 : (es.filter (fun e => e.filter.isSome)).length = 0 := by omega
    have h2 : pmNumFilters r = 0 := by omega
    intro e he
    rw [pmGroup] at he
    split at he
    · have : es.filter (fun e => e.filter.isSome) = [] := List.length_eq_zero_iff.1 h1
      rw [List.filter_eq_nil_iff] at this
      have := this e he
      cases hf : e.filter with
      | none => rfl
      | some f => rw [hf] at this; simp at this
    · exact ih h2 e he

/-- without filters the payload is irrelevant: matched iff the match count is positive -/
theorem wants_nofilters {s : Sess} (h : pmNumFilters s.subs = 0) (v : List Bytes) (d : Option Nat) :
    wants s v d = decide (0 < pmMatchCount s.subs v) := by
  unfold wants
  rw [← pmMatchesPath_nodata s.subs v d]
  unfold pmMatchesPath
  have hn := filter_none_of_numFilters_zero h v.length
  generalize pmGroup s.subs v.length = es at hn
  induction es with
  | nil => rfl
  | cons e r ih =>
    simp only [List.any_cons]
    rw [ih (fun x hx => hn x (List.mem_cons_of_mem _ hx))]
    have : e.filter = none := hn e List.mem_cons_self
    simp [Entry.filterOk, this]

theorem wants_pos {s : Sess} {v : List Bytes} {d : Option Nat} (h : wants s v d = true) : 0 < pmMatchCount s.subs v := by
  unfold wants at h
  rw [pmMatchesPath_sel, List.any_eq_true] at h
  obtain ⟨e, he, _⟩ := h
  exact List.length_pos_of_mem he

theorem Mirror.upd_same (m : Mirror) (p : Bytes) (x : Option (Option Nat)) : (m.upd p x) p = x := by
  simp [Mirror.upd]

theorem Mirror.upd_other (m : Mirror) (p q : Bytes) (x : Option (Option Nat)) (h : q ≠ p) : (m.upd p x) q = m q := by
  simp [Mirror.upd, h]

theorem changeEv_path {s : Sess} {v : List Bytes} {nd : Option Nat} {od : Option (Option Nat)} {r : Bool} {e : Ev}
    (h : changeEv s v nd od r = some e) : e = .set (pathString v) nd ∨ e = .removed (pathString v) := by
  -- every branch of the rule that emits anything emits at `pathString v`
  unfold changeEv at h
  grind

theorem changeEv_other (s : Sess) (v : List Bytes) (nd : Option Nat) (od : Option (Option Nat)) (r : Bool) (m : Mirror)
    (q : Bytes) (hq : q ≠ pathString v) : (applyOpt m (changeEv s v nd od r)) q = m q := by
  cases h : changeEv s v nd od r with
  | none => rfl
  | some e =>
    rcases changeEv_path h with rfl | rfl
    · exact Mirror.upd_other _ _ _ _ hq
    · exact Mirror.upd_other _ _ _ _ hq

/-- The filter transition rule as the client sees it: whatever `NodeChanged` hands to `s` for a change of the node at `v` from
    payload `x` (`none`: no node) to `nd` (or to no node: `removed`), it turns the right entry for `x` into the right entry
    for the new state.  `hpos` is used without filters only: then every set is forwarded unexamined, and it is wanted because only
    the sessions in the node's subscriber table are notified at all (`marked_eq_matches`). -/
theorem changeEv_entry (s : Sess) (hen : s.subsEnabled = true) (v : List Bytes) (m : Mirror) (x : Option (Option Nat))
    (nd : Option Nat) (removed : Bool) (hpos : removed = false → 0 < pmMatchCount s.subs v)
    (hm : m (pathString v) = entryFor s v x) :
    (applyOpt m (changeEv s v nd x removed)) (pathString v) = entryFor s v (if removed then none else some nd) := by
  unfold changeEv
  simp only [hen, Bool.not_true, Bool.false_eq_true, if_false]
  by_cases hf : pmNumFilters s.subs > 0
  · simp only [hf, if_true]
    -- with filters: the old entry is there iff the old payload matched, the new one iff the new payload matches
    have hold : ∀ od, pmMatchesPath s.subs v true od = false → m (pathString v) = entryFor s v (some od) → m (pathString v) = none :=
      fun od h e => by rw [e]; simp [entryFor, wants, h]
    cases removed with
    | true =>
      cases x with
      | none => cases pmMatchesPath s.subs v false none <;> simp [applyOpt, applyEv, Mirror.upd_same, entryFor, hm]
      | some od =>
        cases hb : pmMatchesPath s.subs v true od with
        | true => simp [hb, applyOpt, applyEv, Mirror.upd_same, entryFor]
        | false => simpa [hb, applyOpt, entryFor] using hold od hb hm
    | false =>
      cases hnow : pmMatchesPath s.subs v true nd with
      | true => cases x <;> simp [applyOpt, applyEv, Mirror.upd_same, entryFor, wants, hnow]
      | false =>
        cases x with
        | none => simp [applyOpt, entryFor, wants, hnow, hm]
        | some od =>
          cases hb : pmMatchesPath s.subs v true od with
          | true => simp [hb, applyOpt, applyEv, Mirror.upd_same, entryFor, wants, hnow]
          | false => simpa [hb, applyOpt, entryFor, wants, hnow] using hold od hb hm
  · have h0 : pmNumFilters s.subs = 0 := by omega
    cases removed with
    | true => simp [hf, applyOpt, applyEv, Mirror.upd_same, entryFor]
    | false =>
      simp only [hf, if_false, applyOpt, applyEv, Mirror.upd_same, entryFor, Bool.false_eq_true]
      rw [wants_nofilters h0]
      simp [hpos rfl]

theorem applyOpt_toList (m : Mirror) (e : Option Ev) : e.toList.foldl applyEv m = applyOpt m e := by
  cases e <;> rfl

end Muscle.Reflector
