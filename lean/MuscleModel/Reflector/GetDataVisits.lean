import MuscleModel.Reflector.SyncSteps

/-!
# The traversal with `GetDataCallback`

`cbG own` = `GetDataCallback` of a plain session whose session node is named `own`: `(false, 2)` on the nodes of its own
subtree, `(true, depth)` elsewhere.  The plan of actions for a child (`checkChild_eq`) and the children a level looks at
(`travLevel_eq_scan`) do not depend on the callback, so the traversal with `cbG own` is compared with the one under the
continue-callback action by action: inside the own subtree nothing is recorded and the traversal unwinds to depth 2 at
most; below any other session node the two are equal; at the host and root levels every action returns the child's
depth under both.  `travG_mem`: the visits are those of the continue-callback outside the own subtree; hence the visits
of every `GetDataCallback` traversal (`visits_getDataCb`).
-/

namespace Muscle.Reflector
open Muscle

def TCtx.withCb (ctx : TCtx) (cb : Visit → Nat → Node → Bool × Int) : TCtx := { ctx with cb := cb }

def cbG (own : Bytes) : Visit → Nat → Node → Bool × Int := fun names depth _ =>
  if ownerName names = some own then (false, 2) else (true, depth)

def ctxCc (pm : PM) (uf : Bool) : TCtx := { pm := pm, useFilters := uf, rootDepth := 0, cb := cbContinue }
def ctxGg (pm : PM) (uf : Bool) (own : Bytes) : TCtx := { pm := pm, useFilters := uf, rootDepth := 0, cb := cbG own }

theorem ctxGg_withCb (pm : PM) (uf : Bool) (own : Bytes) (cb' : Visit → Nat → Node → Bool × Int) :
    (ctxGg pm uf own).withCb cb' = { pm := pm, useFilters := uf, rootDepth := 0, cb := cb' } := rfl

theorem ownerName_of_prefix {a b : Bytes} {v : Visit} (h : [a, b] <+: v) : ownerName v = some b :=
  ownerName_extend rfl h

theorem actOf_cbG_own (pm : PM) (uf : Bool) {own : Bytes} (rec : Rec) (k : Node) {cn : Visit} (depth : Nat)
    (h : ownerName cn = some own) : actOf (ctxGg pm uf own) rec k cn depth true = ([], 2) := by
  simp [actOf, ctxGg, cbG, h]

theorem actOf_cbG_other (pm : PM) (uf : Bool) {own : Bytes} (rec : Rec) (k : Node) {cn : Visit} (depth : Nat)
    (h : ownerName cn ≠ some own) : actOf (ctxGg pm uf own) rec k cn depth true = ([cn], ((depth + 1 : Nat) : Int)) := by
  simp [actOf, ctxGg, cbG, h]

theorem actOf_cont (pm : PM) (uf : Bool) (rec : Rec) (k : Node) (cn : Visit) (depth : Nat) :
    actOf (ctxCc pm uf) rec k cn depth true = ([cn], ((depth + 1 : Nat) : Int)) := by
  simp [actOf, ctxCc, cbContinue]

theorem runActs_unwind (depth : Nat) (hd : 2 ≤ depth) : ∀ l : List (List Visit × Int),
    (∀ r ∈ l, r.1 = [] ∧ (r.2 = ((depth + 1 : Nat) : Int) ∨ r.2 = 2)) →
    runActs depth l [] = ([], none) ∨ (3 ≤ depth ∧ runActs depth l [] = ([], some 2)) := by
  intro l
  induction l with
  | nil => intro _; exact Or.inl rfl
  | cons r rest ih =>
    intro h
    obtain ⟨h1, h2⟩ := h r List.mem_cons_self
    rw [runActs, h1, List.append_nil]
    rcases h2 with h2 | h2
    · rw [h2, if_neg (by omega), if_neg (by omega)]
      exact ih (fun r' hr' => h r' (List.mem_cons_of_mem _ hr'))
    · rw [h2]
      by_cases hlt : (2 : Int) < (depth : Int)
      · rw [if_pos hlt]; exact Or.inr ⟨by omega, rfl⟩
      · rw [if_neg hlt, if_pos (by omega)]; exact Or.inl rfl

theorem scanKids_unwind {α : Type} (f : α → List Visit × Option Int) (Q : Prop) (d : Int) : ∀ l : List α,
    (∀ p ∈ l, f p = ([], none) ∨ (Q ∧ f p = ([], some d))) →
    scanKids f l [] = ([], none) ∨ (Q ∧ scanKids f l [] = ([], some d)) := by
  intro l
  induction l with
  | nil => intro _; exact Or.inl rfl
  | cons p r ih =>
    intro h
    rcases h p List.mem_cons_self with hp | ⟨hq, hp⟩
    · rw [scanKids_cons_none (by rw [hp]), hp]
      exact ih (fun q hq => h q (List.mem_cons_of_mem _ hq))
    · rw [scanKids_cons_some (d := d) (by rw [hp]), hp]
      exact Or.inr ⟨hq, rfl⟩

/-- inside the own subtree nothing is recorded; the traversal returns its depth or, from depth ≥ 3, unwinds to depth 2 -/
theorem travAux_inOwn (pm : PM) (uf : Bool) (own a : Bytes) :
    ∀ (fuel : Nat) (node : Node) (names : Visit) (depth : Nat), [a, own] <+: names → 2 ≤ depth →
      (travAux (ctxGg pm uf own) fuel node names depth).1 = [] ∧
        ((travAux (ctxGg pm uf own) fuel node names depth).2 = (depth : Int) ∨
          (3 ≤ depth ∧ (travAux (ctxGg pm uf own) fuel node names depth).2 = 2)) := by
  intro fuel
  induction fuel with
  | zero => intro node names depth _ _; exact ⟨rfl, Or.inl rfl⟩
  | succ fuel ih =>
    intro node names depth hp hd
    rw [travAux, travLevel_eq_scan]
    have hchild : ∀ p ∈ levelKids (ctxGg pm uf own).pm (ctxGg pm uf own).rootDepth node depth,
        checkChild (ctxGg pm uf own) (travAux (ctxGg pm uf own) fuel) p.1 names depth p.2 = ([], none) ∨
        (3 ≤ depth ∧ checkChild (ctxGg pm uf own) (travAux (ctxGg pm uf own) fuel) p.1 names depth p.2 = ([], some 2)) := by
      intro p _
      have hp' : [a, own] <+: names ++ [p.1.name] := hp.trans (List.prefix_append _ _)
      rw [checkChild_eq]
      refine runActs_unwind depth hd _ (fun r hr => ?_)
      obtain ⟨act, _, rfl⟩ := List.mem_map.1 hr
      cases act with
      | true => rw [actOf_cbG_own pm uf _ _ depth (ownerName_of_prefix hp')]; exact ⟨rfl, Or.inr rfl⟩
      | false =>
        obtain ⟨h1, h2⟩ := ih p.1 _ (depth + 1) hp' (by omega)
        exact ⟨h1, h2.imp_right (·.2)⟩
    rcases scanKids_unwind _ (3 ≤ depth) 2 _ hchild with h | ⟨h3, h⟩
    · rw [h]; exact ⟨rfl, Or.inl rfl⟩
    · rw [h]; exact ⟨rfl, Or.inr ⟨h3, rfl⟩⟩

/-- below the session node of another session `GetDataCallback` is the continue-callback -/
theorem travAux_notOwn (pm : PM) (uf : Bool) {own a b : Bytes} (hb : b ≠ own) (fuel : Nat) (node : Node) (names : Visit)
    (depth : Nat) (hp : [a, b] <+: names) :
    travAux (ctxGg pm uf own) fuel node names depth = travAux (ctxCc pm uf) fuel node names depth := by
  refine travAux_congr pm uf 0 _ _ fuel node names depth (fun v d n hv => ?_)
  have : ownerName v ≠ some own := by rw [ownerName_of_prefix (hp.trans hv)]; exact fun e => hb (Option.some.inj e)
  simp only [cbG, cbContinue, if_neg this]

/-- `L` holds the visits of `L'` that lie outside the subtree of `own` -/
def OutsideOwn (own : Bytes) (L L' : List Visit) : Prop := ∀ v, v ∈ L ↔ v ∈ L' ∧ ¬ ownerName v = some own

theorem OutsideOwn.flatMap {own : Bytes} {α : Type} (ps : List α) (g g' : α → List Visit)
    (h : ∀ p ∈ ps, OutsideOwn own (g p) (g' p)) : OutsideOwn own (ps.flatMap g) (ps.flatMap g') := by
  intro v
  simp only [List.mem_flatMap]
  constructor
  · rintro ⟨p, hp, hv⟩; exact ⟨⟨p, hp, ((h p hp v).1 hv).1⟩, ((h p hp v).1 hv).2⟩
  · rintro ⟨⟨p, hp, hv⟩, hno⟩; exact ⟨p, hp, (h p hp v).2 ⟨hv, hno⟩⟩

theorem OutsideOwn.same {own : Bytes} {L : List Visit} (h : ∀ v ∈ L, ¬ ownerName v = some own) : OutsideOwn own L L :=
  fun v => ⟨fun hv => ⟨hv, h v hv⟩, fun hv => hv.1⟩

theorem OutsideOwn.none {own : Bytes} {L : List Visit} (h : ∀ v ∈ L, ownerName v = some own) : OutsideOwn own [] L :=
  fun v => ⟨fun hv => (by cases hv), fun hv => absurd (h v hv.1) hv.2⟩

theorem travLevel_outside (pm : PM) (uf : Bool) (own : Bytes) (recG : Rec) (fuel : Nat) (node : Node) (names : Visit) (depth : Nat)
    (hG : ∀ (k : Node) act, (actOf (ctxGg pm uf own) recG k (names ++ [k.name]) depth act).2 = ((depth + 1 : Nat) : Int))
    (hvis : ∀ (k : Node) act, OutsideOwn own (actOf (ctxGg pm uf own) recG k (names ++ [k.name]) depth act).1
      (actOf (ctxCc pm uf) (travAux (ctxCc pm uf) fuel) k (names ++ [k.name]) depth act).1) :
    (travLevel (ctxGg pm uf own) recG node names depth).2 = (depth : Int) ∧
    OutsideOwn own (travLevel (ctxGg pm uf own) recG node names depth).1
      (travLevel (ctxCc pm uf) (travAux (ctxCc pm uf) fuel) node names depth).1 := by
  have cG := fun k known => checkChild_all (ctxGg pm uf own) recG k names depth known (hG k)
  -- under the continue-callback both actions for a child return the child's depth
  have cC := fun k known => checkChild_all (ctxCc pm uf) (travAux (ctxCc pm uf) fuel) k names depth known (fun act => by
    cases act with
    | true => rw [actOf_cont]
    | false => exact travAux_snd (ctxCc pm uf) rfl fuel k _ (depth + 1))
  rw [travLevel_eq_levelKids (ctxGg pm uf own) recG node names depth (fun k known => by rw [cG]),
    travLevel_eq_levelKids (ctxCc pm uf) _ node names depth (fun k known => by rw [cC])]
  refine ⟨rfl, OutsideOwn.flatMap _ _ _ (fun p _ => ?_)⟩
  rw [cG, cC]
  exact OutsideOwn.flatMap _ _ _ (fun act _ => hvis p.1 act)

theorem host_outside (pm : PM) (uf : Bool) (own : Bytes) (fuel : Nat) (k1 : Node) (hn : Bytes) :
    (travAux (ctxGg pm uf own) fuel k1 [hn] 1).2 = 1 ∧
    OutsideOwn own (travAux (ctxGg pm uf own) fuel k1 [hn] 1).1 (travAux (ctxCc pm uf) fuel k1 [hn] 1).1 := by
  cases fuel with
  | zero => exact ⟨rfl, OutsideOwn.same (fun v hv => by cases hv)⟩
  | succ f =>
    have hsC := travAux_snd (ctxCc pm uf) rfl f
    rw [travAux, travAux]
    refine travLevel_outside pm uf own _ f k1 [hn] 1 (fun k act => ?_) (fun k act => ?_)
    all_goals
      have hpre : [hn, k.name] <+: [hn] ++ [k.name] := List.prefix_refl _
      have hown := ownerName_of_prefix hpre
      by_cases ho : k.name = own
    -- the returned depths under `GetDataCallback`
    · subst ho
      cases act with
      | true => rw [actOf_cbG_own pm uf _ _ 1 hown]; rfl
      | false =>
        obtain ⟨_, h2⟩ := travAux_inOwn pm uf k.name hn f k _ 2 hpre (Nat.le_refl _)
        exact h2.elim id (fun h => absurd h.1 (by decide))
    · cases act with
      | true => rw [actOf_cbG_other pm uf _ _ 1 (by rw [hown]; exact fun e => ho (Option.some.inj e))]
      | false => exact (congrArg Prod.snd (travAux_notOwn pm uf ho f k _ 2 hpre)).trans (hsC k _ 2)
    -- the visits: none in the own subtree; the same ones below another session node
    · subst ho
      have hall : ∀ v ∈ (actOf (ctxCc pm uf) (travAux (ctxCc pm uf) f) k ([hn] ++ [k.name]) 1 act).1,
          ownerName v = some k.name := by
        intro v hv
        cases act with
        | true => rw [actOf_cont] at hv; rw [List.mem_singleton.1 hv, hown]
        | false => exact ownerName_of_prefix (hpre.trans (travAux_prefix _ f k _ 2 v hv).1)
      cases act with
      | true => rw [actOf_cbG_own pm uf _ _ 1 hown]; exact OutsideOwn.none hall
      | false =>
        show OutsideOwn k.name (travAux (ctxGg pm uf k.name) f k _ 2).1 _
        rw [(travAux_inOwn pm uf k.name hn f k _ 2 hpre (Nat.le_refl _)).1]
        exact OutsideOwn.none hall
    · have hne : ownerName ([hn] ++ [k.name]) ≠ some own := by rw [hown]; exact fun e => ho (Option.some.inj e)
      cases act with
      | true =>
        rw [actOf_cbG_other pm uf _ _ 1 hne, actOf_cont]
        exact OutsideOwn.same (fun v hv => by rw [List.mem_singleton.1 hv]; exact hne)
      | false =>
        show OutsideOwn own (travAux (ctxGg pm uf own) f k _ 2).1 (travAux (ctxCc pm uf) f k _ 2).1
        rw [travAux_notOwn pm uf ho f k _ 2 hpre]
        refine OutsideOwn.same (fun v hv => ?_)
        rw [ownerName_of_prefix (hpre.trans (travAux_prefix _ f k _ 2 v hv).1)]
        exact fun e => ho (Option.some.inj e)

theorem travG_mem (pm : PM) (uf : Bool) (own : Bytes) (fuel : Nat) (root : Node) :
    OutsideOwn own (travAux (ctxGg pm uf own) fuel root [] 0).1 (travAux (ctxCc pm uf) fuel root [] 0).1 := by
  cases fuel with
  | zero => exact OutsideOwn.same (fun v hv => by cases hv)
  | succ f =>
    rw [travAux, travAux]
    have hhost : ∀ k : Node, ownerName ([] ++ [k.name]) ≠ some own := fun k => by simp [ownerName]
    refine (travLevel_outside pm uf own _ f root [] 0 (fun k act => ?_) (fun k act => ?_)).2
    · cases act with
      | true => rw [actOf_cbG_other pm uf _ _ 0 (hhost k)]
      | false => exact (host_outside pm uf own f k k.name).1
    · cases act with
      | true =>
        rw [actOf_cbG_other pm uf _ _ 0 (hhost k), actOf_cont]
        exact OutsideOwn.same (fun v hv => by rw [List.mem_singleton.1 hv]; exact hhost k)
      | false => exact (host_outside pm uf own f k k.name).2

/-- the visits of a traversal from the global root with `GetDataCallback`, for a session whose snapshot rule and notification
    rule agree (it reflects to itself, or it does not carry the indexing flag): exactly the existing nodes the matcher
    matches that are visible to the session.  For a session that reflects to itself the callback is the continue-callback (C05's
    theorem); otherwise it is `cbG` and `travG_mem` applies. -/
theorem visits_getDataCb {sv : Server} (hti : TreeInv sv) {s : Sess} (h : s.reflectSelf = true ∨ s.indexingPresent = false)
    {pm : PM} (hwf : SubsWF pm) (uf : Bool) :
    ∀ w, w ∈ travGlobal sv pm uf (getDataCb s) ↔
      ∃ n, w ≠ [] ∧ getNode sv w = some n ∧ pmMatchesPath pm w uf n.data = true ∧ visible s w = true := by
  intro w
  cases hr : s.reflectSelf with
  | true =>
    have hcb : getDataCb s = cbContinue := by
      funext names depth node
      simp [getDataCb, cbContinue, hr]
    have hvis : visible s w = true := by simp [visible, hr]
    rw [hcb, travGlobal_cont_mem sv hti hwf uf w]
    constructor
    · rintro ⟨n, h1, h2, h3⟩; exact ⟨n, h1, h2, h3, hvis⟩
    · rintro ⟨n, h1, h2, h3, _⟩; exact ⟨n, h1, h2, h3⟩
  | false =>
    have hi : s.indexingPresent = false := h.resolve_left (by rw [hr]; exact Bool.false_ne_true)
    have hcb : getDataCb s = cbG (sidName s.sid) := by
      funext names depth node
      simp [getDataCb, cbG, hr, hi]
    have hG : travGlobal sv pm uf (getDataCb s) = (travAux (ctxGg pm uf (sidName s.sid)) fuelDepth sv.root [] 0).1 := by
      rw [hcb]; rfl
    have hC : travGlobal sv pm uf cbContinue = (travAux (ctxCc pm uf) fuelDepth sv.root [] 0).1 := rfl
    rw [hG, travG_mem pm uf (sidName s.sid) fuelDepth sv.root w, ← hC, travGlobal_cont_mem sv hti hwf uf w]
    have hvis : visible s w = true ↔ ¬ ownerName w = some (sidName s.sid) := by
      simp [visible, hr]
    constructor
    · rintro ⟨⟨n, h1, h2, h3⟩, hno⟩; exact ⟨n, h1, h2, h3, hvis.2 hno⟩
    · rintro ⟨n, h1, h2, h3, h4⟩; exact ⟨⟨n, h1, h2, h3⟩, hvis.1 h4⟩

end Muscle.Reflector
