import MuscleModel.Reflector.DecBytes

/-!
# C13: the instruction format: `Instr.parse (Instr.render i) = some i` for every instruction (names may contain `:`)

The client's `atol`/`strchr` reading recovers position and name from the bytes of an instruction (`instrOf_bytes`); the GETDATA
snapshot as a log (`snapshotLog_eq`), and the field of the result Message `doGetData` appends it to (`idxField`).
-/

namespace Muscle.Reflector
open Muscle

/-- the bytes of an instruction string -/
theorem instrOf_bytes (op : Char) (hop : op.val ≤ 127) (pos : Nat) (key : Bytes) :
    instrOf op pos key = op.val.toUInt8 :: (decB pos ++ 58 :: key) := by
  unfold instrOf
  rw [toUTF8_toList_append, toUTF8_toList_append, String.singleton_eq_ofList, charBytes op hop, charBytes ':' (by decide)]
  show _ :: (decOf pos ++ _ ++ _) = _
  rw [decOf_eq_decB]; simp

theorem parse_tail (pos : Nat) (key : Bytes) :
    decValB ((decB pos ++ 58 :: key).takeWhile isDigitB) = pos ∧
    ((decB pos ++ 58 :: key).dropWhile (fun b => b != 58)).drop 1 = key := by
  constructor
  · rw [List.takeWhile_append_of_pos (isDigitB_decB pos),
      List.takeWhile_cons_of_neg (by decide), List.append_nil, decValB_decB]
  · rw [List.dropWhile_append_of_pos]
    · rw [List.dropWhile_cons_of_neg (by decide)]; rfl
    · intro b hb
      have := isDigitB_decB pos b hb
      simp only [isDigitB, Bool.and_eq_true, decide_eq_true_eq] at this
      simp only [bne_iff_ne, ne_eq]
      intro hc; subst hc
      have : (58 : UInt8).toNat = 58 := by decide
      omega

theorem render_clear : Instr.clear.render = [99] := by
  unfold Instr.render
  have : "c" = String.ofList ['c'] := rfl
  rw [this, asciiBytes _ (by decide)]
  rfl

/-- the client's reading of a rendered instruction is that instruction -/
theorem parse_render (i : Instr) : Instr.parse i.render = some i := by
  cases i with
  | clear => rw [render_clear]; rfl
  | ins p n =>
    simp only [Instr.render]
    rw [instrOf_bytes 'i' (by decide)]
    have := parse_tail p n
    simp only [Instr.parse, this.1, this.2]
    rfl
  | rem p n =>
    simp only [Instr.render]
    rw [instrOf_bytes 'r' (by decide)]
    have := parse_tail p n
    simp only [Instr.parse, this.1, this.2]
    rfl

theorem replay_render (ix : List Bytes) (i : Instr) : replay ix i.render = i.apply ix := by
  simp [replay, parse_render]

theorem replayAll_render_one (ix : List Bytes) (i : Instr) : replayAll ix [i.render] = i.apply ix := by
  simp [replayAll, replay_render]

theorem replayAll_render (ix : List Bytes) (l : List Instr) :
    replayAll ix (l.map Instr.render) = applyAll ix l := by
  induction l generalizing ix with
  | nil => rfl
  | cons i r ih =>
    simp only [List.map_cons, replayAll, applyAll, replay_render]
    cases i.apply ix with
    | none => rfl
    | some ix' => simp [ih]

theorem replayAll_append (ix : List Bytes) (a b : List Bytes) :
    replayAll ix (a ++ b) = (replayAll ix a).bind (fun ix' => replayAll ix' b) := by
  induction a generalizing ix with
  | nil => simp [replayAll]
  | cons i r ih =>
    simp only [List.cons_append, replayAll]
    cases replay ix i with
    | none => rfl
    | some ix' => simp [ih]

theorem snapshotLog_eq (ix : List Bytes) :
    snapshotLog ix = (Instr.clear :: (ix.zipIdx.map (fun (nm, i) => Instr.ins i nm))).map Instr.render := by
  simp [snapshotLog, Instr.render, List.map_map, Function.comp_def]

/-! ## the index part of `doGetData` appends exactly `snapshotLog` to the node's field of the result Message -/

/-- the strings of field `np` of a PR_RESULT_INDEXUPDATED Message under construction -/
def idxField (m : IdxMsg) (np : Bytes) : List Bytes :=
  match m.find? (fun (p, _) => p = np) with
  | some (_, xs) => xs
  | none => []

theorem idxField_cons (e : Bytes × List Bytes) (r : IdxMsg) (np : Bytes) :
    idxField (e :: r) np = if e.1 = np then e.2 else idxField r np := by
  unfold idxField
  by_cases h : e.1 = np <;> simp [h]

theorem IdxMsg.add_cons_ne {e : Bytes × List Bytes} {np : Bytes} (h : e.1 ≠ np) (r : IdxMsg) (s : Bytes) :
    IdxMsg.add (e :: r) np s = e :: IdxMsg.add r np s := by
  unfold IdxMsg.add
  simp only [List.any_cons, h, decide_false, Bool.false_or, List.map_cons, if_false, List.cons_append]
  split <;> rfl

theorem idxField_add (m : IdxMsg) (np s : Bytes) : idxField (IdxMsg.add m np s) np = idxField m np ++ [s] := by
  induction m with
  | nil => simp [IdxMsg.add, idxField]
  | cons e r ih =>
    by_cases h : e.1 = np
    · simp [IdxMsg.add, idxField_cons, h]
    · rw [IdxMsg.add_cons_ne h, idxField_cons, idxField_cons, if_neg h, if_neg h, ih]

theorem idxField_foldl_add {α} (g : α → Bytes) (np : Bytes) (l : List α) (m : IdxMsg) :
    idxField (l.foldl (fun im x => IdxMsg.add im np (g x)) m) np = idxField m np ++ l.map g := by
  induction l generalizing m with
  | nil => simp
  | cons x r ih => simp [ih, idxField_add]

end Muscle.Reflector
