import MuscleModel.Reflector.IndexProofsTrav
import MuscleModel.Reflector.AutoNames

/-!
# C13: the invariant over whole trees (`TreeInv sv` = `NodeInv` at every node of the tree) and what keeps it

The primitive tree changes; each index-changing model function; `SetDataNode` (with and without
SETDATANODE_FLAG_ADDTOINDEX); the handlers built from them
(INSERTORDEREDDATA, REMOVEDATA, attach, `Cleanup`, REORDERDATA).
-/

namespace Muscle.Reflector
open Muscle

/-- at every node: the index lists existing children of that node, each at most once, and sibling names are
    pairwise different -/
def TreeInv (sv : Server) : Prop := AllNodes NodeInv sv.root

theorem treeInv_init : TreeInv ({} : Server) := AllNodes.fresh _ _

theorem treeInv_of_root {sv sv' : Server} (h : sv'.root = sv.root) (hi : TreeInv sv) : TreeInv sv' := by
  unfold TreeInv at *; rw [h]; exact hi

theorem treeInv_getNode {sv : Server} {path : List Bytes} {t : Node} (hi : TreeInv sv)
    (h : Reflector.getNode sv path = some t) : AllNodes NodeInv t :=
  AllNodes.nodeAt hi h

theorem allNodes_same_kids {t t' : Node} (h : AllNodes NodeInv t) (hk : t'.kids = t.kids) (hi : IdxInv t') :
    AllNodes NodeInv t' :=
  AllNodes.mk _ ⟨hi, by unfold KidsDistinct; rw [hk]; exact h.here.2⟩ (by rw [hk]; exact h.kid)

theorem treeInv_setNode {f : Node → Node} {sv : Server} {path : List Bytes}
    (hi : TreeInv sv)
    (ht : ∀ t, Reflector.getNode sv path = some t → AllNodes NodeInv t → AllNodes NodeInv (f t)) :
    TreeInv (setNode sv path f) :=
  AllNodes.updateAt (fun _ c h => NodeInv.putKid c h) fuelDepth sv.root path hi ht

theorem treeInv_setNode_keep_index {sv : Server} {path : List Bytes} (f : Node → Node)
    (hk : ∀ n, (f n).kids = n.kids) (hx : ∀ n, (f n).index = n.index) (hi : TreeInv sv) :
    TreeInv (setNode sv path f) := by
  apply treeInv_setNode hi
  intro t _ ht
  exact allNodes_same_kids ht (hk t) ⟨by rw [hx]; exact ht.here.1.1, by intro c hc; rw [hx] at hc; rw [hk]; exact ht.here.1.2 c hc⟩

theorem treeInv_setIndex {sv : Server} {parent : List Bytes} (g : Node → List Bytes) (hi : TreeInv sv)
    (hg : ∀ t, Reflector.getNode sv parent = some t → IdxInv t → IdxInv (t.setIndex (g t))) :
    TreeInv (setNode sv parent (fun q => q.setIndex (g q))) := by
  apply treeInv_setNode hi
  intro t htg ht
  exact allNodes_same_kids ht (by simp) (hg t htg ht.here.1)

theorem treeInv_removeIndexEntry {sv : Server} (parent : List Bytes) (key : Bytes) (notify : Bool)
    (hi : TreeInv sv) : TreeInv (removeIndexEntry sv parent key notify) :=
  treeInv_of_root (removeIndexEntry_root sv parent key notify)
    (treeInv_setIndex _ hi (fun _ _ ht => ht.eraseLast key))

theorem allNodes_setSubs {c : Node} (s : List (Nat × Nat)) (h : AllNodes NodeInv c) : AllNodes NodeInv (c.setSubs s) :=
  allNodes_same_kids h (by simp) ⟨by simpa using h.here.1.1, by simpa using h.here.1.2⟩

theorem treeInv_putChild {sv : Server} (by_ : Nat) (parent : List Bytes) (child : Node) (notify : Bool)
    (hi : TreeInv sv) (hc : AllNodes NodeInv child) : TreeInv (putChild sv by_ parent child notify) := by
  apply treeInv_of_root (putChild_root sv by_ parent child notify)
  apply treeInv_setNode hi
  intro t _ ht
  refine AllNodes.mk _ (NodeInv.putKid _ ht.here) ?_
  intro k hk
  simp only [Node.setKids_kids] at hk
  rcases mem_putKid hk with hk | hk
  · subst hk; exact allNodes_setSubs _ hc
  · exact ht.kid k hk

theorem treeInv_insertOrderedChild {sv : Server} (by_ : Nat) (parent : List Bytes) (d : Option Nat)
    (before name : Bytes) (nc : Bool) (hi : TreeInv sv)
    (hok : ∀ p, Reflector.getNode sv parent = some p →
      before = removeFromIndexName ∨ findKid (ordPair p name).1 p.kids = none ∨ (ordPair p name).1 ∉ p.index) :
    TreeInv (insertOrderedChild sv by_ parent d before name nc) := by
  cases h : Reflector.getNode sv parent with
  | none => simp [Reflector.insertOrderedChild, h]; exact hi
  | some p =>
    have hA : TreeInv (Reflector.setNode sv parent (fun q => q.setCtr (ordPair p name).2)) :=
      treeInv_setNode_keep_index _ (by simp) (by simp) hi
    have hB : TreeInv (insertOrderedPut sv by_ parent d (ordPair p name).1 (ordPair p name).2 nc) :=
      treeInv_putChild by_ parent (Node.fresh (ordPair p name).1 d) nc hA (AllNodes.fresh _ _)
    by_cases hb : before = removeFromIndexName
    · rw [insertOrderedChild_unindexed by_ d name nc h hb]; exact hB
    · rw [insertOrderedChild_emits by_ d name nc h hb]
      apply treeInv_of_root (notifyIndex_root _ _ _ _)
      refine treeInv_setIndex _ hB (fun t htg _ => ?_)
      rw [getNode_insertOrderedPut by_ d _ _ nc h] at htg
      cases htg
      obtain ⟨c, hc1, hc2⟩ := insertOrderedPutNode_kids sv parent p d (ordPair p name).1 (ordPair p name).2
      exact idxInv_insert (i := insertPos p.index before) (treeInv_getNode hi h).here.1 ((hok p h).resolve_left hb)
        (by simp [insertAt]) ⟨c, hc1, by simpa using hc2⟩

theorem treeInv_reorderChild {sv : Server} (parent : List Bytes) (child before : Bytes) (hi : TreeInv sv)
    (hok : ∀ p, Reflector.getNode sv parent = some p →
      before = removeFromIndexName ∨ (findKid child p.kids).isSome) :
    TreeInv (reorderChild sv parent child before) := by
  cases h : Reflector.getNode sv parent with
  | none => simp [Reflector.reorderChild, h]; exact hi
  | some p =>
    refine treeInv_of_root (reorderChild_root child before h) (treeInv_setIndex _ hi (fun t ht hinv => ?_))
    rw [h] at ht; cases ht
    exact idxInv_reorder hinv (hok p h)

theorem treeInv_removeOne {sv : Server} (by_ : Nat) (notify : Bool) (names : List Bytes) (hi : TreeInv sv) :
    TreeInv (removeOne sv by_ notify names) := by
  cases hc : Reflector.getNode sv names with
  | none => rw [removeOne_absent by_ notify hc]; exact hi
  | some c =>
    by_cases hn : names = []
    · subst hn; simp [Reflector.removeOne]; exact hi
    · rw [← List.dropLast_concat_getLast hn] at hc ⊢
      refine treeInv_of_root (removeOne_root by_ notify hc) (treeInv_setNode hi (fun t _ ht => ?_))
      exact AllNodes.mk _
        ⟨idxInv_removeKid _ ht.here.1, by simpa [KidsDistinct] using KidsDistinct.removeKid (names.getLast hn) ht.here.2⟩
        (fun k hk => ht.kid k ((removeKid_sublist _ _).subset (by simpa using hk)))

theorem treeInv_removeChild {sv : Server} (by_ : Nat) (notify : Bool) (names : List Bytes) (hi : TreeInv sv) :
    TreeInv (removeChild sv by_ notify names) := by
  unfold Reflector.removeChild
  split
  · exact hi
  · exact foldl_inv TreeInv _ (fun _ q h => treeInv_removeOne by_ notify q h) _ _ hi

/-- `InsertOrderedChild` with a generated name always satisfies the precondition of the invariant theorems -/
theorem insert_ok_of_generated (p : Node) (by_ : Nat) (d : Option Nat) (before : Bytes) (nc : Bool) :
    (IdxOp.insert by_ d before [] nc).ok p :=
  Or.inr (Or.inl (ordPair_fresh p rfl))

/-- …and so does one with an explicit name that is not yet a child (what `SetDataNode` does) -/
theorem insert_ok_of_absent (p : Node) (by_ : Nat) (d : Option Nat) (before name : Bytes) (nc : Bool)
    (h : findKid name p.kids = none) : (IdxOp.insert by_ d before name nc).ok p := by
  by_cases he : name.isEmpty = true
  · exact Or.inr (Or.inl (ordPair_fresh p he))
  · right; left; rw [ordPair_of_nonempty p he]; exact h

theorem treeInv_updSess {sv : Server} (sid : Nat) (f : Sess → Sess) (h : TreeInv sv) : TreeInv (sv.updSess sid f) := h

theorem treeInv_setDataClauses (by_ : Nat) (d : Option Nat) (a : Bool) (cls : List Bytes) :
    ∀ (sv : Server) (cur : List Bytes), TreeInv sv → TreeInv (setDataClauses by_ d a sv cur cls) := by
  induction cls with
  | nil => intro sv cur h; exact h
  | cons cl rest ih =>
    intro sv cur h
    rw [setDataClauses]
    split
    · exact h
    rename_i node hg
    -- in both cases: the tree change `X`, then possibly a changed-notification (which leaves the tree alone)
    split
    · rename_i hk
      apply ih
      generalize hX : (if (rest.isEmpty && a) = true then _ else _ : Server) = X
      have hXi : TreeInv X := by
        rw [← hX]
        refine ite_pred (treeInv_updSess _ _ (treeInv_insertOrderedChild _ _ _ _ _ _ h ?_))
          (treeInv_putChild _ _ _ _ h (AllNodes.fresh _ _))
        intro p hp
        rw [hg] at hp; cases hp
        exact insert_ok_of_absent node by_ d [] cl true hk
      refine ite_pred ?_ hXi
      split
      · exact treeInv_of_root (notifyChanged_root _ _ _ _ _ _) hXi
      · exact hXi
    · apply ih
      refine ite_pred ?_ h
      have hXi : TreeInv (setNode sv (cur ++ [cl]) (fun n => n.setData d)) :=
        treeInv_setNode_keep_index _ (by simp) (by simp) h
      simp only []
      split
      · exact treeInv_of_root (notifyChanged_root _ _ _ _ _ _) hXi
      · exact hXi

theorem treeInv_setDataNode {sv : Server} (by_ : Nat) (path : Bytes) (d : Option Nat) (a : Bool) (h : TreeInv sv) :
    TreeInv (setDataNode sv by_ path d a) := by
  unfold setDataNode
  split
  · exact h
  · split
    · exact h
    · exact ite_pred h (treeInv_setDataClauses _ _ _ _ _ _ h)

/-- PR_COMMAND_INSERTORDEREDDATA (generated names) -/
theorem treeInv_insertOrdered {sv : Server} (sid : Nat) (key before : Bytes) (vals : List Nat) (h : TreeInv sv) :
    TreeInv (insertOrdered sv sid key before vals) := by
  unfold insertOrdered
  split
  · exact h
  · simp only
    refine foldl_inv TreeInv _ ?_ _ _ h
    intro sv v hv
    refine foldl_inv TreeInv _ ?_ _ _ hv
    intro sv x hx
    apply treeInv_updSess
    apply treeInv_insertOrderedChild _ _ _ _ _ _ hx
    intro p _
    exact insert_ok_of_generated p sid (some x) before true

/-- PR_COMMAND_REMOVEDATA -/
theorem treeInv_removeData {sv : Server} (sid : Nat) (keys : List Bytes) (h : TreeInv sv) :
    TreeInv (removeData sv sid keys) := by
  unfold removeData
  split
  · exact h
  · simp only
    refine foldl_inv TreeInv _ ?_ _ _ h
    intro sv v hv
    exact treeInv_removeChild _ _ _ hv

/-- `AttachedToServer` -/
theorem treeInv_attach {sv : Server} (slot : Nat) (host : Bytes) (h : TreeInv sv) :
    TreeInv (attach sv slot host).1 := by
  unfold attach
  simp only
  apply treeInv_of_root (pushAll_root _)
  apply treeInv_putChild _ _ _ _ _ (AllNodes.fresh _ _)
  split
  · exact h
  · exact treeInv_putChild _ _ _ _ h (AllNodes.fresh _ _)

/-- `Cleanup` -/
theorem treeInv_detach {sv : Server} (sid : Nat) (h : TreeInv sv) : TreeInv (detach sv sid) := by
  unfold detach
  split
  · exact h
  · rename_i s _
    simp only
    have h1 : TreeInv (removeChild sv sid true (sessNames s)) := treeInv_removeChild _ _ _ h
    -- the state after the session's nodes are gone and the updates pushed; what follows touches subscriber tables only
    generalize hX : pushAll _ = X
    have hXi : TreeInv X := by
      rw [← hX]
      refine treeInv_of_root (pushAll_root _) ?_
      split
      · exact ite_pred (treeInv_removeChild _ _ _ h1) h1
      · exact h1
    show TreeInv (if _ then _ else _)
    exact ite_pred hXi
      (foldl_inv TreeInv _ (fun sv v hv => treeInv_setNode_keep_index _ (by simp) (by simp) hv) _ _ hXi)

/-! ## the PR_COMMAND_REORDERDATA handler

The traversal hands over name paths of existing nodes (`doTraversal_sound`); `reorderChild` only rewrites indices,
so every such path stays the path of an existing node; hence every node is still a child of its parent when its
turn comes. -/

theorem below_reorderChild (sv : Server) (parent : List Bytes) (child before : Bytes) (q : List Bytes) :
    below (reorderChild sv parent child before).root q = below sv.root q := by
  cases h : getNode sv parent with
  | none => simp [reorderChild, h]
  | some p => rw [reorderChild_root child before h]; exact below_updateAt (setIndex_name_pres _) (by simp) _ _ _ _

/-- one step of the REORDERDATA handler's loop -/
def reorderStep (before : Bytes) (sv : Server) (v : List Bytes) : Server :=
  match v.getLast? with
  | none => sv
  | some nm => if v.length ≤ 2 then sv else reorderChild sv v.dropLast nm before

theorem below_reorderStep (before : Bytes) (sv : Server) (v q : List Bytes) :
    below (reorderStep before sv v).root q = below sv.root q := by
  unfold reorderStep
  split
  · rfl
  · split
    · rfl
    · exact below_reorderChild _ _ _ _ _

theorem treeInv_reorderStep (before : Bytes) {sv : Server} {v : List Bytes} (h : TreeInv sv)
    (hv : below sv.root v = true) : TreeInv (reorderStep before sv v) := by
  unfold reorderStep
  split
  · exact h
  · rename_i nm hl
    split
    · exact h
    · apply treeInv_reorderChild _ _ _ h
      intro p hp
      right
      have hne : v ≠ [] := by intro e; subst e; simp at hl
      have hvv : v = v.dropLast ++ [nm] := by
        have := List.dropLast_concat_getLast hne
        rw [List.getLast?_eq_some_getLast hne] at hl
        cases hl
        exact this.symm
      rw [hvv] at hv
      exact below_snoc_findKid hv hp

theorem treeInv_reorderFold (before : Bytes) (visits : List (List Bytes)) {sv : Server} (h : TreeInv sv)
    (hex : ∀ v ∈ visits, below sv.root v = true) : TreeInv (visits.foldl (reorderStep before) sv) := by
  induction visits generalizing sv with
  | nil => exact h
  | cons v r ih =>
    simp only [List.foldl_cons]
    apply ih (treeInv_reorderStep before h (hex v (by simp)))
    intro w hw
    rw [below_reorderStep]
    exact hex w (List.mem_cons_of_mem _ hw)

theorem travSession_sound {sv : Server} (s : Sess) (pm : PM) (cb : Visit → Nat → Node → Bool × Int)
    (h : TreeInv sv) : ∀ v ∈ travSession sv s pm cb, below sv.root v = true := by
  intro v hv
  unfold travSession at hv
  cases hn : getNode sv (sessNames s) with
  | none => simp [hn] at hv
  | some n =>
    simp only [hn, List.mem_map] at hv
    obtain ⟨w, hw, rfl⟩ := hv
    exact below_of_nodeAt hn (doTraversal_sound pm true 2 cb n fuelDepth (treeInv_getNode h hn) w hw)

/-- PR_COMMAND_REORDERDATA -/
theorem treeInv_reorderCore {sv : Server} (sid : Nat) (key before : Bytes) (h : TreeInv sv) :
    TreeInv (reorderCore sv sid key before) := by
  unfold reorderCore
  split
  · exact h
  · rename_i s hs
    exact treeInv_reorderFold before _ h (travSession_sound s _ _ h)

theorem treeInv_reorder {sv : Server} (sid : Nat) (key before : Bytes) (h : TreeInv sv) :
    TreeInv (reorder sv sid key before) := by
  unfold reorder
  simp only []
  split
  · exact treeInv_reorderCore sid key before h
  · split
    · exact treeInv_of_root (updSess_root _ _ _) (treeInv_reorderCore sid key before h)
    · exact treeInv_reorderCore sid key before h

end Muscle.Reflector
