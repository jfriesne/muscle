import MuscleModel.Reflector.IndexProofsTreeInv
import MuscleModel.Reflector.Clone

/-!
# C13: subtree clone / restore (`Reflector/Clone.lean`) keep the whole-tree invariant; the clone's index log replays
-/

namespace Muscle.Reflector
open Muscle

/-- `ite_pred` for the state of a call's result: under the projection unification does not find the predicate by itself -/
theorem treeInv_ite_fst {α} {c : Prop} [Decidable c] {a b : Server × α} (ha : TreeInv a.1) (hb : TreeInv b.1) :
    TreeInv (if c then a else b).1 :=
  ite_pred (P := fun r : Server × α => TreeInv r.1) ha hb

theorem treeInv_setDataAt {sv : Server} (by_ : Nat) (dest : List Bytes) (d : Option Nat) (ati : Bool)
    (h : TreeInv sv) : TreeInv (setDataAt sv by_ dest d ati).1 := by
  unfold setDataAt
  split
  · exact h
  · exact treeInv_ite_fst (treeInv_setDataClauses _ _ _ _ _ _ h)
      (treeInv_ite_fst h (treeInv_setDataClauses _ _ _ _ _ _ h))

/-- `InsertIndexEntryAt(i, key)` for an existing child: the instruction handed to `notifyIndex`, and the parent then -/
theorem insertIndexEntryAt_emits {sv : Server} {parent : List Bytes} {p : Node} (i : Nat) {key : Bytes}
    (h : getNode sv parent = some p) (hk : (findKid key p.kids).isSome) :
    insertIndexEntryAt sv parent i key =
      notifyIndex (setNode sv parent (fun q => q.setIndex (q.index.take i ++ [key] ++ q.index.drop i))) parent
        (p.setIndex (insertAt p.index i key)) (Instr.ins i key).render := by
  unfold insertIndexEntryAt
  have hn : (findKid key p.kids).isNone = false := by
    cases hf : findKid key p.kids with
    | none => simp [hf] at hk
    | some x => rfl
  simp only [h, hn, Bool.false_eq_true, if_false]
  rw [getNode_setIndex (fun q => q.index.take i ++ [key] ++ q.index.drop i) h]
  rfl

theorem getNode_insertIndexEntryAt {sv : Server} {parent : List Bytes} {p : Node} (i : Nat) {key : Bytes}
    (h : getNode sv parent = some p) (hk : (findKid key p.kids).isSome) :
    getNode (insertIndexEntryAt sv parent i key) parent = some (p.setIndex (insertAt p.index i key)) := by
  rw [insertIndexEntryAt_emits i h hk, getNode_notifyIndex]
  exact getNode_setIndex (fun q => q.index.take i ++ [key] ++ q.index.drop i) h

theorem insertIndexEntryAt_root (sv : Server) (parent : List Bytes) (i : Nat) (key : Bytes) :
    (insertIndexEntryAt sv parent i key).root =
      (setNode sv parent (fun q => if (findKid key q.kids).isNone then q else q.setIndex (insertAt q.index i key))).root := by
  cases h : getNode sv parent with
  | none => rw [setNode_fix _ _ (by simp [h])]; simp [insertIndexEntryAt, h]
  | some p =>
    cases hk : (findKid key p.kids).isNone with
    | true =>
      rw [setNode_fix _ _ (fun q hq => by rw [h] at hq; cases hq; rw [if_pos hk])]
      simp [insertIndexEntryAt, h, hk]
    | false =>
      rw [insertIndexEntryAt_emits i h (by cases hf : findKid key p.kids <;> simp_all), notifyIndex_root]
      exact congrArg Server.root (setNode_congr _ _ (fun q hq => by rw [h] at hq; cases hq; simp [hk, insertAt]))

/-- `InsertIndexEntryAt(i, key)` keeps the invariant when `key` is not yet listed (the function itself checks that
    `key` is a child) -/
theorem treeInv_insertIndexEntryAt {sv : Server} (parent : List Bytes) (i : Nat) (key : Bytes) (h : TreeInv sv)
    (hok : ∀ p, getNode sv parent = some p → key ∉ p.index) : TreeInv (insertIndexEntryAt sv parent i key) := by
  refine treeInv_of_root (insertIndexEntryAt_root sv parent i key)
    (treeInv_setNode h (fun t ht hall => ?_))
  split
  · exact hall
  · rename_i hk
    exact allNodes_same_kids hall (by simp)
      (hall.here.1.insertAt i (hok t ht) (by simpa [Option.isSome_iff_ne_none] using hk))

/-! ### away from the destination nothing the loop reads changes -/

theorem getNode_index_ne {f : Node → Node} (hf : ∀ n, (f n).name = n.name) (hk : ∀ n, (f n).kids = n.kids)
    {sv sv' : Server} {dest src : List Bytes} (hr : sv'.root = (setNode sv dest f).root) (hne : src ≠ dest) :
    (getNode sv' src).map Node.index = (getNode sv src).map Node.index := by
  rw [getNode_congr hr]
  simp only [getNode, setNode, nodeAt_updateAt_proj Node.index (fun _ _ => rfl) hf hk, hne, if_false]

theorem removeIndexEntry_index_ne (sv : Server) {dest src : List Bytes} (key : Bytes) (hne : src ≠ dest) :
    (getNode (removeIndexEntry sv dest key true) src).map Node.index = (getNode sv src).map Node.index :=
  getNode_index_ne (setIndex_name_pres _) (by simp) (removeIndexEntry_root sv dest key true) hne

theorem insertIndexEntryAt_index_ne (sv : Server) {dest src : List Bytes} (i : Nat) (key : Bytes) (hne : src ≠ dest) :
    (getNode (insertIndexEntryAt sv dest i key) src).map Node.index = (getNode sv src).map Node.index :=
  getNode_index_ne (fun n => by split <;> simp) (fun n => by split <;> simp) (insertIndexEntryAt_root sv dest i key) hne

/-! ### the loop invariant: the first `w` entries of the destination's index are the names written so far, and none of
them is read again -/

structure CloneInv (src dest : List Bytes) (i w : Nat) (sv : Server) : Prop where
  tree : TreeInv sv
  wi : w ≤ i
  bound : ∀ ps pd, getNode sv src = some ps → getNode sv dest = some pd →
    w ≤ pd.index.length ∧ ∀ x ∈ pd.index.take w, ∀ j, i ≤ j → ps.index[j]? ≠ some x

theorem CloneInv.init {src dest : List Bytes} {sv : Server} (h : TreeInv sv) : CloneInv src dest 0 0 sv :=
  ⟨h, Nat.le_refl _, fun _ _ _ _ => ⟨Nat.zero_le _, by simp⟩⟩

theorem CloneInv.skip {src dest : List Bytes} {i w : Nat} {sv : Server} (h : CloneInv src dest i w sv) :
    CloneInv src dest (i+1) w sv :=
  ⟨h.tree, Nat.le_succ_of_le h.wi, fun ps pd hs hd =>
    ⟨(h.bound ps pd hs hd).1, fun x hx j hj => (h.bound ps pd hs hd).2 x hx j (by omega)⟩⟩

theorem CloneInv.pos_le {src dest : List Bytes} {i w : Nat} {sv : Server} {nm : Bytes} {pd : Node}
    (h : CloneInv src dest i w sv) (hs : (getNode sv src).bind (fun n => n.index[i]?) = some nm)
    (hd : getNode sv dest = some pd) :
    (eraseLast pd.index nm).take w = pd.index.take w ∧ w ≤ (eraseLast pd.index nm).length := by
  cases hps : getNode sv src with
  | none => simp [hps] at hs
  | some ps =>
    simp only [hps, Option.bind_some] at hs
    obtain ⟨hw, hb⟩ := h.bound ps pd hps hd
    exact eraseLast_take_of_not_mem hw (fun hx => hb nm hx i (Nat.le_refl _) hs)

theorem CloneInv.step {src dest : List Bytes} {i w : Nat} {sv : Server} {nm : Bytes} {pd : Node}
    (h : CloneInv src dest i w sv) (hs : (getNode sv src).bind (fun n => n.index[i]?) = some nm)
    (hd : getNode sv dest = some pd) (hk : (findKid nm pd.kids).isSome) :
    CloneInv src dest (i+1) (w+1) (insertIndexEntryAt (removeIndexEntry sv dest nm true) dest w nm) := by
  have hd1 := getNode_removeIndexEntry nm true hd
  have hk1 : (findKid nm (pd.setIndex (eraseLast pd.index nm)).kids).isSome := by simpa using hk
  have hd2 := getNode_insertIndexEntryAt w hd1 hk1
  simp only [Node.setIndex_index] at hd2
  obtain ⟨htake, hwle⟩ := h.pos_le hs hd
  have htree : TreeInv (insertIndexEntryAt (removeIndexEntry sv dest nm true) dest w nm) := by
    apply treeInv_insertIndexEntryAt _ _ _ (treeInv_removeIndexEntry dest nm true h.tree)
    intro p hp
    rw [hd1] at hp; cases hp
    simpa using not_mem_eraseLast nm (treeInv_getNode h.tree hd).here.1.1
  refine ⟨htree, Nat.succ_le_succ h.wi, ?_⟩
  intro ps2 pd2 hs2 hd2'
  rw [hd2] at hd2'; cases hd2'
  simp only [Node.setIndex_index]
  refine ⟨by rw [insertAt_length]; omega, ?_⟩
  intro x hx j hj
  by_cases hsd : src = dest
  · subst hsd
    rw [hd2] at hs2; cases hs2
    exact nodup_take_ne (by simpa using (treeInv_getNode htree hd2).here.1.1) hx j (by have := h.wi; omega)
  · have hne := (insertIndexEntryAt_index_ne (removeIndexEntry sv dest nm true) w nm hsd).trans
      (removeIndexEntry_index_ne sv nm hsd)
    rw [hs2] at hne
    obtain ⟨ps, hps, hpi⟩ := Option.map_eq_some_iff.mp hne.symm
    simp only [hps, Option.bind_some] at hs
    rw [insertAt_take_succ _ _ _ hwle, htake] at hx
    rw [← hpi]
    rcases List.mem_append.mp hx with hx1 | hx1
    · exact (h.bound ps pd hps hd).2 x hx1 j (by omega)
    · rw [List.mem_singleton.mp hx1]
      exact nodup_getElem?_ne (treeInv_getNode h.tree hps).here.1.1 hs (by omega)

/-! ## the clone's index log

`cloneIndexLog` collects, as a function of the state, what the index loop hands to `notifyIndex` for the destination:
per copied entry the instruction of `RemoveIndexEntry` (if the destination listed the child) and the instruction of
`InsertIndexEntryAt(writeIdxCounter)`.  The equations `removeIndexEntry_emits` and `insertIndexEntryAt_emits` tie each entry to the call that emits it. -/

def cloneIndexLog (src dest : List Bytes) : Nat → Nat → Nat → Server → List Instr
  | 0, _, _, _ => []
  | r+1, i, w, sv =>
    match (getNode sv src).bind (fun n => n.index[i]?), getNode sv dest with
    | some nm, some clone =>
      if (findKid nm clone.kids).isSome then
        remLog clone.index nm ++ [Instr.ins w nm] ++
          cloneIndexLog src dest r (i+1) (w+1) (insertIndexEntryAt (removeIndexEntry sv dest nm true) dest w nm)
      else cloneIndexLog src dest r (i+1) w sv
    | _, _ => []

/-- the names the loop copies (source entries, read live, whose name is a child of the clone), in order -/
def cloneIndexNames (src dest : List Bytes) : Nat → Nat → Nat → Server → List Bytes
  | 0, _, _, _ => []
  | r+1, i, w, sv =>
    match (getNode sv src).bind (fun n => n.index[i]?), getNode sv dest with
    | some nm, some clone =>
      if (findKid nm clone.kids).isSome then
        nm :: cloneIndexNames src dest r (i+1) (w+1) (insertIndexEntryAt (removeIndexEntry sv dest nm true) dest w nm)
      else cloneIndexNames src dest r (i+1) w sv
    | _, _ => []

/-- The index loop of the repaired `CloneDataNodeSubtree`, from any state satisfying the loop invariant (in particular
    from the start of the loop in any `TreeInv` state, `CloneInv.init`): the tree stays sound, the destination keeps its
    children, the client that applies the emitted instructions, in order, to the destination's old index holds its new
    index — every insert position is within the index at that moment (the strict client `applyAll` refuses anything
    else) — and that index begins with the copied names in the order they were read.  Source and destination may be the
    same node, or lie inside one another. -/
theorem cloneIndexLoop_spec (src dest : List Bytes) :
    ∀ (r i w : Nat) (sv : Server) (pd : Node), CloneInv src dest i w sv → getNode sv dest = some pd →
      ∃ pd', getNode (cloneIndexLoop true src dest r i w sv) dest = some pd' ∧
        TreeInv (cloneIndexLoop true src dest r i w sv) ∧ pd'.kids = pd.kids ∧
        applyAll pd.index (cloneIndexLog src dest r i w sv) = some pd'.index ∧
        pd'.index.take (w + (cloneIndexNames src dest r i w sv).length) =
          pd.index.take w ++ cloneIndexNames src dest r i w sv := by
  intro r
  induction r with
  | zero =>
    intro i w sv pd hinv hd
    exact ⟨pd, hd, hinv.tree, rfl, rfl, by simp [cloneIndexNames]⟩
  | succ r ih =>
    intro i w sv pd hinv hd
    rw [cloneIndexLoop, cloneIndexLog, cloneIndexNames]
    cases hs : (getNode sv src).bind (fun n => n.index[i]?) with
    | none => exact ⟨pd, hd, hinv.tree, rfl, rfl, by simp⟩
    | some nm =>
      simp only [hd]
      cases hk : (findKid nm pd.kids).isSome with
      | false => simpa using ih (i+1) w sv pd hinv.skip hd
      | true =>
        have hd2 := getNode_insertIndexEntryAt w (getNode_removeIndexEntry nm true hd) (by simpa using hk)
        obtain ⟨htake, hwle⟩ := hinv.pos_le hs hd
        obtain ⟨pd', h1, h2, h3, h4, h5⟩ := ih (i+1) (w+1) _ _ (hinv.step hs hd hk) hd2
        simp only [Node.setIndex_index, Node.setIndex_kids] at h3 h4 h5
        refine ⟨pd', h1, h2, h3, ?_, ?_⟩
        · rw [if_pos rfl, applyAll_append, applyAll_append, applyAll_remLog]
          simpa [applyAll, Instr.apply, hwle] using h4
        · rw [if_pos rfl, List.length_cons, ← Nat.add_assoc, Nat.add_right_comm, h5, insertAt_take_succ _ _ _ hwle, htake]
          simp

/-- the log of the index part of one `CloneDataNodeSubtree` call, as a function of the state before it -/
def cloneIndexLogOf (by_ : Nat) (sv : Server) (src dest : List Bytes) : List Instr :=
  match getNode sv src, getNode sv dest with
  | some ps, some _ =>
    if ps.index.isEmpty then []
    else cloneIndexLog src dest ps.index.length 0 0 (sv.updSess by_ (fun s => { s with indexingPresent := true }))
  | _, _ => []

theorem treeInv_cloneIndex {sv : Server} (by_ : Nat) (src dest : List Bytes) (h : TreeInv sv) :
    TreeInv (cloneIndex true by_ sv src dest).1 := by
  unfold cloneIndex
  split
  · exact h
  · split
    · exact h
    · split
      · exact h
      · rename_i pd hd
        exact (cloneIndexLoop_spec src dest _ 0 0 _ pd (CloneInv.init (treeInv_updSess by_ _ h)) hd).choose_spec.2.1

theorem treeInv_cloneKidsLoop (recur : Server → Bytes → Server × CStat)
    (hrec : ∀ sv nm, TreeInv sv → TreeInv (recur sv nm).1) (src : List Bytes) :
    ∀ (k i : Nat) (sv : Server), TreeInv sv → TreeInv (cloneKidsLoop recur src k i sv).1 := by
  intro k
  induction k with
  | zero => intro i sv h; exact h
  | succ k ih =>
    intro i sv h
    rw [cloneKidsLoop]
    split
    · exact h
    · exact treeInv_ite_fst (ih _ _ (hrec _ _ h)) (hrec _ _ h)

theorem treeInv_cloneSubtree (by_ : Nat) (base : List Bytes) :
    ∀ (fuel : Nat) (sv : Server) (src dest : List Bytes) (ati : Bool), TreeInv sv →
      TreeInv (cloneSubtree true by_ base fuel sv src dest ati).1 := by
  intro fuel
  induction fuel with
  | zero => intro sv src dest ati h; exact h
  | succ fuel ih =>
    intro sv src dest ati h
    rw [cloneSubtree]
    split
    · exact h
    · have h1 := treeInv_setDataAt by_ dest (by assumption : Node).data ati h
      have h2 := treeInv_cloneKidsLoop _ (fun sv nm hsv => ih sv (src ++ [nm]) (dest ++ [nm]) false hsv) src
        cloneLoopFuel 0 _ h1
      exact treeInv_ite_fst h1 (treeInv_ite_fst (treeInv_cloneIndex _ _ _ h2) h2)

/-- `CloneDataNodeSubtree` (as repaired), from every state, for every source, destination and flag -/
theorem treeInv_cloneDataNodeSubtree {sv : Server} (by_ : Nat) (src dest : List Bytes) (ati : Bool) (h : TreeInv sv) :
    TreeInv (cloneDataNodeSubtree sv by_ src dest ati).1 := by
  unfold cloneDataNodeSubtree
  split
  · exact h
  · exact treeInv_cloneSubtree _ _ _ _ _ _ _ h

theorem treeInv_restoreKids (recur : Server → Node → Bool → Server × CStat)
    (hrec : ∀ sv k a, TreeInv sv → TreeInv (recur sv k a).1) :
    ∀ (l : List (Node × Bool)) (sv : Server), TreeInv sv → TreeInv (restoreKids recur l sv).1 := by
  intro l
  induction l with
  | nil => intro sv h; exact h
  | cons x r ih =>
    intro sv h
    exact treeInv_ite_fst (ih _ (hrec _ _ _ h)) (hrec _ _ _ h)

theorem treeInv_restoreTree (by_ : Nat) :
    ∀ (fuel : Nat) (sv : Server) (t : Node) (dest : List Bytes) (ati : Bool) (md : Nat), TreeInv sv →
      TreeInv (restoreTree by_ fuel sv t dest ati md).1 := by
  intro fuel
  induction fuel with
  | zero => intro sv t dest ati md h; exact h
  | succ fuel ih =>
    intro sv t dest ati md h
    rw [restoreTree]
    have h1 := treeInv_setDataAt by_ dest t.data ati h
    exact treeInv_ite_fst h1 (treeInv_ite_fst h1
      (treeInv_restoreKids _ (fun sv k a hsv => ih sv k (dest ++ [k.name]) a (md - 1) hsv) _ _ h1))

/-- `RestoreNodeTreeFromMessage`, from every state, for EVERY saved tree (also one no `SaveNodeTreeToMessage` would
    write: an index naming absent children or listing a child twice), destination, flag and depth -/
theorem treeInv_restoreNodeTree {sv : Server} (by_ : Nat) (t : Node) (dest : List Bytes) (ati : Bool) (md : Nat)
    (h : TreeInv sv) : TreeInv (restoreNodeTree sv by_ t dest ati md).1 :=
  treeInv_restoreTree _ _ _ _ _ _ _ h

end Muscle.Reflector
