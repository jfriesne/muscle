import MuscleModel.Reflector.TravProofsCands

/-!
# The skip-to-next-session callback of `PassMessageCallbackAux` (lemmas for C05)

The callback `fun _ _ _ => (true, 1)` (deliver, then return `NODE_DEPTH_HOSTNAME`) against the continue-callback, same
matcher, same tree.  The plan for a child is the same under both.  So below a session node (depth ≥ 2) the skip traversal
records exactly the first visit of the continue traversal and then unwinds to the host level (`travAux_skip`).  For a
session node itself (child of a host node, `depth` = 1) it records the first of what the continue traversal records for
that node or below it and goes on with the next session: in `CheckChildForTraversal` a returned depth above the child's
level sets the other action's flag too (finding F27).  At the root level nothing is terminal once every pattern has ≥ 2
clauses.
-/

namespace Muscle.Reflector
open Muscle

/-- with the callback `route` uses: record, then skip to the next session -/
def ctxS (pm : PM) (uf : Bool) (rd : Nat) : TCtx := { pm := pm, useFilters := uf, rootDepth := rd, cb := fun _ _ _ => (true, 1) }
def ctxC (pm : PM) (uf : Bool) (rd : Nat) : TCtx := { pm := pm, useFilters := uf, rootDepth := rd, cb := cbContinue }

/-- what a skip (sub)traversal started at depth ≥ 2 makes of the visits `L` of the continue traversal -/
def skipOf (depth : Nat) : List Visit → List Visit × Int
  | [] => ([], depth)
  | v :: _ => ([v], 1)

/-- … and what the loop for one child makes of them: unwind to depth 1 from below a session node (`depth` ≥ 2); for a session
    node (`depth` = 1) no abort, the traversal goes on with the next session -/
def skipChild (depth : Nat) : List Visit → List Visit × Option Int
  | [] => ([], none)
  | v :: _ => ([v], if 2 ≤ depth then some 1 else none)

theorem runActs_skip (depth : Nat) (hd : 1 ≤ depth) : ∀ l : List (List Visit),
    runActs depth (l.map (skipOf (depth + 1))) [] = skipChild depth l.flatten := by
  intro l
  induction l with
  | nil => rfl
  | cons L l ih =>
    cases L with
    | nil =>
      rw [List.map_cons, runActs, if_neg (by simp only [skipOf]; omega), if_neg (by simp only [skipOf]; omega)]
      exact ih
    | cons v r =>
      rw [List.map_cons, runActs]
      by_cases h2 : 2 ≤ depth
      · rw [if_pos (by simp only [skipOf]; omega)]; simp [skipOf, skipChild, h2]
      · rw [if_neg (by simp only [skipOf]; omega), if_pos (by simp only [skipOf]; omega)]; simp [skipOf, skipChild, h2]

theorem scanKids_skip {α : Type} (f : α → List Visit × Option Int) (g : α → List Visit) (depth : Nat) (hd : 2 ≤ depth) :
    ∀ l : List α, (∀ p ∈ l, f p = skipChild depth (g p)) → scanKids f l [] = skipChild depth (l.flatMap g) := by
  intro l
  induction l with
  | nil => intro _; rfl
  | cons p l ih =>
    intro h
    have hp := h p List.mem_cons_self
    rw [List.flatMap_cons]
    cases hg : g p with
    | nil =>
      rw [hg] at hp
      rw [scanKids_cons_none (by rw [hp]; rfl), hp]
      exact ih (fun q hq => h q (List.mem_cons_of_mem _ hq))
    | cons v r =>
      rw [hg] at hp
      rw [scanKids_cons_some (d := 1) (by rw [hp]; simp [skipChild, hd]), hp]
      simp [skipChild, hd]

theorem checkChild_skip (pm : PM) (uf : Bool) (rd : Nat) (recS recC : Rec) (k : Node) (names : Visit) (depth : Nat)
    (known : Option Nat) (hd : 1 ≤ depth)
    (hrC : ∀ k n d, (recC k n d).2 = (d : Int))
    (hr : ∀ k n, recS k n (depth + 1) = skipOf (depth + 1) (recC k n (depth + 1)).1) :
    checkChild (ctxS pm uf rd) recS k names depth known =
      skipChild depth (checkChild (ctxC pm uf rd) recC k names depth known).1 := by
  rw [checkChild_cont (ctxC pm uf rd) recC k names depth known rfl (hrC _ _ _), checkChild_eq]
  show runActs depth ((childPlan pm uf rd k names depth known).map _) [] =
    skipChild depth ((childPlan pm uf rd k names depth known).flatMap _)
  rw [List.flatMap_def, ← runActs_skip depth hd, List.map_map]
  congr 2
  funext a
  cases a
  · exact hr _ _
  · rfl

/-- below a session node the skip traversal records exactly the first visit of the continue traversal (if any) -/
theorem travAux_skip (pm : PM) (uf : Bool) (rd : Nat) :
    ∀ (fuel : Nat) (node : Node) (names : Visit) (depth : Nat), 2 ≤ depth →
      travAux (ctxS pm uf rd) fuel node names depth = skipOf depth (travAux (ctxC pm uf rd) fuel node names depth).1 := by
  intro fuel
  induction fuel with
  | zero => intros; rfl
  | succ fuel ih =>
    intro node names depth hd
    have hrC := travAux_snd (ctxC pm uf rd) rfl fuel
    rw [travAux, travAux, travLevel_eq_scan,
      travLevel_eq_levelKids (ctxC pm uf rd) _ node names depth (fun k known => checkChild_snd _ _ k names depth known rfl hrC)]
    show levelRet depth (scanKids _ (levelKids pm rd node depth) []) = skipOf depth ((levelKids pm rd node depth).flatMap _)
    rw [scanKids_skip _ (fun p => (checkChild (ctxC pm uf rd) (travAux (ctxC pm uf rd) fuel) p.1 names depth p.2).1) depth hd _
      (fun p _ => checkChild_skip pm uf rd _ _ p.1 names depth p.2 (by omega) hrC (fun k n => ih k n _ (by omega)))]
    cases (levelKids pm rd node depth).flatMap
      (fun p => (checkChild (ctxC pm uf rd) (travAux (ctxC pm uf rd) fuel) p.1 names depth p.2).1) with
    | nil => rfl
    | cons v r => simp [skipChild, skipOf, levelRet, hd]

/-- below a host node: for each session node, the first of what the continue traversal records for it or below it -/
theorem travAux_host_eq (pm : PM) (uf : Bool) (rd : Nat) (fuel : Nat) (h : Node) (names : Visit) :
    travAux (ctxS pm uf rd) (fuel + 1) h names 1 =
      ((levelKids pm rd h 1).flatMap
        (fun p => (checkChild (ctxC pm uf rd) (travAux (ctxC pm uf rd) fuel) p.1 names 1 p.2).1.take 1), 1) := by
  have hc : ∀ k known, checkChild (ctxS pm uf rd) (travAux (ctxS pm uf rd) fuel) k names 1 known =
      ((checkChild (ctxC pm uf rd) (travAux (ctxC pm uf rd) fuel) k names 1 known).1.take 1, none) := by
    intro k known
    rw [checkChild_skip pm uf rd _ (travAux (ctxC pm uf rd) fuel) k names 1 known (Nat.le_refl _)
      (travAux_snd (ctxC pm uf rd) rfl fuel) (fun k n => travAux_skip pm uf rd fuel k n 2 (Nat.le_refl _))]
    cases (checkChild (ctxC pm uf rd) (travAux (ctxC pm uf rd) fuel) k names 1 known).1 <;> rfl
  rw [travAux, travLevel_eq_levelKids _ _ h names 1 (fun k known => by rw [hc])]
  simp only [hc]
  rfl

theorem travAux_host_snd (pm : PM) (uf : Bool) (rd : Nat) (fuel : Nat) (h : Node) (names : Visit) :
    (travAux (ctxS pm uf rd) fuel h names 1).2 = 1 := by
  cases fuel with
  | zero => rfl
  | succ fuel => rw [travAux_host_eq]

theorem take2_of_prefix {a b : Bytes} {x : Visit} (h : [a, b] <+: x) : x.take 2 = [a, b] := by
  obtain ⟨t, rfl⟩ := h; simp

theorem skip_once_below_host (pm : PM) (uf : Bool) (rd : Nat) (fuel : Nat) (h : Node) (hn : Bytes) (hk : kidsNodup fuel h = true) :
    ((travAux (ctxS pm uf rd) fuel h [hn] 1).1.map (List.take 2)).Nodup ∧
    ∀ x ∈ (travAux (ctxS pm uf rd) fuel h [hn] 1).1, ∃ s ∈ h.kids, [hn, s.name] <+: x := by
  cases fuel with
  | zero => simp [travAux]
  | succ fuel =>
    rw [travAux_host_eq]
    have hpre : ∀ p : Node × Option Nat, ∀ x ∈ (checkChild (ctxC pm uf rd) (travAux (ctxC pm uf rd) fuel) p.1 [hn] 1 p.2).1.take 1,
        [hn, p.1.name] <+: x :=
      fun p x hx => checkChild_prefix _ fuel p.1 [hn] 1 p.2 x (List.mem_of_mem_take hx)
    constructor
    · show List.Pairwise (· ≠ ·) _
      rw [List.pairwise_map, List.pairwise_flatMap]
      constructor
      · intro p _
        cases (checkChild (ctxC pm uf rd) (travAux (ctxC pm uf rd) fuel) p.1 [hn] 1 p.2).1 <;> simp
      · refine (levelKids_pairwise pm rd h 1 (kidsNodup_succ hk).1).imp ?_
        intro a b hab x hx y hy hxy
        rw [take2_of_prefix (hpre a x hx), take2_of_prefix (hpre b y hy)] at hxy
        exact hab (by simpa using hxy)
    · intro x hx
      obtain ⟨p, hp, hxp⟩ := List.mem_flatMap.1 hx
      exact ⟨p.1, levelKids_sub pm rd h 1 p hp, hpre p x hxp⟩

/-- every pattern has at least `n` clauses -/
def pmMinClauses (n : Nat) (pm : PM) : Bool := pm.all (fun g => g.2.all (fun e => decide (n ≤ e.clauses.length)))

theorem pmMinClauses_iff {n : Nat} {pm : PM} : pmMinClauses n pm = true ↔ ∀ g ∈ pm, ∀ e ∈ g.2, n ≤ e.clauses.length := by
  simp only [pmMinClauses, List.all_eq_true, decide_eq_true_eq]

theorem pmMinClauses_mono {pm : PM} {m n : Nat} (hmn : m ≤ n) (h : pmMinClauses n pm = true) :
    pmMinClauses m pm = true :=
  pmMinClauses_iff.2 fun g hg e he => Nat.le_trans hmn (pmMinClauses_iff.1 h g hg e he)

/-- one child at a level without terminal entries, any callback: exactly what the recursive call records, if the descent is
    planned, provided the recursive call returns at least the child's depth -/
theorem checkChild_noterm (ctx : TCtx) (rec : Rec) (k : Node) (names : Visit) (depth : Nat) (known : Option Nat)
    (ht : ∀ e ∈ activeEntries ctx.pm (depth - ctx.rootDepth), termB ctx.rootDepth depth e = false)
    (hnr : ¬ (rec k (names ++ [k.name]) (depth + 1)).2 < (depth : Int) + 1) :
    checkChild ctx rec k names depth known =
      (if false ∈ childPlan ctx.pm ctx.useFilters ctx.rootDepth k names depth known
        then (rec k (names ++ [k.name]) (depth + 1)).1 else [], none) := by
  have hc := plan_cases ctx.pm ctx.useFilters ctx.rootDepth k (names ++ [k.name]) depth known
    (activeEntries ctx.pm (depth - ctx.rootDepth)) 0
  have hnt : true ∉ childPlan ctx.pm ctx.useFilters ctx.rootDepth k names depth known := by
    intro h
    obtain ⟨e, he, hte⟩ := plan_true_term _ _ _ _ _ _ _ _ _ _ _ h
    rw [ht e he] at hte; cases hte
  rw [checkChild_eq]
  unfold childPlan at hnt ⊢
  simp only [List.mem_cons, List.not_mem_nil, or_false] at hc
  rcases hc with h | h | h | h | h <;> rw [h] at hnt ⊢ <;> simp at hnt
  · rfl
  · rw [List.map_cons, List.map_nil, runActs, if_neg (by simp only [actOf]; omega), if_neg (by simpa only [actOf] using hnr)]
    simp [runActs, actOf]

/-- the root level when the level below returns depth 1: every host node that some pattern's first clause matches is descended into -/
theorem travAux_root_eq (ctx : TCtx) (hrd : ctx.rootDepth = 0) (hmin : pmMinClauses 2 ctx.pm = true) (fuel : Nat) (node : Node)
    (h1 : ∀ k n, (travAux ctx fuel k n 1).2 = 1) :
    travAux ctx (fuel + 1) node [] 0 =
      ((levelKids ctx.pm ctx.rootDepth node 0).flatMap (fun p =>
        if false ∈ childPlan ctx.pm ctx.useFilters ctx.rootDepth p.1 [] 0 p.2 then (travAux ctx fuel p.1 [p.1.name] 1).1 else []),
       0) := by
  have hc : ∀ k known, checkChild ctx (travAux ctx fuel) k [] 0 known =
      (if false ∈ childPlan ctx.pm ctx.useFilters ctx.rootDepth k [] 0 known then (travAux ctx fuel k [k.name] 1).1 else [], none) := by
    intro k known
    apply checkChild_noterm ctx _ k [] 0 known
    · intro e he
      obtain ⟨g, hg, _, heg⟩ := mem_activeEntries.1 he
      have := pmMinClauses_iff.1 hmin g hg e heg
      simp only [termB, hrd, decide_eq_false_iff_not]; omega
    · rw [h1]; omega
  rw [travAux, travLevel_eq_levelKids _ _ node [] 0 (fun k known => by rw [hc])]
  simp only [hc]
  rfl

/-- the whole traversal: at most one visit per (host, session) pair, and every visit lies below a session node of the tree -/
theorem skip_once_per_session_node (pm : PM) (uf : Bool) (hmin : pmMinClauses 2 pm = true) (fuel : Nat) (node : Node)
    (hk : kidsNodup fuel node = true) :
    ((travAux (ctxS pm uf 0) fuel node [] 0).1.map (List.take 2)).Nodup ∧
    ∀ x ∈ (travAux (ctxS pm uf 0) fuel node [] 0).1, ∃ h ∈ node.kids, ∃ s ∈ h.kids, [h.name, s.name] <+: x := by
  cases fuel with
  | zero => simp [travAux]
  | succ fuel =>
    obtain ⟨hkn, hkk⟩ := kidsNodup_succ hk
    rw [travAux_root_eq (ctxS pm uf 0) rfl hmin fuel node (travAux_host_snd pm uf 0 fuel)]
    show (List.map (List.take 2) ((levelKids pm 0 node 0).flatMap fun p =>
        if false ∈ childPlan pm uf 0 p.1 [] 0 p.2 then (travAux (ctxS pm uf 0) fuel p.1 [p.1.name] 1).1 else [])).Nodup ∧
      ∀ x ∈ (levelKids pm 0 node 0).flatMap fun p =>
        if false ∈ childPlan pm uf 0 p.1 [] 0 p.2 then (travAux (ctxS pm uf 0) fuel p.1 [p.1.name] 1).1 else [], _
    have hhost : ∀ p ∈ levelKids pm 0 node 0, _ := fun p hp =>
      skip_once_below_host pm uf 0 fuel p.1 p.1.name (hkk p.1 (levelKids_sub _ _ _ _ p hp))
    have hmem : ∀ p ∈ levelKids pm 0 node 0,
        ∀ x ∈ (if false ∈ childPlan pm uf 0 p.1 [] 0 p.2 then (travAux (ctxS pm uf 0) fuel p.1 [p.1.name] 1).1 else []),
          ∃ s ∈ p.1.kids, [p.1.name, s.name] <+: x := by
      intro p hp x hx
      by_cases hf : false ∈ childPlan pm uf 0 p.1 [] 0 p.2
      · rw [if_pos hf] at hx; exact (hhost p hp).2 x hx
      · rw [if_neg hf] at hx; cases hx
    constructor
    · show List.Pairwise (· ≠ ·) _
      rw [List.pairwise_map, List.pairwise_flatMap]
      constructor
      · intro p hp
        by_cases hf : false ∈ childPlan pm uf 0 p.1 [] 0 p.2
        · rw [if_pos hf]; exact List.pairwise_map.1 (hhost p hp).1
        · rw [if_neg hf]; exact List.Pairwise.nil
      · refine List.Pairwise.imp_of_mem ?_ (levelKids_pairwise _ _ node 0 hkn)
        intro a b ha hb hab x hx y hy hxy
        obtain ⟨s, _, hpa⟩ := hmem a ha x hx
        obtain ⟨s', _, hpb⟩ := hmem b hb y hy
        rw [take2_of_prefix hpa, take2_of_prefix hpb] at hxy
        apply hab; simp at hxy; exact hxy.1
    · intro x hx
      obtain ⟨p, hp, hxp⟩ := List.mem_flatMap.1 hx
      obtain ⟨s, hs, hpa⟩ := hmem p hp x hxp
      exact ⟨p.1, levelKids_sub _ _ _ _ p hp, s, hs, hpa⟩

/-- session names are unique across hosts (session ids are server-wide unique) -/
def SessUnique (node : Node) : Prop :=
  ∀ h ∈ node.kids, ∀ h' ∈ node.kids, ∀ s ∈ h.kids, ∀ s' ∈ h'.kids, s.name = s'.name → h.name = h'.name

/-! ## the skip traversal reaches the sessions the continue traversal reaches

Host level: per session node the skip traversal keeps the first visit of the continue traversal; root level (no terminal entries when
every pattern has ≥ 2 clauses): both descend into the same host nodes. -/

/-- "same sessions": every skip visit is a continue visit, and every continue visit has a skip visit in the same session -/
def SameSess (LS LC : List Visit) : Prop :=
  (∀ v ∈ LS, v ∈ LC) ∧ (∀ w ∈ LC, ∃ v ∈ LS, v.take 2 = w.take 2)

theorem SameSess_flatMap {α : Type} (ps : List α) (gS gC : α → List Visit) (h : ∀ p ∈ ps, SameSess (gS p) (gC p)) :
    SameSess (ps.flatMap gS) (ps.flatMap gC) := by
  constructor
  · intro v hv
    obtain ⟨p, hp, hvp⟩ := List.mem_flatMap.1 hv
    exact List.mem_flatMap.2 ⟨p, hp, (h p hp).1 v hvp⟩
  · intro w hw
    obtain ⟨p, hp, hwp⟩ := List.mem_flatMap.1 hw
    obtain ⟨v, hv, hvw⟩ := (h p hp).2 w hwp
    exact ⟨v, List.mem_flatMap.2 ⟨p, hp, hv⟩, hvw⟩

theorem SameSess_take1 (a b : Bytes) (L : List Visit) (hp : ∀ v ∈ L, [a, b] <+: v) : SameSess (L.take 1) L := by
  constructor
  · intro v hv; exact List.mem_of_mem_take hv
  · intro w hw
    cases L with
    | nil => cases hw
    | cons x r =>
      refine ⟨x, by simp, ?_⟩
      rw [take2_of_prefix (hp x List.mem_cons_self), take2_of_prefix (hp w hw)]

theorem SameSess_nil : SameSess [] [] := ⟨fun _ h => h, fun _ h => by cases h⟩

/-- below one host node the two traversals reach the same sessions (no hypothesis on the patterns) -/
theorem host_sameSess (pm : PM) (uf : Bool) (fuel : Nat) (h : Node) (hn : Bytes) :
    SameSess (travAux (ctxS pm uf 0) fuel h [hn] 1).1 (travAux (ctxC pm uf 0) fuel h [hn] 1).1 := by
  cases fuel with
  | zero => exact SameSess_nil
  | succ fuel =>
    have hrC := travAux_snd (ctxC pm uf 0) rfl fuel
    rw [travAux_host_eq, travAux, travLevel_eq_levelKids (ctxC pm uf 0) _ h [hn] 1
      (fun k known => checkChild_snd _ _ k [hn] 1 known rfl hrC)]
    exact SameSess_flatMap _ _ _ fun p _ => SameSess_take1 hn p.1.name _ (checkChild_prefix _ fuel p.1 [hn] 1 p.2)

/-- over the whole tree the two traversals reach the same sessions; nothing is asked of the tree or of the clause patterns -/
theorem root_sameSess (pm : PM) (uf : Bool) (hmin : pmMinClauses 2 pm = true) (fuel : Nat) (node : Node) :
    SameSess (travAux (ctxS pm uf 0) fuel node [] 0).1 (travAux (ctxC pm uf 0) fuel node [] 0).1 := by
  cases fuel with
  | zero => exact SameSess_nil
  | succ fuel =>
    rw [travAux_root_eq (ctxS pm uf 0) rfl hmin fuel node (travAux_host_snd pm uf 0 fuel),
      travAux_root_eq (ctxC pm uf 0) rfl hmin fuel node (fun k n => travAux_snd (ctxC pm uf 0) rfl fuel k n 1)]
    refine SameSess_flatMap _ _ _ fun p _ => ?_
    show SameSess (if false ∈ childPlan pm uf 0 p.1 [] 0 p.2 then _ else _) (if false ∈ childPlan pm uf 0 p.1 [] 0 p.2 then _ else _)
    by_cases hf : false ∈ childPlan pm uf 0 p.1 [] 0 p.2
    · rw [if_pos hf, if_pos hf]; exact host_sameSess pm uf fuel p.1 p.1.name
    · rw [if_neg hf, if_neg hf]; exact SameSess_nil

end Muscle.Reflector
