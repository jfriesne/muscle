import MuscleModel.Reflector.EffectSteps

/-!
# The broadcast fallback of `sendMsg` (C05) — `BroadcastToAllSessions(msg, userData, reflect-to-self)`

When the Message names no keys and the sender has no default route, `sendMsg` is `deliverAll` of its text to the selected
sessions (`bc_sendMsg`).  A sequence of deliveries gives every session the lines addressed to its id (`deliverAll_sessions`);
with pairwise distinct session ids the broadcast is therefore one `map` over the session table (`bc_sessions`): every
selected session gets the text appended once, every other session is left alone.
-/


namespace Muscle.Reflector
open Muscle

/-- what the broadcast does to one session -/
def bcStep (sid : Nat) (rs : Bool) (text : String) (t : Sess) : Sess :=
  if t.sid ≠ sid || rs then { t with inbox := t.inbox ++ [text] } else t

@[simp] theorem bc_deliver_root (sv : Server) (sid : Nat) (w : String) : (sv.deliver sid w).root = sv.root := rfl
@[simp] theorem bc_deliver_live (sv : Server) (sid : Nat) (w : String) : (sv.deliver sid w).live = sv.live := rfl
@[simp] theorem bc_deliver_nextSid (sv : Server) (sid : Nat) (w : String) : (sv.deliver sid w).nextSid = sv.nextSid := rfl
@[simp] theorem bc_deliver_dirty (sv : Server) (sid : Nat) (w : String) : (sv.deliver sid w).subsDirty = sv.subsDirty := rfl
@[simp] theorem bc_deliver_maxd (sv : Server) (sid : Nat) (w : String) :
    (sv.deliver sid w).maxItemsDefault = sv.maxItemsDefault := rfl

theorem deliverAll_frame (ds : List (Nat × String)) : ∀ sv : Server,
    (deliverAll sv ds).root = sv.root ∧ (deliverAll sv ds).live = sv.live ∧ (deliverAll sv ds).nextSid = sv.nextSid ∧
    (deliverAll sv ds).subsDirty = sv.subsDirty ∧ (deliverAll sv ds).maxItemsDefault = sv.maxItemsDefault := by
  induction ds with
  | nil => intro sv; exact ⟨rfl, rfl, rfl, rfl, rfl⟩
  | cons d r ih => intro sv; exact ih (sv.deliver d.1 d.2)

/-- `u` with the lines `e` appended to its inbox -/
def Sess.app (u : Sess) (e : List String) : Sess := { u with inbox := u.inbox ++ e }

theorem deliverAll_sessions (ds : List (Nat × String)) : ∀ sv : Server,
    (deliverAll sv ds).sessions =
      sv.sessions.map (fun u => u.app ((ds.filter (fun d => d.1 = u.sid)).map (·.2))) := by
  induction ds with
  | nil => intro sv; simp [deliverAll, Sess.app]
  | cons d r ih =>
    intro sv
    show (deliverAll (sv.deliver d.1 d.2) r).sessions = _
    rw [ih]
    show List.map _ (sv.sessions.map _) = _
    rw [List.map_map]
    apply List.map_congr_left
    intro u _
    by_cases hu : u.sid = d.1
    · simp [Function.comp, hu, Sess.app]
    · have hd : ¬ d.1 = u.sid := fun e => hu e.symm
      simp [Function.comp, hu, hd]

/-- whom the broadcast delivers to, in the order of the session table -/
def bcTargets (sid : Nat) (rs : Bool) (text : String) (l : List Sess) : List (Nat × String) :=
  (l.filter (fun t => t.sid ≠ sid || rs)).map (fun t => (t.sid, text))

theorem bc_sendMsg (sv : Server) (sid tag : Nat) (s : Sess) (hs : sv.sess? sid = some s) (hk : s.hasRouteKeys = false) :
    sendMsg sv sid tag [] =
      deliverAll sv (bcTargets sid s.reflectSelf (msgText sid tag) sv.sessions) := by
  have key : ∀ (p : Sess → Bool) (w : String) (l : List Sess) (x : Server),
      l.foldl (fun x t => if p t then x.deliver t.sid w else x) x = deliverAll x ((l.filter p).map (fun t => (t.sid, w))) := by
    intro p w l
    induction l with
    | nil => intro x; rfl
    | cons a r ih => intro x; cases hp : p a <;> simp [hp, ih] <;> rfl
  unfold sendMsg bcTargets
  rw [hs]
  simp only [List.isEmpty_nil, Bool.not_true, Bool.false_eq_true, if_false, hk]
  exact key _ _ _ _

theorem bc_filter_sid {l : List Sess} (hnd : (l.map (·.sid)).Nodup) {u : Sess} (hu : u ∈ l) (p : Sess → Bool) :
    l.filter (fun t => decide (t.sid = u.sid) && p t) = if p u then [u] else [] := by
  induction l with
  | nil => cases hu
  | cons a r ih =>
    simp only [List.map_cons, List.nodup_cons, List.mem_map, not_exists, not_and] at hnd
    rcases List.mem_cons.mp hu with rfl | hur
    · have hrest : r.filter (fun t => decide (t.sid = u.sid) && p t) = [] := by
        rw [List.filter_eq_nil_iff]
        intro t ht
        have : ¬ t.sid = u.sid := hnd.1 t ht
        simp [this]
      simp only [List.filter_cons, decide_true, Bool.true_and, hrest]
    · have hne : ¬ a.sid = u.sid := fun e => hnd.1 u hur e.symm
      simp only [List.filter_cons, hne, decide_false, Bool.false_and, Bool.false_eq_true, if_false]
      exact ih hnd.2 hur

/-- **the broadcast is one map over the session table** when the ids are pairwise distinct -/
theorem bc_sessions (sid : Nat) (rs : Bool) (text : String) (sv : Server) (hnd : (sv.sessions.map (·.sid)).Nodup) :
    (deliverAll sv (bcTargets sid rs text sv.sessions)).sessions = sv.sessions.map (bcStep sid rs text) := by
  rw [deliverAll_sessions]
  apply List.map_congr_left
  intro u hu
  have : (bcTargets sid rs text sv.sessions).filter (fun d => d.1 = u.sid) =
      (sv.sessions.filter (fun t => decide (t.sid = u.sid) && (t.sid ≠ sid || rs))).map (fun t => (t.sid, text)) := by
    unfold bcTargets
    rw [List.filter_map, List.filter_filter]
    rfl
  rw [this, bc_filter_sid hnd hu]
  unfold bcStep Sess.app
  split <;> simp

theorem bc_step_sid (sid : Nat) (rs : Bool) (text : String) (t : Sess) : (bcStep sid rs text t).sid = t.sid := by
  unfold bcStep; split <;> rfl

end Muscle.Reflector
