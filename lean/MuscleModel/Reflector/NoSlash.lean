import MuscleModel.Reflector.SyncSteps

/-!
# No node name contains `/` — hence every path string is unambiguous (`Unamb`, C04)

`NS sv`: at every node of the tree the name contains no `/` (`AllNodes`, structurally).  Kept by every handler: the names
the server creates are path clauses (split at `/`), generated names `I<n>`, session-node names (decimal digits) and host
names (a hypothesis at `attach`).  `CReach` = `MReach` with hosts without `/`.  `pathString` is injective on slash-free
name lists, so in an `NS` state every existing node's path string belongs to no other slash-free name list.
-/


namespace Muscle.Reflector
open Muscle Muscle.Eng.SrvEngine

def NameOK (n : Node) : Prop := cSlash ∉ n.name

/-- `NS` ("no slash") -/
def NS (sv : Server) : Prop := AllNodes NameOK sv.root

theorem NS.of_root {a b : Server} (h : b.root = a.root) (ha : NS a) : NS b := by
  unfold NS at *; rw [h]; exact ha

theorem NS.setNode {sv : Server} (path : List Bytes) (f : Node → Node)
    (ht : ∀ t, AllNodes NameOK t → AllNodes NameOK (f t)) (h : NS sv) : NS (Reflector.setNode sv path f) :=
  AllNodes.updateAt (fun _ _ hn => hn) fuelDepth sv.root path h (fun t _ => ht t)

theorem NS.setField {sv : Server} (path : List Bytes) (f : Node → Node) (hname : ∀ n, (f n).name = n.name)
    (hkids : ∀ n, (f n).kids = n.kids) (h : NS sv) : NS (Reflector.setNode sv path f) := by
  apply NS.setNode path f _ h
  intro t ht
  refine AllNodes.mk _ ?_ ?_
  · show cSlash ∉ (f t).name
    rw [hname]; exact ht.here
  · rw [hkids]; exact ht.kid

theorem NS.putKid {sv : Server} (parent : List Bytes) (child : Node) (hc : AllNodes NameOK child) (h : NS sv) :
    NS (Reflector.setNode sv parent (fun p => p.setKids (Reflector.putKid child p.kids))) := by
  refine NS.setNode parent _ ?_ h
  intro t ht
  refine AllNodes.mk _ ht.here ?_
  intro k hk
  rcases mem_putKid hk with rfl | hk
  · exact hc
  · exact ht.kid k hk

theorem NS.removeKid {sv : Server} (parent : List Bytes) (key : Bytes) (h : NS sv) :
    NS (Reflector.setNode sv parent (fun p => p.setKids (Reflector.removeKid key p.kids))) := by
  refine NS.setNode parent _ ?_ h
  intro t ht
  exact AllNodes.mk _ ht.here (fun k hk => ht.kid k ((removeKid_sublist _ _).subset hk))

theorem allNodes_leaf {c : Node} (hn : cSlash ∉ c.name) (hk : c.kids = []) : AllNodes NameOK c :=
  AllNodes.mk _ hn (by rw [hk]; intro k hk'; cases hk')

theorem NS.notifyChanged {sv : Server} (by_ : Nat) (names : List Bytes) (node : Node) (od : Option (Option Nat))
    (removed : Bool) (h : NS sv) : NS (Reflector.notifyChanged sv by_ names node od removed) := h.of_root (by simp)

theorem NS.notifyIndex {sv : Server} (names : List Bytes) (node : Node) (instr : Bytes) (h : NS sv) :
    NS (Reflector.notifyIndex sv names node instr) := h.of_root (by simp)

theorem NS.updSess {sv : Server} (sid : Nat) (f : Sess → Sess) (h : NS sv) : NS (sv.updSess sid f) := h.of_root rfl

theorem NS.pushAll {sv : Server} (h : NS sv) : NS (Reflector.pushAll sv) := h.of_root (by simp)

@[simp] theorem ns_pushAll (sv : Server) : NS (Reflector.pushAll sv) ↔ NS sv := by
  unfold NS; rw [pushAll_root]

theorem noSlash_decB (n : Nat) : cSlash ∉ decB n := by
  intro h
  have := isDigitB_decB n _ h
  revert this; decide

theorem noSlash_autoNm (k : Nat) : cSlash ∉ autoNm k := by
  rw [autoNm_bytes]
  intro h
  rcases List.mem_cons.1 h with h | h
  · revert h; decide
  · exact noSlash_decB k h

theorem noSlash_autoName : ∀ (fuel ctr : Nat) (kids : List Node), cSlash ∉ (autoName fuel ctr kids).1 := by
  intro fuel
  induction fuel with
  | zero => intro ctr kids; exact noSlash_autoNm ctr
  | succ fuel ih =>
    intro ctr kids
    rw [autoName]
    split
    · exact ih _ _
    · exact noSlash_autoNm ctr

theorem noSlash_sidName (n : Nat) : cSlash ∉ sidName n := by
  unfold sidName
  rw [decOf_eq_decB]; exact noSlash_decB n

theorem NS.of_data {sid : Nat} {own : List Bytes} {a b : Server} (h : Data sid own (cSlash ∉ ·) a b) (ha : NS a) : NS b := by
  refine h.inv (fun x op hp hx => ?_) ha
  cases op with
  | dirty d => exact hx.of_root rfl
  | push => exact hx.of_root rfl
  | sess t f => exact hx.updSess t f
  | node path f =>
    rcases hp with ⟨_, hf | ⟨c, hk, hn, rfl⟩⟩ | ⟨_, key, rfl⟩ | ⟨delta, rfl⟩
    · exact hx.setField path f hf.name hf.kids
    · exact hx.putKid path _ (allNodes_leaf (c := c.setSubs _) hn hk)
    · exact hx.removeKid path key
    · exact hx.setField path _ (fun _ => rfl) (fun _ => rfl)

theorem splitSlashAux_clause_noslash (p cur : Bytes) (hcur : cSlash ∉ cur) : ∀ c ∈ splitSlashAux p cur, cSlash ∉ c := by
  induction p generalizing cur with
  | nil => intro c hc; simp [splitSlashAux] at hc; subst hc; simpa using hcur
  | cons x r ih =>
    intro c hc
    rw [splitSlashAux] at hc
    split at hc
    · rcases List.mem_cons.1 hc with rfl | hc
      · simpa using hcur
      · exact ih [] (by simp) c hc
    · rename_i hx
      apply ih (x :: cur) _ c hc
      intro hm
      rcases List.mem_cons.1 hm with e | hm
      · exact hx e.symm
      · exact hcur hm

theorem noSlash_pathClauses (path : Bytes) : ∀ c ∈ pathClauses path, cSlash ∉ c := by
  intro c hc
  exact splitSlashAux_clause_noslash path [] (by simp) c (List.mem_filter.1 hc).1

theorem NS.attach {sv : Server} (slot : Nat) (host : Bytes) (hh : cSlash ∉ host) (h : NS sv) : NS (Reflector.attach sv slot host).1 :=
  NS.of_data (attach_grow sv slot host hh (noSlash_sidName _)).data (NS.of_root (a := sv) rfl h)

theorem NS.detach {sv : Server} (sid : Nat) (h : NS sv) : NS (Reflector.detach sv sid) := by
  cases hs : sv.sess? sid with
  | none => simpa [Reflector.detach, hs] using h
  | some s => exact NS.of_root (detach_eq sv sid s hs).1 (NS.of_data (detachBody_data sv sid s) h)

theorem NS.runCmd {sv : Server} (h : NS sv) (sid : Nat) (c : Cmd) : NS (Muscle.Eng.SrvEngine.runCmd sv sid c) := by
  cases hs : sv.sess? sid with
  | none => rw [runCmd_absent sv sid hs c]; exact h
  | some s =>
    cases hp : c.isParam with
    | true =>
      obtain ⟨f, _, e⟩ := runCmd_param_eq sv sid c hp
      rw [e]
      exact h.updSess ..
    | false =>
      refine NS.of_data (runCmd_data noSlash_autoName sv sid s hs c hp ?_) h
      cases c <;> first | trivial | exact noSlash_pathClauses _

theorem NS.reorder {sv : Server} (sid : Nat) (key before : Bytes) (h : NS sv) : NS (Reflector.reorder sv sid key before) :=
  h.runCmd sid (.reorder key before)

theorem NS.subscribe {sv : Server} (sid : Nat) (path : Bytes) (f : Option Filt) (h : NS sv) :
    NS (Reflector.subscribe sv sid path f) :=
  h.runCmd sid (.sub path f)

theorem NS.unsubscribe {sv : Server} (sid : Nat) (path : Bytes) (h : NS sv) : NS (Reflector.unsubscribe sv sid path) :=
  h.runCmd sid (.unsub path)

inductive CReach : Server → Prop
  | init : CReach {}
  | attach {sv : Server} (slot : Nat) (host : Bytes) : cSlash ∉ host → CReach sv → CReach (Reflector.attach sv slot host).1
  | detach {sv : Server} (sid : Nat) : CReach sv → CReach (Reflector.detach sv sid)
  | cmd {sv : Server} (sid : Nat) (c : Cmd) : CmdOK c → CReach sv → CReach (Muscle.Eng.SrvEngine.runCmd sv sid c)
  | push {sv : Server} : CReach sv → CReach (Reflector.pushAll sv)
  | pump {sv : Server} : CReach sv → CReach { sv with sessions := sv.sessions.map (fun s => { s with inbox := [] }) }

theorem CReach.mreach {sv : Server} (h : CReach sv) : MReach sv := by
  induction h with
  | init => exact .init
  | attach slot host _ _ ih => exact .attach slot host ih
  | detach sid _ ih => exact .detach sid ih
  | cmd sid c hc _ ih => exact .cmd sid c hc ih
  | push _ ih => exact .push ih
  | pump _ ih => exact .pump ih

theorem CReach.ns {sv : Server} (h : CReach sv) : NS sv := by
  induction h with
  | init => exact AllNodes.mk _ (by simp [NameOK, Node.fresh, Node.name]) (by intro k hk; cases hk)
  | attach slot host hh _ ih => exact ih.attach slot host hh
  | detach sid _ ih => exact ih.detach sid
  | cmd sid c _ _ ih => exact ih.runCmd sid c
  | push _ ih => exact ih.pushAll
  | pump _ ih => exact ih

theorem pathString_cons (x : Bytes) (r : List Bytes) : pathString (x :: r) = cSlash :: (x ++ pathString r) := by
  simp [pathString]

/-- the inverse of `pathString` on slash-free names -/
def namesOf : Bytes → List Bytes
  | [] => []
  | _ :: r => splitSlash r

theorem splitSlashAux_append_noslash (x : Bytes) (hx : cSlash ∉ x) (rest cur : Bytes) :
    splitSlashAux (x ++ rest) cur = splitSlashAux rest (x.reverse ++ cur) := by
  induction x generalizing cur with
  | nil => rfl
  | cons c x' ih =>
    have hc : c ≠ cSlash := fun e => hx (e ▸ List.mem_cons_self)
    simp only [List.cons_append, splitSlashAux, hc, if_false]
    rw [ih (fun hm => hx (List.mem_cons_of_mem _ hm))]
    simp

theorem namesOf_pathString : ∀ (v : List Bytes), v ≠ [] → (∀ x ∈ v, cSlash ∉ x) → namesOf (pathString v) = v := by
  intro v hv hns
  cases v with
  | nil => exact absurd rfl hv
  | cons x r =>
    rw [pathString_cons]
    show splitSlash (x ++ pathString r) = x :: r
    unfold splitSlash
    have key : ∀ (r : List Bytes) (x cur : Bytes), cSlash ∉ x → (∀ y ∈ r, cSlash ∉ y) →
        splitSlashAux (x ++ pathString r) cur = (cur.reverse ++ x) :: r := by
      intro r
      induction r with
      | nil =>
        intro x cur hx _
        have : pathString [] = [] := rfl
        rw [this, splitSlashAux_append_noslash x hx [] cur]
        simp [splitSlashAux]
      | cons y r' ih =>
        intro x cur hx hr
        rw [pathString_cons, splitSlashAux_append_noslash x hx _ cur]
        simp only [splitSlashAux, if_true]
        have := ih y [] (hr y List.mem_cons_self) (fun z hz => hr z (List.mem_cons_of_mem _ hz))
        simp only [List.reverse_nil, List.nil_append] at this
        rw [this]
        simp
    have := key r x [] (hns x List.mem_cons_self) (fun y hy => hns y (List.mem_cons_of_mem _ hy))
    simpa using this

theorem pathString_inj (v w : List Bytes) (hv : ∀ x ∈ v, cSlash ∉ x) (hw : ∀ x ∈ w, cSlash ∉ x)
    (h : pathString v = pathString w) : v = w := by
  cases v with
  | nil =>
    cases w with
    | nil => rfl
    | cons y r => rw [pathString_cons] at h; cases h
  | cons x r =>
    cases w with
    | nil => rw [pathString_cons] at h; cases h
    | cons y r' => rw [← namesOf_pathString _ (by simp) hv, h, namesOf_pathString _ (by simp) hw]

theorem names_ok_of_nodeAt {root : Node} (h : AllNodes NameOK root) :
    ∀ (v : List Bytes) (fuel : Nat) (n : Node), nodeAt fuel root v = some n → ∀ x ∈ v, cSlash ∉ x := by
  intro v
  induction v generalizing root with
  | nil => intro _ _ _ x hx; cases hx
  | cons a r ih =>
    intro fuel n hn x hx
    cases fuel with
    | zero => simp [nodeAt_zero_cons] at hn
    | succ fuel =>
      rw [nodeAt_succ_cons] at hn
      cases hk : findKid a root.kids with
      | none => rw [hk] at hn; cases hn
      | some k =>
        rw [hk] at hn
        simp only [] at hn
        have hkm := findKid_some_mem hk
        rcases List.mem_cons.1 hx with rfl | hx
        · have := (h.kid k hkm).here
          rw [← findKid_name hk]; exact this
        · exact ih (h.kid k hkm) fuel n hn x hx

theorem NS.unamb {sv : Server} (h : NS sv) {v : List Bytes} (hv : ∀ x ∈ v, cSlash ∉ x) : Unamb sv v := by
  intro w hw hsome
  obtain ⟨n, hn⟩ := Option.isSome_iff_exists.1 hsome
  exact pathString_inj w v (names_ok_of_nodeAt h w _ n hn) hv hw

theorem NS.names {sv : Server} (h : NS sv) {v : List Bytes} {n : Node} (hn : getNode sv v = some n) :
    ∀ x ∈ v, cSlash ∉ x := names_ok_of_nodeAt h v _ n hn

end Muscle.Reflector
