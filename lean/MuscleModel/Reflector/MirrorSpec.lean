import MuscleModel.Reflector.PipeTwin

/-!
# The specification `Matches` / `MirrorOK` of C04 and one node change

* `visible s v`: the node at name path `v` is not one of `s`'s own (`ownerName v ≠ s`'s session-node name) or `s`
  reflects to itself — the rule of `NotifySubscribersThatNodeChanged`'s caller test and of `GetDataCallback`.
* `Matches sv s p d`: some node below the root, at a name path with path string `p`, visible to `s`, wanted by `s`
  (an entry of `s.subs` matches the path and its filter accepts the payload), has payload `d`.
* `MirrorOK sv s m`: the client mirror `m` holds exactly that: `m p = some d ↔ Matches sv s p d` — nothing missing,
  nothing stale, nothing extra.
-/


namespace Muscle.Reflector
open Muscle

def visible (s : Sess) (v : List Bytes) : Bool := decide (ownerName v ≠ some (sidName s.sid)) || s.reflectSelf

def Matches (sv : Server) (s : Sess) (p : Bytes) (d : Option Nat) : Prop :=
  ∃ v n, v ≠ [] ∧ getNode sv v = some n ∧ pathString v = p ∧ visible s v = true ∧ wants s v n.data = true ∧ n.data = d

def MirrorOK (sv : Server) (s : Sess) (m : Mirror) : Prop := ∀ p d, m p = some d ↔ Matches sv s p d

/-- what the mirror of `s` must hold at the path string of `v` when the node there has payload `x` (`none`: no node) -/
def expected (s : Sess) (v : List Bytes) (x : Option (Option Nat)) : Option (Option Nat) :=
  if visible s v then entryFor s v x else none

/-- the path string of `v` belongs to no other existing node of `sv` -/
def Unamb (sv : Server) (v : List Bytes) : Prop := ∀ w, pathString w = pathString v → (getNode sv w).isSome → w = v

theorem matches_at {sv : Server} {s : Sess} {v : List Bytes} (hv : v ≠ []) (hu : Unamb sv v) (d : Option Nat) :
    Matches sv s (pathString v) d ↔ expected s v ((getNode sv v).map Node.data) = some d := by
  unfold expected
  constructor
  · rintro ⟨w, n, _, hn, hp, hvis, hw, hd⟩
    have hwv : w = v := hu w hp (by rw [hn]; rfl)
    subst hwv
    rw [hn]
    subst hd
    simp [hvis, entryFor, hw]
  · intro h
    by_cases hvis : visible s v = true
    · rw [if_pos hvis] at h
      cases hn : getNode sv v with
      | none => rw [hn] at h; simp [entryFor] at h
      | some n =>
        rw [hn] at h
        simp only [Option.map_some, entryFor] at h
        by_cases hw : wants s v n.data = true
        · rw [if_pos hw] at h
          exact ⟨v, n, hv, hn, rfl, hvis, hw, by simpa using h⟩
        · rw [if_neg hw] at h; cases h
    · rw [if_neg hvis] at h; cases h

theorem mirror_at {sv : Server} {s : Sess} {m : Mirror} (hm : MirrorOK sv s m) {v : List Bytes} (hv : v ≠ [])
    (hu : Unamb sv v) : m (pathString v) = expected s v ((getNode sv v).map Node.data) :=
  Option.ext (fun d => (hm (pathString v) d).trans (matches_at hv hu d))

/-- the payloads of the two trees agree at every name path except `v` -/
def OneChange (sv sv' : Server) (v : List Bytes) : Prop :=
  ∀ w, w ≠ v → (getNode sv' w).map Node.data = (getNode sv w).map Node.data

/-- `Matches` reads the payloads at the name paths with the given path string only -/
theorem matches_of_data {a b : Server} {s : Sess} {p : Bytes} {d : Option Nat}
    (h : ∀ w, pathString w = p → (getNode b w).map Node.data = (getNode a w).map Node.data) :
    Matches b s p d → Matches a s p d := by
  rintro ⟨w, n, hw0, hn, hpw, hvis, hw, hd⟩
  have := h w hpw
  rw [hn] at this
  cases ha : getNode a w with
  | none => rw [ha] at this; cases this
  | some n0 =>
    rw [ha] at this
    have e : n.data = n0.data := Option.some.inj this
    exact ⟨w, n0, hw0, ha, hpw, hvis, e ▸ hw, e ▸ hd⟩

theorem matches_congr {a b : Server} (h : ∀ w, (getNode b w).map Node.data = (getNode a w).map Node.data) (s : Sess)
    (p : Bytes) (d : Option Nat) : Matches b s p d ↔ Matches a s p d :=
  ⟨matches_of_data fun w _ => h w, matches_of_data fun w _ => (h w).symm⟩

theorem matches_other {sv sv' : Server} {v : List Bytes} (hc : OneChange sv sv' v) (s : Sess) {p : Bytes}
    (hp : p ≠ pathString v) (d : Option Nat) : Matches sv' s p d ↔ Matches sv s p d :=
  ⟨matches_of_data fun w hw => hc w (fun e => hp (e ▸ hw.symm)),
   matches_of_data fun w hw => (hc w (fun e => hp (e ▸ hw.symm))).symm⟩

/-- The tree changes at `v` only; the (optional) event handed to `s` maps the right entry for the old
    node to the right entry for the new node and touches nothing else: `MirrorOK` is kept. -/
theorem mirror_step {sv sv' : Server} {s : Sess} {m : Mirror} {v : List Bytes} (hv : v ≠ [])
    (hc : OneChange sv sv' v) (hu : Unamb sv v) (hu' : Unamb sv' v) (ev : Option Ev)
    (hat : m (pathString v) = expected s v ((getNode sv v).map Node.data) →
      (applyOpt m ev) (pathString v) = expected s v ((getNode sv' v).map Node.data))
    (hother : ∀ q, q ≠ pathString v → (applyOpt m ev) q = m q)
    (hm : MirrorOK sv s m) : MirrorOK sv' s (applyOpt m ev) := by
  intro p d
  by_cases hp : p = pathString v
  · subst hp
    rw [hat (mirror_at hm hv hu), matches_at hv hu' d]
  · rw [hother p hp, matches_other hc s hp d]
    exact hm p d

/-- nothing is sent and the wanted entry at `v` does not change (invisible node, or no entry matches the path) -/
theorem mirror_step_silent {sv sv' : Server} {s : Sess} {m : Mirror} {v : List Bytes} (hv : v ≠ [])
    (hc : OneChange sv sv' v) (hu : Unamb sv v) (hu' : Unamb sv' v)
    (hsame : expected s v ((getNode sv' v).map Node.data) = expected s v ((getNode sv v).map Node.data))
    (hm : MirrorOK sv s m) : MirrorOK sv' s m :=
  mirror_step hv hc hu hu' none (fun h => by rw [hsame]; exact h) (fun _ _ => rfl) hm

theorem expected_invisible {s : Sess} {v : List Bytes} (h : visible s v = false) (x : Option (Option Nat)) :
    expected s v x = none := by
  unfold expected; rw [h]; rfl

theorem expected_nomatch {s : Sess} {v : List Bytes} (h : pmMatchCount s.subs v = 0) (x : Option (Option Nat)) :
    expected s v x = none := by
  unfold expected
  split
  · cases x with
    | none => rfl
    | some d =>
      simp only [entryFor]
      split
      · rename_i hw; have := wants_pos hw; omega
      · rfl
  · rfl

theorem expected_change {s : Sess} (hen : s.subsEnabled = true) {v : List Bytes} (hvis : visible s v = true) (m : Mirror)
    (x : Option (Option Nat)) (nd : Option Nat) (removed : Bool) (hpos : removed = false → 0 < pmMatchCount s.subs v)
    (h : m (pathString v) = expected s v x) :
    (applyOpt m (changeEv s v nd x removed)) (pathString v) = expected s v (if removed then none else some nd) := by
  unfold expected at h ⊢
  rw [if_pos hvis] at h ⊢
  exact changeEv_entry s hen v m x nd removed hpos h

end Muscle.Reflector
