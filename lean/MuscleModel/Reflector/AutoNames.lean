import MuscleModel.Reflector.DecBytes
import MuscleModel.Reflector.TreeLaws

/-!
# The generated name `I<n>` of `InsertOrderedChild` is always an unused name

`autoName` is given `kids.length + 1` attempts; the candidate names are pairwise different, so by the
pigeonhole principle one of them is free.
-/

namespace Muscle.Reflector
open Muscle

def autoNm (ctr : Nat) : Bytes := ("I" ++ toString ctr).toUTF8.toList

theorem autoNm_bytes (ctr : Nat) : autoNm ctr = 73 :: decB ctr := by
  unfold autoNm
  rw [toUTF8_toList_append, charBytes 'I' (by decide)]
  show _ :: decOf ctr = _
  rw [decOf_eq_decB]; rfl

theorem autoNm_inj {a b : Nat} (h : autoNm a = autoNm b) : a = b := by
  rw [autoNm_bytes, autoNm_bytes] at h
  exact decB_inj (by simpa using h)

theorem autoName_fresh_of_exists (fuel ctr : Nat) (kids : List Node)
    (h : ∃ j, j < fuel ∧ findKid (autoNm (ctr + j)) kids = none) :
    findKid (autoName fuel ctr kids).1 kids = none := by
  induction fuel generalizing ctr with
  | zero => obtain ⟨j, hj, _⟩ := h; omega
  | succ fuel ih =>
    simp only [autoName]
    split
    · rename_i hs
      apply ih
      obtain ⟨j, hj, hn⟩ := h
      cases j with
      | zero =>
        simp only [Nat.add_zero, autoNm] at hn
        rw [hn] at hs; simp at hs
      | succ j => exact ⟨j, by omega, by rw [← hn]; congr 2; omega⟩
    · rename_i hs
      simpa using hs

theorem exists_free_autoNm (ctr : Nat) (kids : List Node) :
    ∃ j, j < kids.length + 1 ∧ findKid (autoNm (ctr + j)) kids = none := by
  apply Classical.byContradiction
  intro hno
  have hall : ∀ j, j < kids.length + 1 → (findKid (autoNm (ctr + j)) kids).isSome := by
    intro j hj
    cases hf : findKid (autoNm (ctr + j)) kids with
    | none => exact absurd ⟨j, hj, hf⟩ hno
    | some k => rfl
  let s := (List.range (kids.length + 1)).map (fun j => autoNm (ctr + j))
  have hnd : s.Nodup := by
    apply List.Pairwise.map _ _ (List.nodup_range (n := kids.length + 1))
    intro a b hab hc
    exact hab (by have := autoNm_inj hc; omega)
  have hsub : s ⊆ kids.map Node.name := by
    intro x hx
    simp only [s, List.mem_map, List.mem_range] at hx
    obtain ⟨j, hj, rfl⟩ := hx
    exact findKid_isSome_iff.mp (hall j hj)
  have := hnd.length_le_of_subset hsub
  simp [s] at this
  omega

theorem ordPair_of_empty (p : Node) {name : Bytes} (h : name.isEmpty = true) :
    ordPair p name = autoName (p.kids.length + 1) p.ctr p.kids := if_pos h

theorem ordPair_of_nonempty (p : Node) {name : Bytes} (h : ¬ name.isEmpty = true) : ordPair p name = (name, p.ctr) := if_neg h

theorem ordPair_fresh (p : Node) {name : Bytes} (h : name.isEmpty = true) : findKid (ordPair p name).1 p.kids = none := by
  rw [ordPair_of_empty p h]
  exact autoName_fresh_of_exists _ _ _ (exists_free_autoNm p.ctr p.kids)

end Muscle.Reflector
