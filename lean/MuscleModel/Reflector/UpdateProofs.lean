import MuscleModel.Reflector.Update
import MuscleModel.Base.Lists

/-! Batching of update Messages is invisible to the subscriber (lemmas for C04). -/


namespace Muscle.Reflector
open Muscle

def applyMsgs (m : Mirror) (us : List UpdMsg) : Mirror := us.foldl applyMsg m

theorem applyMsgs_append (m : Mirror) (a b : List UpdMsg) : applyMsgs m (a ++ b) = applyMsgs (applyMsgs m a) b := by
  simp [applyMsgs, List.foldl_append]

/-- value of one path after the removals -/
theorem removed_fold_val (rs : List Bytes) (m : Mirror) (q : Bytes) :
    (rs.foldl (fun m p => m.upd p none) m) q = if q ∈ rs then none else m q := by
  induction rs generalizing m with
  | nil => simp
  | cons p r ih =>
    simp only [List.foldl_cons, ih, Mirror.upd, List.mem_cons]
    by_cases h1 : q ∈ r
    · simp [h1]
    · by_cases h2 : q = p <;> simp [h1, h2]

/-- value of one path after the items of one field -/
theorem items_fold_val (ds : List (Option Nat)) (p : Bytes) (m : Mirror) (q : Bytes) :
    (ds.foldl (fun m d => m.upd p (some d)) m) q =
      if q = p then ds.foldl (fun _ d => some d) (m q) else m q := by
  induction ds generalizing m with
  | nil => simp
  | cons d r ih =>
    simp only [List.foldl_cons, ih, Mirror.upd]
    by_cases h : q = p <;> simp [h]

/-- what the sets make of the value `v` a path had before them -/
def setsVal (q : Bytes) : List (Bytes × List (Option Nat)) → Option (Option Nat) → Option (Option Nat)
  | [], v => v
  | (p, ds) :: r, v => setsVal q r (if q = p then ds.foldl (fun _ d => some d) v else v)

theorem sets_fold_val (sets : List (Bytes × List (Option Nat))) (m : Mirror) (q : Bytes) :
    (sets.foldl (fun m (x : Bytes × List (Option Nat)) => x.2.foldl (fun m d => m.upd x.1 (some d)) m) m) q
      = setsVal q sets (m q) := by
  induction sets generalizing m with
  | nil => simp [setsVal]
  | cons x r ih =>
    obtain ⟨p, ds⟩ := x
    simp only [List.foldl_cons, ih, setsVal, items_fold_val]

theorem applyMsg_val (m : Mirror) (u : UpdMsg) (q : Bytes) :
    applyMsg m u q = setsVal q u.sets (if q ∈ u.removed then none else m q) := by
  unfold applyMsg
  have := sets_fold_val u.sets (u.removed.foldl (fun m p => m.upd p none) m) q
  simp only [removed_fold_val] at this
  simpa using this

theorem setsVal_no_entry (q : Bytes) (sets : List (Bytes × List (Option Nat))) (v : Option (Option Nat))
    (h : ∀ x ∈ sets, x.1 ≠ q) : setsVal q sets v = v := by
  induction sets generalizing v with
  | nil => rfl
  | cons x r ih =>
    obtain ⟨p, ds⟩ := x
    have hp : q ≠ p := fun e => h (p, ds) (by simp) e.symm
    simp only [setsVal, hp, if_false]
    exact ih v (fun y hy => h y (by simp [hy]))

theorem setsVal_append_new (q p : Bytes) (d : Option Nat) (sets : List (Bytes × List (Option Nat)))
    (v : Option (Option Nat)) :
    setsVal q (sets ++ [(p, [d])]) v = if q = p then some d else setsVal q sets v := by
  induction sets generalizing v with
  | nil => simp [setsVal]
  | cons x r ih =>
    obtain ⟨p', ds⟩ := x
    simp only [List.cons_append, setsVal, ih]

/-- appending `d` to every entry for `p`: other paths keep their value; `p` gets `d` if it has an entry or had `d` -/
theorem setsVal_map_other {q p : Bytes} (hq : q ≠ p) (d : Option Nat) (sets : List (Bytes × List (Option Nat)))
    (v : Option (Option Nat)) :
    setsVal q (sets.map (fun (p', xs) => if p' = p then (p', xs ++ [d]) else (p', xs))) v = setsVal q sets v := by
  induction sets generalizing v with
  | nil => rfl
  | cons x r ih =>
    obtain ⟨p', ds⟩ := x
    rw [List.map_cons]
    by_cases hp : p' = p
    · subst hp
      simp only [if_true, setsVal, if_neg hq]
      exact ih v
    · simp only [if_neg hp, setsVal]
      exact ih _

theorem setsVal_map_same (p : Bytes) (d : Option Nat) (sets : List (Bytes × List (Option Nat)))
    (v : Option (Option Nat)) (h : sets.any (fun (p', _) => p' = p) = true ∨ v = some d) :
    setsVal p (sets.map (fun (p', xs) => if p' = p then (p', xs ++ [d]) else (p', xs))) v = some d := by
  induction sets generalizing v with
  | nil => rcases h with h | h; cases h; exact h
  | cons x r ih =>
    obtain ⟨p', ds⟩ := x
    rw [List.map_cons]
    by_cases hp : p' = p
    · subst hp
      simp only [if_true, setsVal, foldl_last_some]
      exact ih _ (Or.inr rfl)
    · simp only [if_neg hp, setsVal, if_neg (Ne.symm hp)]
      refine ih _ (h.imp_left fun h => ?_)
      simpa [List.any_cons, hp] using h

theorem applyMsg_addSet (m : Mirror) (u : UpdMsg) (p : Bytes) (d : Option Nat) :
    applyMsg m (u.addSet p d) = (applyMsg m u).upd p (some d) := by
  funext q
  rw [applyMsg_val, Mirror.upd, applyMsg_val]
  unfold UpdMsg.addSet
  by_cases hs : u.hasSet p = true
  · rw [if_pos hs]
    by_cases hq : q = p
    · subst hq; rw [if_pos rfl]; exact setsVal_map_same q d u.sets _ (Or.inl hs)
    · rw [if_neg hq]; exact setsVal_map_other hq d u.sets _
  · rw [if_neg hs]
    exact setsVal_append_new q p d u.sets _

theorem applyMsg_addRemoved (m : Mirror) (u : UpdMsg) (p : Bytes) (h : u.hasSet p = false) :
    applyMsg m { u with removed := u.removed ++ [p] } = (applyMsg m u).upd p none := by
  funext q
  simp only [applyMsg_val, Mirror.upd, List.mem_append, List.mem_singleton]
  by_cases hq : q = p
  · subst hq
    have hno : ∀ x ∈ u.sets, x.1 ≠ q := by
      intro x hx e
      have : u.hasSet q = true := by
        unfold UpdMsg.hasSet
        simp only [List.any_eq_true]
        exact ⟨x, hx, by obtain ⟨a, b⟩ := x; simpa using e⟩
      rw [h] at this; cases this
    simp [setsVal_no_entry q u.sets _ hno]
  · simp [hq]

theorem applyMsg_empty (m : Mirror) : applyMsg m {} = m := by
  funext q; simp [applyMsg_val, setsVal]

theorem applyMsg_noNames (m : Mirror) (u : UpdMsg) (h : u.numNames = 0) : applyMsg m u = m := by
  unfold UpdMsg.numNames at h
  have h1 : u.removed = [] := by
    by_cases e : u.removed.isEmpty = true
    · simpa using e
    · simp [e] at h
  have h2 : u.sets = [] := by
    have : u.sets.length = 0 := by omega
    simpa using this
  funext q
  simp [applyMsg_val, h1, h2, setsVal]

theorem setsVal_id_or_const (q : Bytes) (sets : List (Bytes × List (Option Nat))) :
    (∀ v, setsVal q sets v = v) ∨ ∃ c, ∀ v, setsVal q sets v = c := by
  induction sets with
  | nil => exact Or.inl fun _ => rfl
  | cons a r ih =>
    obtain ⟨p, ds⟩ := a
    by_cases hp : q = p
    · cases ds with
      | nil => exact ih.imp (fun h v => by rw [setsVal, if_pos hp]; exact h v) (fun ⟨c, h⟩ => ⟨c, fun v => by rw [setsVal, if_pos hp]; exact h _⟩)
      | cons d ds' =>
        refine Or.inr ⟨setsVal q r ((d :: ds').foldl (fun _ x => some x) none), fun v => ?_⟩
        rw [setsVal, if_pos hp]
        rfl
    · exact ih.imp (fun h v => by rw [setsVal, if_neg hp]; exact h v) (fun ⟨c, h⟩ => ⟨c, fun v => by rw [setsVal, if_neg hp]; exact h v⟩)

/-- a Message is idempotent at every path -/
theorem applyMsg_absorb (X M : Mirror) (u : UpdMsg) (p : Bytes) (h : X p = M p ∨ X p = applyMsg M u p) :
    applyMsg X u p = applyMsg M u p := by
  rw [applyMsg_val, applyMsg_val]
  rw [applyMsg_val] at h
  by_cases hr : p ∈ u.removed
  · rw [if_pos hr, if_pos hr]
  · rw [if_neg hr, if_neg hr]
    rw [if_neg hr] at h
    rcases setsVal_id_or_const p u.sets with hid | ⟨c, hc⟩
    · rw [hid, hid]; rw [hid] at h; exact h.elim id id
    · rw [hc, hc]

theorem foldSets_old_or (R : Mirror) (evs : List Ev) (h : ∀ ev ∈ evs, ∃ p d, ev = .set p d ∧ R p = some d) (M : Mirror)
    (p : Bytes) : (evs.foldl applyEv M) p = M p ∨ (evs.foldl applyEv M) p = R p := by
  induction evs generalizing M with
  | nil => exact Or.inl rfl
  | cons ev r ih =>
    obtain ⟨p0, d0, rfl, hR⟩ := h _ List.mem_cons_self
    rw [List.foldl_cons]
    have hM : applyEv M (.set p0 d0) p = if p = p0 then some d0 else M p := rfl
    rcases ih (fun x hx => h x (List.mem_cons_of_mem _ hx)) (applyEv M (.set p0 d0)) with e | e
    · by_cases hp : p = p0
      · rw [if_pos hp] at hM; exact Or.inr (by rw [e, hM, hp, hR])
      · rw [if_neg hp] at hM; exact Or.inl (e.trans hM)
    · exact Or.inr e

/-- the state of the client if everything built so far were delivered now -/
def Pipe.view (s : Pipe) (m : Mirror) : Mirror := applyMsg (applyMsgs m s.sent) s.cur

theorem view_flush (s : Pipe) (m : Mirror) : s.flush.view m = s.view m := by
  unfold Pipe.flush Pipe.view
  by_cases h : s.cur.numNames = 0
  · simp [h]
  · simp [h, applyMsgs, List.foldl_append, applyMsg_empty]

theorem numNames_pos_of_hasSet {m : UpdMsg} {np : Bytes} (h : m.hasSet np = true) : m.numNames ≠ 0 := by
  unfold UpdMsg.hasSet at h
  unfold UpdMsg.numNames
  cases hs : m.sets with
  | nil => rw [hs] at h; simp at h
  | cons a r => simp

theorem view_feed (k : Nat) (s : Pipe) (m : Mirror) (e : Ev) : (feed k s e).view m = applyEv (s.view m) e := by
  cases e with
  | set p d =>
    simp only [feed, applyEv]
    split
    · rw [view_flush]; simp [Pipe.view, applyMsg_addSet]
    · simp [Pipe.view, applyMsg_addSet]
  | removed p =>
    simp only [feed, applyEv]
    have key : ∀ (t : Pipe), t.cur.hasSet p = false → t.view m = s.view m →
        (Pipe.view { t with cur := { t.cur with removed := t.cur.removed ++ [p] } } m) = (s.view m).upd p none := by
      intro t ht hv
      simp only [Pipe.view] at hv ⊢
      rw [applyMsg_addRemoved _ _ _ ht, hv]
    by_cases hc : s.cur.hasSet p = true
    · simp only [hc, if_true]
      have hf : s.flush.cur.hasSet p = false := by
        unfold Pipe.flush
        by_cases h0 : s.cur.numNames = 0
        · exact absurd h0 (numNames_pos_of_hasSet hc)
        · simp [h0, UpdMsg.hasSet]
      have := key s.flush hf (view_flush s m)
      split
      · rw [view_flush]; exact this
      · exact this
    · have hc' : s.cur.hasSet p = false := by simpa using hc
      simp only [hc', Bool.false_eq_true, if_false]
      have := key s hc' rfl
      split
      · rw [view_flush]; exact this
      · exact this

theorem view_run (k : Nat) (evs : List (Ev × Bool)) (s : Pipe) (m : Mirror) :
    (run k s evs).view m = (evs.map (·.1)).foldl applyEv (s.view m) := by
  induction evs generalizing s with
  | nil => simp [run]
  | cons x r ih =>
    obtain ⟨e, f⟩ := x
    simp only [run, List.map_cons, List.foldl_cons]
    rw [ih]
    by_cases hf : f = true
    · simp [hf, view_flush, view_feed]
    · simp [hf, view_feed]

theorem applyMsgs_delivered (s : Pipe) (m : Mirror) : applyMsgs m (delivered s) = s.view m := by
  rw [← view_flush]
  unfold delivered Pipe.view
  have : s.flush.cur.numNames = 0 := by
    unfold Pipe.flush
    by_cases hz : s.cur.numNames = 0
    · rw [if_pos hz]; exact hz
    · rw [if_neg hz]; rfl
  rw [applyMsg_noNames _ _ this]

end Muscle.Reflector
