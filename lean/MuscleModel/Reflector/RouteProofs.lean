import MuscleModel.Reflector.Departure
import MuscleModel.Reflector.DecBytes

/-!
# The compiled default route is coherent with the two parameters it is compiled from (C05)

`Sess.route` (`_defaultMessageRoute`) is a cache of `buildRoute s.routeKeys s.routeFilts`
(`PutPathsFromMessage(PR_NAME_KEYS, PR_NAME_FILTERS, …)` of `_defaultMessageRouteMessage`); the two parameters are set
and removed separately (`.paramRoute`, `.paramRouteF`, `.unparamRoute`, `.unparamRouteF`).

* `rk s` = the route-related part of a session: the cache, the two parameters, `hasRouteKeys`, and whether the
  parameter names `keyName` / `filtName` are in `params`.
* `RouteOK (rk s)` = the cache-coherence invariant; `RC sv` = it holds for every session.
* `RK sv sv'` = `sv'.sessions.map rk = sv.sessions.map rk`: what every data command satisfies (for EVERY session,
  the acting one included), because every write of `Data` does (`Data.rk`): the parameter names a data command adds or removes
  start with `SUBSCRIBE:`, `keyName` and `filtName` do not.
* `RReach` = the states reachable from the empty server by attach, detach, any `runCmd`, `pushAll`, pump
  (no side condition on the commands).
* `rt_buildRouteAux_pairs`: `buildRouteAux` without recursion (`List.zip` of the keys with the assigned filters).
-/


namespace Muscle.Reflector
open Muscle Muscle.Eng.SrvEngine

-- the `contains` lemmas need it at every use, and the search through the `UInt8` instances is slow
local instance : LawfulBEq UInt8 := inferInstance

theorem rt_keyName : keyName = [33, 83, 110, 75, 121] := by
  unfold keyName
  rw [show "!SnKy" = String.ofList ['!', 'S', 'n', 'K', 'y'] from rfl, asciiBytes _ (by decide)]
  decide
theorem rt_filtName : filtName = [33, 83, 110, 70, 108] := by
  unfold filtName
  rw [show "!SnFl" = String.ofList ['!', 'S', 'n', 'F', 'l'] from rfl, asciiBytes _ (by decide)]
  decide
theorem rt_selfName : selfName = [33, 83, 101, 108, 102] := by
  unfold selfName
  rw [show "!Self" = String.ofList ['!', 'S', 'e', 'l', 'f'] from rfl, asciiBytes _ (by decide)]
  decide
theorem rt_maxName : maxName = [33, 77, 120, 85, 112] := by
  unfold maxName
  rw [show "!MxUp" = String.ofList ['!', 'M', 'x', 'U', 'p'] from rfl, asciiBytes _ (by decide)]
  decide
theorem rt_subscribePrefix : subscribePrefix = [83, 85, 66, 83, 67, 82, 73, 66, 69, 58] := by
  unfold subscribePrefix
  rw [show "SUBSCRIBE:" = String.ofList ['S','U','B','S','C','R','I','B','E',':'] from rfl, asciiBytes _ (by decide)]
  decide

theorem rt_key_ne_filt : keyName ≠ filtName := by rw [rt_keyName, rt_filtName]; decide
theorem rt_key_ne_self : keyName ≠ selfName := by rw [rt_keyName, rt_selfName]; decide
theorem rt_key_ne_max : keyName ≠ maxName := by rw [rt_keyName, rt_maxName]; decide
theorem rt_filt_ne_self : filtName ≠ selfName := by rw [rt_filtName, rt_selfName]; decide
theorem rt_filt_ne_max : filtName ≠ maxName := by rw [rt_filtName, rt_maxName]; decide

theorem rt_key_noprefix : subscribePrefix.isPrefixOf keyName = false := by rw [rt_keyName, rt_subscribePrefix]; decide
theorem rt_filt_noprefix : subscribePrefix.isPrefixOf filtName = false := by rw [rt_filtName, rt_subscribePrefix]; decide

structure RKey where
  route : PM
  hasRouteKeys : Bool
  routeKeys : List Bytes
  routeFilts : Option (List (Option Filt))
  keyParam : Bool
  filtParam : Bool

def rk (s : Sess) : RKey :=
  { route := s.route, hasRouteKeys := s.hasRouteKeys, routeKeys := s.routeKeys, routeFilts := s.routeFilts,
    keyParam := s.params.contains keyName, filtParam := s.params.contains filtName }

/-- cache coherence of one session -/
def RouteOK (k : RKey) : Prop :=
  k.route = buildRoute k.routeKeys k.routeFilts ∧
  (k.hasRouteKeys = false → k.routeKeys = []) ∧
  k.hasRouteKeys = k.keyParam ∧
  k.routeFilts.isSome = k.filtParam

def RC (sv : Server) : Prop := ∀ s ∈ sv.sessions, RouteOK (rk s)

def RK (sv sv' : Server) : Prop := sv'.sessions.map rk = sv.sessions.map rk

theorem RK.refl (sv : Server) : RK sv sv := rfl
theorem RK.trans {a b c : Server} (h1 : RK a b) (h2 : RK b c) : RK a c := Eq.trans h2 h1

theorem RK.rc {sv sv' : Server} (h : RK sv sv') (hc : RC sv) : RC sv' := by
  intro s' hs'
  have : rk s' ∈ sv'.sessions.map rk := List.mem_map_of_mem hs'
  rw [h] at this
  obtain ⟨s, hs, e⟩ := List.mem_map.mp this
  rw [← e]; exact hc s hs

theorem NotifyOnly.rk {sv sv' : Server} (h : NotifyOnly sv sv') : RK sv sv' := by
  have e : ∀ l : List Sess, l.map Muscle.Reflector.rk = (l.map Sess.core).map Muscle.Reflector.rk := by
    intro l; rw [List.map_map]; rfl
  unfold RK
  rw [e sv'.sessions, e sv.sessions, h.2]

theorem rt_updSess (sv : Server) (sid : Nat) (f : Sess → Sess) (hf : ∀ t, rk (f t) = rk t) : RK sv (sv.updSess sid f) :=
  map_updSess rk sv sid f hf

/-- the route part of a session can be read off what a data command keeps of it: the two parameter names have no
    `SUBSCRIBE:` prefix -/
theorem rk_of_dataFrame {s s' : Sess} (h : s'.dataFrame = s.dataFrame) : rk s' = rk s := by
  have hp : s'.params.filter (fun n => !subscribePrefix.isPrefixOf n) = s.params.filter (fun n => !subscribePrefix.isPrefixOf n) :=
    congrArg Sess.params h
  have hc : ∀ (m : Bytes), subscribePrefix.isPrefixOf m = false → s'.params.contains m = s.params.contains m := by
    intro m hm
    rw [← contains_filter_keep (l := s'.params) (p := fun n => !subscribePrefix.isPrefixOf n) (by simp [hm]),
        ← contains_filter_keep (l := s.params) (p := fun n => !subscribePrefix.isPrefixOf n) (by simp [hm]), hp]
  have h1 : s'.route = s.route := (congrArg Sess.route h :)
  have h2 : s'.hasRouteKeys = s.hasRouteKeys := (congrArg Sess.hasRouteKeys h :)
  have h3 : s'.routeKeys = s.routeKeys := (congrArg Sess.routeKeys h :)
  have h4 : s'.routeFilts = s.routeFilts := (congrArg Sess.routeFilts h :)
  simp only [rk, h1, h2, h3, h4, hc _ rt_key_noprefix, hc _ rt_filt_noprefix]

theorem Data.rk {sid : Nat} {own : List Bytes} {N : Bytes → Prop} {a b : Server} (h : Data sid own N a b) : RK a b := by
  refine h.rel RK.refl RK.trans (fun x op hp => ?_)
  cases op with
  | dirty d => exact (NotifOp.notifyOnly x (.dirty d) hp).rk
  | push => exact (NotifOp.notifyOnly x .push hp).rk
  | node path f => exact .refl x
  | sess t f =>
    rcases hp with hp | ⟨rfl, hf⟩
    · exact (NotifOp.notifyOnly x _ hp).rk
    · exact rt_updSess x t f (fun s => rk_of_dataFrame (hf s))

theorem rt_runCmd_data (sv : Server) (sid : Nat) (c : Cmd)
    (hc : match c with
      | .paramRoute _ | .paramRouteF _ _ | .unparamRoute | .unparamRouteF => False
      | _ => True) : RK sv (runCmd sv sid c) := by
  cases hs : sv.sess? sid with
  | none => rw [runCmd_absent sv sid hs c]; exact .refl sv
  | some s =>
    cases c with
    | paramSelf =>
      apply rt_updSess
      intro t
      simp only [rk, addParam, contains_add rt_key_ne_self, contains_add rt_filt_ne_self]
    | paramMax n =>
      apply rt_updSess
      intro t
      simp only [rk, addParam, contains_add rt_key_ne_max, contains_add rt_filt_ne_max]
    | unparamMax =>
      apply rt_updSess
      intro t
      split
      · simp only [rk, contains_filter_ne rt_key_ne_max, contains_filter_ne rt_filt_ne_max]
      · rfl
    | paramRoute keys | paramRouteF keys fs | unparamRoute | unparamRouteF => exact absurd hc (by simp)
    | _ => exact (runCmd_data_any sv sid s hs _ rfl).rk

theorem rt_updSess_rc (sv : Server) (sid : Nat) (f : Sess → Sess) (hf : ∀ t, RouteOK (rk t) → RouteOK (rk (f t)))
    (hc : RC sv) : RC (sv.updSess sid f) := by
  intro s' hs'
  simp only [Server.updSess, List.mem_map] at hs'
  obtain ⟨t, ht, rfl⟩ := hs'
  split
  · exact hf t (hc t ht)
  · exact hc t ht

theorem rt_buildRoute_nil (fs : Option (List (Option Filt))) : buildRoute [] fs = [] := by
  simp [buildRoute, buildRouteAux]

theorem rt_runCmd_rc (sv : Server) (sid : Nat) (c : Cmd) (hc : RC sv) : RC (runCmd sv sid c) := by
  cases c with
  | paramRoute keys =>
    apply rt_updSess_rc _ _ _ _ hc
    intro t ⟨h1, h2, h3, h4⟩
    refine ⟨rfl, ?_, ?_, ?_⟩
    · intro h; simp [rk, addParam] at h
    · simp only [rk, addParam, contains_add_self]
    · simp only [rk] at h4 ⊢
      simp only [addParam, contains_add (fun e => rt_key_ne_filt e.symm)]
      exact h4
  | paramRouteF keys fs =>
    apply rt_updSess_rc _ _ _ _ hc
    intro t ⟨h1, h2, h3, h4⟩
    refine ⟨rfl, ?_, ?_, ?_⟩
    · intro h; simp [rk, addParam] at h
    · simp only [rk, addParam, contains_add rt_key_ne_filt, contains_add_self]
    · simp only [rk, addParam, contains_add_self, Option.isSome_some]
  | unparamRoute =>
    apply rt_updSess_rc _ _ _ _ hc
    intro t ⟨h1, h2, h3, h4⟩
    split
    · refine ⟨?_, ?_, ?_, ?_⟩
      · simp only [rk, rt_buildRoute_nil]
      · intro _; rfl
      · simp only [rk, contains_filter_ne_self]
      · simp only [rk] at h4 ⊢
        rw [contains_filter_ne (fun e => rt_key_ne_filt e.symm)]
        exact h4
    · exact ⟨h1, h2, h3, h4⟩
  | unparamRouteF =>
    apply rt_updSess_rc _ _ _ _ hc
    intro t ⟨h1, h2, h3, h4⟩
    split
    · refine ⟨rfl, ?_, ?_, ?_⟩
      · exact h2
      · simp only [rk] at h3 ⊢
        rw [contains_filter_ne rt_key_ne_filt]
        exact h3
      · simp only [rk, contains_filter_ne_self, Option.isSome_none]
    · exact ⟨h1, h2, h3, h4⟩
  | _ => exact (rt_runCmd_data sv sid _ trivial).rc hc

theorem rt_attach_rc (sv : Server) (slot : Nat) (host : Bytes) (hc : RC sv) : RC (attach sv slot host).1 := by
  refine (attach_grow (N := fun _ => True) sv slot host trivial trivial).data.rk.rc (fun s hs => ?_)
  rcases List.mem_append.mp hs with hs | hs
  · exact hc s hs
  · rw [List.mem_singleton.mp hs]
    refine ⟨?_, fun _ => rfl, rfl, rfl⟩
    simp only [rk, rt_buildRoute_nil]

theorem rt_detach_rc (sv : Server) (sid : Nat) (hc : RC sv) : RC (detach sv sid) := by
  cases hs : sv.sess? sid with
  | none => unfold detach; rw [hs]; exact hc
  | some s =>
    intro t ht
    rw [(detach_eq sv sid s hs).2.1] at ht
    exact (detachBody_data (N := fun _ => True) sv sid s).rk.rc hc t (List.mem_filter.mp ht).1

theorem rt_pump_rc (sv : Server) (hc : RC sv) :
    RC { sv with sessions := sv.sessions.map (fun s => { s with inbox := [] }) } := by
  intro s' hs'
  simp only [List.mem_map] at hs'
  obtain ⟨t, ht, rfl⟩ := hs'
  exact hc t ht

/-- the states reachable from the empty server by attach, detach, ANY command, `pushAll` and pump -/
inductive RReach : Server → Prop
  | init : RReach {}
  | attach {sv : Server} (slot : Nat) (host : Bytes) : RReach sv → RReach (attach sv slot host).1
  | detach {sv : Server} (sid : Nat) : RReach sv → RReach (detach sv sid)
  | cmd {sv : Server} (sid : Nat) (c : Cmd) : RReach sv → RReach (runCmd sv sid c)
  | push {sv : Server} : RReach sv → RReach (pushAll sv)
  | pump {sv : Server} : RReach sv → RReach { sv with sessions := sv.sessions.map (fun s => { s with inbox := [] }) }

theorem rt_reach_rc {sv : Server} (h : RReach sv) : RC sv := by
  induction h with
  | init => intro s hs; simp at hs
  | attach slot host _ ih => exact rt_attach_rc _ slot host ih
  | detach sid _ ih => exact rt_detach_rc _ sid ih
  | cmd sid c _ ih => exact rt_runCmd_rc _ sid c ih
  | push _ ih => exact (NotifyOnly.rk (pushAll_notifyOnly _)).rc ih
  | pump _ ih => exact rt_pump_rc _ ih

/-- the filter the `i`-th key gets: item `i` of the filter field, or (bleed-down) its last item; `cur` when the field is empty -/
def assignedFilt (fs : List (Option Filt)) (cur : Option Filt) (i : Nat) : Option Filt :=
  fs.getD i (fs.getLast?.getD cur)

/-- the (key, filter) pairs `PutPathsFromMessage` puts, in order -/
def routePairs (keys : List Bytes) (fs : List (Option Filt)) (cur : Option Filt) : List (Bytes × Option Filt) :=
  keys.zip ((List.range keys.length).map (assignedFilt fs cur))

theorem rt_assigned_nil (cur : Option Filt) : assignedFilt [] cur = fun _ => cur := by
  funext i; simp [assignedFilt]

theorem rt_assigned_cons (f : Option Filt) (fs : List (Option Filt)) (cur : Option Filt) :
    (assignedFilt (f :: fs) cur ∘ Nat.succ) = assignedFilt fs f ∧ assignedFilt (f :: fs) cur 0 = f := by
  constructor
  · funext i
    simp only [Function.comp, assignedFilt, List.getD_cons_succ]
    cases fs with
    | nil => simp
    | cons g r =>
      simp only [List.getLast?_cons_cons]
      cases h : (g :: r).getLast? with
      | none => simp at h
      | some x => simp
  · simp [assignedFilt]

theorem rt_routePairs_cons (k : Bytes) (ks : List Bytes) (fs : List (Option Filt)) (cur : Option Filt) :
    routePairs (k :: ks) fs cur =
      (k, assignedFilt fs cur 0) :: ks.zip ((List.range ks.length).map (assignedFilt fs cur ∘ Nat.succ)) := by
  simp only [routePairs, List.length_cons, List.range_succ_eq_map, List.map_cons, List.zip_cons_cons, List.map_map]

theorem rt_buildRouteAux_pairs (keys : List Bytes) :
    ∀ (fs : List (Option Filt)) (cur : Option Filt) (pm : PM),
      buildRouteAux keys fs cur pm =
        (routePairs keys fs cur).foldl (fun pm (k, f) => pmPutFrom pm k f (some defaultPrefix)) pm := by
  induction keys with
  | nil => intro fs cur pm; simp [buildRouteAux, routePairs]
  | cons k ks ih =>
    intro fs cur pm
    rw [rt_routePairs_cons, List.foldl_cons]
    cases fs with
    | nil =>
      simp only [buildRouteAux]
      rw [ih [] cur]
      simp only [routePairs, rt_assigned_nil]
      rfl
    | cons f fs' =>
      simp only [buildRouteAux]
      rw [ih fs' f, (rt_assigned_cons f fs' cur).1, (rt_assigned_cons f fs' cur).2]
      rfl

theorem rt_routePairs_get (keys : List Bytes) (fs : List (Option Filt)) (cur : Option Filt) (i : Nat) (hi : i < keys.length) :
    (routePairs keys fs cur)[i]? =
      some (keys[i], if h : i < fs.length then fs[i] else fs.getLast?.getD cur) := by
  simp only [routePairs]
  rw [List.getElem?_eq_getElem (by simp [hi])]
  simp only [List.getElem_zip, List.getElem_map, List.getElem_range, assignedFilt, Option.some.injEq, Prod.mk.injEq, true_and]
  split
  · rename_i h; simp [List.getD_eq_getElem?_getD, h]
  · rename_i h; simp [List.getD_eq_getElem?_getD, h]

def pmNoFilters (pm : PM) : Prop := ∀ g ∈ pm, ∀ e ∈ g.2, e.filter = none

theorem rt_putEntry_nofilt (e : Entry) (he : e.filter = none) (es : List Entry) (h : ∀ x ∈ es, x.filter = none) :
    ∀ x ∈ putEntry e es, x.filter = none := by
  induction es with
  | nil => intro x hx; simp [putEntry] at hx; subst hx; exact he
  | cons a r ih =>
    intro x hx
    simp only [putEntry] at hx
    split at hx
    · rcases List.mem_cons.mp hx with hx | hx
      · subst hx; exact he
      · exact h x (List.mem_cons_of_mem _ hx)
    · rcases List.mem_cons.mp hx with hx | hx
      · subst hx; exact h _ (List.mem_cons_self ..)
      · exact ih (fun y hy => h y (List.mem_cons_of_mem _ hy)) x hx

theorem rt_pmPutGroup_nofilt (d : Nat) (e : Entry) (he : e.filter = none) (pm : PM) (h : pmNoFilters pm) :
    pmNoFilters (pmPutGroup d e pm) := by
  induction pm with
  | nil =>
    intro g hg x hx
    simp [pmPutGroup] at hg; subst hg
    simp at hx; subst hx; exact he
  | cons a r ih =>
    obtain ⟨k, es⟩ := a
    intro g hg
    simp only [pmPutGroup] at hg
    split at hg
    · rcases List.mem_cons.mp hg with hg | hg
      · subst hg
        exact rt_putEntry_nofilt e he es (h (k, es) (List.mem_cons_self ..))
      · exact h g (List.mem_cons_of_mem _ hg)
    · rcases List.mem_cons.mp hg with hg | hg
      · subst hg; exact h (k, es) (List.mem_cons_self ..)
      · exact ih (fun g' hg' => h g' (List.mem_cons_of_mem _ hg')) g hg

theorem rt_pmPutFrom_nofilt (pm : PM) (k : Bytes) (pre : Option Bytes) (h : pmNoFilters pm) :
    pmNoFilters (pmPutFrom pm k none pre) := by
  unfold pmPutFrom pmPut
  split
  · exact h
  · exact rt_pmPutGroup_nofilt _ _ rfl pm h

theorem rt_buildRouteAux_nofilt (keys : List Bytes) : ∀ (pm : PM), pmNoFilters pm →
    pmNoFilters (buildRouteAux keys [] none pm) := by
  induction keys with
  | nil => intro pm h; simpa [buildRouteAux] using h
  | cons k ks ih =>
    intro pm h
    simp only [buildRouteAux]
    exact ih _ (rt_pmPutFrom_nofilt pm k _ h)

theorem rt_numFilters_zero (pm : PM) (h : pmNoFilters pm) : pmNumFilters pm = 0 := by
  unfold pmNumFilters
  induction pm with
  | nil => rfl
  | cons a r ih =>
    obtain ⟨k, es⟩ := a
    simp only [List.map_cons, List.sum_cons]
    rw [ih (fun g hg => h g (List.mem_cons_of_mem _ hg))]
    have : es.filter (fun e => e.filter.isSome) = [] := by
      rw [List.filter_eq_nil_iff]
      intro e he
      rw [h (k, es) (List.mem_cons_self ..) e he]; simp
    simp [this]

theorem rt_buildRoute_none (keys : List Bytes) : pmNumFilters (buildRoute keys none) = 0 :=
  rt_numFilters_zero _ (by
    unfold buildRoute
    exact rt_buildRouteAux_nofilt keys [] (by intro g hg; simp at hg))

end Muscle.Reflector
