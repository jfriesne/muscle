import MuscleModel.Reflector.Server

/-!
# One subscriber's update stream: building update Messages vs. applying them

The server turns the sequence of node events a subscriber must learn about (`set path payload`,
`removed path`) into PR_RESULT_DATAITEMS Messages (`NodeChangedAux`): removals go into one string field,
sets into one Message field per path, a removal of a path that already has a set in the pending Message
forces a flush first, and the pending Message is flushed when it holds `maxItems` names — and, since
`PushSubscriptionMessages` flushes every session, at arbitrary further points chosen by other sessions'
traffic.  The client applies each Message as "removals first, then sets in field order".

`feed` is `nodeChangedAux` seen from one session (`Pipe` = its pending Message + what was sent);
`extraFlush` models the flushes caused by others.  `UpdateProofs` show that, whatever the flush points,
the client's mirror after applying everything equals the mirror obtained by applying the events one by
one — batching is invisible.
-/

namespace Muscle.Reflector
open Muscle

/-- a node event as one subscriber sees it -/
inductive Ev where
  | set (path : Bytes) (d : Option Nat)
  | removed (path : Bytes)

/-- the client's data set: node path ↦ payload (`none` = not held) -/
abbrev Mirror := Bytes → Option (Option Nat)

def Mirror.upd (m : Mirror) (p : Bytes) (v : Option (Option Nat)) : Mirror := fun q => if q = p then v else m q

def applyEv (m : Mirror) : Ev → Mirror
  | .set p d => m.upd p (some d)
  | .removed p => m.upd p none

/-- the client rule for one PR_RESULT_DATAITEMS Message: removals first, then sets in field/item order -/
def applyMsg (m : Mirror) (u : UpdMsg) : Mirror :=
  let m1 := u.removed.foldl (fun m p => m.upd p none) m
  u.sets.foldl (fun m (p, ds) => ds.foldl (fun m d => m.upd p (some d)) m) m1

structure Pipe where
  cur : UpdMsg := {}
  sent : List UpdMsg := []

def Pipe.flush (s : Pipe) : Pipe :=
  if s.cur.numNames = 0 then s else { cur := {}, sent := s.sent ++ [s.cur] }

/-- `NodeChangedAux` for one event (`maxItems ≥ 1` is the session's limit) -/
def feed (maxItems : Nat) (s : Pipe) : Ev → Pipe
  | .removed p =>
    let s := if s.cur.hasSet p then s.flush else s          -- remove-after-set: flush, then start again
    let s := { s with cur := { s.cur with removed := s.cur.removed ++ [p] } }
    if s.cur.numNames ≥ maxItems then s.flush else s
  | .set p d =>
    let s := { s with cur := s.cur.addSet p d }
    if s.cur.numNames ≥ maxItems then s.flush else s

/-- events interleaved with flushes caused by other sessions' traffic -/
def run (maxItems : Nat) : Pipe → List (Ev × Bool) → Pipe
  | s, [] => s
  | s, (e, extraFlush) :: r =>
    let s := feed maxItems s e
    run maxItems (if extraFlush then s.flush else s) r

/-- everything the client has received once the stream is quiescent (final push) -/
def delivered (s : Pipe) : List UpdMsg := s.flush.sent

end Muscle.Reflector
