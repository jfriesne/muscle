import MuscleModel.Reflector.MarksReach
import MuscleModel.Reflector.EngineStep

/-!
# The marking invariant over the engine `srv` itself

`EInv st`: the engine's server state is `MReach` and every command waiting in an open batch is `CmdOK`.
Every `LineOK` op line (`case` resets, `pump`, `wping`, `attach`, `detach`, `find`, `setm`, `batch begin/end`, queued and
direct commands, bad ops, poisoned cases) keeps `EInv`.
-/

namespace Muscle.Reflector
open Muscle Muscle.Eng.SrvEngine

/-- the first token is one of the server-side subtree ops (`clone`, `save`, `restore`, `trees`): they are not commands of
    `Cmd`, and the states they reach are outside `MReach` -/
def isSubtreeOp : List String → Bool
  | op :: _ => op = "clone" || op = "save" || op = "restore" || op = "trees"
  | [] => false

/-- the op lines the invariant is proved for: if the line parses to a command the command is `CmdOK`, and the line is no
    server-side subtree op -/
def LineOK (toks : List String) : Prop := (∀ c, parseCmd toks = some c → CmdOK c) ∧ ¬ isSubtreeOp toks = true

def EInv (st : St) : Prop := MReach st.sv ∧ ∀ b ∈ st.batch, ∀ c ∈ b.2, CmdOK c

theorem mreach_setm (sid : Nat) (p : Bytes) (vs : List Nat) {sv : Server} (h : MReach sv) :
    MReach (vs.foldl (fun sv v => runCmd sv sid (.set p v false)) sv) :=
  foldl_inv MReach _ (fun _ v hsv => .cmd sid (.set p v false) trivial hsv) vs sv h

theorem mreach_batch (sid : Nat) (cmds : List Cmd) (hc : ∀ c ∈ cmds, CmdOK c) {sv : Server} (h : MReach sv) :
    MReach (cmds.foldl (fun sv c => pushAll (runCmd sv sid c)) sv) := by
  induction cmds generalizing sv with
  | nil => exact h
  | cons c r ih =>
    simp only [List.foldl_cons]
    exact ih (fun x hx => hc x (List.mem_cons_of_mem _ hx)) (.push (.cmd sid c (hc c List.mem_cons_self) h))

theorem einv_init : EInv ({} : St) := ⟨.init, by intro b hb; cases hb⟩

theorem einv_queue {st : St} (h : EInv st) (sl : Nat) (c : Cmd) (hc : CmdOK c) :
    ∀ b ∈ st.batch.map (fun (x : Nat × List Cmd) => match x with | (s, cs) => if s = sl then (s, cs ++ [c]) else (s, cs)),
      ∀ c' ∈ b.2, CmdOK c' := by
  intro b hb c' hc'
  obtain ⟨b0, hb0, rfl⟩ := List.mem_map.1 hb
  obtain ⟨s0, cs0⟩ := b0
  simp only [] at hc'
  split at hc'
  · rcases List.mem_append.1 hc' with hc' | hc'
    · exact h.2 _ hb0 c' hc'
    · simp only [List.mem_singleton] at hc'; subst hc'; exact hc
  · exact h.2 _ hb0 c' hc'

theorem einv_step {st : St} (toks : List String) (hl : LineOK toks) (h : EInv st) : EInv (step st toks).1 := by
  refine step_cases st toks h einv_init ⟨h.1, h.2⟩ ⟨.pump h.1, h.2⟩ ?_ ?_ ?_ ?_ ?_ ?_ ?_ ?_
  · exact fun sl host => ⟨.attach sl host h.1, h.2⟩
  · exact fun sl sid => ⟨.detach sid h.1, fun b hb => h.2 b (List.mem_filter.1 hb).1⟩
  · exact fun sid p vs => ⟨.push (mreach_setm sid p vs h.1), h.2⟩
  · intro sl sid op rest heq hop
    refine absurd ?_ hl.2
    subst heq
    simpa [isSubtreeOp, or_assoc] using hop
  · intro sl
    refine ⟨h.1, fun b hb c hc => ?_⟩
    rcases List.mem_append.1 hb with hb | hb
    · exact h.2 b hb c hc
    · simp only [List.mem_singleton] at hb; subst hb; cases hc
  · exact fun sl sid b hb =>
      ⟨.push (mreach_batch sid b.2 (h.2 b hb) h.1), fun b' hb' => h.2 b' (List.mem_filter.1 hb').1⟩
  · exact fun sl c hc => ⟨h.1, einv_queue h sl c (hl.1 c hc)⟩
  · rintro sid c (hc | ⟨t, rfl⟩)
    · exact ⟨.push (.cmd sid c (hl.1 c hc) h.1), h.2⟩
    · exact ⟨.push (.cmd sid (.ping t) trivial h.1), h.2⟩

theorem einv_engine (lines : List (List String)) (hl : ∀ toks ∈ lines, LineOK toks) :
    EInv (lines.foldl (fun st toks => (step st toks).1) ({} : St)) := by
  suffices H : ∀ (st : St), EInv st → EInv (lines.foldl (fun st toks => (step st toks).1) st) from H _ einv_init
  induction lines with
  | nil => intro st h; exact h
  | cons t r ih =>
    intro st h
    simp only [List.foldl_cons]
    exact ih (fun x hx => hl x (List.mem_cons_of_mem _ hx)) _ (einv_step t (hl t List.mem_cons_self) h)

end Muscle.Reflector
