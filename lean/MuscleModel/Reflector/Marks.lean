import MuscleModel.Reflector.SubsWF
import MuscleModel.Reflector.TreeReads
import MuscleModel.Reflector.EffectSteps

/-!
# The marking invariant and the primitives that keep it (C04, `marks_correct`)

* `sessKeys sv` = (session id, subscription matcher) of every attached session, in attach order; `skel sv` = that and
  the id counter: everything the invariant reads of the session table.  Notifications never change it.
* `expCount ss sid v` = the number of subscription entries of session `sid` whose clauses match the path `v`
  (`pmMatchCount`), 0 for an id that is not attached.
* `MarksOK root ss`: every node below the root carries exactly those counts, in a table with pairwise distinct ids
  and no zero entry.
* `MK sv` = `SessOK sv ∧ MarksOK sv.root (sessKeys sv)`; `SessOK`: ids pairwise distinct, below the counter, every
  matcher `SubsWF`.
-/


namespace Muscle.Reflector
open Muscle

def sessKeys (sv : Server) : List (Nat × PM) := sv.sessions.map (fun s => (s.sid, s.subs))

def skel (sv : Server) : Nat × List (Nat × PM) := (sv.nextSid, sessKeys sv)

def expCount (ss : List (Nat × PM)) (sid : Nat) (path : List Bytes) : Nat :=
  match ss.find? (fun p => p.1 = sid) with
  | some p => pmMatchCount p.2 path
  | none => 0

/-- a subscriber table: ids pairwise distinct, no zero entry -/
def TabOK (subs : List (Nat × Nat)) : Prop := (subs.map (·.1)).Nodup ∧ ∀ p ∈ subs, 0 < p.2

def MarksOK (root : Node) (ss : List (Nat × PM)) : Prop :=
  ∀ v n, v ≠ [] → nodeAt fuelDepth root v = some n →
    (∀ sid, subCount n.subs sid = expCount ss sid v) ∧ TabOK n.subs

structure SessOK (sv : Server) : Prop where
  nodup : ((sessKeys sv).map (·.1)).Nodup
  -- what makes the id `attach` hands out next a fresh one
  bound : ∀ p ∈ sessKeys sv, p.1 < sv.nextSid
  wf : ∀ p ∈ sessKeys sv, SubsWF p.2

/-- `MK` ("marks"): the counts the nodes carry are the ones the sessions' matchers give -/
def MK (sv : Server) : Prop := SessOK sv ∧ MarksOK sv.root (sessKeys sv)

theorem MK.sess {sv : Server} (h : MK sv) : SessOK sv := h.1
theorem MK.counts {sv : Server} (h : MK sv) : MarksOK sv.root (sessKeys sv) := h.2

theorem TabOK.nodup {subs : List (Nat × Nat)} (h : TabOK subs) : (subs.map (·.1)).Nodup := h.1
theorem TabOK.pos {subs : List (Nat × Nat)} (h : TabOK subs) : ∀ p ∈ subs, 0 < p.2 := h.2

theorem skel_updSess (sv : Server) (sid : Nat) (f : Sess → Sess) (hf : ∀ t, (f t).sid = t.sid ∧ (f t).subs = t.subs) :
    skel (sv.updSess sid f) = skel sv := by
  simp only [skel, sessKeys, Server.updSess, List.map_map, Prod.mk.injEq, true_and]
  apply List.map_congr_left
  intro t _
  simp only [Function.comp]
  split
  · rw [(hf t).1, (hf t).2]
  · rfl

@[simp] theorem skel_setNode (sv : Server) (p : List Bytes) (f : Node → Node) : skel (setNode sv p f) = skel sv := rfl

/-- notifications change neither the id counter nor who is attached with which subscriptions -/
theorem Notif.skel {a b : Server} (h : Notif a b) : skel b = skel a := by
  have e : ∀ l : List Sess, l.map (fun s => (s.sid, s.subs)) = (l.map Sess.core).map (fun s => (s.sid, s.subs)) := by
    intro l; rw [List.map_map]; rfl
  show (b.nextSid, b.sessions.map (fun s => (s.sid, s.subs))) = (a.nextSid, a.sessions.map (fun s => (s.sid, s.subs)))
  rw [h.nextSid, e b.sessions, e a.sessions, h.notifyOnly.2]

@[simp] theorem skel_pushOnce (sv : Server) : skel (pushOnce sv) = skel sv := (Notif.push sv).skel

@[simp] theorem skel_pushAll (sv : Server) : skel (pushAll sv) = skel sv := (pushAll_notif sv).skel

@[simp] theorem skel_nodeChangedAux (sv : Server) (sid : Nat) (np : Bytes) (d : Option Nat) (removed : Bool) :
    skel (nodeChangedAux sv sid np d removed) = skel sv := (nodeChangedAux_notif sv sid np d removed).skel

theorem expCount_not_mem {ss : List (Nat × PM)} {sid : Nat} (h : sid ∉ ss.map (·.1)) (v : List Bytes) :
    expCount ss sid v = 0 := by
  unfold expCount
  have : ss.find? (fun q => q.1 = sid) = none := by
    rw [List.find?_eq_none]
    intro x hx
    simp only [decide_eq_true_eq]
    intro e; exact h (e ▸ List.mem_map_of_mem hx)
  rw [this]

theorem MarksOK.of_sub {root root' : Node} {ss : List (Nat × PM)} (h : MarksOK root ss)
    (hsub : ∀ v n', v ≠ [] → nodeAt fuelDepth root' v = some n' →
      ∃ n, nodeAt fuelDepth root v = some n ∧ n.subs = n'.subs) : MarksOK root' ss := by
  intro v n' hv hn'
  obtain ⟨n, hn, hs⟩ := hsub v n' hv hn'
  rw [← hs]
  exact h v n hv hn

theorem MarksOK.setField {root : Node} {ss : List (Nat × PM)} (path : List Bytes) (f : Node → Node)
    (hname : ∀ n, (f n).name = n.name) (hkids : ∀ n, (f n).kids = n.kids) (hsubs : ∀ n, (f n).subs = n.subs)
    (h : MarksOK root ss) : MarksOK (updateAt fuelDepth root path f) ss := by
  apply MarksOK.of_sub h
  intro v n' _ hn'
  have := nodeAt_updateAt_proj Node.subs (fun _ _ => rfl) hname hkids fuelDepth root path v
  rw [hn'] at this
  cases ho : nodeAt fuelDepth root v with
  | none => rw [ho] at this; simp at this
  | some n =>
    rw [ho] at this
    simp only [Option.map_some, Option.some.injEq, hsubs, ite_self] at this
    exact ⟨n, rfl, this.symm⟩

theorem TabOK.nil : TabOK [] := ⟨by simp, by simp⟩

theorem TabOK.adjust {subs : List (Nat × Nat)} (h : TabOK subs) (sid : Nat) (delta : Option Int) :
    TabOK (adjustSubs subs sid delta) := by
  refine ⟨adjustSubs_keys_nodup subs sid delta h.nodup, ?_⟩
  rw [adjustSubs_eq]
  generalize adjNew (subCount subs sid) delta = new
  intro p hp
  split at hp
  · rename_i hnew
    split at hp
    · obtain ⟨⟨k, c⟩, hx, hxp⟩ := List.mem_map.1 hp
      simp only at hxp
      split at hxp
      · subst hxp; exact hnew
      · subst hxp; exact h.pos _ hx
    · rcases List.mem_append.1 hp with hp | hp
      · exact h.pos p hp
      · simp at hp; subst hp; exact hnew
  · exact h.pos p (List.mem_filter.1 hp).1

theorem subCount_marksFold (ss : List Sess) (names : List Bytes) (acc : List (Nat × Nat)) (sid : Nat) :
    subCount (ss.foldl (fun acc s => adjustSubs acc s.sid (some (pmMatchCount s.subs names : Nat))) acc) sid =
      subCount acc sid + ((ss.filter (fun s => s.sid = sid)).map (fun s => pmMatchCount s.subs names)).sum := by
  induction ss generalizing acc with
  | nil => simp
  | cons s r ih =>
    simp only [List.foldl_cons]
    rw [ih, subCount_adjustSubs, List.filter_cons]
    by_cases h : s.sid = sid
    · subst h
      simp only [if_true, decide_true, List.map_cons, List.sum_cons, adjNew_add]
      omega
    · have : ¬ sid = s.sid := fun e => h e.symm
      simp only [this, if_false, h, decide_false]
      simp

theorem TabOK.of_marksFold (ss : List Sess) (names : List Bytes) (acc : List (Nat × Nat)) (h : TabOK acc) :
    TabOK (ss.foldl (fun acc s => adjustSubs acc s.sid (some (pmMatchCount s.subs names : Nat))) acc) := by
  induction ss generalizing acc with
  | nil => exact h
  | cons s r ih => simp only [List.foldl_cons]; exact ih _ (h.adjust _ _)

theorem subCount_marksForNewNode (sv : Server) (hnd : ((sessKeys sv).map (·.1)).Nodup) (names : List Bytes) (sid : Nat) :
    subCount (marksForNewNode sv names) sid = expCount (sessKeys sv) sid names := by
  unfold marksForNewNode
  rw [subCount_marksFold, subCount_nil, Nat.zero_add]
  unfold expCount sessKeys
  unfold sessKeys at hnd
  generalize sv.sessions = ss at hnd
  induction ss with
  | nil => simp
  | cons s r ih =>
    simp only [List.map_cons, List.nodup_cons, List.map_map] at hnd
    rw [List.filter_cons]
    by_cases h : s.sid = sid
    · subst h
      have hr : r.filter (fun t => t.sid = s.sid) = [] := by
        rw [List.filter_eq_nil_iff]
        intro t ht
        simp only [decide_eq_true_eq]
        intro e
        apply hnd.1
        rw [← e]
        exact List.mem_map.2 ⟨t, ht, rfl⟩
      simp [hr]
    · simp only [h, decide_false, Bool.false_eq_true, if_false, List.map_cons, List.find?_cons]
      apply ih
      simpa [List.map_map] using hnd.2

theorem TabOK.of_marksForNewNode (sv : Server) (names : List Bytes) : TabOK (marksForNewNode sv names) := by
  unfold marksForNewNode
  exact TabOK.of_marksFold _ _ _ TabOK.nil

end Muscle.Reflector
