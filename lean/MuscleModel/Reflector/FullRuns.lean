import MuscleModel.Reflector.Refilter

/-!
# The full runs of the subscriber: `Run2`, `Run3` (own parameters, re-filter)

`OwnParamCmd`: the max-items and default-route parameter commands rewrite only fields outside `vcore`, the pending Message and the
inbox (`ownParam_eq`); at a quiescent point they leave the mirror's specification untouched.  `Run2` = `Run` (`Runs`) with these commands.
The subscriber's own reflect-to-self parameter keeps the mirror's specification only while it holds no subscription or
reflects to itself already (`SelfOK`): the server sends no snapshot for the parameter.  `Run3` = `Run2` plus re-filter steps (`Refilter`)
and this parameter; every `Run3` is a `QStep`.
-/


namespace Muscle.Reflector
open Muscle Muscle.Eng.SrvEngine

def OwnParamCmd : Cmd → Prop
  | .paramMax _ => True
  | .unparamMax => True
  | .paramRoute _ => True
  | .paramRouteF _ _ => True
  | .unparamRoute => True
  | .unparamRouteF => True
  | _ => False

theorem ownParam_eq (sv : Server) (sid : Nat) (c : Cmd) (hc : OwnParamCmd c) :
    ∃ g : Sess → Sess, runCmd sv sid c = sv.updSess sid g ∧
      ∀ s, (g s).vcore = s.vcore ∧ (g s).nextData = s.nextData ∧ (g s).inbox = s.inbox := by
  cases c with
  | paramMax n => exact ⟨_, rfl, fun _ => ⟨rfl, rfl, rfl⟩⟩
  | paramRoute keys => exact ⟨_, rfl, fun _ => ⟨rfl, rfl, rfl⟩⟩
  | paramRouteF keys fs => exact ⟨_, rfl, fun _ => ⟨rfl, rfl, rfl⟩⟩
  | unparamMax => exact ⟨_, rfl, fun s => by split <;> exact ⟨rfl, rfl, rfl⟩⟩
  | unparamRoute => exact ⟨_, rfl, fun s => by split <;> exact ⟨rfl, rfl, rfl⟩⟩
  | unparamRouteF => exact ⟨_, rfl, fun s => by split <;> exact ⟨rfl, rfl, rfl⟩⟩
  | _ => exact False.elim hc

theorem cmdOK_of_ownParam {c : Cmd} (hc : OwnParamCmd c) : CmdOK c := by
  cases c <;> first | trivial | exact False.elim hc

theorem ownParam_quiescent {sid : Nat} {sv : Server} {s : Sess} {m : Mirror} (q : Quiescent sid sv s m) (c : Cmd)
    (hc : OwnParamCmd c) :
    ∃ s', Quiescent sid (runCmd sv sid c) s' m ∧ dataLines s' = dataLines s ∧ s'.sid = s.sid ∧
      s'.reflectSelf = s.reflectSelf := by
  obtain ⟨g, heq, hg⟩ := ownParam_eq sv sid c hc
  obtain ⟨hv, hnd, hin⟩ := hg s
  have hinv := q.inv.runCmd sid c (cmdOK_of_ownParam hc)
  rw [heq] at hinv ⊢
  exact ⟨g s, ⟨hinv, sess?_updSess_same sv sid g q.sess (fun t => vcore_sid (hg t).1), (vcore_subsEnabled hv).trans q.enabled,
    (pend_of_nextData hnd).trans q.nothing, (mirrorOK_vcore hv _ m).2 (mirrorOK_of_root rfl q.mirror)⟩,
    by unfold dataLines; rw [hin], vcore_sid hv, vcore_reflectSelf hv⟩

inductive Run2 (sid : Nat) : Server → Server → Prop
  | run {a b : Server} : Run sid a b → Run2 sid a b
  | ownParam {sv : Server} (c : Cmd) : OwnParamCmd c → Run2 sid sv (runCmd sv sid c)
  | trans {a b c : Server} : Run2 sid a b → Run2 sid b c → Run2 sid a c

theorem run2_step {sid : Nat} {sv sv' : Server} (hr : Run2 sid sv sv') : QStep sid sv sv' := by
  induction hr with
  | run h => exact run_step h
  | ownParam c hc =>
    intro s m q
    obtain ⟨s', q', hd, hsid, _⟩ := ownParam_quiescent q c hc
    exact ⟨s', [], q', by simp [msgsOf, hd], hsid⟩
  | trans _ _ ih1 ih2 => exact ih1.trans ih2

def SelfOK (sid : Nat) (sv : Server) : Prop := ∀ s, sv.sess? sid = some s → s.subs = [] ∨ s.reflectSelf = true

/-- under `SelfOK` the reflect-to-self flag changes no `expected` value: nothing is wanted, or every node is visible already -/
theorem mirrorOK_reflectSelf {sv : Server} (hNS : NS sv) {s s' : Sess} (hsid : s'.sid = s.sid) (hsubs : s'.subs = s.subs)
    (hrs' : s'.reflectSelf = true) (hok : s.subs = [] ∨ s.reflectSelf = true) {m : Mirror} (hm : MirrorOK sv s m) :
    MirrorOK sv s' m := by
  obtain ⟨h1, h2⟩ := (mirrorOK_iff_nodes hNS).1 hm
  refine (mirrorOK_iff_nodes hNS).2 ⟨fun v n hv hn => ?_, h2⟩
  have hw : wants s' v n.data = wants s v n.data := wants_of_subs hsubs v n.data
  rw [h1 v n hv hn, expected_some, expected_some, hw]
  rcases hok with h | h
  · rw [wants_nosubs h, Bool.and_false, Bool.and_false]
  · rw [visible_congr hsid (hrs'.trans h.symm) v]

theorem selfParam_quiescent {sid : Nat} {sv : Server} {s : Sess} {m : Mirror} (q : Quiescent sid sv s m)
    (hok : SelfOK sid sv) :
    ∃ s', Quiescent sid (runCmd sv sid .paramSelf) s' m ∧ dataLines s' = dataLines s ∧ s'.sid = s.sid ∧
      s'.subs = s.subs ∧ s'.reflectSelf = true := by
  have hs' : (runCmd sv sid .paramSelf).sess? sid = some (addParam { s with reflectSelf := true } selfName) :=
    sess?_updSess_same sv sid _ q.sess
  refine ⟨_, ⟨q.inv.runCmd sid .paramSelf trivial, hs', q.enabled, q.nothing, ?_⟩, rfl, rfl, rfl, rfl⟩
  exact mirrorOK_of_root (b := runCmd sv sid .paramSelf) rfl
    (mirrorOK_reflectSelf q.inv.inv.noSlash (s := s) (s' := addParam { s with reflectSelf := true } selfName) rfl rfl rfl
      (hok s q.sess) q.mirror)

inductive Run3 (sid : Nat) : Server → Server → Prop
  | run {a b : Server} : Run2 sid a b → Run3 sid a b
  | refilter {sv : Server} (path : Bytes) (f : Option Filt) : RefilterOK sid sv path f →
      Run3 sid sv (pushAll (runCmd sv sid (.sub path f)))
  | ownSelf {sv : Server} : SelfOK sid sv → Run3 sid sv (runCmd sv sid .paramSelf)
  | trans {a b c : Server} : Run3 sid a b → Run3 sid b c → Run3 sid a c

theorem run3_step {sid : Nat} {sv sv' : Server} (hr : Run3 sid sv sv') : QStep sid sv sv' := by
  induction hr with
  | run h => exact run2_step h
  | refilter path f hok =>
    intro s m q
    obtain ⟨s', items, q', hd, hsid, _⟩ := refilter_quiescent q path f hok
    exact ⟨s', items, q', hd, hsid⟩
  | ownSelf hok =>
    intro s m q
    obtain ⟨s', q', hd, hsid, _, _⟩ := selfParam_quiescent q hok
    exact ⟨s', [], q', by simp [msgsOf, hd], hsid⟩
  | trans _ _ ih1 ih2 => exact ih1.trans ih2

end Muscle.Reflector
