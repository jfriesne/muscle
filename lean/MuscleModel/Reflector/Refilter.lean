import MuscleModel.Reflector.Runs

/-!
# Re-subscription of a held path with another filter (`ChangeQueryFilterCallback`)

The server (1) feeds, for every node the path's clauses match whose filter verdict changes and which no other subscription
matches, a removal or a set (`rfStep`, in `SubscribeShape`); (2) replaces the filter; (3) delivers the snapshot of the new filter's matches
straight to the inbox while events of (1) are still pending; then the push.  The events of (1) alone lead from what the old
subscription set expects to what the new one expects, node by node (`mirrorOK_rfEvs`); the snapshot sets a node to the value it
has by then anyway, and a Message is idempotent at every path (`applyMsg_absorb`), so the pending part of (1) absorbs the snapshot
(`refilter_mirror`).  The traversal of (1) follows `GetDataCallback`'s rule, so the own nodes of a plain session
(one that neither reflects to itself nor carries the indexing flag) are never fed (`rfVisits_of`).  For the closing push: after
`NodeChangedAux` the server is dirty or the session has nothing pending, and `DoGetData` keeps the dirty flag.
-/

namespace Muscle.Reflector
open Muscle Muscle.Eng.SrvEngine

theorem flushFull_dirty (sid : Nat) (X : Server) (hX : X.subsDirty = true) {y : Sess} (hy : (flushFull sid X).sess? sid = some y) :
    (flushFull sid X).subsDirty = true ∨ pend y = {} := by
  unfold flushFull at hy ⊢
  cases hx : X.sess? sid with
  | none => left; exact hX
  | some x =>
    rw [hx] at hy
    simp only [] at hy ⊢
    cases hn : x.nextData with
    | none => left; exact hX
    | some m =>
      rw [hn] at hy
      simp only [] at hy ⊢
      by_cases hge : m.numNames ≥ x.maxItems
      · right
        rw [if_pos hge, sess?_pushAll_dirty X hX, hx] at hy
        simp only [Option.map_some, Option.some.injEq] at hy
        rw [← hy]; simp [pend, pushSess_nextData]
      · left; rw [if_neg hge]; exact hX

theorem nodeChangedAux_dirty {sv : Server} {sid : Nat} {s : Sess} (hs : sv.sess? sid = some s) (np : Bytes) (d : Option Nat)
    (removed : Bool) :
    (nodeChangedAux sv sid np d removed).subsDirty = true ∨ pend (auxSess s np d removed) = {} := by
  have hsess := (nodeChangedAux_sessions hs np d removed).1
  unfold nodeChangedAux at hsess ⊢
  rw [hs] at hsess ⊢
  -- the state before the flush-at-`maxItems` test is dirty in every branch
  refine flushFull_dirty sid _ ?_ hsess
  cases removed with
  | false => rfl
  | true =>
    by_cases h : (s.nextData.getD {}).hasSet np = true
    · simp only [h, if_true]
    · simp only [h, if_true, Bool.false_eq_true, if_false]; rfl

theorem subsDirty_doGetData (sv : Server) (sid : Nat) (keys : List (Bytes × Option Filt)) :
    (doGetData sv sid keys).subsDirty = sv.subsDirty := by
  obtain ⟨ds, _, h⟩ := doGetData_delivers sv sid keys
  rw [h]
  exact foldl_inv (fun X : Server => X.subsDirty = sv.subsDirty) (fun X d => X.deliver d.1 d.2) (fun _ _ hX => hX) ds sv rfl

def Prov (evs : List Ev) (u : UpdMsg) : Prop :=
  (∀ q ∈ u.removed, Ev.removed q ∈ evs) ∧ (∀ q ds d, (q, ds) ∈ u.sets → d ∈ ds → Ev.set q d ∈ evs)

theorem Prov.mono {evs : List Ev} {u : UpdMsg} (h : Prov evs u) (more : List Ev) : Prov (evs ++ more) u :=
  ⟨fun q hq => List.mem_append_left _ (h.1 q hq), fun q ds d h1 h2 => List.mem_append_left _ (h.2 q ds d h1 h2)⟩

theorem filterOk_true (e : Entry) (d : Option Nat) : e.filterOk true d = verdict e.filter d := by
  unfold Entry.filterOk verdict
  cases e.filter <;> simp

/-- the event for one visited node, decided on the tree `sv0` -/
def rfEv (s : Sess) (fix : Bytes) (e : Entry) (f : Option Filt) (sv0 : Server) (v : Visit) : Option Ev :=
  match getNode sv0 v with
  | none => none
  | some n => if rfCond s fix e f v n then some (evOf (pathString v) n.data (verdict e.filter n.data)) else none

def rfEvs (s : Sess) (fix : Bytes) (e : Entry) (f : Option Filt) (sv0 : Server) (V : List Visit) : List Ev :=
  V.filterMap (rfEv s fix e f sv0)

/-- what the fold of (1) keeps, with `evs` the events fed so far: the tree; the subscriber's pipe was fed `evs`; its record keeps
    `core` (not only `vcore`: the snapshot rule reads `indexingPresent`); the closing push sends what is pending (it is a no-op only
    if nothing is) -/
def RfInv (sv : Server) (sid : Nat) (s : Sess) (X : Server) (evs : List Ev) : Prop :=
  X.root = sv.root ∧ PipeStep sid sv X evs ∧
    ∀ sX, X.sess? sid = some sX → sX.core = s.core ∧ (X.subsDirty = true ∨ pend sX = {})

theorem rfInv_init {sv : Server} {sid : Nat} {s : Sess} (hs : sv.sess? sid = some s) (hq : pend s = {}) :
    RfInv sv sid s sv [] :=
  ⟨rfl, PipeStep.refl sid sv, fun sX h => by obtain rfl := Option.some.inj (hs.symm.trans h); exact ⟨rfl, Or.inr hq⟩⟩

theorem rfInv_step {sv : Server} {sid : Nat} {s : Sess} (hs : sv.sess? sid = some s) (fix : Bytes) (e : Entry) (f : Option Filt)
    {X : Server} {evs : List Ev} (h : RfInv sv sid s X evs) (v : Visit) :
    RfInv sv sid s (rfStep s sid fix e f X v) (evs ++ (rfEv s fix e f sv v).toList) := by
  obtain ⟨hr, hp, hk⟩ := h
  have hg : getNode X v = getNode sv v := getNode_congr hr v
  unfold rfStep rfEv
  rw [hg]
  cases hn : getNode sv v with
  | none => simp only [Option.toList_none, List.append_nil]; exact ⟨hr, hp, hk⟩
  | some n =>
    simp only []
    by_cases hcnd : rfCond s fix e f v n = true
    · simp only [hcnd, if_true, Option.toList_some]
      obtain ⟨sX, _, hsX, _⟩ := hp s hs
      refine ⟨by rw [nodeChangedAux_root]; exact hr, hp.trans (pipeStep_nodeChangedAux X sid _ _ _), fun sY hsY => ?_⟩
      obtain rfl := Option.some.inj ((nodeChangedAux_sessions hsX _ _ _).1.symm.trans hsY)
      exact ⟨(auxSess_feed sX _ _ _).2.2.trans (hk sX hsX).1, nodeChangedAux_dirty hsX _ _ _⟩
    · simp only [hcnd, Bool.false_eq_true, if_false, Option.toList_none, List.append_nil]
      exact ⟨hr, hp, hk⟩

theorem rfInv_fold {sv : Server} {sid : Nat} {s : Sess} (hs : sv.sess? sid = some s) (fix : Bytes) (e : Entry) (f : Option Filt) :
    ∀ (V : List Visit) {X : Server} {evs : List Ev}, RfInv sv sid s X evs →
      RfInv sv sid s (V.foldl (rfStep s sid fix e f) X) (evs ++ rfEvs s fix e f sv V) := by
  intro V
  induction V with
  | nil => intro X evs h; simpa [rfEvs] using h
  | cons v r ih =>
    intro X evs h
    simp only [List.foldl_cons]
    have := ih (rfInv_step hs fix e f h v)
    have hev : rfEvs s fix e f sv (v :: r) = (rfEv s fix e f sv v).toList ++ rfEvs s fix e f sv r := by
      unfold rfEvs
      simp only [List.filterMap_cons]
      cases rfEv s fix e f sv v <;> rfl
    rw [hev, ← List.append_assoc]
    exact this

/-- the visits of the re-filter traversal: the existing nodes the path's clauses match that are visible to the session
    (for a session whose snapshot rule and notification rule agree) -/
theorem rfVisits_of {sv : Server} (hti : TreeInv sv) {s : Sess} (h : s.reflectSelf = true ∨ s.indexingPresent = false)
    {fix : Bytes} (hgood : GoodPath fix) :
    ∀ w, w ∈ travGlobal sv (pmPut [] fix none) false (getDataCb s) ↔
      ∃ n, w ≠ [] ∧ getNode sv w = some n ∧ clausesMatch (splitSlash fix) w = true ∧ visible s w = true := by
  intro w
  rw [visits_getDataCb hti h (SubsWF.single hgood none) false w]
  constructor
  · rintro ⟨n, h1, h2, h3, h4⟩; exact ⟨n, h1, h2, by rw [← pmMatchesPath_single_nodata hgood.1 w n.data]; exact h3, h4⟩
  · rintro ⟨n, h1, h2, h3, h4⟩; exact ⟨n, h1, h2, by rw [pmMatchesPath_single_nodata hgood.1 w n.data]; exact h3, h4⟩

theorem rfEvs_eq (s : Sess) (fix : Bytes) (e : Entry) (f : Option Filt) (sv : Server) (V : List Visit) :
    rfEvs s fix e f sv V = nodeEvs (fun v n => if rfCond s fix e f v n then
      some (evOf (pathString v) n.data (verdict e.filter n.data)) else none) sv V := by
  unfold rfEvs nodeEvs
  congr 1; funext v
  unfold rfEv
  cases getNode sv v <;> rfl

theorem mem_rfEvs {s : Sess} {fix : Bytes} {e : Entry} {f : Option Filt} {sv : Server} {V : List Visit} {ev : Ev} :
    ev ∈ rfEvs s fix e f sv V ↔ ∃ w ∈ V, ∃ n, getNode sv w = some n ∧ rfCond s fix e f w n = true ∧
      ev = evOf (pathString w) n.data (verdict e.filter n.data) := by
  rw [rfEvs_eq, mem_nodeEvs]
  constructor
  · rintro ⟨w, hw, n, hn, h⟩
    split at h
    · rename_i hc; exact ⟨w, hw, n, hn, hc, (Option.some.inj h).symm⟩
    · cases h
  · rintro ⟨w, hw, n, hn, hc, rfl⟩
    exact ⟨w, hw, n, hn, by rw [if_pos hc]⟩

theorem rfEvs_path (s : Sess) (fix : Bytes) (e : Entry) (f : Option Filt) (v : Visit) (n : Node) (ev : Ev)
    (h : (if rfCond s fix e f v n then some (evOf (pathString v) n.data (verdict e.filter n.data)) else none) = some ev) :
    evPath ev = pathString v := by
  split at h <;> cases h; exact evPath_evOf ..

theorem rfFold_node {sv : Server} (hNS : NS sv) (s : Sess) (fix : Bytes) (e : Entry) (f : Option Filt) (V : List Visit)
    (m : Mirror) {v : List Bytes} {n : Node} (hn : getNode sv v = some n) :
    ((rfEvs s fix e f sv V).foldl applyEv m) (pathString v) =
      if v ∈ V ∧ rfCond s fix e f v n = true then (if verdict e.filter n.data then none else some n.data)
      else m (pathString v) := by
  rw [rfEvs_eq, nodeFold_node hNS (rfEvs_path s fix e f) V m hn]
  by_cases hv : v ∈ V <;> by_cases hc : rfCond s fix e f v n = true <;> simp [hv, hc, evVal_evOf]

theorem mirrorOK_rfEvs {sv : Server} (hNS : NS sv) {s sB : Sess} (hwf : SubsWF s.subs)
    {fix : Bytes} {e : Entry} (hf : pmFind s.subs fix = some e) (f : Option Filt)
    (hsubs : sB.subs = pmPut s.subs fix f) (hsid : sB.sid = s.sid) (hrs : sB.reflectSelf = s.reflectSelf)
    {V : List Visit} (hV : ∀ w, w ∈ V ↔ ∃ n, w ≠ [] ∧ getNode sv w = some n ∧ clausesMatch (splitSlash fix) w = true ∧
        visible s w = true)
    {m : Mirror} (hm : MirrorOK sv s m) : MirrorOK sv sB ((rfEvs s fix e f sv V).foldl applyEv m) := by
  obtain ⟨h1, h2⟩ := (mirrorOK_iff_nodes hNS).1 hm
  refine (mirrorOK_iff_nodes hNS).2 ⟨fun v n hv hn => ?_, fun p hp => ?_⟩
  · have hwB : wants sB v n.data =
        (pmMatchesPath (pmRemove s.subs fix) v true n.data || (clausesMatch (splitSlash fix) v && verdict f n.data)) := by
      rw [wants_of_subs hsubs, pmMatchesPath_replace hwf hf f v true n.data, filterOk_true]
    have hwS : wants s v n.data =
        (pmMatchesPath (pmRemove s.subs fix) v true n.data || (clausesMatch (splitSlash fix) v && verdict e.filter n.data)) := by
      rw [wants_of_subs rfl, pmMatchesPath_split hwf hf v true n.data, filterOk_true]
    have hinV : v ∈ V ↔ clausesMatch (splitSlash fix) v = true ∧ visible s v = true := visits_at hV hv hn
    have hcond : rfCond s fix e f v n = (decide (verdict e.filter n.data ≠ verdict f n.data) &&
        !pmMatchesPath (pmRemove s.subs fix) v true n.data) := rfl
    rw [rfFold_node hNS s fix e f V m hn, h1 v n hv hn, expected_some, expected_some, visible_congr hsid hrs v, hwB, hwS, hcond]
    simp only [hinV]
    -- invisible, matched by another entry, or not matched by this path: nothing is fed and old and new set agree;
    -- otherwise the event fed is the change of verdict
    cases hA : visible s v
    · simp
    cases hO : pmMatchesPath (pmRemove s.subs fix) v true n.data
    · cases hcm : clausesMatch (splitSlash fix) v
      · simp
      · cases hvf : verdict f n.data <;> cases hve : verdict e.filter n.data <;> simp
    · simp
  · rw [rfEvs_eq, nodeFold_nopath (rfEvs_path s fix e f) V (visits_ne_nil hV) m hp, h2 p hp]

/-- The mirror after the flushed part of the verdict changes (`M1`), the snapshot of the new filter's matches (`vsC`) and the part
    of the verdict changes still pending (`u`). -/
theorem refilter_mirror {sv C : Server} (hroot : C.root = sv.root) (hNS : NS sv) {s sB : Sess} (hwf : SubsWF s.subs)
    {fix : Bytes} {e : Entry} (hf : pmFind s.subs fix = some e) (f : Option Filt)
    (hsubs : sB.subs = pmPut s.subs fix f) (hsid : sB.sid = s.sid) (hrs : sB.reflectSelf = s.reflectSelf)
    {V : List Visit} (hV : ∀ w, w ∈ V ↔ ∃ n, w ≠ [] ∧ getNode sv w = some n ∧ clausesMatch (splitSlash fix) w = true ∧
        visible s w = true)
    {vsC : List Visit} (hVC : ∀ v, v ∈ vsC ↔ ∃ n, v ≠ [] ∧ getNode C v = some n ∧
        pmMatchesPath (pmPut [] fix f) v true n.data = true ∧ visible sB v = true)
    {m M1 : Mirror} {u : UpdMsg} (hm : MirrorOK sv s m)
    (hview : applyMsg M1 u = (rfEvs s fix e f sv V).foldl applyEv m) :
    MirrorOK C sB (applyMsg ((snapEvs C vsC).foldl applyEv M1) u) := by
  have hgood := pmFind_goodPath hwf hf
  -- the verdict changes alone are right for the new filter
  have hR : MirrorOK C sB (applyMsg M1 u) := by
    rw [hview]; exact mirrorOK_of_root hroot (mirrorOK_rfEvs hNS hwf hf f hsubs hsid hrs hV hm)
  -- the snapshot sets a node to what that mirror holds there already, so what is pending absorbs it
  have habs : applyMsg ((snapEvs C vsC).foldl applyEv M1) u = applyMsg M1 u := by
    funext p
    refine applyMsg_absorb _ M1 u p (foldSets_old_or (applyMsg M1 u) _ (fun ev hev => ?_) M1 p)
    obtain ⟨v, hv, hx⟩ := List.mem_filterMap.1 hev
    obtain ⟨n, hv0, hnC, hmt, hvis⟩ := (hVC v).1 hv
    rw [pmMatchesPath_single hgood.1, filterOk_true] at hmt
    rw [hnC] at hx
    obtain rfl := Option.some.inj hx
    refine ⟨_, _, rfl, ?_⟩
    rw [((mirrorOK_iff_nodes (NS.of_root hroot hNS)).1 hR).1 v n hv0 hnC, expected_some, hvis]
    rw [wants_of_subs hsubs, pmMatchesPath_replace hwf hf f v true n.data, filterOk_true, hmt]
    simp
  rw [habs]; exact hR

theorem rfEvs_nil_of_none (s : Sess) (fix : Bytes) {e : Entry} (he : e.filter = none) (sv : Server) (V : List Visit) :
    rfEvs s fix e none sv V = [] := by
  unfold rfEvs
  rw [List.filterMap_eq_nil_iff]
  intro v _
  unfold rfEv
  cases getNode sv v with
  | none => rfl
  | some n =>
    simp only []
    have : rfCond s fix e none v n = false := by
      unfold rfCond
      rw [he]
      simp [verdict]
    rw [this]; rfl

set_option linter.unusedVariables false in
/-- the premises of a SUBSCRIBE by `sid` in state `sv` for a path it already holds: snapshot rule and notification rule
    agree for the session (it reflects to itself or does not carry the indexing flag), and the path is held under its
    normalised spelling -/
def RefilterOK (sid : Nat) (sv : Server) (path : Bytes) (f : Option Filt) : Prop :=
  ∀ s, sv.sess? sid = some s →
    (s.reflectSelf = true ∨ s.indexingPresent = false) ∧
    (pmFind s.subs (adjustPrefix path (some defaultPrefix))).isSome = true

/-- The re-filter at a quiescent point, before the engine's push: the Messages flushed during (1) and the snapshot (3) are in the
    inbox, the rest of (1) is pending, and the client's view (what was delivered, then what is pending) is a right mirror for
    the subscription set with the new filter; the push will send what is pending. -/
theorem refilter_view {sid : Nat} {sv : Server} {s : Sess} {m : Mirror} (q : Quiescent sid sv s m) (path : Bytes)
    (f : Option Filt) (hok : RefilterOK sid sv path f) :
    ∃ sD sent, (runCmd sv sid (.sub path f)).sess? sid = some sD ∧ sD.subsEnabled = true ∧ sD.sid = s.sid ∧
      sD.reflectSelf = s.reflectSelf ∧ dataLines sD = dataLines s ++ sent.map dataText ∧
      ((runCmd sv sid (.sub path f)).subsDirty = true ∨ pend sD = {}) ∧
      MirrorOK (runCmd sv sid (.sub path f)) sD (applyMsg (applyMsgs m sent) (pend sD)) := by
  obtain ⟨hrule, hsome⟩ := hok s q.sess
  obtain ⟨e, hf⟩ := Option.isSome_iff_exists.1 hsome
  have hs := q.sess
  have hinv := q.inv
  have hwf : SubsWF s.subs := hinv.inv.subsWF hs
  have hgood := pmFind_goodPath hwf hf
  have heq : runCmd sv sid (.sub path f) = doGetData (rfC sv sid s path e f) sid [(path, f)] :=
    subscribe_refilter_eq hs path f hf
  rw [heq]
  generalize hfix : adjustPrefix path (some defaultPrefix) = fix at hf hgood
  generalize hVdef : travGlobal sv (pmPut [] fix none) false (getDataCb s) = V
  -- (1) the fold
  have hA : ∃ A, RfInv sv sid s A (rfEvs s fix e f sv V) ∧
      rfC sv sid s path e f = ((A.updSess sid (fun t => { t with subs := pmPut t.subs fix f })).updSess sid
        (fun t => { t with params := subParams t.params path })) := by
    unfold rfC
    rw [hfix, hVdef]
    by_cases hc : (s.subsEnabled && (f.isSome || e.filter.isSome)) = true
    · rw [if_pos hc]
      refine ⟨_, ?_, rfl⟩
      have := rfInv_fold hs fix e f V (rfInv_init hs q.nothing)
      simpa using this
    · rw [if_neg hc]
      refine ⟨sv, ?_, rfl⟩
      rw [q.enabled] at hc
      simp only [Bool.true_and, Bool.or_eq_true, not_or, Bool.not_eq_true, Option.isSome_eq_false_iff,
        Option.isNone_iff_eq_none] at hc
      rw [hc.1, rfEvs_nil_of_none s fix hc.2]
      exact rfInv_init hs q.nothing
  obtain ⟨A, ⟨hrA, hpA, hkA⟩, hCeq⟩ := hA
  obtain ⟨sA, sentA, hsA, _, hdA, hvA⟩ := hpA s hs
  obtain ⟨hcA, hdirtyA⟩ := hkA sA hsA
  have hviewA : ∀ m, applyMsg (applyMsgs m sentA) (pend sA) = (rfEvs s fix e f sv V).foldl applyEv m := fun m => by
    rw [hvA, q.nothing, applyMsg_empty]
  rw [hCeq]
  -- (2) the filter is replaced, the parameter recorded: the record `sB` in the state `C` the snapshot runs on
  generalize hBdef : ({ ({ sA with subs := pmPut sA.subs fix f } : Sess) with
      params := subParams sA.params path } : Sess) = sB
  have hsB : (((A.updSess sid (fun t => { t with subs := pmPut t.subs fix f })).updSess sid
        (fun t => { t with params := subParams t.params path }))).sess? sid = some sB := by
    rw [← hBdef]
    exact sess?_updSess_same _ sid _ (sess?_updSess_same A sid _ hsA)
  generalize hCdef : ((A.updSess sid (fun t => { t with subs := pmPut t.subs fix f })).updSess sid
        (fun t => { t with params := subParams t.params path })) = C at hsB ⊢
  have hrootC : C.root = sv.root := by rw [← hCdef]; exact hrA
  have hdirtyC : C.subsDirty = A.subsDirty := by rw [← hCdef]; rfl
  have hsubsA : sA.subs = s.subs := vcore_subs (vcore_of_core hcA)
  have hsidA : sA.sid = s.sid := vcore_sid (vcore_of_core hcA)
  have hrsA : sA.reflectSelf = s.reflectSelf := vcore_reflectSelf (vcore_of_core hcA)
  have hipA : sA.indexingPresent = s.indexingPresent := core_indexingPresent hcA
  have henA : sA.subsEnabled = s.subsEnabled := vcore_subsEnabled (vcore_of_core hcA)
  have hsubsB : sB.subs = pmPut s.subs fix f := by rw [← hBdef, ← hsubsA]
  have hsidB : sB.sid = s.sid := by rw [← hBdef]; exact hsidA
  have hrsB : sB.reflectSelf = s.reflectSelf := by rw [← hBdef]; exact hrsA
  have hipB : sB.indexingPresent = s.indexingPresent := by rw [← hBdef]; exact hipA
  have henB : sB.subsEnabled = s.subsEnabled := by rw [← hBdef]; exact henA
  have hndB : sB.nextData = sA.nextData := by rw [← hBdef]
  have hdlB : dataLines sB = dataLines sA := by rw [← hBdef]; rfl
  -- (3) the snapshot
  obtain ⟨sentC, ⟨hrootD, sD, hsD, hcD, hnD, hdD⟩, hviewC⟩ :=
    doGetData_replay C sid sB hsB [(path, f)] (applyMsgs m sentA)
  rw [pmOfKeys_single, hfix] at hviewC
  have hVC : SnapVisits C sB fix f :=
    snapVisits_of (treeInv_of_root hrootC hinv.inv.tree) (by rw [hrsB, hipB]; exact hrule) hgood f
  have hVsv : ∀ w, w ∈ V ↔ ∃ n, w ≠ [] ∧ getNode sv w = some n ∧ clausesMatch (splitSlash fix) w = true ∧
      visible s w = true := by
    intro w
    rw [← hVdef]
    exact rfVisits_of hinv.inv.tree hrule hgood w
  have hmirC := refilter_mirror hrootC hinv.inv.noSlash hwf hf f hsubsB hsidB hrsB hVsv hVC q.mirror (hviewA m)
  rw [← hviewC] at hmirC
  generalize hDdef : doGetData C sid [(path, f)] = D at hsD hrootD ⊢
  have hdirtyD : D.subsDirty = A.subsDirty := by rw [← hDdef, subsDirty_doGetData]; exact hdirtyC
  have hmirD : MirrorOK D sD (applyMsg (applyMsgs (applyMsgs m sentA) sentC) (pend sA)) :=
    (mirrorOK_vcore (vcore_of_core hcD) D _).2 (mirrorOK_of_root hrootD hmirC)
  have hpendD : pend sD = pend sA := pend_of_nextData (hnD.trans hndB)
  have hvD : sD.vcore = sB.vcore := vcore_of_core hcD
  have hdlD : dataLines sD = dataLines s ++ (sentA ++ sentC).map dataText := by
    rw [hdD, hdlB, hdA, List.map_append, List.append_assoc]
  refine ⟨sD, sentA ++ sentC, hsD, (vcore_subsEnabled hvD).trans (henB.trans q.enabled), (vcore_sid hvD).trans hsidB,
    (vcore_reflectSelf hvD).trans hrsB, hdlD, by rw [hdirtyD, hpendD]; exact hdirtyA, ?_⟩
  rw [hpendD, applyMsgs_append]; exact hmirD

/-- The re-filter at a quiescent point, with the engine's push: the client consumes the Messages flushed during (1), the
    snapshot (3) and what the push sends, and holds a right mirror for the subscription set with the new filter. -/
theorem refilter_quiescent {sid : Nat} {sv : Server} {s : Sess} {m : Mirror} (q : Quiescent sid sv s m) (path : Bytes)
    (f : Option Filt) (hok : RefilterOK sid sv path f) :
    ∃ s' items, Quiescent sid (pushAll (runCmd sv sid (.sub path f))) s' (client m items) ∧
      dataLines s' = dataLines s ++ (msgsOf items).map dataText ∧ s'.sid = s.sid ∧ s'.reflectSelf = s.reflectSelf := by
  obtain ⟨e, hf⟩ := Option.isSome_iff_exists.1 (hok s q.sess).2
  have hgood := pmFind_goodPath (q.inv.inv.subsWF q.sess) hf
  obtain ⟨sD, sent, hsD, henD, hsidD, hrsD, hdlD, hdirty, hmD⟩ := refilter_view q path f hok
  obtain ⟨sE, sentE, qE, hdlE, hvE⟩ := quiescent_push (q.inv.runCmd sid (.sub path f) hgood).pushAll hsD henD hdirty hmD
  refine ⟨sE, (sent ++ sentE).map In.data, ?_, ?_, (vcore_sid hvE).trans hsidD, (vcore_reflectSelf hvE).trans hrsD⟩
  · rw [client_data, applyMsgs_append]; exact qE
  · rw [msgsOf_data, hdlE, hdlD, List.map_append, List.append_assoc]

end Muscle.Reflector
