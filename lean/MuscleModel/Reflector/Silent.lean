import MuscleModel.Reflector.PipeTwin
import MuscleModel.Reflector.TreeReads
import MuscleModel.Reflector.CommandEffects

/-!
# Silent steps

`Quiet sid sv sv'`: the pipe of `sid` makes an empty step and no payload of the tree changes.  Every primitive of the handlers
that a subscriber cannot notice is stated here once, as `Quiet`: updates of a node that keep name, children and payload,
index notifications, `RemoveIndexEntry`, updates of another session or of fields the data view does not read, delivery of
a line that is not a PR_RESULT_DATAITEMS line, `PushSubscriptionMessages`, the marking traversal of SUBSCRIBE.
-/


namespace Muscle.Reflector
open Muscle

def Quiet (sid : Nat) (sv sv' : Server) : Prop :=
  PipeStep sid sv sv' [] ∧ ∀ w, (getNode sv' w).map Node.data = (getNode sv w).map Node.data

theorem Quiet.pipe {sid : Nat} {sv sv' : Server} (h : Quiet sid sv sv') : PipeStep sid sv sv' [] := h.1
theorem Quiet.data {sid : Nat} {sv sv' : Server} (h : Quiet sid sv sv') (w : List Bytes) :
    (getNode sv' w).map Node.data = (getNode sv w).map Node.data := h.2 w

theorem Quiet.refl (sid : Nat) (sv : Server) : Quiet sid sv sv := ⟨PipeStep.refl sid sv, fun _ => rfl⟩

theorem Quiet.trans {sid : Nat} {a b c : Server} (h1 : Quiet sid a b) (h2 : Quiet sid b c) : Quiet sid a c :=
  ⟨by simpa using h1.pipe.trans h2.pipe, fun w => (h2.data w).trans (h1.data w)⟩

theorem Quiet.foldl {sid : Nat} {α} (g : Server → α → Server) (hg : ∀ sv a, Quiet sid sv (g sv a)) (l : List α)
    (sv : Server) : Quiet sid sv (l.foldl g sv) :=
  foldl_rel (Quiet.refl sid) Quiet.trans g l (fun sv a _ => hg sv a) sv

theorem quiet_of_sess {sid : Nat} {sv sv' : Server} (hs : sv'.sess? sid = sv.sess? sid)
    (hdata : ∀ w, (getNode sv' w).map Node.data = (getNode sv w).map Node.data) : Quiet sid sv sv' :=
  ⟨fun s hss => ⟨s, [], by rw [hs]; exact hss, rfl, by simp, fun _ => rfl⟩, hdata⟩

theorem quiet_updSess_other {sid t : Nat} (ht : t ≠ sid) (sv : Server) (f : Sess → Sess) (hf : ∀ s, (f s).sid = s.sid) :
    Quiet sid sv (sv.updSess t f) := by
  refine quiet_of_sess (sv := sv) (sv' := sv.updSess t f) ?_ (fun _ => rfl)
  cases hs : sv.sess? sid with
  | none =>
    rw [sess?_updSess sv t f hf, hs]; rfl
  | some s => exact sess?_updSess_other sv t f hs (fun e => ht e.symm) hf

theorem quiet_updSess_keep (sid t : Nat) (sv : Server) (f : Sess → Sess)
    (hf : ∀ s, (f s).sid = s.sid ∧ (f s).vcore = s.vcore ∧ dataLines (f s) = dataLines s ∧ pend (f s) = pend s) :
    Quiet sid sv (sv.updSess t f) := by
  by_cases ht : t = sid
  · subst ht
    refine ⟨fun s hs => ?_, fun _ => rfl⟩
    exact ⟨f s, [], sess?_updSess_same sv t f hs (fun s => (hf s).1), (hf s).2.1, by simp [(hf s).2.2.1],
      fun m => by simp [(hf s).2.2.2, applyMsgs]⟩
  · exact quiet_updSess_other ht sv f (fun s => (hf s).1)

theorem quiet_deliver (sid t : Nat) (sv : Server) (text : String) (h : t ≠ sid ∨ isData text = false) :
    Quiet sid sv (sv.deliver t text) := by
  unfold Server.deliver
  rcases h with h | h
  · exact quiet_updSess_other h sv _ (fun _ => rfl)
  · exact quiet_updSess_keep sid t sv _ (fun s => ⟨rfl, rfl, by simp [dataLines, List.filter_append, h], rfl⟩)

theorem quiet_pushAll (sid : Nat) (sv : Server) : Quiet sid sv (pushAll sv) :=
  ⟨pipeStep_pushAll sid sv, fun w => by rw [getNode_congr (pushAll_root sv)]⟩

theorem quiet_nodeChangedAux_other {sid t : Nat} (ht : t ≠ sid) (sv : Server) (np : Bytes) (d : Option Nat) (removed : Bool) :
    Quiet sid sv (nodeChangedAux sv t np d removed) := by
  refine ⟨?_, fun w => by rw [getNode_congr (nodeChangedAux_root ..)]⟩
  apply pipeStep_of_push
  intro x hx
  exact nodeChangedAux_other hx (fun e => ht e.symm) np d removed

theorem quiet_setField (sid : Nat) (sv : Server) (path : List Bytes) (f : Node → Node) (hname : ∀ n, (f n).name = n.name)
    (hkids : ∀ n, (f n).kids = n.kids) (hdata : ∀ n, (f n).data = n.data) : Quiet sid sv (setNode sv path f) :=
  ⟨pipeStep_sessions rfl, getNode_setField_data_all hname hkids hdata sv path⟩

theorem quiet_subscribeRefs (sid t : Nat) (sv : Server) (pm : PM) (delta : Option Int) :
    Quiet sid sv (subscribeRefs sv t pm delta) := by
  unfold subscribeRefs
  exact Quiet.foldl _ (fun X v => quiet_setField sid X v (fun n => n.setSubs (adjustSubs n.subs t delta)) (fun _ => rfl)
    (fun _ => rfl) (fun _ => rfl)) _ sv

theorem isData_pong (tag : Nat) : isData ("PONG " ++ toString tag) = false := by
  simp [isData, String.toList_append]

theorem isData_params (x : String) : isData ("PARAMS" ++ x) = false := by
  simp [isData, String.toList_append]

theorem isData_msg (x : String) : isData ("MSG 1234 from=" ++ x) = false := by
  simp [isData, String.toList_append]

theorem Quiet.of_delivers {sid : Nat} {T : Nat → Prop} {L : String → Prop} {a b : Server} (h : Delivers T L a b)
    (hq : ∀ t w, T t → L w → t ≠ sid ∨ isData w = false) : Quiet sid a b := by
  obtain ⟨ds, hds, rfl⟩ := h
  unfold deliverAll
  induction ds generalizing a with
  | nil => exact Quiet.refl sid a
  | cons d r ih =>
    have hd := hds d List.mem_cons_self
    exact (quiet_deliver sid d.1 a d.2 (hq d.1 d.2 hd.1 hd.2)).trans
      (ih (fun x hx => hds x (List.mem_cons_of_mem _ hx)))

theorem quiet_doGetData_other {sid t : Nat} (ht : t ≠ sid) (sv : Server) (keys : List (Bytes × Option Filt)) :
    Quiet sid sv (doGetData sv t keys) :=
  Quiet.of_delivers (doGetData_delivers sv t keys) (fun _ _ h _ => Or.inl (h ▸ ht))

theorem quiet_sendMsg (sid a tag : Nat) (sv : Server) (keys : List Bytes) : Quiet sid sv (sendMsg sv a tag keys) :=
  Quiet.of_delivers (sendMsg_delivers sv a tag keys) (fun _ w _ hw => Or.inr (by
    rw [hw, msgText, String.append_assoc, String.append_assoc]; exact isData_msg _))

theorem quiet_updSess_flag (sid a : Nat) (sv : Server) :
    Quiet sid sv (sv.updSess a (fun s => { s with indexingPresent := true })) :=
  quiet_updSess_keep sid a sv _ (fun _ => ⟨rfl, rfl, rfl, rfl⟩)

theorem quiet_notifyIndex (sid : Nat) (sv : Server) (names : List Bytes) (node : Node) (instr : Bytes) :
    Quiet sid sv (notifyIndex sv names node instr) := by
  unfold notifyIndex
  refine Quiet.foldl _ (fun X p => ?_) _ sv
  obtain ⟨k, c⟩ := p
  show Quiet sid X (match X.sess? k with | none => X | some s => _)
  cases X.sess? k with
  | none => exact Quiet.refl sid X
  | some s =>
    -- the pending index Message of `k` grows; the dirty flag is not part of any session
    have h1 := quiet_updSess_keep sid k X
      (fun s => { s with nextIdx := some (IdxMsg.add (s.nextIdx.getD []) (pathString names) instr) })
      (fun _ => ⟨rfl, rfl, rfl, rfl⟩)
    exact ite_pred (P := Quiet sid _) (Quiet.refl sid X) (h1.trans (quiet_of_sess rfl (fun _ => rfl)))

theorem quiet_removeIndexEntry (sid : Nat) (sv : Server) (parent : List Bytes) (key : Bytes) (notify : Bool) :
    Quiet sid sv (removeIndexEntry sv parent key notify) := by
  have hset := fun i : Nat => quiet_setField sid sv parent (fun q => q.setIndex (q.index.eraseIdx i)) (fun _ => rfl)
    (fun _ => rfl) (fun _ => rfl)
  rcases removeIndexEntry_shape sv parent key notify with e | ⟨i, e⟩ | ⟨i, p', ins, e⟩
  · rw [e]; exact Quiet.refl sid sv
  · rw [e]; exact hset i
  · rw [e]; exact (hset i).trans (quiet_notifyIndex ..)

/-- where no payload may change, the moves are invisible to every subscriber -/
theorem Chg.quiet {N : Bytes → Prop} {a : Nat} {own : List Bytes} {s0 x : Server} (h : Chg N (fun _ => False) a own s0 x)
    (sid : Nat) : Quiet sid s0 x := by
  refine h.rel (Quiet.refl sid) Quiet.trans (fun y m hp => ?_)
  cases m with
  | field path f => obtain ⟨_, hf, hdata⟩ := hp; exact quiet_setField sid y path f hf.name hf.kids hdata
  | notifyIndex names node instr => exact quiet_notifyIndex sid y names node instr
  | indexing => exact quiet_updSess_flag sid a y
  | last cur cl d => obtain ⟨_, _, hL⟩ := hp; exact hL.elim
  | create cur cl dd => obtain ⟨_, _, hL, _⟩ := hp; exact hL.elim

end Muscle.Reflector
