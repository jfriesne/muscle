import MuscleModel.Reflector.MarksHandlers
import MuscleModel.Reflector.IndexProofsReach
import MuscleModel.Reflector.RouteProofs
import MuscleModel.Reflector.SubscribeShape

/-!
# The marking invariant under SUBSCRIBE / unsubscribe / attach / detach, every command, every reachable state (`MReach`)

The three steps that change a matcher and then adjust the reference counts of every node it matches go through one statement,
`MarksOK.refs`: after the pass over pairwise distinct paths `V` the marks are right for a session table whose expected counts differ by
`delta` for `sid` on `V` and nowhere else.
-/


namespace Muscle.Reflector
open Muscle Muscle.Eng.SrvEngine

/-! ## the reference-count pass (`DoSubscribeRefCallback` over the visits of a traversal) -/

/-- the reference-count pass touches neither the id counter nor the session table -/
theorem skel_subscribeRefs (sv : Server) (sid : Nat) (pm : PM) (delta : Option Int) :
    skel (subscribeRefs sv sid pm delta) = skel sv :=
  foldl_inv (skel · = skel sv) (fun sv v => setNode sv v (fun n => n.setSubs (adjustSubs n.subs sid delta))) (fun _ _ h => h) _ sv rfl

theorem travGlobal_cont_mem (sv : Server) (hti : TreeInv sv) {pm : PM} (hwf : SubsWF pm) (uf : Bool) :
    ∀ w, w ∈ travGlobal sv pm uf cbContinue ↔
      ∃ n, w ≠ [] ∧ getNode sv w = some n ∧ pmMatchesPath pm w uf n.data = true := by
  intro w
  have hk := kidsNodup_of_allNodes fuelDepth sv.root hti
  have h := travAux_mem { pm := pm, useFilters := uf, rootDepth := 0, cb := cbContinue } rfl hwf.pmWF hwf.laws
    fuelDepth sv.root [] hk (SingleInv_nil pm) w
  simp only [List.length_nil, Nat.add_zero] at h
  unfold travGlobal doTraversal
  rw [h]
  constructor
  · rintro ⟨n, hd, hP⟩
    have := (mem_descendants_iff fuelDepth sv.root [] w n hk).1 (by simpa using hd)
    exact ⟨n, this.1, this.2, hP⟩
  · rintro ⟨n, hw, hn, hP⟩
    exact ⟨n, by simpa using (mem_descendants_iff fuelDepth sv.root [] w n hk).2 ⟨hw, hn⟩, hP⟩

theorem travGlobal_cont_nodup_mem (sv : Server) (hti : TreeInv sv) {pm : PM} (hwf : SubsWF pm) :
    (travGlobal sv pm false cbContinue).Nodup ∧
    ∀ w, w ∈ travGlobal sv pm false cbContinue ↔
      ∃ n, w ≠ [] ∧ getNode sv w = some n ∧ pmMatchesPath pm w false n.data = true :=
  ⟨travAux_cont_nodup { pm := pm, useFilters := false, rootDepth := 0, cb := cbContinue } rfl
      fuelDepth sv.root [] 0 (kidsNodup_of_allNodes fuelDepth sv.root hti), travGlobal_cont_mem sv hti hwf false⟩

def updKeys (sid : Nat) (pm' : PM) (ss : List (Nat × PM)) : List (Nat × PM) :=
  ss.map (fun p => if p.1 = sid then (p.1, pm') else p)

theorem updKeys_keys (sid : Nat) (pm' : PM) (ss : List (Nat × PM)) :
    (updKeys sid pm' ss).map (·.1) = ss.map (·.1) := by
  unfold updKeys
  rw [List.map_map]
  apply List.map_congr_left
  intro p _
  simp only [Function.comp]
  split <;> rfl

theorem updKeys_find (sid : Nat) (pm' : PM) (ss : List (Nat × PM)) (sid' : Nat) :
    (updKeys sid pm' ss).find? (fun p => p.1 = sid') =
      (ss.find? (fun p => p.1 = sid')).map (fun p => if p.1 = sid then (p.1, pm') else p) :=
  find?_map_pred _ _ (fun x => by split <;> rfl) ss

theorem sessKeys_updSess_g (sv : Server) (sid : Nat) (g : PM → PM) :
    sessKeys (sv.updSess sid (fun s => { s with subs := g s.subs })) =
      (sessKeys sv).map (fun p => if p.1 = sid then (p.1, g p.2) else p) := by
  simp only [sessKeys, Server.updSess, List.map_map]
  apply List.map_congr_left
  intro t _
  simp only [Function.comp]
  split <;> rfl

theorem mr_sessKeys_updSess (sv : Server) (sid : Nat) (pm' : PM) :
    sessKeys (sv.updSess sid (fun s => { s with subs := pm' })) = updKeys sid pm' (sessKeys sv) :=
  sessKeys_updSess_g sv sid (fun _ => pm')

theorem sessKeys_find {sv : Server} {sid : Nat} {s : Sess} (hs : sv.sess? sid = some s) :
    (sessKeys sv).find? (fun p => p.1 = sid) = some (sid, s.subs) := by
  unfold Server.sess? at hs
  unfold sessKeys
  rw [List.find?_map]
  have : ((fun p : Nat × PM => decide (p.1 = sid)) ∘ fun s : Sess => (s.sid, s.subs)) = fun s : Sess => decide (s.sid = sid) := rfl
  rw [this, hs, Option.map_some, sid_of_sess? hs]

theorem MK.subsWF {sv : Server} (h : MK sv) {sid : Nat} {s : Sess} (hs : sv.sess? sid = some s) : SubsWF s.subs :=
  h.sess.wf (sid, s.subs) (List.mem_of_find?_eq_some (sessKeys_find hs))

theorem sessKeys_updSess_found {sv : Server} (hnd : ((sessKeys sv).map (·.1)).Nodup) {sid : Nat} {pm : PM}
    (hf : (sessKeys sv).find? (fun p => p.1 = sid) = some (sid, pm)) (g : PM → PM) :
    sessKeys (sv.updSess sid (fun s => { s with subs := g s.subs })) = updKeys sid (g pm) (sessKeys sv) := by
  rw [sessKeys_updSess_g]
  unfold updKeys
  apply List.map_congr_left
  intro p hp
  split
  · rename_i hk
    rw [show p.2 = pm from congrArg Prod.snd (mem_keys_inj hnd hp (List.mem_of_find?_eq_some hf) hk)]
  · rfl

theorem expCount_upd {ss : List (Nat × PM)} {sid : Nat} {pm : PM}
    (hf : ss.find? (fun p => p.1 = sid) = some (sid, pm)) (pm' : PM) (sid' : Nat) (v : List Bytes) :
    expCount (updKeys sid pm' ss) sid' v = if sid' = sid then pmMatchCount pm' v else expCount ss sid' v := by
  unfold expCount
  rw [updKeys_find]
  by_cases h : sid' = sid
  · subst h
    rw [hf]; simp
  · rw [if_neg h]
    cases hq : ss.find? (fun p => p.1 = sid') with
    | none => rfl
    | some q =>
      have := List.find?_some hq
      simp only [decide_eq_true_eq] at this
      have hne : ¬ q.1 = sid := by rw [this]; exact h
      simp [hne]

theorem expCount_self {ss : List (Nat × PM)} {sid : Nat} {pm : PM}
    (hf : ss.find? (fun p => p.1 = sid) = some (sid, pm)) (v : List Bytes) : expCount ss sid v = pmMatchCount pm v := by
  unfold expCount; rw [hf]

theorem SessOK.upd {sv : Server} (h : SessOK sv) (sid : Nat) (pm' : PM) (hwf : SubsWF pm') {X : Server}
    (hX : skel X = (sv.nextSid, updKeys sid pm' (sessKeys sv))) : SessOK X := by
  have h1 : X.nextSid = sv.nextSid := congrArg Prod.fst hX
  have h2 : sessKeys X = updKeys sid pm' (sessKeys sv) := congrArg Prod.snd hX
  refine ⟨by rw [h2, updKeys_keys]; exact h.nodup, ?_, ?_⟩
  · intro p hp
    rw [h2] at hp
    rw [h1]
    obtain ⟨q, hq, rfl⟩ := List.mem_map.1 hp
    have := h.bound q hq
    split <;> exact this
  · intro p hp
    rw [h2] at hp
    obtain ⟨q, hq, rfl⟩ := List.mem_map.1 hp
    split
    · exact hwf
    · exact h.wf q hq

/-- the matcher of session `sid` is replaced by one with the same match counts (a filter change) -/
theorem MK.resub {X : Server} (h : MK X) {sid : Nat} {pm : PM}
    (hf : (sessKeys X).find? (fun p => p.1 = sid) = some (sid, pm)) (g : PM → PM) (hwf : SubsWF (g pm))
    (hc : ∀ v, pmMatchCount (g pm) v = pmMatchCount pm v) :
    MK (X.updSess sid (fun s => { s with subs := g s.subs })) := by
  have hkk := sessKeys_updSess_found h.sess.nodup hf g
  refine ⟨h.sess.upd sid (g pm) hwf (by simp only [skel, hkk]; rfl), ?_⟩
  rw [hkk]
  intro v n hv hn
  obtain ⟨h1, h2⟩ := h.counts v n hv hn
  refine ⟨fun sid' => ?_, h2⟩
  rw [expCount_upd hf, h1]
  split
  · rename_i e; subst e; rw [hc, expCount_self hf]
  · rfl

/-- the marks after the reference-count pass over the pairwise distinct paths `V`: right for the key list `ss'` if the
    expected counts differ from those of `ss` by `delta` for `sid` on `V`, and not at all elsewhere -/
theorem MarksOK.refs {sv : Server} {ss ss' : List (Nat × PM)} (h : MarksOK sv.root ss) (sid : Nat) (delta : Option Int)
    {V : List (List Bytes)} (hnd : V.Nodup)
    (hexp : ∀ v n, v ≠ [] → getNode sv v = some n → ∀ sid', expCount ss' sid' v =
      if v ∈ V ∧ sid' = sid then adjNew (expCount ss sid v) delta else expCount ss sid' v) :
    MarksOK (V.foldl (fun sv v => setNode sv v (fun n => n.setSubs (adjustSubs n.subs sid delta))) sv).root ss' := by
  intro v n' hv hn'
  have hsubs := foldl_adjustSubs_subs sid delta V sv hnd v
  rw [show getNode (V.foldl (fun sv v => setNode sv v (fun n => n.setSubs (adjustSubs n.subs sid delta))) sv) v = some n'
    from hn'] at hsubs
  cases ho : getNode sv v with
  | none => rw [ho] at hsubs; cases hsubs
  | some n =>
    rw [ho] at hsubs
    obtain ⟨h1, h2⟩ := h v n hv ho
    rw [Option.some.inj hsubs]
    dsimp only
    constructor
    · intro sid'
      rw [hexp v n hv ho sid']
      by_cases hvis : v ∈ V
      · rw [if_pos hvis, subCount_adjustSubs]
        by_cases e : sid' = sid
        · rw [if_pos e, if_pos ⟨hvis, e⟩, h1]
        · rw [if_neg e, if_neg (fun c => e c.2)]; exact h1 sid'
      · rw [if_neg hvis, if_neg (fun c => hvis c.1)]; exact h1 sid'
    · split
      · exact h2.adjust _ _
      · exact h2

/-- the matcher of session `sid` is replaced and the reference counts follow: `delta` on every node the clauses of
    `fix` match -/
theorem MK.refs {sv : Server} (h : MK sv) (hti : TreeInv sv) {sid : Nat} {pm : PM}
    (hf : (sessKeys sv).find? (fun p => p.1 = sid) = some (sid, pm)) {fix : Bytes} (hgood : GoodPath fix)
    (g : PM → PM) (hwf : SubsWF (g pm)) (delta : Option Int)
    (hyes : ∀ v, clausesMatch (splitSlash fix) v = true → adjNew (pmMatchCount pm v) delta = pmMatchCount (g pm) v)
    (hno : ∀ v, clausesMatch (splitSlash fix) v = false → pmMatchCount (g pm) v = pmMatchCount pm v) :
    MK (subscribeRefs (sv.updSess sid (fun s => { s with subs := g s.subs })) sid (pmPut [] fix none) delta) := by
  have hkk := sessKeys_updSess_found h.sess.nodup hf g
  have hskel := skel_subscribeRefs (sv.updSess sid (fun s => { s with subs := g s.subs })) sid (pmPut [] fix none) delta
  unfold subscribeRefs at hskel ⊢
  refine ⟨h.sess.upd sid (g pm) hwf (by rw [hskel]; simp only [skel, hkk]; rfl), ?_⟩
  rw [show sessKeys _ = updKeys sid (g pm) (sessKeys sv) from (congrArg Prod.snd hskel).trans hkk]
  obtain ⟨hnd, hmem⟩ := travGlobal_cont_nodup_mem sv hti (SubsWF.single hgood none)
  refine MarksOK.refs (sv := sv.updSess sid (fun s => { s with subs := g s.subs })) h.counts sid delta hnd ?_
  intro v n hv hn sid'
  have hvis : v ∈ travGlobal sv (pmPut [] fix none) false cbContinue ↔ clausesMatch (splitSlash fix) v = true := by
    rw [hmem v]
    constructor
    · rintro ⟨m, _, _, hP⟩
      rw [pmMatchesPath_single_nodata hgood.1] at hP; exact hP
    · intro hc
      exact ⟨n, hv, hn, by rw [pmMatchesPath_single_nodata hgood.1]; exact hc⟩
  rw [expCount_upd hf, expCount_self hf]
  by_cases e : sid' = sid
  · subst e
    rw [if_pos rfl]
    by_cases hc : clausesMatch (splitSlash fix) v = true
    · rw [if_pos ⟨hvis.2 hc, rfl⟩]; exact (hyes v hc).symm
    · rw [if_neg (fun c => hc (hvis.1 c.1)), expCount_self hf]; exact hno v (by simpa using hc)
  · rw [if_neg e, if_neg (fun c => e c.2)]

theorem MK.subscribe {sv : Server} (h : MK sv) (hti : TreeInv sv) (sid : Nat) (path : Bytes) (f : Option Filt)
    (hgood : GoodPath (adjustPrefix path (some defaultPrefix))) : MK (subscribe sv sid path f) := by
  refine subscribe_cases (P := MK) sv sid path f (fun _ => h) (fun s hs he _ => ?_) (fun s _ _ => ?_) (fun s e hs he => ?_) <;>
    refine MK.of_notif (doGetData_delivers _ sid _).notif (MK.updSess_keep _ _ (fun _ => ⟨rfl, rfl⟩) ?_)
  · have hwf := h.subsWF hs
    apply h.refs hti (sessKeys_find hs) hgood (fun pm => pmPut pm (adjustPrefix path (some defaultPrefix)) f) (hwf.put hgood f)
    · intro v hc
      rw [adjNew_one, pmMatchCount_put_new hwf hgood.1 he, if_pos hc]
    · intro v hc
      rw [pmMatchCount_put_new hwf hgood.1 he, hc]; rfl
  · exact h
  · -- re-subscription: notifications only, then the filter is replaced by one with the same counts
    have hwf := h.subsWF hs
    have hX : ∀ X : Server, MK X ∧ skel X = skel sv →
        MK (X.updSess sid (fun t => { t with subs := pmPut t.subs (adjustPrefix path (some defaultPrefix)) f })) := fun X hX =>
      hX.1.resub (pm := s.subs) (g := fun pm => pmPut pm (adjustPrefix path (some defaultPrefix)) f)
        (by rw [show sessKeys X = sessKeys sv from congrArg Prod.snd hX.2]; exact sessKeys_find hs)
        (hwf.put (pmFind_goodPath hwf he) f) (pmMatchCount_put_old hwf he f)
    refine hX _ (ite_pred (P := fun x => MK x ∧ skel x = skel sv)
      (foldl_inv (fun x => MK x ∧ skel x = skel sv) _ (fun y v hy => rfStep_cases (P := fun x => MK x ∧ skel x = skel sv) _ _ _ _ _ v hy
        (fun _ _ _ => ⟨hy.1.nodeChangedAux .., (skel_nodeChangedAux ..).trans hy.2⟩)) _ sv ⟨h, rfl⟩) ⟨h, rfl⟩)

theorem MK.unsubscribe {sv : Server} (h : MK sv) (hti : TreeInv sv) (sid : Nat) (path : Bytes) :
    MK (unsubscribe sv sid path) := by
  refine unsubscribe_cases (P := MK) sv sid path h (fun s _ => h.updSess_keep _ _ (fun _ => ⟨rfl, rfl⟩))
    (fun s e hs he => MK.updSess_keep _ _ (fun _ => ⟨rfl, rfl⟩) ?_)
  have hwf := h.subsWF hs
  apply h.refs hti (sessKeys_find hs) (pmFind_goodPath hwf he) (fun pm => pmRemove pm (adjustPrefix path (some defaultPrefix)))
    (hwf.remove _)
  · intro v hc
    have := pmMatchCount_remove hwf he v
    rw [if_pos hc] at this
    rw [adjNew_dec, this]; omega
  · intro v hc
    have := pmMatchCount_remove hwf he v
    rw [hc] at this
    simpa using this.symm

theorem expCount_append_new (ss : List (Nat × PM)) (sid : Nat) (sid' : Nat) (v : List Bytes) :
    expCount (ss ++ [(sid, [])]) sid' v = expCount ss sid' v := by
  unfold expCount
  rw [List.find?_append]
  cases hq : ss.find? (fun p => p.1 = sid') with
  | some q => rfl
  | none =>
    simp only [Option.none_or, List.find?_cons, List.find?_nil]
    by_cases h : sid = sid'
    · simp [h, pmMatchCount, pmGroup]
    · simp [h]

theorem MK.addSess {sv A : Server} (h : MK sv) (ns : Sess) (hr : A.root = sv.root) (hn : A.nextSid = sv.nextSid + 1)
    (hs : A.sessions = sv.sessions ++ [ns]) (h1 : ns.sid = sv.nextSid) (h2 : ns.subs = []) : MK A := by
  have hk : sessKeys A = sessKeys sv ++ [(sv.nextSid, [])] := by
    simp [sessKeys, hs, h1, h2]
  refine ⟨⟨?_, ?_, ?_⟩, ?_⟩
  · rw [hk, List.map_append, List.nodup_append]
    refine ⟨h.sess.nodup, by simp, ?_⟩
    intro a ha b hb
    simp at hb; subst hb
    obtain ⟨p, hp, rfl⟩ := List.mem_map.1 ha
    have := h.sess.bound p hp
    omega
  · intro p hp
    rw [hk] at hp
    rw [hn]
    rcases List.mem_append.1 hp with hp | hp
    · have := h.sess.bound p hp; omega
    · simp at hp; subst hp; simp
  · intro p hp
    rw [hk] at hp
    rcases List.mem_append.1 hp with hp | hp
    · exact h.sess.wf p hp
    · simp at hp; subst hp; exact SubsWF.nil
  · rw [hk, hr]
    intro v n hv hn
    obtain ⟨h1, h2⟩ := h.counts v n hv hn
    exact ⟨fun sid' => by rw [expCount_append_new]; exact h1 sid', h2⟩

theorem MK.attach {sv : Server} (h : MK sv) (slot : Nat) (host : Bytes) : MK (attach sv slot host).1 :=
  MK.of_grow (attach_grow (N := fun _ => True) sv slot host trivial trivial) (h.addSess _ rfl rfl rfl rfl rfl)

theorem skel_of_acts {a b : Server} (h : Acts Op.run (fun x op => skel (op.run x) = skel x) a b) : skel b = skel a :=
  h.rel (R := fun x y => skel y = skel x) (fun _ => rfl) (fun h1 h2 => h2.trans h1) (fun _ _ hp => hp)

@[simp] theorem skel_removeOne (sv : Server) (by_ : Nat) (notify : Bool) (names : List Bytes) :
    skel (removeOne sv by_ notify names) = skel sv := by
  by_cases hn : names = []
  · subst hn; rfl
  · rw [← List.dropLast_concat_getLast hn]
    exact skel_of_acts (removeOne_acts (parent := names.dropLast) (key := names.getLast hn)
      (fun x op hp => Notif.skel (Acts.one op hp)) (fun _ _ _ => rfl) (fun _ => rfl) sv by_ notify)

@[simp] theorem skel_removeChild (sv : Server) (by_ : Nat) (notify : Bool) (names : List Bytes) :
    skel (removeChild sv by_ notify names) = skel sv := by
  unfold removeChild
  split
  · rfl
  · exact foldl_inv (skel · = skel sv) _ (fun _ _ h => (skel_removeOne ..).trans h) _ _ rfl

theorem expCount_filter (ss : List (Nat × PM)) (sid sid' : Nat) (v : List Bytes) :
    expCount (ss.filter (fun p => p.1 ≠ sid)) sid' v = if sid' = sid then 0 else expCount ss sid' v := by
  unfold expCount
  by_cases h : sid' = sid
  · subst h
    rw [if_pos rfl]
    have : (ss.filter (fun p => p.1 ≠ sid')).find? (fun p => p.1 = sid') = none := by
      rw [List.find?_eq_none]
      intro x hx
      have := (List.mem_filter.1 hx).2
      simpa using this
    rw [this]
  · rw [if_neg h, find?_filter_of_imp]
    intro x hx
    simp only [decide_eq_true_eq] at hx
    simp [hx, h]

theorem sessKeys_filter (l : List Sess) (sid : Nat) :
    (l.filter (fun t => t.sid ≠ sid)).map (fun s => (s.sid, s.subs)) =
      (l.map (fun s => (s.sid, s.subs))).filter (fun p => p.1 ≠ sid) := by
  rw [List.filter_map]
  rfl

theorem MK.filterOut {X Y : Server} (hX : MK X) (sid : Nat) (hY : skel Y = skel X)
    (hm : MarksOK Y.root ((sessKeys X).filter (fun p => p.1 ≠ sid))) :
    MK { Y with sessions := Y.sessions.filter (fun t => t.sid ≠ sid) } := by
  have hYk : sessKeys Y = sessKeys X := congrArg Prod.snd hY
  have hYn : Y.nextSid = X.nextSid := congrArg Prod.fst hY
  have hk : sessKeys { Y with sessions := Y.sessions.filter (fun t => t.sid ≠ sid) } =
      (sessKeys X).filter (fun p => p.1 ≠ sid) := by
    rw [← hYk]
    exact sessKeys_filter Y.sessions sid
  refine ⟨⟨?_, ?_, ?_⟩, ?_⟩
  · rw [hk]; exact (List.filter_sublist.map _).nodup hX.sess.nodup
  · intro p hp
    rw [hk] at hp
    show p.1 < Y.nextSid
    rw [hYn]
    exact hX.sess.bound p (List.mem_filter.1 hp).1
  · intro p hp
    rw [hk] at hp
    exact hX.sess.wf p (List.mem_filter.1 hp).1
  · rw [hk]; exact hm

theorem MKT.detach {sv : Server} (h : MKT sv) (sid : Nat) : MKT (detach sv sid) := by
  refine ⟨treeInv_detach sid h.tree, ?_⟩
  cases hs : sv.sess? sid with
  | none => simpa [Reflector.detach, hs] using h.marks
  | some s =>
    rw [detach_unfold hs]
    have hpre : MKT (detachPre sv sid s) ∧ skel (detachPre sv sid s) = skel sv := by
      unfold detachPre
      have h1 : MKT (Reflector.removeChild sv sid true (sessNames s)) := h.removeChild ..
      dsimp only
      split
      · split
        · exact ⟨⟨treeInv_pushAll (h1.removeChild ..).tree, (h1.removeChild ..).marks.pushAll⟩, by simp⟩
        · exact ⟨⟨treeInv_pushAll h1.tree, h1.marks.pushAll⟩, by simp⟩
      · exact ⟨⟨treeInv_pushAll h1.tree, h1.marks.pushAll⟩, by simp⟩
    generalize detachPre sv sid s = X at hpre
    obtain ⟨⟨hXt, hXk⟩, hXs⟩ := hpre
    have hfind : (sessKeys X).find? (fun p => p.1 = sid) = some (sid, s.subs) := by
      rw [show sessKeys X = sessKeys sv from congrArg Prod.snd hXs]; exact sessKeys_find hs
    dsimp only
    split
    · rename_i hemp
      apply MK.filterOut hXk sid (Y := { X with live := false }) rfl
      intro v n hv hn
      have : nodeAt fuelDepth X.root v = none := nodeAt_nokids hemp hv _
      rw [show nodeAt fuelDepth X.root v = some n from hn] at this
      cases this
    · apply MK.filterOut hXk sid (skel_subscribeRefs X sid s.subs none)
      obtain ⟨hnd, hmem⟩ := travGlobal_cont_nodup_mem X hXt (hXk.sess.wf (sid, s.subs) (List.mem_of_find?_eq_some hfind))
      refine MarksOK.refs hXk.counts sid none hnd ?_
      intro v n hv hn sid'
      rw [expCount_filter]
      by_cases e : sid' = sid
      · subst e
        rw [if_pos rfl]
        by_cases hvis : v ∈ travGlobal X s.subs false cbContinue
        · rw [if_pos ⟨hvis, rfl⟩]; rfl
        · -- not visited: no entry of the session matches the path
          rw [if_neg (fun c => hvis c.1), expCount_self hfind]
          have : pmMatchesPath s.subs v false n.data ≠ true := fun hP => hvis ((hmem v).2 ⟨n, hv, hn, hP⟩)
          rw [pmMatchesPath_nodata] at this
          exact Eq.symm (by simpa using this)
      · rw [if_neg e, if_neg (fun c => e c.2)]

/-- the commands the invariant is proved for: every normalised SUBSCRIBE path is a `GoodPath` -/
def CmdOK : Cmd → Prop
  | .sub path _ => GoodPath (adjustPrefix path (some defaultPrefix))
  | _ => True

theorem MKT.runCmd {sv : Server} (h : MKT sv) (sid : Nat) (c : Cmd) (hc : CmdOK c) : MKT (runCmd sv sid c) := by
  refine ⟨treeInv_runCmd sid c h.tree, ?_⟩
  cases hs : sv.sess? sid with
  | none => rw [runCmd_absent sv sid hs c]; exact h.marks
  | some s =>
    refine runCmd_cases (motive := fun c x => CmdOK c → MK x) sv sid (fun c hp _ => ?_)
      (fun _ _ _ => h.marks.deliver ..)
      (fun path v ati _ => h.marks.of_grow (setDataNode_grow autoOK_true sv sid s hs path _ ati (fun _ _ => trivial)))
      (fun keys _ => (h.removeData sid keys).marks)
      (fun path f hc => h.marks.subscribe h.tree sid path f hc)
      (fun path _ => h.marks.unsubscribe h.tree sid path)
      (fun key before vals _ => h.marks.of_grow (insertOrdered_grow autoOK_true sv sid s hs key before vals))
      (fun key before _ => h.marks.reorder ..)
      (fun tag keys _ => h.marks.of_notif (sendMsg_delivers sv sid tag keys).notif) c hc
    obtain ⟨f, hf, e⟩ := runCmd_param_eq sv sid c hp
    rw [e]
    exact h.marks.updSess_keep _ _ (fun t => ⟨(congrArg Sess.sid (hf t) :), (congrArg Sess.subs (hf t) :)⟩)

/-- the servers the engine reaches with commands satisfying `CmdOK`; `pump` empties the inboxes -/
inductive MReach : Server → Prop
  | init : MReach {}
  | attach {sv : Server} (slot : Nat) (host : Bytes) : MReach sv → MReach (attach sv slot host).1
  | detach {sv : Server} (sid : Nat) : MReach sv → MReach (detach sv sid)
  | cmd {sv : Server} (sid : Nat) (c : Cmd) : CmdOK c → MReach sv → MReach (runCmd sv sid c)
  | push {sv : Server} : MReach sv → MReach (pushAll sv)
  | pump {sv : Server} : MReach sv → MReach { sv with sessions := sv.sessions.map (fun s => { s with inbox := [] }) }

theorem MReach.reach {sv : Server} (h : MReach sv) : Reach sv := by
  induction h with
  | init => exact .init
  | attach slot host _ ih => exact .attach slot host ih
  | detach sid _ ih => exact .detach sid ih
  | cmd sid c _ _ ih => exact .cmd sid c ih
  | push _ ih => exact .push ih
  | pump _ ih => exact .sessions _ ih

theorem rt_of_mreach {sv : Server} (h : MReach sv) : RReach sv := by
  induction h with
  | init => exact .init
  | attach slot host _ ih => exact .attach slot host ih
  | detach sid _ ih => exact .detach sid ih
  | cmd sid c _ _ ih => exact .cmd sid c ih
  | push _ ih => exact .push ih
  | pump _ ih => exact .pump ih

/-- the route-cache invariant of C05 holds in every `MReach` state -/
theorem rt_mreach_rc {sv : Server} (h : MReach sv) : RC sv := rt_reach_rc (rt_of_mreach h)

theorem mkt_init : MKT ({} : Server) := by
  refine ⟨AllNodes.fresh _ _, ⟨by simp [sessKeys], by simp [sessKeys], by simp [sessKeys]⟩, ?_⟩
  intro v n hv hn
  have : nodeAt fuelDepth ({} : Server).root v = none := nodeAt_nokids rfl hv _
  rw [this] at hn; cases hn

theorem mkt_reach {sv : Server} (h : MReach sv) : MKT sv := by
  induction h with
  | init => exact mkt_init
  | attach slot host _ ih => exact ⟨treeInv_attach slot host ih.tree, ih.marks.attach slot host⟩
  | detach sid _ ih => exact ih.detach sid
  | cmd sid c hc _ ih => exact ih.runCmd sid c hc
  | push _ ih => exact ⟨treeInv_pushAll ih.tree, ih.marks.pushAll⟩
  | @pump sv0 _ ih =>
    refine ⟨ih.tree, MK.of_same (a := sv0) rfl ?_ ih.marks⟩
    simp only [skel, sessKeys, List.map_map]
    rfl

theorem MReach.tree {sv : Server} (h : MReach sv) : TreeInv sv := (mkt_reach h).tree
theorem MReach.marks {sv : Server} (h : MReach sv) : MK sv := (mkt_reach h).marks

end Muscle.Reflector
