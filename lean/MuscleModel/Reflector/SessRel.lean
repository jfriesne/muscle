import MuscleModel.Reflector.Server
import MuscleModel.Base.Lists

/-!
# Two session tables related position by position

`SessAll₂ R l l'`: the two lists have the same length and are related by `R` position by position.  Every relation between the
session tables of two server states in the frame (C06), inbox (C07) and route (C05) proofs has this form, for some `R` that
keeps the session id; the lemmas here turn it into statements about positions (`get`), about the lookup by id (`find`),
and carry it through the `filter` of `detach` and the `map` of `updSess`.  Second part: the laws of one table (`Server.sess?`,
`Server.updSess`).
-/

namespace Muscle.Reflector
open Muscle

def SessAll₂ (R : Sess → Sess → Prop) : List Sess → List Sess → Prop
  | [], [] => True
  | a :: l, b :: l' => R a b ∧ SessAll₂ R l l'
  | _, _ => False

/-- induction on two related tables: only the two cases in which they can be related -/
theorem SessAll₂.ind {R : Sess → Sess → Prop} {motive : List Sess → List Sess → Prop} (nil : motive [] [])
    (cons : ∀ a b l l', R a b → SessAll₂ R l l' → motive l l' → motive (a :: l) (b :: l')) :
    ∀ l l', SessAll₂ R l l' → motive l l' := by
  intro l
  induction l with
  | nil => intro l' h; cases l' with
    | nil => exact nil
    | cons _ _ => exact h.elim
  | cons a l ih => intro l' h; cases l' with
    | nil => exact h.elim
    | cons b l' => exact cons a b l l' h.1 h.2 (ih l' h.2)

theorem SessAll₂.refl {R : Sess → Sess → Prop} (hr : ∀ t, R t t) : ∀ l, SessAll₂ R l l
  | [] => trivial
  | a :: l => ⟨hr a, SessAll₂.refl hr l⟩

theorem SessAll₂.trans {R : Sess → Sess → Prop} (ht : ∀ a b c, R a b → R b c → R a c) :
    ∀ l1 l2 l3, SessAll₂ R l1 l2 → SessAll₂ R l2 l3 → SessAll₂ R l1 l3 := fun l1 l2 l3 h1 =>
  SessAll₂.ind (motive := fun l1 l2 => ∀ l3, SessAll₂ R l2 l3 → SessAll₂ R l1 l3) (fun _ h => h)
    (fun a b _ _ hab _ ih l3 h2 => by
      cases l3 with
      | nil => exact h2.elim
      | cons c l3 => exact ⟨ht a b c hab h2.1, ih l3 h2.2⟩) l1 l2 h1 l3

theorem SessAll₂.mono {R S : Sess → Sess → Prop} (h : ∀ a b, R a b → S a b) : ∀ l l', SessAll₂ R l l' → SessAll₂ S l l' :=
  SessAll₂.ind trivial (fun a b _ _ hab _ ih => ⟨h a b hab, ih⟩)

theorem SessAll₂.flip {R : Sess → Sess → Prop} : ∀ l l', SessAll₂ R l l' → SessAll₂ (fun a b => R b a) l' l :=
  SessAll₂.ind (motive := fun l l' => SessAll₂ (fun a b => R b a) l' l) trivial (fun _ _ _ _ hab _ ih => ⟨hab, ih⟩)

theorem SessAll₂.map_right {R : Sess → Sess → Prop} (g : Sess → Sess) (hg : ∀ t, R t (g t)) : ∀ l, SessAll₂ R l (l.map g)
  | [] => trivial
  | a :: l => ⟨hg a, SessAll₂.map_right g hg l⟩

theorem SessAll₂.length {R : Sess → Sess → Prop} : ∀ l l', SessAll₂ R l l' → l'.length = l.length :=
  SessAll₂.ind rfl (fun _ _ _ _ _ _ ih => by simp [ih])

theorem SessAll₂.get {R : Sess → Sess → Prop} : ∀ l l', SessAll₂ R l l' → ∀ (i : Nat) (t : Sess), l[i]? = some t →
    ∃ t', l'[i]? = some t' ∧ R t t' :=
  SessAll₂.ind (by intro i t h; simp at h) (fun a b l l' hab _ ih i t h => by
    cases i with
    | zero => simp at h; subst h; exact ⟨b, by simp, hab⟩
    | succ i => simp only [List.getElem?_cons_succ] at h ⊢; exact ih i t h)

theorem SessAll₂.find {R : Sess → Sess → Prop} (hsid : ∀ a b, R a b → b.sid = a.sid) (b0 : Nat) :
    ∀ l l', SessAll₂ R l l' → ∀ t, l.find? (fun s => s.sid = b0) = some t →
      ∃ t', l'.find? (fun s => s.sid = b0) = some t' ∧ R t t' :=
  SessAll₂.ind (by intro t h; simp at h) (fun a b l l' hab _ ih t h => by
    simp only [List.find?_cons, hsid a b hab] at h ⊢
    by_cases ha : a.sid = b0
    · simp only [ha, decide_true] at h ⊢
      cases h
      exact ⟨b, rfl, hab⟩
    · simp only [ha, decide_false] at h ⊢
      exact ih t h)

theorem SessAll₂.filter {R : Sess → Sess → Prop} (hsid : ∀ a b, R a b → b.sid = a.sid) (p : Nat → Bool) :
    ∀ l l', SessAll₂ R l l' → SessAll₂ R (l.filter (fun s => p s.sid)) (l'.filter (fun s => p s.sid)) :=
  SessAll₂.ind trivial (fun a b l l' hab _ ih => by
    simp only [List.filter_cons, hsid a b hab]
    split
    · exact ⟨hab, ih⟩
    · exact ih)

theorem SessAll₂.snoc_left {R : Sess → Sess → Prop} : ∀ (l : List Sess) (n : Sess) (l' : List Sess), SessAll₂ R (l ++ [n]) l' →
    ∃ l1 n', l' = l1 ++ [n'] ∧ SessAll₂ R l l1 ∧ R n n' := by
  intro l n
  induction l with
  | nil =>
    intro l' h
    match l', h with
    | [b], h => exact ⟨[], b, rfl, trivial, h.1⟩
    | _ :: _ :: _, h => exact h.2.elim
  | cons a l ih =>
    intro l' h
    cases l' with
    | nil => exact h.elim
    | cons b l' =>
      obtain ⟨l1, n', e, h2, h3⟩ := ih l' h.2
      exact ⟨b :: l1, n', by rw [e]; rfl, ⟨h.1, h2⟩, h3⟩

/-- equal images under `π` relate the lists by whatever `π` determines -/
theorem SessAll₂.of_map_eq {α} {R : Sess → Sess → Prop} (π : Sess → α) (hR : ∀ a b, π b = π a → R a b) :
    ∀ l l', l'.map π = l.map π → SessAll₂ R l l' := by
  intro l
  induction l with
  | nil => intro l' h; cases l' with
    | nil => trivial
    | cons _ _ => cases h
  | cons a l ih => intro l' h; cases l' with
    | nil => cases h
    | cons b l' =>
      simp only [List.map_cons, List.cons.injEq] at h
      exact ⟨hR a b h.1, ih l' h.2⟩

theorem SessAll₂.updSess {R : Sess → Sess → Prop} (hr : ∀ t, R t t) (sv : Server) (sid : Nat) (f : Sess → Sess)
    (hf : ∀ t, t.sid = sid → R t (f t)) : SessAll₂ R sv.sessions (sv.updSess sid f).sessions := by
  apply SessAll₂.map_right
  intro t
  split
  · exact hf t (by assumption)
  · exact hr t

/-! ## one table: `sess?` and `updSess` -/

theorem map_updSess {α} (π : Sess → α) (sv : Server) (sid : Nat) (f : Sess → Sess) (hf : ∀ t, π (f t) = π t) :
    (sv.updSess sid f).sessions.map π = sv.sessions.map π := by
  simp only [Server.updSess, List.map_map]
  apply List.map_congr_left
  intro t _
  simp only [Function.comp]
  split
  · exact hf t
  · rfl

theorem updSess_absent {sv : Server} {sid : Nat} (hs : sv.sess? sid = none) (f : Sess → Sess) : sv.updSess sid f = sv := by
  have hne : ∀ t ∈ sv.sessions, ¬ t.sid = sid := fun t ht => by simpa using List.find?_eq_none.mp hs t ht
  have : sv.sessions.map (fun s => if s.sid = sid then f s else s) = sv.sessions :=
    (List.map_congr_left (fun t ht => if_neg (hne t ht))).trans (List.map_id' _)
  simp only [Server.updSess, this]

theorem sess?_updSess (sv : Server) (sid : Nat) (f : Sess → Sess) (hf : ∀ s, (f s).sid = s.sid) (t : Nat) :
    (sv.updSess sid f).sess? t = (sv.sess? t).map (fun s => if s.sid = sid then f s else s) := by
  unfold Server.sess? Server.updSess
  apply find?_map_pred
  intro x
  split
  · rw [hf]
  · rfl

theorem sid_of_sess? {sv : Server} {t : Nat} {st : Sess} (h : sv.sess? t = some st) : st.sid = t := by
  simpa using List.find?_some h

theorem mem_of_sess? {sv : Server} {sid : Nat} {s : Sess} (h : sv.sess? sid = some s) : s ∈ sv.sessions :=
  List.mem_of_find?_eq_some h

/-- `hf` is found by itself when `f` is a record update of fields other than `sid` -/
theorem sess?_updSess_same (sv : Server) (sid : Nat) (f : Sess → Sess) {s : Sess} (hs : sv.sess? sid = some s)
    (hf : ∀ s, (f s).sid = s.sid := by intro _; rfl) : (sv.updSess sid f).sess? sid = some (f s) := by
  rw [sess?_updSess sv sid f hf, hs]
  have : s.sid = sid := sid_of_sess? hs
  simp [this]

theorem sess?_updSess_other (sv : Server) (sid : Nat) (f : Sess → Sess) {t : Nat} {s : Sess}
    (hs : sv.sess? t = some s) (ht : t ≠ sid) (hf : ∀ s, (f s).sid = s.sid := by intro _; rfl) :
    (sv.updSess sid f).sess? t = some s := by
  rw [sess?_updSess sv sid f hf, hs]
  have : s.sid = t := sid_of_sess? hs
  simp [this, ht]

/-! ## the lookup after a change of the session table -/

theorem sess?_of_sessions {sv sv' : Server} (h : sv'.sessions = sv.sessions) (sid : Nat) : sv'.sess? sid = sv.sess? sid := by
  unfold Server.sess?; rw [h]

theorem sess?_filter_ne {X Y : Server} {t sid : Nat} (hY : Y.sessions = X.sessions.filter (fun x => x.sid ≠ t)) (hne : sid ≠ t) :
    Y.sess? sid = X.sess? sid := by
  unfold Server.sess?
  rw [hY]
  apply find?_filter_of_imp
  intro x hx
  simp only [decide_eq_true_eq] at hx
  simp [hx, hne]

theorem sess?_append_old {X Y : Server} {ns : Sess} (hY : Y.sessions = X.sessions ++ [ns]) {sid : Nat} {s : Sess}
    (h : X.sess? sid = some s) : Y.sess? sid = some s := by
  unfold Server.sess? at h ⊢
  rw [hY, List.find?_append, h]; rfl

end Muscle.Reflector
