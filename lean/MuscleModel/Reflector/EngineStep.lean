import MuscleModel.Engines.Srv

/-!
# The engine `srv`, one op line: what the state afterwards can be

`step_cases` is the case analysis of `step` every statement about "all op lines" goes through: the state after a line is the
old one, a fresh one, the poisoned one, or the result of one of the engine's actions (pump, attach, detach, a command run
directly or queued, `setm`, a batch opened or replayed, a server-side subtree call).
-/

namespace Muscle.Eng.SrvEngine
open Muscle Muscle.Eng Muscle.Reflector

/-- The dispatch on the kind of line, whatever the branches hold.  `P` also sees the shape the line turned out to have.
    (Splitting this `match` in place, with the branches of `step` inside, makes `split` simplify the whole `if` chain of
    the last branch again and again.) -/
theorem lineKind_cases {α : Type} {P : List String → α → Prop} (toks : List String) (A : α) (B : String → α)
    (C : String → String → α) (D : String → String → List String → α) (E : α)
    (hA : P ["pump"] A) (hB : ∀ tag, P ["wping", tag] (B tag)) (hC : ∀ slot host, P ["attach", slot, host] (C slot host))
    (hD : ∀ op slot tail, P (op :: slot :: tail) (D op slot tail)) (hE : ∀ x, P x E) :
    P toks (match toks with
      | ["pump"] => A
      | ["wping", tag] => B tag
      | ["attach", slot, host] => C slot host
      | op :: slot :: tail => D op slot tail
      | _ => E) := by
  split
  · exact hA
  · exact hB _
  · exact hC _ _
  · exact hD _ _ _
  · exact hE _

theorem step_cases {motive : St → Prop} (st : St) (toks : List String)
    (same : motive st) (reset : motive {}) (poison : motive { st with poisoned := true })
    (pump : motive (pumpLine st).1)
    (attach : ∀ sl host, motive { st with sv := (attach st.sv sl host).1,
                                          slots := st.slots ++ [(sl, (attach st.sv sl host).2)] })
    (detach : ∀ sl sid, motive { st with sv := detach st.sv sid, slots := st.slots.filter (fun (s, _) => s ≠ sl),
                                         batch := st.batch.filter (fun (s, _) => s ≠ sl) })
    (setm : ∀ sid p (vs : List Nat), motive { st with sv := pushAll (vs.foldl (fun sv v => runCmd sv sid (.set p v false)) st.sv) })
    (subtree : ∀ sl sid op rest, toks = op :: rest → op = "clone" ∨ op = "save" ∨ op = "restore" ∨ op = "trees" →
      motive (subtreeStep st sl sid op toks).1)
    (batchBegin : ∀ sl, motive { st with batch := st.batch ++ [(sl, [])] })
    (batchEnd : ∀ sl sid b, b ∈ st.batch →
      motive { st with sv := pushAll (b.2.foldl (fun sv c => pushAll (runCmd sv sid c)) st.sv),
                       batch := st.batch.filter (fun (s, _) => s ≠ sl) })
    (queue : ∀ sl c, parseCmd toks = some c →
      motive { st with batch := st.batch.map (fun (s, cs) => if s = sl then (s, cs ++ [c]) else (s, cs)) })
    (run : ∀ sid c, (parseCmd toks = some c ∨ ∃ t, c = .ping t) → motive { st with sv := pushAll (runCmd st.sv sid c) }) :
    motive (step st toks).1 := by
  unfold step
  split
  · exact reset
  by_cases hp : st.poisoned = true
  · rw [if_pos hp]; exact same
  rw [if_neg hp]
  refine lineKind_cases (P := fun line (r : St × String) => line = toks → motive r.1) toks _ _ _ _ _ ?_ ?_ ?_ ?_ ?_ rfl
  · exact fun _ => pump
  · intro tag _
    split
    · exact run _ _ (Or.inr ⟨_, rfl⟩)
    · exact same
  · intro slot host _
    split
    · split
      · exact same
      · split
        rename_i sl h _ _ _ _ sv sid heq
        have := attach sl h
        rw [heq] at this
        exact this
    · exact same
  · intro op slot tail heq
    cases hsl : Eng.nat? slot with
    | none => exact same
    | some sl =>
      dsimp only
      cases hsid : sidOf st sl with
      | none => exact same
      | some sid =>
        dsimp only
        by_cases h1 : op = "detach"
        · rw [if_pos h1]; exact detach sl sid
        rw [if_neg h1]
        by_cases h2 : op = "find"
        · rw [if_pos h2]
          split
          · split <;> exact same
          · exact same
        rw [if_neg h2]
        by_cases h3 : op = "setm"
        · rw [if_pos h3]
          split
          · split
            · split
              · exact same
              · exact setm _ _ _
            · exact same
          · exact same
        rw [if_neg h3]
        by_cases h4 : (op = "clone" || op = "save" || op = "restore" || op = "trees") = true
        · rw [if_pos h4]
          exact subtree sl sid op (slot :: tail) heq.symm (by simpa [or_assoc] using h4)
        rw [if_neg h4]
        by_cases h5 : op = "batch"
        · rw [if_pos h5]
          split
          · split
            · exact same
            · exact batchBegin sl
          · split
            · exact same
            · rename_i b hb
              exact batchEnd sl sid _ (List.mem_of_find?_eq_some hb)
          · exact same
        rw [if_neg h5]
        split
        · exact poison
        · rename_i c hc
          split
          · exact queue sl c hc
          · exact run sid c (Or.inl hc)
  · exact fun _ _ => same

end Muscle.Eng.SrvEngine
