import MuscleModel.Reflector.IndexProofsOps
import MuscleModel.Reflector.AutoNames

/-!
# The data handlers as sequences of notified changes

`Chg N L a own s0 x`: the server `x` comes from `s0` by the moves a data command of session `a` (own subtree `own`) is made of: `Acts`
(EffectSteps) over the alphabet `Move` instead of the single writes.  A move is recorded with what the handler knows where it makes
it (`ChgOk`): an update inside `own` of one node that keeps name, children, subscriber table and payload; an index notification;
the sender's indexing flag; the last clause of a SETDATA (the child gets the payload, created if absent, and the change is told);
`createStep` of an absent leaf.  A payload never changes without its notification.  `N` is what a reading needs of the names of
new nodes (`cSlash ∉ ·` for `NS` and `Chg.sync`, `fun _ => True` otherwise).  `L d` says at which depths `d` a payload may change:
`(· ≤ fuelDepth)` for the mirror (`Chg.sync`, SyncSet.lean: the model reads a node back through `getNode`), `fun _ => True` for what is
written (`Chg.grow`), `fun _ => False` for the handlers that touch indices only (`Chg.quiet`, Silent.lean).

The three readings are one `Acts.rel`/`rel_inv` and one case per kind of move, so a new kind of move costs a constructor of `Move`, a
line of `Move.run`, a clause of `ChgOk` and a case in each reading.
Every move keeps `MK` without the index invariant; a handler that removes or rearranges children has no move here: it is stated at
`Data` directly (last section: `removeIndexEntry_acts`, `removeOne_acts`, `removeChild_data`, sequences of single writes like `putChild_grow`
of EffectSteps) and its marks, mirror and index invariant are proved by themselves (`MK`, `NS`, `Sync`, `TreeInv`: see the header of EffectSteps).
The walks in `namespace Chg` bear the names of the model functions they walk, so inside it those are written `Reflector.setDataClauses` ….
-/


namespace Muscle.Reflector
open Muscle

/-- `PutChild` of a fresh leaf (payload `dd`) and the created-notification -/
def createStep (sv : Server) (a : Nat) (cur : List Bytes) (cl : Bytes) (dd : Option Nat) : Server :=
  notifyChanged
    (setNode sv cur (fun q => q.setKids (putKid ((Node.fresh cl dd).setSubs (marksForNewNode sv (cur ++ [cl]))) q.kids)))
    a (cur ++ [cl]) ((Node.fresh cl dd).setSubs (marksForNewNode sv (cur ++ [cl]))) none false

/-- `SetData(d)` on the node `n0` at `v` and the changed-notification -/
def overStep (sv : Server) (a : Nat) (v : List Bytes) (n0 : Node) (d : Option Nat) : Server :=
  notifyChanged (setNode sv v (fun n => n.setData d)) a v (n0.setData d) (some n0.data) false

theorem setDataClauses_down (a : Nat) (d : Option Nat) (ati : Bool) {sv : Server} {cur : List Bytes} {node child : Node}
    {cl : Bytes} {rest : List Bytes} (hp : getNode sv cur = some node) (hk : findKid cl node.kids = some child)
    (hr : rest ≠ []) : setDataClauses a d ati sv cur (cl :: rest) = setDataClauses a d ati sv (cur ++ [cl]) rest := by
  rw [setDataClauses]
  simp only [hp, hk, List.isEmpty_eq_false_iff.2 hr, Bool.false_and, Bool.false_eq_true, if_false]

theorem putChild_notify_absent (sv : Server) (by_ : Nat) (parent : List Bytes) (nm : Bytes) (dd : Option Nat) {p : Node}
    (hp : getNode sv parent = some p) (hk : findKid nm p.kids = none) :
    putChild sv by_ parent (Node.fresh nm dd) true = createStep sv by_ parent nm dd := by
  unfold putChild createStep
  simp [hp, hk]

theorem setDataClauses_createDown (a : Nat) (d : Option Nat) (ati : Bool) {sv : Server} {cur : List Bytes} {node : Node}
    {cl : Bytes} {rest : List Bytes} (hp : getNode sv cur = some node) (hk : findKid cl node.kids = none) (hr : rest ≠ []) :
    setDataClauses a d ati sv cur (cl :: rest) =
      setDataClauses a d ati (createStep sv a cur cl none) (cur ++ [cl]) rest := by
  rw [setDataClauses]
  simp only [hp, hk, List.isEmpty_eq_false_iff.2 hr, Bool.false_and, Bool.false_eq_true, if_false, Bool.not_false]
  congr 1
  exact putChild_notify_absent sv a cur cl none hp hk

theorem removeIndexEntry_shape (sv : Server) (parent : List Bytes) (key : Bytes) (notify : Bool) :
    removeIndexEntry sv parent key notify = sv ∨
    (∃ i, removeIndexEntry sv parent key notify = setNode sv parent (fun q => q.setIndex (q.index.eraseIdx i))) ∨
    (∃ i p' ins, removeIndexEntry sv parent key notify =
      notifyIndex (setNode sv parent (fun q => q.setIndex (q.index.eraseIdx i))) parent p' ins) := by
  cases h : getNode sv parent with
  | none => left; simp [removeIndexEntry, h]
  | some p =>
    cases hi : lastIndexOf p.index key with
    | none => left; exact removeIndexEntry_none notify h hi
    | some i =>
      cases notify with
      | true => right; right; exact ⟨i, _, _, removeIndexEntry_emits h hi⟩
      | false => right; left; exact ⟨i, removeIndexEntry_quiet h hi⟩

theorem reorderChild_cases {P : Server → Prop} (sv : Server) (parent : List Bytes) (child before : Bytes) (h0 : P sv)
    (hrm : P (removeIndexEntry sv parent child true))
    (hins : ∀ (g : Node → List Bytes) (node : Node) (instr : Bytes),
      P (notifyIndex (setNode (removeIndexEntry sv parent child true) parent (fun q => q.setIndex (g q))) parent node instr)) :
    P (reorderChild sv parent child before) := by
  cases h : getNode sv parent with
  | none =>
    have : reorderChild sv parent child before = sv := by unfold reorderChild; rw [h]
    rw [this]; exact h0
  | some p =>
    by_cases hb : before = child
    · rw [reorderChild_self h hb]; exact h0
    · by_cases hg : (p.index.isEmpty && !(p.index.contains child) && before = removeFromIndexName) = true
      · rw [reorderChild_nothing h hg]; exact h0
      · by_cases hr : before = removeFromIndexName
        · rw [reorderChild_remove h hb hg hr]; exact hrm
        · rw [reorderChild_emits h hb hg hr]; exact hins _ _ _

theorem setDataClauses_lastI (a : Nat) (d : Option Nat) {sv : Server} {cur : List Bytes} {node : Node}
    (hp : getNode sv cur = some node) (cl : Bytes) :
    (findKid cl node.kids = none → setDataClauses a d true sv cur [cl] =
      (insertOrderedChild sv a cur d [] cl true).updSess a (fun s => { s with indexingPresent := true })) ∧
    (∀ child, findKid cl node.kids = some child → setDataClauses a d true sv cur [cl] = sv) :=
  ⟨fun hk => by simp [setDataClauses, hp, hk], fun child hk => by simp [setDataClauses, hp, hk]⟩

theorem setDataClauses_over (a : Nat) (d : Option Nat) {sv : Server} {cur : List Bytes} {node child : Node} {cl : Bytes}
    (hp : getNode sv cur = some node) (hk : findKid cl node.kids = some child)
    (hc : getNode sv (cur ++ [cl]) = some child) :
    setDataClauses a d false sv cur [cl] = overStep sv a (cur ++ [cl]) child d := by
  have hg : getNode (setNode sv (cur ++ [cl]) (fun n => n.setData d)) (cur ++ [cl]) = some (child.setData d) := by
    rw [getNode_setNode (by intro _; rfl), hc]; rfl
  simp [setDataClauses, hp, hk, hg, overStep]

/-- a notified change: what a data handler does between two looks at the tree -/
inductive Move where
  | field (path : List Bytes) (f : Node → Node)
  | notifyIndex (names : List Bytes) (node : Node) (instr : Bytes)
  | indexing
  | last (cur : List Bytes) (cl : Bytes) (d : Option Nat)
  | create (cur : List Bytes) (cl : Bytes) (dd : Option Nat)

def Move.run (a : Nat) : Move → Server → Server
  | .field path f, x => setNode x path f
  | .notifyIndex names node instr, x => Reflector.notifyIndex x names node instr
  | .indexing, x => x.updSess a (fun s => { s with indexingPresent := true })
  | .last cur cl d, x => setDataClauses a d false x cur [cl]
  | .create cur cl dd, x => createStep x a cur cl dd

/-- The moves of a data command of the session owning `own`, in state `x`.  The last clause is the model's own call: beyond `fuelDepth`
    it is neither `overStep` nor `createStep` (the child is not read back), so it is a move of its own, and `N` is asked of the clause
    only where the child is absent and the name is made.  An index notification has no condition: it changes no payload and no reading
    looks at whom it tells what (`notifyIndex_notif`, `quiet_notifyIndex` hold for all arguments). -/
def ChgOk (N : Bytes → Prop) (L : Nat → Prop) (own : List Bytes) (x : Server) : Move → Prop
  | .field path f => own <+: path ∧ IsField f ∧ ∀ n, (f n).data = n.data
  | .notifyIndex _ _ _ | .indexing => True
  | .last cur cl _ => own <+: cur ∧ (∃ node, getNode x cur = some node ∧ (findKid cl node.kids = none → N cl)) ∧ L (cur.length + 1)
  | .create cur cl _ => own <+: cur ∧ (∃ node, getNode x cur = some node ∧ findKid cl node.kids = none) ∧ L (cur.length + 1) ∧ N cl

abbrev Chg (N : Bytes → Prop) (L : Nat → Prop) (a : Nat) (own : List Bytes) : Server → Server → Prop :=
  Acts (Move.run a) (ChgOk N L own)

theorem lastClause_grow {a : Nat} {own : List Bytes} {N : Bytes → Prop} (x : Server) (d : Option Nat) {cur : List Bytes}
    (hpre : own <+: cur) {node : Node} (hp : getNode x cur = some node) {cl : Bytes} (hcl : findKid cl node.kids = none → N cl) :
    Grow a own N x (setDataClauses a d false x cur [cl]) := by
  have hnote : ∀ {z : Server} (od : Option (Option Nat)), Grow a own N x z →
      Grow a own N x (match getNode z (cur ++ [cl]) with
        | some n => notifyChanged z a (cur ++ [cl]) n od false
        | none => z) := by
    intro z od hz
    split
    · exact hz.trans (notifyChanged_notif ..).grow
    · exact hz
  cases hk : findKid cl node.kids with
  | none =>
    simp only [setDataClauses, hp, hk, List.isEmpty_nil, Bool.true_and, Bool.not_false, if_true]
    exact hnote _ (putChild_grow x a _ false hpre rfl (hcl hk))
  | some child =>
    simp only [setDataClauses, hp, hk, List.isEmpty_nil, Bool.true_and, Bool.not_false, if_true]
    exact hnote _ (Grow.setData x d (hpre.trans (List.prefix_append _ _)))

namespace Chg
variable {N : Bytes → Prop} {L : Nat → Prop} {a : Nat} {own : List Bytes} {s0 x : Server}

theorem refl : Chg N L a own s0 s0 := Acts.refl

theorem field (path : List Bytes) (f : Node → Node) (hpre : own <+: path) (hname : ∀ n, (f n).name = n.name)
    (hkids : ∀ n, (f n).kids = n.kids) (hsubs : ∀ n, (f n).subs = n.subs) (hdata : ∀ n, (f n).data = n.data)
    (h : Chg N L a own s0 x) : Chg N L a own s0 (setNode x path f) :=
  h.step (Move.field path f) ⟨hpre, ⟨hname, hkids, hsubs⟩, hdata⟩

theorem setIndex {path : List Bytes} (hpre : own <+: path) (g : Node → List Bytes) (h : Chg N L a own s0 x) :
    Chg N L a own s0 (setNode x path (fun p => p.setIndex (g p))) :=
  h.field path _ hpre (fun _ => rfl) (fun _ => rfl) (fun _ => rfl) (fun _ => rfl)

theorem setCtr {path : List Bytes} (hpre : own <+: path) (c : Nat) (h : Chg N L a own s0 x) :
    Chg N L a own s0 (setNode x path (fun p => p.setCtr c)) :=
  h.field path _ hpre (fun _ => rfl) (fun _ => rfl) (fun _ => rfl) (fun _ => rfl)

theorem notifyIndex (names : List Bytes) (node : Node) (instr : Bytes) (h : Chg N L a own s0 x) :
    Chg N L a own s0 (Reflector.notifyIndex x names node instr) :=
  h.step (Move.notifyIndex names node instr) trivial

theorem indexing (h : Chg N L a own s0 x) : Chg N L a own s0 (x.updSess a (fun s => { s with indexingPresent := true })) :=
  h.step Move.indexing trivial

theorem last {cur : List Bytes} {node : Node} (cl : Bytes) (d : Option Nat) (hpre : own <+: cur) (hp : getNode x cur = some node)
    (hlen : L (cur.length + 1)) (hcl : findKid cl node.kids = none → N cl) (h : Chg N L a own s0 x) :
    Chg N L a own s0 (setDataClauses a d false x cur [cl]) :=
  h.step (Move.last cur cl d) ⟨hpre, ⟨node, hp, hcl⟩, hlen⟩

theorem create {cur : List Bytes} {node : Node} (cl : Bytes) (dd : Option Nat) (hpre : own <+: cur) (hp : getNode x cur = some node)
    (hk : findKid cl node.kids = none) (hlen : L (cur.length + 1)) (hcl : N cl) (h : Chg N L a own s0 x) :
    Chg N L a own s0 (createStep x a cur cl dd) :=
  h.step (Move.create cur cl dd) ⟨hpre, ⟨node, hp, hk⟩, hlen, hcl⟩

theorem grow (h : Chg N L a own s0 x) : Grow a own N s0 x := by
  refine h.rel (R := Grow a own N) (fun _ => .refl) Acts.trans (fun y m hp => ?_)
  cases m with
  | field path f => exact Grow.field y f hp.1 hp.2.1
  | notifyIndex names node instr => exact (notifyIndex_notif y names node instr).grow
  | indexing => exact Grow.indexing y
  | last cur cl d =>
    obtain ⟨hpre, ⟨node, hn, hcl⟩, _⟩ := hp
    exact lastClause_grow y d hpre hn hcl
  | create cur cl dd =>
    exact (Grow.leaf y (Node.fresh cl dd) hp.1 rfl hp.2.2.2).trans (notifyChanged_notif ..).grow

theorem foldl {α} (g : Server → α → Server) (l : List α)
    (hg : ∀ y v, v ∈ l → Chg N L a own s0 y → Chg N L a own s0 (g y v)) :
    ∀ y, Chg N L a own s0 y → Chg N L a own s0 (l.foldl g y) :=
  Acts.foldl_from g l hg

theorem removeIndexEntry {parent : List Bytes} (hpre : own <+: parent) (key : Bytes) (notify : Bool)
    (h : Chg N L a own s0 x) : Chg N L a own s0 (removeIndexEntry x parent key notify) := by
  rcases removeIndexEntry_shape x parent key notify with e | ⟨i, e⟩ | ⟨i, p', ins, e⟩
  · rw [e]; exact h
  · rw [e]; exact h.setIndex hpre _
  · rw [e]; exact (h.setIndex hpre _).notifyIndex ..

theorem reorderChild {parent : List Bytes} (hpre : own <+: parent) (child before : Bytes) (h : Chg N L a own s0 x) :
    Chg N L a own s0 (reorderChild x parent child before) :=
  reorderChild_cases (P := Chg N L a own s0) x parent child before h (h.removeIndexEntry hpre child true)
    (fun g _ _ => ((h.removeIndexEntry hpre child true).setIndex hpre g).notifyIndex ..)

theorem insertOrderedChild {parent : List Bytes} (hpre : own <+: parent) {p : Node} (hp : getNode x parent = some p)
    (d : Option Nat) (before name : Bytes) (hk : findKid (ordPair p name).1 p.kids = none)
    (hnm : N (ordPair p name).1) (hlen : L (parent.length + 1)) (h : Chg N L a own s0 x) :
    Chg N L a own s0 (insertOrderedChild x a parent d before name true) := by
  have hp1 : getNode (setNode x parent (fun q => q.setCtr (ordPair p name).2)) parent = some (p.setCtr (ordPair p name).2) := by
    rw [getNode_setNode (by intro _; rfl), hp]; rfl
  have hput : insertOrderedPut x a parent d (ordPair p name).1 (ordPair p name).2 true =
      createStep (setNode x parent (fun q => q.setCtr (ordPair p name).2)) a parent (ordPair p name).1 d := by
    unfold insertOrderedPut
    exact putChild_notify_absent _ a parent _ d hp1 hk
  have h2 := (h.setCtr hpre (ordPair p name).2).create (ordPair p name).1 d hpre hp1 hk hlen hnm
  by_cases hb : before = removeFromIndexName
  · rw [insertOrderedChild_unindexed a d name true hp hb, hput]; exact h2
  · rw [insertOrderedChild_emits a d name true hp hb]
    unfold insertOrderedPre
    rw [hput]
    exact (h2.setIndex hpre _).notifyIndex ..

theorem ordPair_ok (hauto : AutoOK N) {node : Node} {cl : Bytes} (hk : findKid cl node.kids = none) (hcl : N cl) :
    findKid (ordPair node cl).1 node.kids = none ∧ N (ordPair node cl).1 := by
  by_cases he : cl.isEmpty = true
  · exact ⟨ordPair_fresh node he, by rw [ordPair_of_empty node he]; exact hauto _ _ _⟩
  · rw [ordPair_of_nonempty node he]; exact ⟨hk, hcl⟩

theorem setDataClauses (hauto : AutoOK N) (d : Option Nat) (ati : Bool) :
    ∀ (cls : List Bytes) (x : Server) (cur : List Bytes), own <+: cur → (∀ c ∈ cls, N c) →
      (∀ k, cur.length < k → k ≤ cur.length + cls.length → L k) →
      Chg N L a own s0 x → Chg N L a own s0 (setDataClauses a d ati x cur cls) := by
  intro cls
  induction cls with
  | nil => intro x cur _ _ _ h; simpa only [Reflector.setDataClauses] using h
  | cons cl rest ih =>
    intro x cur hpre hcls hL h
    have hcl : N cl := hcls cl List.mem_cons_self
    have hrs : ∀ c ∈ rest, N c := fun c hc => hcls c (List.mem_cons_of_mem _ hc)
    have hL1 : L (cur.length + 1) := hL _ (Nat.lt_succ_self _) (by simp)
    have hL2 : ∀ k, (cur ++ [cl]).length < k → k ≤ (cur ++ [cl]).length + rest.length → L k := by
      intro k h1 h2; simp at h1 h2; exact hL k (by omega) (by simp; omega)
    have hpre2 : own <+: cur ++ [cl] := hpre.trans (List.prefix_append _ _)
    cases hp : getNode x cur with
    | none =>
      have : Reflector.setDataClauses a d ati x cur (cl :: rest) = x := by simp [Reflector.setDataClauses, hp]
      rw [this]; exact h
    | some node =>
      cases hk : findKid cl node.kids with
      | none =>
        by_cases hr : rest = []
        · cases ati with
          | false => rw [hr]; exact h.last cl d hpre hp hL1 (fun _ => hcl)
          | true =>
            rw [hr, (setDataClauses_lastI a d hp cl).1 hk]
            exact (h.insertOrderedChild hpre hp d [] cl (ordPair_ok hauto hk hcl).1 (ordPair_ok hauto hk hcl).2 hL1).indexing
        · rw [setDataClauses_createDown a d ati hp hk hr]
          exact ih _ (cur ++ [cl]) hpre2 hrs hL2 (h.create cl none hpre hp hk hL1 hcl)
      | some child =>
        by_cases hr : rest = []
        · cases ati with
          | false => rw [hr]; exact h.last cl d hpre hp hL1 (fun _ => hcl)
          | true => rw [hr, (setDataClauses_lastI a d hp cl).2 child hk]; exact h
        · rw [setDataClauses_down a d ati hp hk hr]
          exact ih x (cur ++ [cl]) hpre2 hrs hL2 h

end Chg

/-! ## removal: sequences of single writes -/

section
variable {sid : Nat} {own : List Bytes} {N : Bytes → Prop}

/-- `RemoveIndexEntry` writes notifications and fields of the node at `parent`: it is `Acts Op.run p` for every `p` that allows those -/
theorem removeIndexEntry_acts {p : Server → Op → Prop} {parent : List Bytes} (hn : ∀ x op, NotifOp op → p x op)
    (hf : ∀ x f, IsField f → p x (.node parent f)) (sv : Server) (key : Bytes) (notify : Bool) :
    Acts Op.run p sv (removeIndexEntry sv parent key notify) := by
  have hset : ∀ i : Nat, Acts Op.run p sv (setNode sv parent (fun q => q.setIndex (q.index.eraseIdx i))) :=
    fun i => .one (.node parent _) (hf _ _ ⟨fun _ => rfl, fun _ => rfl, fun _ => rfl⟩)
  rcases removeIndexEntry_shape sv parent key notify with e | ⟨i, e⟩ | ⟨i, p', ins, e⟩
  · rw [e]; exact .refl
  · rw [e]; exact hset i
  · rw [e]; exact (hset i).trans ((notifyIndex_notif ..).mono hn)

theorem removeIndexEntry_grow (sv : Server) {parent : List Bytes} (key : Bytes) (notify : Bool)
    (h : own <+: parent) : Grow sid own N sv (removeIndexEntry sv parent key notify) :=
  removeIndexEntry_acts NotifOp.grow (fun x f hf => GrowOp.field x f h hf) sv key notify

theorem removeOne_acts {p : Server → Op → Prop} {parent : List Bytes} {key : Bytes} (hn : ∀ x op, NotifOp op → p x op)
    (hf : ∀ x f, IsField f → p x (.node parent f)) (hr : ∀ x, p x (.node parent (fun q => q.setKids (removeKid key q.kids))))
    (sv : Server) (by_ : Nat) (notify : Bool) : Acts Op.run p sv (removeOne sv by_ notify (parent ++ [key])) := by
  cases hc : getNode sv (parent ++ [key]) with
  | none => rw [removeOne_absent by_ notify hc]; exact .refl
  | some c =>
    rw [removeOne_eq by_ notify hc]
    unfold removeOneRest removeOneMid
    refine Acts.trans ?_ (.one (.node parent _) (hr _))
    have hidx := removeIndexEntry_acts hn hf sv key notify
    split
    · exact ite_pred (hidx.trans ((notifyChanged_notif ..).mono hn)) hidx
    · exact hidx

theorem removeOne_data (sv : Server) (by_ : Nat) (notify : Bool) (names : List Bytes)
    (h : own <+: names.dropLast) : Data sid own N sv (removeOne sv by_ notify names) := by
  by_cases hn : names = []
  · subst hn; exact .refl
  · obtain ⟨parent, key, rfl⟩ : ∃ p k, names = p ++ [k] :=
      ⟨names.dropLast, names.getLast hn, (List.dropLast_concat_getLast hn).symm⟩
    rw [List.dropLast_concat] at h
    exact removeOne_acts (fun x op hp => (NotifOp.grow x op hp).data) (fun x f hf => GrowOp.data x _ (GrowOp.field x f h hf))
      (fun x => DataOp.removeKid x key h) sv by_ notify

theorem removeChild_data (sv : Server) (by_ : Nat) (notify : Bool) (names : List Bytes)
    (h : own <+: names) (hl : own.length < names.length) : Data sid own N sv (removeChild sv by_ notify names) := by
  unfold removeChild
  split
  · exact .refl
  · apply Acts.foldl
    intro sv1 nm hnm
    have hp := removalOrder_prefix _ _ _ nm hnm
    exact removeOne_data sv1 by_ notify nm (prefix_dropLast (h.trans hp) (Nat.lt_of_lt_of_le hl hp.length_le))

end

end Muscle.Reflector
