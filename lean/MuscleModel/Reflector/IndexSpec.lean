import MuscleModel.Reflector.Handlers

/-!
# C13 specification side: index instructions, the client's replay, the index invariant

An index instruction is the byte string `<op><decimal position>:<name>`, op ∈ {`c`,`i`,`r`}
(`UpdateSubscriptionIndexMessage`, `INDEX_OP_CLEARED / ENTRYINSERTED / ENTRYREMOVED`).  The client
(`received()` in `harness/srv.cpp`, i.e. what every MUSCLE client does with PR_RESULT_INDEXUPDATED)
looks at the first byte, reads the decimal number that follows (`atol`), splits at the FIRST `:`
(`strchr`), and applies

* `c` → clear,
* `i` → insert the name at the position (which must be ≤ the length),
* `r` → remove the entry at the position (which must be < the length and hold that name).

`replay` is that client on raw byte strings; it answers `none` where the client would refuse or not
understand the instruction, so `replayAll … = some ix` also says that every position was in range.

Nothing here changes the model: these are new definitions *about* `Reflector/Server.lean` and
`Reflector/Handlers.lean`.
-/

namespace Muscle.Reflector
open Muscle

/-! ## instructions -/

inductive Instr where
  | clear
  | ins (pos : Nat) (name : Bytes)
  | rem (pos : Nat) (name : Bytes)
  deriving DecidableEq, Repr

/-- the bytes the server hands to `notifyIndex` (`instrOf`), resp. the `"c"` of the GETDATA snapshot -/
def Instr.render : Instr → Bytes
  | .clear => "c".toUTF8.toList
  | .ins p n => instrOf 'i' p n
  | .rem p n => instrOf 'r' p n

def isDigitB (b : UInt8) : Bool := decide (48 ≤ b.toNat) && decide (b.toNat ≤ 57)

/-- `atol` on a run of digits -/
def decValB (ds : Bytes) : Nat := ds.foldl (fun a b => 10 * a + (b.toNat - 48)) 0

/-- the client's reading of one instruction string: op = first byte, position = the digits after it,
    name = everything after the first `:` (so names may themselves contain `:`) -/
def Instr.parse : Bytes → Option Instr
  | [] => none
  | op :: rest =>
    let pos := decValB (rest.takeWhile isDigitB)
    let name := (rest.dropWhile (fun b => b != 58)).drop 1
    if op = 99 then some .clear
    else if op = 105 then some (.ins pos name)
    else if op = 114 then some (.rem pos name)
    else none

/-- `InsertItemAt(i, x)` on the list of names -/
def insertAt (xs : List Bytes) (i : Nat) (x : Bytes) : List Bytes := xs.take i ++ [x] ++ xs.drop i

/-- the client applying one parsed instruction (strict: `none` = out of range / wrong name) -/
def Instr.apply (ix : List Bytes) : Instr → Option (List Bytes)
  | .clear => some []
  | .ins p n => if p ≤ ix.length then some (insertAt ix p n) else none
  | .rem p n => if ix[p]? = some n then some (ix.eraseIdx p) else none

def applyAll (ix : List Bytes) : List Instr → Option (List Bytes)
  | [] => some ix
  | i :: r => (i.apply ix).bind (fun ix' => applyAll ix' r)

/-- the client on one raw instruction string -/
def replay (ix : List Bytes) (s : Bytes) : Option (List Bytes) := (Instr.parse s).bind (Instr.apply ix)

/-- the client on a log of raw instruction strings, in order -/
def replayAll (ix : List Bytes) : List Bytes → Option (List Bytes)
  | [] => some ix
  | s :: r => (replay ix s).bind (fun ix' => replayAll ix' r)

/-- "every insert position ≤ current length, every remove position < current length and names the entry
    at that position", along a log that starts at index `ix` -/
def InRange : List Bytes → List Instr → Prop
  | _, [] => True
  | _, .clear :: r => InRange [] r
  | ix, .ins p n :: r => p ≤ ix.length ∧ InRange (insertAt ix p n) r
  | ix, .rem p n :: r => p < ix.length ∧ ix[p]? = some n ∧ InRange (ix.eraseIdx p) r

/-! ## what the model functions compute, as functions of the parent node before the call -/

/-- `insertIndex` of `InsertOrderedChild` / `targetIndex` of `ReorderChild`: position of the last entry
    named `before`, default end of index -/
def insertPos (ix : List Bytes) (before : Bytes) : Nat :=
  match lastIndexOf ix before with
  | some i => i
  | none => ix.length

/-- (name, counter after) chosen by `InsertOrderedChild` -/
def ordPair (p : Node) (name : Bytes) : Bytes × Nat :=
  if name.isEmpty then autoName (p.kids.length + 1) p.ctr p.kids else (name, p.ctr)

/-- the index after `RemoveIndexEntry(key)` -/
def eraseLast (ix : List Bytes) (key : Bytes) : List Bytes :=
  match lastIndexOf ix key with
  | some i => ix.eraseIdx i
  | none => ix

/-- the instruction `RemoveIndexEntry(key, notify)` emits -/
def remLog (ix : List Bytes) (key : Bytes) : List Instr :=
  match lastIndexOf ix key with
  | some i => [.rem i key]
  | none => []

/-- `targetIndex` of `ReorderChild`, computed on the index after the removal -/
def reorderTarget (p : Node) (child before : Bytes) : Nat :=
  if (findKid before p.kids).isSome then insertPos (eraseLast p.index child) before
  else (eraseLast p.index child).length

/-- the instructions `ReorderChild(child, before)` emits -/
def reorderLog (p : Node) (child before : Bytes) : List Instr :=
  if before = child then [] else
  if p.index.isEmpty && !(p.index.contains child) && before = removeFromIndexName then [] else
  remLog p.index child ++
    (if before = removeFromIndexName then [] else [.ins (reorderTarget p child before) child])

/-! ## the invariant -/

/-- the index lists existing children only, each at most once -/
def IdxInv (n : Node) : Prop := n.index.Nodup ∧ ∀ c ∈ n.index, (findKid c n.kids).isSome

/-- sibling names are pairwise different (the children live in a `Hashtable` keyed by name) -/
def KidsDistinct (n : Node) : Prop := (n.kids.map Node.name).Nodup

/-- the per-node invariant: sound index, distinct child names -/
def NodeInv (n : Node) : Prop := IdxInv n ∧ KidsDistinct n

/-- `P` holds at a node and everywhere below it -/
inductive AllNodes (P : Node → Prop) : Node → Prop
  | mk (n : Node) : P n → (∀ k ∈ n.kids, AllNodes P k) → AllNodes P n

/-! ## operations on one parent node, for the statements over op sequences -/

/-- the index-relevant operations the server performs on the children of one node (`parent`) -/
inductive IdxOp where
  /-- `InsertOrderedChild(data, before, name)` -/
  | insert (by_ : Nat) (d : Option Nat) (before name : Bytes) (notifyChanged : Bool)
  /-- `ReorderChild(child, before)` -/
  | reorder (child before : Bytes)
  /-- `RemoveIndexEntry(key, notify)` -/
  | removeEntry (key : Bytes)
  /-- the body of `RemoveChild(key, notify)` for a childless child -/
  | removeOne (by_ : Nat) (key : Bytes)
  /-- `RemoveChild(key, notify, recurse)` -/
  | removeChild (by_ : Nat) (key : Bytes)
  /-- plain `PutChild` (no index change, nothing emitted) -/
  | put (by_ : Nat) (child : Node) (notify : Bool)
  deriving Inhabited

/-- the model function each operation stands for (notifying variants) -/
def IdxOp.run (parent : List Bytes) (sv : Server) : IdxOp → Server
  | .insert by_ d before name nc => insertOrderedChild sv by_ parent d before name nc
  | .reorder child before => reorderChild sv parent child before
  | .removeEntry key => removeIndexEntry sv parent key true
  | .removeOne by_ key => Reflector.removeOne sv by_ true (parent ++ [key])
  | .removeChild by_ key => Reflector.removeChild sv by_ true (parent ++ [key])
  | .put by_ child notify => putChild sv by_ parent child notify

/-- the instructions the operation hands to `notifyIndex` for `parent` (justified per function by the
    `…_emits` and `…_eq` equations in `IndexProofsOps.lean`, `IndexProofsRemove.lean`), as a function of the state before -/
def IdxOp.log (parent : List Bytes) (sv : Server) : IdxOp → List Instr
  | .insert _ _ before name _ =>
    match getNode sv parent with
    | some p =>
      -- `optInsertBefore == "!Rmv"`: the child is created but not indexed, nothing is emitted
      if before = removeFromIndexName then [] else [.ins (insertPos p.index before) (ordPair p name).1]
    | none => []
  | .reorder child before =>
    match getNode sv parent with
    | some p => reorderLog p child before
    | none => []
  | .removeEntry key =>
    match getNode sv parent with
    | some p => remLog p.index key
    | none => []
  | .removeOne _ key | .removeChild _ key =>
    match getNode sv parent, getNode sv (parent ++ [key]) with
    | some p, some _ => remLog p.index key
    | _, _ => []
  | .put _ _ _ => []

/-- run a list of operations, collecting the rendered log -/
def runOps (parent : List Bytes) : Server → List IdxOp → Server × List Bytes
  | sv, [] => (sv, [])
  | sv, op :: r =>
    let (sv', l) := runOps parent (op.run parent sv) r
    (sv', (op.log parent sv).map Instr.render ++ l)

/-- what an operation needs for the invariant to survive: unless it does not index at all (`before = "!Rmv"`),
    the name `InsertOrderedChild` uses (the given one, or
    the generated `I<n>`, which is always unused: `ordPair_fresh`) is not already an indexed child;
    `ReorderChild` is called for an existing child (the REORDERDATA handler looks it up first) -/
def IdxOp.ok (p : Node) : IdxOp → Prop
  | .insert _ _ before name _ =>
    before = removeFromIndexName ∨ findKid (ordPair p name).1 p.kids = none ∨ (ordPair p name).1 ∉ p.index
  | .reorder child before => before = removeFromIndexName ∨ (findKid child p.kids).isSome
  | _ => True

/-- the index part of what `doGetData` sends for one node: `c`, then `i0:n0`, `i1:n1`, … -/
def snapshotLog (ix : List Bytes) : List Bytes :=
  "c".toUTF8.toList :: (ix.zipIdx.map (fun (nm, i) => instrOf 'i' i nm))

end Muscle.Reflector
