import MuscleModel.Reflector.SessNodeNames
import MuscleModel.Reflector.OwnSubscribe
import MuscleModel.Reflector.GetDataVisits

/-!
# Runs of the subscriber: every command class, own SUBSCRIBEs and unsubscribes

`Story sid`: commands of any session that `SyncFor` covers (the index commands may be the subscriber's own), pushes, departures
of others, arrivals.  `In` (an input of the client; `Client`) is what the client consumes (a PR_RESULT_DATAITEMS Message, or its own unsubscribe with the
remaining subscription set), `client` its fold.  `Run sid`: `Story` segments ending with nothing pending, SUBSCRIBEs of new
paths (premise `SubNewOK`; `subNewOK_of_rule`: it holds by the rule of `GetDataCallback`, through `snapVisits_of`) and unsubscribes by
`sid`.  `Quiescent sid sv s m` carries the invariant `Inv2 sv` (`Inv` and `HK`) with it, so `QStep sid sv sv'` (from any quiescent point with a
right mirror the client reaches one in `sv'`) needs no separate invariant hypothesis; every `Run` is such a step (`run_step`).
-/


namespace Muscle.Reflector
open Muscle Muscle.Eng.SrvEngine

def StoryCmd (sid : Nat) (sv : Server) (a : Nat) : Cmd → Prop
  | .set path _ false => SetOK path
  | .set path _ true => SetOK path
  | .rm _ => True
  | .ins key _ _ => InsDepthOK sv a key
  | .reorder _ _ => True
  | c => QuietCmd sid a c ∧ CmdOK c

def Inv2 (sv : Server) : Prop := Inv sv ∧ HK sv

theorem Inv2.inv {sv : Server} (h : Inv2 sv) : Inv sv := h.1
theorem Inv2.hk {sv : Server} (h : Inv2 sv) : HK sv := h.2

theorem cmdOK_of_storyCmd {sid : Nat} {sv : Server} {a : Nat} {c : Cmd} (h : StoryCmd sid sv a c) : CmdOK c := by
  cases c <;> first | trivial | exact h.2

theorem storyCmd_sync {sid : Nat} {sv : Server} (h : Inv sv) (a : Nat) (c : Cmd) (hc : StoryCmd sid sv a c) :
    SyncFor sid sv (runCmd sv a c) := by
  cases c with
  | set path x ati => exact (syncKept_setDataNode h.good a path (by cases ati <;> exact hc) (some x) ati).sync.for sid
  | rm keys => exact (syncKept_removeData h a keys).sync.for sid
  | ins key before vals => exact (syncKept_insertOrdered h.good key before vals hc).sync.for sid
  | reorder key before => exact (quiet_reorder sid a sv key before).syncFor
  | _ => exact (quiet_runCmd sv _ hc.1).syncFor

inductive Story (sid : Nat) : Server → Server → Prop
  | refl (sv : Server) : Story sid sv sv
  | cmd {sv : Server} (a : Nat) (c : Cmd) : StoryCmd sid sv a c → Story sid sv (runCmd sv a c)
  | push {sv : Server} : Story sid sv (pushAll sv)
  | detach {sv : Server} (t : Nat) : t ≠ sid → Story sid sv (detach sv t)
  | attach {sv : Server} (slot : Nat) (host : Bytes) : cSlash ∉ host → (sv.sess? sid).isSome →
      Story sid sv (attach sv slot host).1
  | trans {a b c : Server} : Story sid a b → Story sid b c → Story sid a c

theorem Inv2.runCmd {sv : Server} (h : Inv2 sv) (a : Nat) (c : Cmd) (hc : CmdOK c) : Inv2 (runCmd sv a c) :=
  ⟨h.inv.runCmd a c hc, h.hk.runCmd h.inv.marks.sess a c⟩

theorem Inv2.pushAll {sv : Server} (h : Inv2 sv) : Inv2 (pushAll sv) := ⟨h.inv.pushAll, h.hk.pushAll⟩

theorem story_sync {sid : Nat} {sv sv' : Server} (hh : Story sid sv sv') (h : Inv2 sv) :
    SyncFor sid sv sv' ∧ Inv2 sv' := by
  induction hh with
  | refl sv => exact ⟨SyncFor.refl sid sv, h⟩
  | cmd a c hc => exact ⟨storyCmd_sync h.inv a c hc, h.runCmd a c (cmdOK_of_storyCmd hc)⟩
  | push => exact ⟨(SyncAll.pushAll _).for sid, h.pushAll⟩
  | detach t hne =>
    exact ⟨syncFor_detach h.inv t (fun e => hne e.symm), h.inv.detach t, h.hk.detach h.inv.tree h.inv.marks.sess t⟩
  | attach slot host hno hold =>
    exact ⟨syncFor_attach h.inv slot host hno (FreshSessNode.of_hk h.hk host) hold, h.inv.attach slot host hno,
      h.hk.attach slot host⟩
  | trans _ _ ih1 ih2 =>
    obtain ⟨s1, i1⟩ := ih1 h
    obtain ⟨s2, i2⟩ := ih2 i1
    exact ⟨s1.trans s2, i2⟩

theorem CReach.inv2 {sv : Server} (h : CReach sv) : Inv2 sv := ⟨h.inv, h.hk⟩

theorem client_append (m : Mirror) (a b : List In) : client m (a ++ b) = client (client m a) b := by
  simp [client, List.foldl_append]

theorem msgsOf_append (a b : List In) : msgsOf (a ++ b) = msgsOf a ++ msgsOf b := by
  simp [msgsOf, List.filterMap_append]

theorem client_data (m : Mirror) (sent : List UpdMsg) : client m (sent.map In.data) = applyMsgs m sent := by
  unfold client applyMsgs
  rw [List.foldl_map]; rfl

theorem msgsOf_data (sent : List UpdMsg) : msgsOf (sent.map In.data) = sent := by
  unfold msgsOf
  rw [List.filterMap_map]
  exact List.filterMap_some

/-- the premises of a SUBSCRIBE of a new path by `sid` in state `sv` -/
def SubNewOK (sid : Nat) (sv : Server) (path : Bytes) (f : Option Filt) : Prop :=
  GoodPath (adjustPrefix path (some defaultPrefix)) ∧
  ∀ s, sv.sess? sid = some s →
    pmFind s.subs (adjustPrefix path (some defaultPrefix)) = none ∧
    SnapVisits (subC sv sid path f) (subSess s path f) (adjustPrefix path (some defaultPrefix)) f

theorem snapVisits_of {C : Server} (hti : TreeInv C) {sC : Sess} (h : sC.reflectSelf = true ∨ sC.indexingPresent = false)
    {fix : Bytes} (hgood : GoodPath fix) (f : Option Filt) : SnapVisits C sC fix f :=
  visits_getDataCb hti h (SubsWF.single hgood f) true

theorem subNewOK_of_rule {sid : Nat} {sv : Server} (hti : TreeInv sv) (path : Bytes) (f : Option Filt)
    (hgood : GoodPath (adjustPrefix path (some defaultPrefix)))
    (h : ∀ s, sv.sess? sid = some s → (s.reflectSelf = true ∨ s.indexingPresent = false) ∧
      pmFind s.subs (adjustPrefix path (some defaultPrefix)) = none) :
    SubNewOK sid sv path f :=
  ⟨hgood, fun s hs => ⟨(h s hs).2, snapVisits_of (treeInv_subC hti sid path f) (sC := subSess s path f) (h s hs).1 hgood f⟩⟩

inductive Run (sid : Nat) : Server → Server → Prop
  | seg {a b : Server} : Story sid a b → (∀ s', b.sess? sid = some s' → pend s' = {}) → Run sid a b
  | subNew {sv : Server} (path : Bytes) (f : Option Filt) : SubNewOK sid sv path f → Run sid sv (runCmd sv sid (.sub path f))
  | unsub {sv : Server} (path : Bytes) : Run sid sv (runCmd sv sid (.unsub path))
  | trans {a b c : Server} : Run sid a b → Run sid b c → Run sid a c

/-- the state of the subscriber and its client at a quiescent point -/
structure Quiescent (sid : Nat) (sv : Server) (s : Sess) (m : Mirror) : Prop where
  inv : Inv2 sv
  sess : sv.sess? sid = some s
  enabled : s.subsEnabled = true
  nothing : pend s = {}
  mirror : MirrorOK sv s m

/-- The closing push.  The view of `sid`'s client (what was delivered, then what is pending) is a right mirror in `D`, and the
    push will send what is pending (the server is dirty, or nothing is pending): after the push the point is quiescent and the
    client that consumed what the push sent holds that view. -/
theorem quiescent_push {sid : Nat} {D : Server} {sD : Sess} {M : Mirror} (hinv : Inv2 (pushAll D)) (hsD : D.sess? sid = some sD)
    (hen : sD.subsEnabled = true) (hdirty : D.subsDirty = true ∨ pend sD = {}) (hm : MirrorOK D sD (applyMsg M (pend sD))) :
    ∃ sE sent, Quiescent sid (pushAll D) sE (applyMsgs M sent) ∧ dataLines sE = dataLines sD ++ sent.map dataText ∧
      sE.vcore = sD.vcore := by
  obtain ⟨sE, sent, hsE, hvE, hdlE, hview⟩ := pipeStep_pushAll sid D sD hsD
  have hpE : pend sE = {} := by
    by_cases hd : D.subsDirty = true
    · exact pend_after_pushAll hd hsE
    · have hpush : pushAll D = D := by unfold pushAll; rw [if_neg hd]
      rw [hpush, hsD] at hsE
      rw [← Option.some.inj hsE]; exact hdirty.resolve_left hd
  have hv := hview M
  rw [hpE, applyMsg_empty, List.foldl_nil] at hv
  exact ⟨sE, sent, ⟨hinv, hsE, (vcore_subsEnabled hvE).trans hen, hpE,
    (mirrorOK_vcore hvE _ _).2 (mirrorOK_of_root (pushAll_root D) (by rw [hv]; exact hm))⟩, hdlE, hvE⟩

/-- a step from one quiescent point to the next, as the subscriber's client sees it: it consumes `items` and holds a right
    mirror again; the data lines of the inbox grew by the text of the Messages among `items` -/
def QStep (sid : Nat) (sv sv' : Server) : Prop :=
  ∀ {s : Sess} {m : Mirror}, Quiescent sid sv s m →
    ∃ s' items, Quiescent sid sv' s' (client m items) ∧
      dataLines s' = dataLines s ++ (msgsOf items).map dataText ∧ s'.sid = s.sid

theorem QStep.trans {sid : Nat} {a b c : Server} (h1 : QStep sid a b) (h2 : QStep sid b c) : QStep sid a c := by
  intro s m q
  obtain ⟨s1, it1, q1, hd1, hsid1⟩ := h1 q
  obtain ⟨s2, it2, q2, hd2, hsid2⟩ := h2 q1
  refine ⟨s2, it1 ++ it2, by rw [client_append]; exact q2, ?_, hsid2.trans hsid1⟩
  rw [msgsOf_append, List.map_append, ← List.append_assoc, ← hd1, hd2]

theorem QStep.of_sent {sid : Nat} {sv' : Server} {s s' : Sess} {m : Mirror} {sent : List UpdMsg}
    (q' : Quiescent sid sv' s' (applyMsgs m sent)) (hd : dataLines s' = dataLines s ++ sent.map dataText)
    (hsid : s'.sid = s.sid) :
    ∃ s' items, Quiescent sid sv' s' (client m items) ∧
      dataLines s' = dataLines s ++ (msgsOf items).map dataText ∧ s'.sid = s.sid :=
  ⟨s', sent.map In.data, by rw [client_data]; exact q', by rw [msgsOf_data]; exact hd, hsid⟩

theorem qstep_story {sid : Nat} {a b : Server} (hst : Story sid a b) (hq : ∀ s', b.sess? sid = some s' → pend s' = {}) :
    QStep sid a b := by
  intro s m q
  obtain ⟨hsync, hinv'⟩ := story_sync hst q.inv
  obtain ⟨s', sent, hs', hc, hd, hm'⟩ := hsync.replay q.sess q.enabled q.nothing hq m q.mirror
  exact QStep.of_sent ⟨hinv', hs', (vcore_subsEnabled hc).trans q.enabled, hq s' hs', hm'⟩ hd (vcore_sid hc)

theorem qstep_subNew {sid : Nat} {sv : Server} (path : Bytes) (f : Option Filt) (hok : SubNewOK sid sv path f) :
    QStep sid sv (runCmd sv sid (.sub path f)) := by
  intro s m q
  obtain ⟨hf, hV⟩ := hok.2 s q.sess
  obtain ⟨sD, sent, hsD, hcD, hnD, hdD, hmD⟩ := subscribe_new_replay q.inv.inv q.sess path f hok.1 hf hV m q.mirror
  have hvD : sD.vcore = (subSess s path f).vcore := vcore_of_core hcD
  exact QStep.of_sent ⟨q.inv.runCmd sid _ hok.1, hsD, (vcore_subsEnabled hvD).trans q.enabled,
    (pend_of_nextData hnD).trans q.nothing, hmD⟩ hdD (vcore_sid (t := subSess s path f) hvD)

theorem qstep_unsub {sid : Nat} (sv : Server) (path : Bytes) : QStep sid sv (runCmd sv sid (.unsub path)) := by
  intro s m q
  obtain ⟨pm, ps, hs', hm'⟩ := unsubscribe_step q.inv.inv q.sess path m q.mirror
  exact ⟨_, [In.unsub pm], ⟨q.inv.runCmd sid _ trivial, hs', q.enabled, q.nothing, hm'⟩, by simp [msgsOf, dataLines], rfl⟩

theorem run_step {sid : Nat} {sv sv' : Server} (hr : Run sid sv sv') : QStep sid sv sv' := by
  induction hr with
  | seg hst hq => exact qstep_story hst hq
  | subNew path f hok => exact qstep_subNew path f hok
  | unsub path => exact qstep_unsub _ path
  | trans _ _ ih1 ih2 => exact ih1.trans ih2

/-- Convergence with a changing subscription set.  From a state with the invariants in which `sid` has no subscription,
    nothing pending and an empty client mirror, after steps between quiescent points: the client's fold over what it
    consumed is a right mirror, nothing is pending, and the data lines of the inbox grew by the text of the Messages
    consumed. -/
theorem QStep.converges {sid : Nat} {sv0 sv' : Server} (h : QStep sid sv0 sv') (h0 : Inv2 sv0) {s0 : Sess}
    (hs0 : sv0.sess? sid = some s0) (hnos : s0.subs = []) (hen : s0.subsEnabled = true) (hq0 : pend s0 = {}) :
    ∃ s' items, sv'.sess? sid = some s' ∧ pend s' = {} ∧
      dataLines s' = dataLines s0 ++ (msgsOf items).map dataText ∧
      MirrorOK sv' s' (client (fun _ => none) items) := by
  obtain ⟨s', items, q', hd, _⟩ := h ⟨h0, hs0, hen, hq0, mirrorOK_nosubs sv0 hnos⟩
  exact ⟨s', items, q'.sess, q'.nothing, hd, q'.mirror⟩

end Muscle.Reflector
