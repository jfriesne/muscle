import MuscleModel.Reflector.NoSlash
import MuscleModel.Reflector.Silent

/-!
# `SyncFor`, `SyncAll`: a stretch of the server's history keeps a subscriber, or every subscriber, in sync; the invariants `Good`, `Inv`

`SyncFor sid sv sv'`: if `sid` is attached with subscriptions enabled, then for every mirror there is a list of events with
`Sync` (`SyncSteps`) — the session's pipe is fed exactly those events and a right mirror stays right.  Reflexive, transitive; a `Quiet`
step (`Silent`) is one.  `SyncFor.replay` turns a `SyncFor` into the statement about the client between two quiescent points.
-/


namespace Muscle.Reflector
open Muscle Muscle.Eng.SrvEngine

theorem SessOK.sid_lt {sv : Server} (hs : SessOK sv) {t : Nat} {st : Sess} (h : sv.sess? t = some st) :
    st.sid < sv.nextSid :=
  hs.bound (st.sid, st.subs) (List.mem_map.2 ⟨st, List.mem_of_find?_eq_some h, rfl⟩)

theorem SessOK.sids_nodup {sv : Server} (hs : SessOK sv) : (sv.sessions.map (·.sid)).Nodup := by
  have := hs.nodup
  unfold sessKeys at this
  rw [List.map_map] at this
  exact this

theorem visible_host (s : Sess) (host : Bytes) : visible s [host] = true := by simp [visible, ownerName]

theorem pend_of_nextData {s t : Sess} (h : s.nextData = t.nextData) : pend s = pend t := by
  unfold pend; rw [h]

theorem vcore_subs {s t : Sess} (h : s.vcore = t.vcore) : s.subs = t.subs :=
  show s.vcore.subs = t.vcore.subs from congrArg Sess.subs h
theorem vcore_sid {s t : Sess} (h : s.vcore = t.vcore) : s.sid = t.sid :=
  show s.vcore.sid = t.vcore.sid from congrArg Sess.sid h
theorem vcore_reflectSelf {s t : Sess} (h : s.vcore = t.vcore) : s.reflectSelf = t.reflectSelf :=
  show s.vcore.reflectSelf = t.vcore.reflectSelf from congrArg Sess.reflectSelf h
theorem core_indexingPresent {s t : Sess} (h : s.core = t.core) : s.indexingPresent = t.indexingPresent :=
  show s.core.indexingPresent = t.core.indexingPresent from congrArg Sess.indexingPresent h

theorem matches_vcore {s t : Sess} (h : s.vcore = t.vcore) (sv : Server) (p : Bytes) (d : Option Nat) :
    Matches sv s p d ↔ Matches sv t p d := by
  unfold Matches visible wants
  rw [vcore_subs h, vcore_sid h, vcore_reflectSelf h]

theorem mirrorOK_vcore {s t : Sess} (h : s.vcore = t.vcore) (sv : Server) (m : Mirror) : MirrorOK sv s m ↔ MirrorOK sv t m := by
  unfold MirrorOK
  constructor
  · intro hm p d; rw [← matches_vcore h]; exact hm p d
  · intro hm p d; rw [matches_vcore h]; exact hm p d

theorem sync_vcore {s t : Sess} (h : s.vcore = t.vcore) {sid : Nat} {a b : Server} {m : Mirror} {evs : List Ev}
    (hs : Sync sid s a b m evs) : Sync sid t a b m evs :=
  ⟨hs.pipe, fun hm => (mirrorOK_vcore h b _).1 (hs.mirror ((mirrorOK_vcore h a m).2 hm))⟩

def SyncFor (sid : Nat) (sv sv' : Server) : Prop :=
  ∀ s, sv.sess? sid = some s → s.subsEnabled = true → ∀ m, ∃ evs, Sync sid s sv sv' m evs

theorem SyncFor.refl (sid : Nat) (sv : Server) : SyncFor sid sv sv := fun s _ _ m => ⟨[], Sync.refl sid s sv m⟩

theorem vcore_subsEnabled {s t : Sess} (h : s.vcore = t.vcore) : s.subsEnabled = t.subsEnabled :=
  show s.vcore.subsEnabled = t.vcore.subsEnabled from congrArg Sess.subsEnabled h

theorem SyncFor.trans {sid : Nat} {a b c : Server} (h1 : SyncFor sid a b) (h2 : SyncFor sid b c) : SyncFor sid a c := by
  intro s hs hen m
  obtain ⟨e1, hs1⟩ := h1 s hs hen m
  obtain ⟨s1, hs1', hc1⟩ := hs1.pipe.sess hs
  obtain ⟨e2, hs2⟩ := h2 s1 hs1' ((vcore_subsEnabled hc1).trans hen) (e1.foldl applyEv m)
  exact ⟨e1 ++ e2, hs1.trans (sync_vcore hc1 hs2)⟩

def SyncAll (sv sv' : Server) : Prop :=
  ∀ sid s, sv.sess? sid = some s → s.subsEnabled = true → ∀ m, ∃ evs, Sync sid s sv sv' m evs

theorem SyncAll.for {sv sv' : Server} (h : SyncAll sv sv') (sid : Nat) : SyncFor sid sv sv' :=
  fun s hs hen m => h sid s hs hen m

theorem SyncAll.refl (sv : Server) : SyncAll sv sv := fun sid => SyncFor.refl sid sv

theorem SyncAll.trans {a b c : Server} (h1 : SyncAll a b) (h2 : SyncAll b c) : SyncAll a c :=
  fun sid => (h1.for sid).trans (h2.for sid)

theorem Quiet.sync {sid : Nat} {sv sv' : Server} (h : Quiet sid sv sv') (s : Sess) (m : Mirror) : Sync sid s sv sv' m [] :=
  ⟨h.pipe, fun hm p d => by rw [matches_congr (a := sv) (b := sv') h.data s p d]; exact hm p d⟩

theorem SyncAll.of_quiet {sv sv' : Server} (h : ∀ sid, Quiet sid sv sv') : SyncAll sv sv' :=
  fun sid s _ _ m => ⟨[], (h sid).sync s m⟩

theorem SyncAll.pushAll (sv : Server) : SyncAll sv (pushAll sv) := .of_quiet fun sid => quiet_pushAll sid sv

theorem Quiet.syncFor {sid : Nat} {sv sv' : Server} (h : Quiet sid sv sv') : SyncFor sid sv sv' :=
  fun s _ _ m => ⟨[], h.sync s m⟩

/-- Convergence between two quiescent points.  `sid` has nothing pending and holds a right mirror in `sv`, and nothing
    pending in `sv'`: what was appended to the PR_RESULT_DATAITEMS lines of its inbox is the text of structured Messages
    `sent`, and the client applying them in order (removals first, then sets, per Message) holds a right mirror again. -/
theorem SyncFor.replay {sid : Nat} {sv sv' : Server} (h : SyncFor sid sv sv') {s : Sess} (hs : sv.sess? sid = some s)
    (hen : s.subsEnabled = true) (hq : pend s = {}) (hq' : ∀ s', sv'.sess? sid = some s' → pend s' = {}) (m : Mirror)
    (hm : MirrorOK sv s m) :
    ∃ s' sent, sv'.sess? sid = some s' ∧ s'.vcore = s.vcore ∧ dataLines s' = dataLines s ++ sent.map dataText ∧
      MirrorOK sv' s' (applyMsgs m sent) := by
  obtain ⟨evs, hsy⟩ := h s hs hen m
  obtain ⟨s', sent, hs', hc, hd, _, hok⟩ := replay_of_sync hsy hs hq hq'
  exact ⟨s', sent, hs', hc, hd, (mirrorOK_vcore hc sv' _).2 (hok hm)⟩

def Good (sv : Server) : Prop := MK sv ∧ NS sv

theorem Good.marks {sv : Server} (h : Good sv) : MK sv := h.1
theorem Good.noSlash {sv : Server} (h : Good sv) : NS sv := h.2

structure SyncKept (I : Server → Prop) (sv sv' : Server) : Prop where
  sync : SyncAll sv sv'
  inv : I sv'

theorem SyncKept.refl {I : Server → Prop} {sv : Server} (hi : I sv) : SyncKept I sv sv := ⟨SyncAll.refl sv, hi⟩

theorem SyncKept.trans {I : Server → Prop} {x y z : Server} (h1 : SyncKept I x y) (h2 : SyncKept I y z) : SyncKept I x z :=
  ⟨h1.sync.trans h2.sync, h2.inv⟩

theorem SyncKept.for {I : Server → Prop} {sv sv' : Server} (h : SyncKept I sv sv') (sid : Nat) : SyncFor sid sv sv' ∧ I sv' :=
  ⟨h.sync.for sid, h.inv⟩

/-- the tree invariant of C13, the marking invariant and slash-free names; every step of the server keeps it and every reachable state
    has it (`CReach.inv`).  `MKT` (tree and marks, the invariant `mkt_reach` proves for `MReach`) is used up to there only; `Inv.mkt` is the one
    bridge back to its lemmas -/
def Inv (sv : Server) : Prop := TreeInv sv ∧ Good sv

theorem Inv.tree {sv : Server} (h : Inv sv) : TreeInv sv := h.1
theorem Inv.good {sv : Server} (h : Inv sv) : Good sv := h.2
theorem Inv.marks {sv : Server} (h : Inv sv) : MK sv := h.2.1
theorem Inv.noSlash {sv : Server} (h : Inv sv) : NS sv := h.2.2
theorem Inv.mkt {sv : Server} (h : Inv sv) : MKT sv := ⟨h.1, h.2.1⟩

theorem Inv.subsWF {sv : Server} (h : Inv sv) {sid : Nat} {s : Sess} (hs : sv.sess? sid = some s) : SubsWF s.subs :=
  h.marks.subsWF hs

theorem Inv.removeOne {sv : Server} (h : Inv sv) (by_ : Nat) (names : List Bytes) : Inv (removeOne sv by_ true names) :=
  ⟨treeInv_removeOne by_ true names h.tree, (h.mkt.removeOne by_ true names).marks, NS.of_data (removeOne_data (sid := 0) sv by_ true names List.nil_prefix) h.noSlash⟩

theorem Inv.pushAll {sv : Server} (h : Inv sv) : Inv (pushAll sv) :=
  ⟨treeInv_pushAll h.tree, h.marks.pushAll, NS.pushAll h.noSlash⟩

theorem Inv.detach {sv : Server} (h : Inv sv) (t : Nat) : Inv (detach sv t) :=
  have := MKT.detach (sv := sv) h.mkt t
  ⟨this.1, this.2, NS.detach t h.noSlash⟩

theorem Inv.runCmd {sv : Server} (h : Inv sv) (a : Nat) (c : Cmd) (hc : CmdOK c) : Inv (runCmd sv a c) := by
  have := MKT.runCmd h.mkt a c hc
  exact ⟨this.1, this.2, NS.runCmd h.noSlash a c⟩

theorem Inv.attach {sv : Server} (h : Inv sv) (slot : Nat) (host : Bytes) (hh : cSlash ∉ host) : Inv (attach sv slot host).1 :=
  ⟨treeInv_attach slot host h.tree, h.marks.attach slot host, NS.attach slot host hh h.noSlash⟩

theorem CReach.inv {sv : Server} (h : CReach sv) : Inv sv :=
  ⟨h.mreach.tree, h.mreach.marks, h.ns⟩

end Muscle.Reflector
