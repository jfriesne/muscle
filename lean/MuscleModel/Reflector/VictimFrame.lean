import MuscleModel.Reflector.CommandFrame

/-!
# The victim's view: histories of commands of ANY other sessions

`untouched_of_onlyOwn`: two different paths of length 2 are not both prefixes of one path, so a node below the victim's subtree `ownO`
is not below the sender's `own`, where `OnlyOwn` speaks; and `strip sid` determines `stripV o` for `o ≠ sid` (the victim's own count is
not the sender's entry).
-/


namespace Muscle.Reflector
open Muscle

/-- everything about a node that concerns session `o`: name, payload, index, counter, the names of the children
    in order, and `o`'s own reference count on it -/
structure VNode where
  name : Bytes
  data : Option Nat
  index : List Bytes
  ctr : Nat
  kidNames : List Bytes
  mark : Nat

def stripV (o : Nat) (n : Node) : VNode :=
  { name := n.name, data := n.data, index := n.index, ctr := n.ctr, kidNames := n.kids.map Node.name,
    mark := subCount n.subs o }

theorem stripV_of_strip {sid o : Nat} (h : o ≠ sid) {n n' : Node} (hs : strip sid n' = strip sid n) :
    stripV o n' = stripV o n := by
  have h1 : n'.name = n.name := congrArg Stripped.name hs
  have h2 : n'.data = n.data := congrArg Stripped.data hs
  have h3 : n'.index = n.index := congrArg Stripped.index hs
  have h4 : n'.ctr = n.ctr := congrArg Stripped.ctr hs
  have h5 : n'.kids.map Node.name = n.kids.map Node.name := congrArg Stripped.kidNames hs
  have h6 := subCount_of_strip h hs
  simp only [stripV, h1, h2, h3, h4, h5, h6]

/-- what the victim's session keeps: identity always, everything but the notification state when it is `o` -/
def VictimKept (o : Nat) (t t' : Sess) : Prop :=
  t'.sid = t.sid ∧ t'.host = t.host ∧ t'.slot = t.slot ∧ (t.sid = o → t'.core = t.core)

theorem VictimKept.refl (o : Nat) (t : Sess) : VictimKept o t t := ⟨rfl, rfl, rfl, fun _ => rfl⟩

theorem VictimKept.sid {o : Nat} {t t' : Sess} (h : VictimKept o t t') : t'.sid = t.sid := h.1
theorem VictimKept.host {o : Nat} {t t' : Sess} (h : VictimKept o t t') : t'.host = t.host := h.2.1
theorem VictimKept.slot {o : Nat} {t t' : Sess} (h : VictimKept o t t') : t'.slot = t.slot := h.2.2.1
theorem VictimKept.core {o : Nat} {t t' : Sess} (h : VictimKept o t t') : t.sid = o → t'.core = t.core := h.2.2.2

theorem VictimKept.trans {o : Nat} {a b c : Sess} (h1 : VictimKept o a b) (h2 : VictimKept o b c) : VictimKept o a c :=
  ⟨h2.sid.trans h1.sid, h2.host.trans h1.host, h2.slot.trans h1.slot,
   fun ho => (h2.core (by rw [h1.sid]; exact ho)).trans (h1.core ho)⟩

theorem SessFrame.victim {sid o : Nat} (h : o ≠ sid) {t t' : Sess} (hf : SessFrame sid t t') : VictimKept o t t' :=
  ⟨hf.sid, hf.host, hf.slot, fun ho => hf.core (by rw [ho]; exact h)⟩

/-- session `o`, owner of the subtree below `ownO`, is untouched -/
structure Untouched (o : Nat) (ownO : List Bytes) (sv sv' : Server) : Prop where
  tree : ∀ names, ownO <+: names → (getNode sv' names).map (stripV o) = (getNode sv names).map (stripV o)
  sessions : SessAll₂ (VictimKept o) sv.sessions sv'.sessions

theorem Untouched.refl (o : Nat) (ownO : List Bytes) (sv : Server) : Untouched o ownO sv sv :=
  ⟨fun _ _ => rfl, SessAll₂.refl (VictimKept.refl o) _⟩

theorem Untouched.trans {o : Nat} {ownO : List Bytes} {a b c : Server}
    (h1 : Untouched o ownO a b) (h2 : Untouched o ownO b c) : Untouched o ownO a c :=
  ⟨fun names hn => (h2.tree names hn).trans (h1.tree names hn),
   SessAll₂.trans (R := VictimKept o) (fun _ _ _ => VictimKept.trans) _ _ _ h1.sessions h2.sessions⟩

theorem map_stripV_of_strip {sid o : Nat} (h : o ≠ sid) {x y : Option Node}
    (hs : x.map (strip sid) = y.map (strip sid)) : x.map (stripV o) = y.map (stripV o) := by
  cases x <;> cases y <;> simp only [Option.map_some, Option.map_none, Option.some.injEq, reduceCtorEq] at hs ⊢
  exact stripV_of_strip h hs

theorem untouched_of_onlyOwn {sid o : Nat} {own ownO : List Bytes} {sv sv' : Server} (h : o ≠ sid)
    (hl : own.length = ownO.length) (hne : ownO ≠ own) (H : OnlyOwn sid own sv sv') : Untouched o ownO sv sv' :=
  ⟨fun names hn => map_stripV_of_strip h (H.tree names (not_prefix_of_other hl hne hn)),
   SessAll₂.mono (fun _ _ => SessFrame.victim h) _ _ H.sessions⟩

/-- the session found under `b` after a history was there before, under the same names -/
theorem Untouched.sess_back {o : Nat} {ownO : List Bytes} {sv sv' : Server} (h : Untouched o ownO sv sv') {b : Nat} {t' : Sess}
    (ht : sv'.sess? b = some t') : ∃ t, sv.sess? b = some t ∧ sessNames t = sessNames t' := by
  obtain ⟨t, h1, h2⟩ := SessAll₂.find (R := fun a b => VictimKept o b a) (fun _ _ h => h.sid.symm) b _ _
    (SessAll₂.flip _ _ h.sessions) t' ht
  exact ⟨t, h1, by simp only [sessNames, h2.sid, h2.host]⟩

end Muscle.Reflector

namespace Muscle.Eng.SrvEngine
open Muscle Muscle.Eng Muscle.Reflector

/-- commands of arbitrary sessions, each followed by the push of pending update Messages -/
def runAll (sv : Server) (hist : List (Nat × Cmd)) : Server :=
  hist.foldl (fun sv p => pushAll (runCmd sv p.1 p.2)) sv

theorem step_untouched (sv : Server) (o : Nat) (ownO : List Bytes) (hlen : ownO.length = 2) (sid : Nat) (c : Cmd)
    (hsid : sid ≠ o) (hown : ∀ t, sv.sess? sid = some t → sessNames t ≠ ownO) :
    Untouched o ownO sv (pushAll (runCmd sv sid c)) := by
  cases hs : sv.sess? sid with
  | none =>
    rw [runCmd_absent sv sid hs c]
    exact ⟨fun names _ => by rw [getNode_congr (pushAll_root _)],
      SessAll₂.mono (fun _ _ => SessFrame.victim (fun e => hsid e.symm)) _ _ ((pushAll_notifyOnly sv).onlyOwn sid []).sessions⟩
  | some t =>
    exact untouched_of_onlyOwn (fun e => hsid e.symm) (by rw [hlen]; rfl) (fun e => hown t hs e.symm)
      ((runCmd_own sv sid t hs c).trans ((pushAll_notifyOnly _).onlyOwn _ _))

theorem runAll_untouched (o : Nat) (ownO : List Bytes) (hlen : ownO.length = 2) (hist : List (Nat × Cmd)) (sv : Server)
    (hsend : ∀ p ∈ hist, p.1 ≠ o ∧ ∀ t, sv.sess? p.1 = some t → sessNames t ≠ ownO) :
    Untouched o ownO sv (runAll sv hist) :=
  (foldl_rel_inv (R := Untouched o ownO) (I := Untouched o ownO sv) (Untouched.refl o ownO) Untouched.trans _ hist
    (fun x p hp hx => by
      -- the sender of `p` is, in `x`, the session it was in `sv`
      have h1 := step_untouched x o ownO hlen p.1 p.2 (hsend p hp).1 (fun t ht => by
        obtain ⟨t0, h0, e⟩ := hx.sess_back ht
        rw [← e]; exact (hsend p hp).2 t0 h0)
      exact ⟨h1, hx.trans h1⟩) sv (Untouched.refl o ownO sv)).1

end Muscle.Eng.SrvEngine
