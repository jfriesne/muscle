import MuscleModel.Reflector.MarksReach
import MuscleModel.Reflector.MirrorSpec

/-!
# One notified node change on the server keeps a subscriber's mirror right (C04)

`Sync sid s sv sv' m evs`: session `sid` (record `s` in `sv`) receives through its pipe exactly the events `evs`
(`PipeStep`) and a mirror that was right for `sv` is right for `sv'` after applying them.  `replay_of_sync` turns a
`Sync` between two quiescent points into the shape of `converges`.  Two independent lines of modules meet here: the marks (`MK`, MarksReach)
say who is notified, the pipe and the specification (`PipeStep`, PipeTwin; `MirrorOK`, MirrorSpec) what the notification does.
-/


namespace Muscle.Reflector
open Muscle

theorem sidName_inj {a b : Nat} (h : sidName a = sidName b) : a = b := by
  unfold sidName at h
  rw [decOf_eq_decB, decOf_eq_decB] at h
  exact decB_inj h

theorem mirrorOK_of_root {a b : Server} (h : b.root = a.root) {s : Sess} {m : Mirror} (hm : MirrorOK a s m) :
    MirrorOK b s m := by
  intro p d
  rw [matches_congr (a := a) (b := b) (fun w => by rw [getNode_congr h]) s p d]
  exact hm p d

def Sync (sid : Nat) (s : Sess) (sv sv' : Server) (m : Mirror) (evs : List Ev) : Prop :=
  PipeStep sid sv sv' evs ∧ (MirrorOK sv s m → MirrorOK sv' s (evs.foldl applyEv m))

theorem Sync.pipe {sid : Nat} {s : Sess} {sv sv' : Server} {m : Mirror} {evs : List Ev} (h : Sync sid s sv sv' m evs) :
    PipeStep sid sv sv' evs := h.1

theorem Sync.mirror {sid : Nat} {s : Sess} {sv sv' : Server} {m : Mirror} {evs : List Ev} (h : Sync sid s sv sv' m evs) :
    MirrorOK sv s m → MirrorOK sv' s (evs.foldl applyEv m) := h.2

theorem marked_eq_matches {sv : Server} (h : MK sv) {v : List Bytes} {n : Node} (hv : v ≠ []) (hn : getNode sv v = some n)
    {sid : Nat} {s : Sess} (hs : sv.sess? sid = some s) :
    n.subs.any (fun p => p.1 = sid) = decide (0 < pmMatchCount s.subs v) := by
  obtain ⟨h1, h2⟩ := h.counts v n hv hn
  have hc : subCount n.subs sid = pmMatchCount s.subs v := by
    rw [h1, expCount_self (sessKeys_find hs)]
  rw [← hc]
  cases ha : n.subs.any (fun p => p.1 = sid) with
  | false =>
    have : subCount n.subs sid = 0 := by
      apply subCount_not_any
      rw [← ha]
    simp [this]
  | true =>
    rw [List.any_eq_true] at ha
    obtain ⟨⟨k, c⟩, hm, hk⟩ := ha
    simp only [decide_eq_true_eq] at hk
    subst hk
    have hpos := h2.pos (k, c) hm
    rw [subCount_of_mem h2.nodup hm]
    simp [hpos]

theorem evsFor_notify {sv : Server} (h : MK sv) {v : List Bytes} {n : Node} (hv : v ≠ []) (hn : getNode sv v = some n)
    {sid : Nat} {s : Sess} (hs : sv.sess? sid = some s) (by_ : Nat) (od : Option (Option Nat)) (removed : Bool) :
    evsFor sid (changeEvents sv by_ v n od removed) =
      if 0 < pmMatchCount s.subs v ∧ (sid ≠ by_ ∨ bySelfOf sv by_ = true) then
        (changeEv s v n.data od removed).toList else [] := by
  rw [evsFor_changeEvents sv by_ v n od removed sid (h.counts v n hv hn).2.nodup, marked_eq_matches h hv hn hs, sessEv_of_sess? hs]
  exact ite_congr (by simp) (fun _ => rfl) (fun _ => rfl)

theorem Unamb.of_oneChange {sv sv' : Server} {v : List Bytes} (hc : OneChange sv sv' v) (hu : Unamb sv v) : Unamb sv' v := by
  intro w hw hsome
  by_cases hwv : w = v
  · exact hwv
  · apply hu w hw
    rw [← Option.isSome_map (f := Node.data), ← hc w hwv, Option.isSome_map]; exact hsome

theorem OneChange.symm {sv sv' : Server} {v : List Bytes} (hc : OneChange sv sv' v) : OneChange sv' sv v :=
  fun w hw => (hc w hw).symm

/-- The mirror half of every notified change.  The tree changes at `v` only, from payload `od` (`none`: no node) to the payload
    of `n` or to no node (`removed`), and `n` is what `NotifySubscribersThatNodeChanged` is called with on `svn`: the event
    handed to `s`, if any, turns the right entry for the old node into the right entry for the new one; a session without an
    entry on the node, or the caller itself without reflect-to-self, gets nothing and wants nothing.  `hcaller` is what
    `caller_visible` proves for a change inside the caller's own subtree.  The third server `svn` is the state the notification runs on:
    a set or a creation notifies after the write (`svn` has the tree of `sv'`), a removal before it (`svn = sv`). -/
theorem mirror_notified {sv svn sv' : Server} (hk : MK svn) {v : List Bytes} (hv : v ≠ []) {n : Node}
    (hn : getNode svn v = some n) {sid : Nat} {s : Sess} (hs : svn.sess? sid = some s) (hen : s.subsEnabled = true) (by_ : Nat)
    (hcaller : (sid ≠ by_ ∨ bySelfOf svn by_ = true) ↔ visible s v = true)
    (hc : OneChange sv sv' v) (hu : Unamb sv v) (od : Option (Option Nat)) (removed : Bool) {m : Mirror}
    (hold : (getNode sv v).map Node.data = od)
    (hnew : (getNode sv' v).map Node.data = if removed then none else some n.data)
    (hm : MirrorOK sv s m) :
    MirrorOK sv' s ((evsFor sid (changeEvents svn by_ v n od removed)).foldl applyEv m) := by
  have hu' := hu.of_oneChange hc
  rw [evsFor_notify hk hv hn hs]
  split
  · rename_i hcond
    rw [applyOpt_toList]
    refine mirror_step hv hc hu hu' _ (fun hmv => ?_) (fun q hq => changeEv_other s v _ _ _ m q hq) hm
    rw [hnew]
    exact expected_change hen (hcaller.1 hcond.2) m od n.data removed (fun _ => hcond.1) (hold ▸ hmv)
  · rename_i hcond
    apply mirror_step_silent hv hc hu hu' _ hm
    by_cases hpos : 0 < pmMatchCount s.subs v
    · have hvis : visible s v = false := by
        cases hvv : visible s v with
        | false => rfl
        | true => exact absurd ⟨hpos, hcaller.2 hvv⟩ hcond
      rw [expected_invisible hvis, expected_invisible hvis]
    · have h0 : pmMatchCount s.subs v = 0 := by omega
      rw [expected_nomatch h0, expected_nomatch h0]

theorem sync_notify {sv sv1 : Server} (hk : MK sv1) (hsess : sv1.sessions = sv.sessions) {v : List Bytes} (hv : v ≠ [])
    (hc : OneChange sv sv1 v) (hu : Unamb sv v) {n1 : Node} (hn1 : getNode sv1 v = some n1)
    {sid : Nat} {s : Sess} (hs : sv.sess? sid = some s) (hen : s.subsEnabled = true) (by_ : Nat)
    (hcaller : (sid ≠ by_ ∨ bySelfOf sv1 by_ = true) ↔ visible s v = true)
    (od : Option (Option Nat)) (hold : (getNode sv v).map Node.data = od) (m : Mirror) :
    Sync sid s sv (notifyChanged sv1 by_ v n1 od false) m (evsFor sid (changeEvents sv1 by_ v n1 od false)) := by
  refine ⟨?_, fun hm => ?_⟩
  · have := (pipeStep_sessions (sid := sid) hsess).trans (pipeStep_notifyChanged sid sv1 by_ v n1 od false)
    simpa using this
  · apply mirrorOK_of_root (a := sv1) (by simp)
    exact mirror_notified hk hv hn1 ((sess?_of_sessions hsess sid).trans hs) hen by_ hcaller hc hu od false hold
      (by rw [hn1]; rfl) hm

/-- overwrite: `SetData(d)` on the existing node `n0` at `v`, then the notification with the old payload -/
theorem sync_overwrite {sv : Server} (hk : MK sv) {v : List Bytes} (hv : v ≠ []) {n0 : Node}
    (hn0 : getNode sv v = some n0) (d : Option Nat) (hu : Unamb sv v)
    {sid : Nat} {s : Sess} (hs : sv.sess? sid = some s) (hen : s.subsEnabled = true) (by_ : Nat)
    (hcaller : (sid ≠ by_ ∨ bySelfOf sv by_ = true) ↔ visible s v = true) (m : Mirror) :
    Sync sid s sv
      (notifyChanged (setNode sv v (fun n => n.setData d)) by_ v (n0.setData d) (some n0.data) false) m
      (evsFor sid (changeEvents (setNode sv v (fun n => n.setData d)) by_ v (n0.setData d) (some n0.data) false)) := by
  have hk1 : MK (setNode sv v (fun n => n.setData d)) := hk.setField v _ (fun _ => rfl) (fun _ => rfl) (fun _ => rfl)
  have hn1 : getNode (setNode sv v (fun n => n.setData d)) v = some (n0.setData d) := by
    rw [getNode_setNode (by intro _; rfl), hn0]; rfl
  have hc : OneChange sv (setNode sv v (fun n => n.setData d)) v := fun w hw =>
    getNode_setField_data (f := fun n => n.setData d) (fun _ => rfl) (fun _ => rfl) sv v w hw
  exact sync_notify (sv := sv) hk1 rfl hv hc hu hn1 hs hen by_ hcaller (some n0.data) (by rw [hn0]; rfl) m

/-- creation of a leaf: `PutChild` (absent name, parent within `getNode`'s depth bound), then the notification with a NULL old payload -/
theorem sync_create {sv : Server} (hk : MK sv) (parent : List Bytes) (child : Node) (hleaf : child.kids = [])
    {p : Node} (hp : getNode sv parent = some p) (hkid : findKid child.name p.kids = none)
    (hlen : parent.length < fuelDepth)
    (hu1 : Unamb (setNode sv parent (fun q => q.setKids (putKid (child.setSubs (marksForNewNode sv (parent ++ [child.name])))
      q.kids))) (parent ++ [child.name]))
    {sid : Nat} {s : Sess} (hs : sv.sess? sid = some s) (hen : s.subsEnabled = true) (by_ : Nat)
    (hcaller : (sid ≠ by_ ∨ bySelfOf sv by_ = true) ↔ visible s (parent ++ [child.name]) = true) (m : Mirror) :
    Sync sid s sv
      (notifyChanged (setNode sv parent (fun q => q.setKids (putKid
        (child.setSubs (marksForNewNode sv (parent ++ [child.name]))) q.kids))) by_ (parent ++ [child.name])
        (child.setSubs (marksForNewNode sv (parent ++ [child.name]))) none false) m
      (evsFor sid (changeEvents (setNode sv parent (fun q => q.setKids (putKid
        (child.setSubs (marksForNewNode sv (parent ++ [child.name]))) q.kids))) by_ (parent ++ [child.name])
        (child.setSubs (marksForNewNode sv (parent ++ [child.name]))) none false)) := by
  have hk1 := hk.putChild by_ parent child false hleaf
  rw [putChild_quiet] at hk1
  generalize hch : child.setSubs (marksForNewNode sv (parent ++ [child.name])) = ch at hu1 hk1 ⊢
  have hchn : ch.name = child.name := by rw [← hch]; rfl
  have hchk : ch.kids = [] := by rw [← hch]; exact hleaf
  rw [← hchn] at hkid hu1 hcaller ⊢
  have hn1 := getNode_putKid_at sv parent ch hp hlen
  have hc : OneChange sv (setNode sv parent (fun q => q.setKids (putKid ch q.kids))) (parent ++ [ch.name]) :=
    fun w hw => getNode_putKid_data sv parent ch hchk hp hkid w hw
  exact sync_notify (sv := sv) hk1 rfl (by simp) hc (hu1.of_oneChange hc.symm) hn1 hs hen by_ hcaller none
    (by rw [getNode_child_none sv parent ch.name hp hkid]; rfl) m

theorem setDataClauses_create (a : Nat) (d : Option Nat) {sv : Server} {cur : List Bytes} {node : Node} {cl : Bytes}
    (hp : getNode sv cur = some node) (hk : findKid cl node.kids = none) (hlen : cur.length < fuelDepth) :
    setDataClauses a d false sv cur [cl] = createStep sv a cur cl d := by
  have hg : getNode (setNode sv cur (fun q => q.setKids (putKid ((Node.fresh cl d).setSubs
      (marksForNewNode sv (cur ++ [cl]))) q.kids))) (cur ++ [cl]) = some _ :=
    getNode_putKid_at sv cur ((Node.fresh cl d).setSubs (marksForNewNode sv (cur ++ [cl]))) hp hlen
  simp [setDataClauses, hp, hk, createStep, putChild_quiet, hg]

theorem ownerName_extend {own v : List Bytes} {x : Bytes} (ho : ownerName own = some x) (hpre : own <+: v) :
    ownerName v = some x := by
  obtain ⟨w, rfl⟩ := hpre
  unfold ownerName at ho ⊢
  rw [List.getElem?_append_left (by
    have := (List.getElem?_eq_some_iff.1 ho).1; exact this)]
  exact ho

theorem ownerName_sessNames {sv : Server} {a : Nat} {sa : Sess} (hsa : sv.sess? a = some sa) :
    ownerName (sessNames sa) = some (sidName a) := by
  have hsaid : sa.sid = a := sid_of_sess? hsa
  simp [ownerName, sessNames, hsaid]

theorem caller_visible_owner {sv : Server} {a sid : Nat} {s : Sess} (hs : sv.sess? sid = some s) {v : List Bytes}
    (hv : ownerName v = some (sidName a)) : (sid ≠ a ∨ bySelfOf sv a = true) ↔ visible s v = true := by
  have hsid : s.sid = sid := sid_of_sess? hs
  unfold visible
  rw [hv]
  by_cases he : sid = a
  · subst he
    simp [bySelfOf, hs, hsid]
  · have : sidName a ≠ sidName s.sid := by
      intro e; rw [hsid] at e; exact he (sidName_inj e).symm
    simp [he, this]

theorem caller_visible {sv : Server} {a sid : Nat} {sa s : Sess} (hsa : sv.sess? a = some sa)
    (hs : sv.sess? sid = some s) (w : List Bytes) :
    (sid ≠ a ∨ bySelfOf sv a = true) ↔ visible s (sessNames sa ++ w) = true :=
  caller_visible_owner hs (ownerName_extend (ownerName_sessNames hsa) (List.prefix_append _ _))

/-- removal of the node `c` at `parent ++ [key]`, which has no descendants: removed-notification, then the node leaves
    the tree -/
theorem sync_removeRest {sv : Server} (hti : TreeInv sv) (hk : MK sv) (parent : List Bytes) (key : Bytes) {c : Node}
    (hc : getNode sv (parent ++ [key]) = some c) (hnd : NoDesc sv (parent ++ [key])) (hu : Unamb sv (parent ++ [key]))
    {sid : Nat} {s : Sess} (hs : sv.sess? sid = some s) (hen : s.subsEnabled = true) (by_ : Nat)
    (hcaller : (sid ≠ by_ ∨ bySelfOf sv by_ = true) ↔ visible s (parent ++ [key]) = true) (m : Mirror) :
    Sync sid s sv (removeOneRest sv by_ true parent key) m
      (evsFor sid (changeEvents sv by_ (parent ++ [key]) c (some c.data) true)) := by
  unfold removeOneRest removeOneMid
  rw [hc]
  simp only [if_true]
  generalize hmid : notifyChanged sv by_ (parent ++ [key]) c (some c.data) true = mid
  have hmr : mid.root = sv.root := by rw [← hmid]; simp
  have hmt : TreeInv mid := treeInv_of_root hmr hti
  refine ⟨?_, fun hm => ?_⟩
  · have h1 := pipeStep_notifyChanged sid sv by_ (parent ++ [key]) c (some c.data) true
    rw [hmid] at h1
    have := h1.trans (pipeStep_sessions (sid := sid)
      (sv' := setNode mid parent (fun q => q.setKids (removeKid key q.kids))) rfl)
    simpa using this
  · have hcdata : OneChange sv (setNode mid parent (fun q => q.setKids (removeKid key q.kids))) (parent ++ [key]) := by
      intro w hw
      rw [getNode_removeKid_data hmt parent key (fun ext he => by rw [getNode_congr hmr]; exact hnd ext he) w hw,
        getNode_congr hmr]
    exact mirror_notified hk (by simp) hc hs hen by_ hcaller hcdata hu (some c.data) true (by rw [hc]; rfl)
      (by rw [getNode_removeKid_gone hmt parent key]; rfl) hm

theorem Sync.trans {sid : Nat} {s : Sess} {a b c : Server} {m : Mirror} {e1 e2 : List Ev}
    (h1 : Sync sid s a b m e1) (h2 : Sync sid s b c (e1.foldl applyEv m) e2) : Sync sid s a c m (e1 ++ e2) :=
  ⟨h1.pipe.trans h2.pipe, fun hm => by rw [List.foldl_append]; exact h2.mirror (h1.mirror hm)⟩

theorem Sync.refl (sid : Nat) (s : Sess) (a : Server) (m : Mirror) : Sync sid s a a m [] :=
  ⟨PipeStep.refl sid a, fun hm => hm⟩

/-- Between two quiescent points: what was appended to the data lines of the inbox is the text of structured Messages
    `sent`, and the client that applies them in order (removals first, then sets, per Message) holds the right mirror. -/
theorem replay_of_sync {sid : Nat} {s : Sess} {sv sv' : Server} {m : Mirror} {evs : List Ev}
    (h : Sync sid s sv sv' m evs) (hs : sv.sess? sid = some s) (hq : pend s = {})
    (hq' : ∀ s', sv'.sess? sid = some s' → pend s' = {}) :
    ∃ s' sent, sv'.sess? sid = some s' ∧ s'.vcore = s.vcore ∧ dataLines s' = dataLines s ++ sent.map dataText ∧
      applyMsgs m sent = evs.foldl applyEv m ∧ (MirrorOK sv s m → MirrorOK sv' s (applyMsgs m sent)) := by
  obtain ⟨s', sent, hs', hc, hd, hview⟩ := h.pipe s hs
  have hv := hview m
  rw [hq' s' hs', hq, applyMsg_empty, applyMsg_empty] at hv
  exact ⟨s', sent, hs', hc, hd, hv, fun hm => by rw [hv]; exact h.mirror hm⟩

theorem pend_after_pushAll {sv : Server} (hd : sv.subsDirty = true) {sid : Nat} {s' : Sess}
    (hs' : (pushAll sv).sess? sid = some s') : pend s' = {} := by
  rw [sess?_pushAll_dirty sv hd] at hs'
  obtain ⟨x, _, rfl⟩ := Option.map_eq_some_iff.1 hs'
  simp [pend, pushSess_nextData]

end Muscle.Reflector
