import MuscleModel.Reflector.IndexSpec
import MuscleModel.Base.Lists

/-!
# C13 list algebra: `lastIndexOf`, `eraseIdx`, `insertAt`, and the client's `apply`
-/

namespace Muscle.Reflector
open Muscle

theorem lastIndexOf_go_spec (k : Bytes) (xs : List Bytes) (i : Nat) (acc : Option Nat) :
    (lastIndexOf.go k xs i acc = acc ∧ k ∉ xs) ∨
    (∃ j, lastIndexOf.go k xs i acc = some (i + j) ∧ xs[j]? = some k ∧ ∀ m, j < m → xs[m]? ≠ some k) := by
  induction xs generalizing i acc with
  | nil => exact .inl ⟨rfl, List.not_mem_nil⟩
  | cons x r ih =>
    rw [lastIndexOf.go]
    rcases ih (i + 1) (if x = k then some i else acc) with ⟨h1, h2⟩ | ⟨j, h1, h2, h3⟩
    · by_cases hx : x = k
      · refine .inr ⟨0, by rw [h1, if_pos hx]; rfl, by rw [hx]; rfl, fun m hm hc => ?_⟩
        obtain ⟨m, rfl⟩ := Nat.exists_eq_succ_of_ne_zero (Nat.ne_of_gt hm)
        exact h2 (List.mem_of_getElem? hc)
      · exact .inl ⟨by rw [h1, if_neg hx], fun hm => (List.mem_cons.mp hm).elim (fun e => hx e.symm) h2⟩
    · refine .inr ⟨j + 1, by rw [h1, Nat.add_right_comm, Nat.add_assoc], h2, fun m hm => ?_⟩
      obtain ⟨m, rfl⟩ := Nat.exists_eq_succ_of_ne_zero (Nat.ne_of_gt (Nat.zero_lt_of_lt hm))
      exact h3 m (Nat.lt_of_succ_lt_succ hm)

theorem lastIndexOf_spec (xs : List Bytes) (k : Bytes) :
    (lastIndexOf xs k = none ∧ k ∉ xs) ∨
    (∃ j, lastIndexOf xs k = some j ∧ xs[j]? = some k ∧ ∀ m, j < m → xs[m]? ≠ some k) := by
  rcases lastIndexOf_go_spec k xs 0 none with h | ⟨j, h1, h2, h3⟩
  · exact .inl h
  · exact .inr ⟨j, by simpa [lastIndexOf] using h1, h2, h3⟩

theorem lastIndexOf_some_spec {xs : List Bytes} {k : Bytes} {i : Nat} (h : lastIndexOf xs k = some i) :
    xs[i]? = some k ∧ ∀ m, i < m → xs[m]? ≠ some k := by
  rcases lastIndexOf_spec xs k with ⟨h1, _⟩ | ⟨j, h1, h2⟩
  · rw [h1] at h; cases h
  · rw [h1] at h; cases h; exact h2

theorem lastIndexOf_some {xs : List Bytes} {k : Bytes} {i : Nat} (h : lastIndexOf xs k = some i) :
    xs[i]? = some k :=
  (lastIndexOf_some_spec h).1

theorem lastIndexOf_some_lt {xs : List Bytes} {k : Bytes} {i : Nat} (h : lastIndexOf xs k = some i) :
    i < xs.length :=
  (List.getElem?_eq_some_iff.mp (lastIndexOf_some h)).1

theorem lastIndexOf_some_last {xs : List Bytes} {k : Bytes} {i : Nat} (h : lastIndexOf xs k = some i) :
    ∀ m, i < m → xs[m]? ≠ some k :=
  (lastIndexOf_some_spec h).2

theorem lastIndexOf_of_mem {xs : List Bytes} {k : Bytes} (h : k ∈ xs) : ∃ i, lastIndexOf xs k = some i := by
  rcases lastIndexOf_spec xs k with ⟨_, h2⟩ | ⟨j, h1, _⟩
  · exact absurd h h2
  · exact ⟨j, h1⟩

theorem lastIndexOf_none {xs : List Bytes} {k : Bytes} (h : lastIndexOf xs k = none) : k ∉ xs := fun hm => by
  obtain ⟨i, hi⟩ := lastIndexOf_of_mem hm
  rw [hi] at h; cases h

theorem insertPos_le (ix : List Bytes) (before : Bytes) : insertPos ix before ≤ ix.length := by
  unfold insertPos
  split
  · rename_i i h; exact Nat.le_of_lt (lastIndexOf_some_lt h)
  · exact Nat.le_refl _

theorem eraseLast_sublist (ix : List Bytes) (key : Bytes) : (eraseLast ix key).Sublist ix := by
  unfold eraseLast
  split
  · exact List.eraseIdx_sublist _ _
  · exact List.Sublist.refl _

theorem not_mem_eraseLast {ix : List Bytes} (key : Bytes) (h : ix.Nodup) : key ∉ eraseLast ix key := by
  unfold eraseLast
  split
  · rename_i i hi; exact not_mem_eraseIdx_of_nodup h (lastIndexOf_some hi)
  · rename_i hi; exact lastIndexOf_none hi

theorem eraseLast_length_le (ix : List Bytes) (key : Bytes) : (eraseLast ix key).length ≤ ix.length :=
  (eraseLast_sublist ix key).length_le

theorem insertAt_perm (xs : List Bytes) (i : Nat) (x : Bytes) : (insertAt xs i x).Perm (x :: xs) := by
  unfold insertAt
  rw [List.append_assoc, List.singleton_append]
  exact List.perm_middle.trans (by rw [List.take_append_drop])

theorem mem_insertAt {xs : List Bytes} {i : Nat} {x y : Bytes} : y ∈ insertAt xs i x ↔ y = x ∨ y ∈ xs := by
  rw [(insertAt_perm xs i x).mem_iff, List.mem_cons]

theorem nodup_insertAt {xs : List Bytes} (i : Nat) {x : Bytes} (h : xs.Nodup) (hx : x ∉ xs) :
    (insertAt xs i x).Nodup :=
  (insertAt_perm xs i x).nodup_iff.mpr (List.nodup_cons.mpr ⟨hx, h⟩)

theorem insertAt_length (xs : List Bytes) (i : Nat) (x : Bytes) : (insertAt xs i x).length = xs.length + 1 :=
  (insertAt_perm xs i x).length_eq

theorem insertAt_end (xs : List Bytes) (x : Bytes) : insertAt xs xs.length x = xs ++ [x] := by
  simp [insertAt]

theorem eraseLast_take_of_not_mem {D : List Bytes} {nm : Bytes} {w : Nat} (hw : w ≤ D.length)
    (hn : nm ∉ D.take w) : (eraseLast D nm).take w = D.take w ∧ w ≤ (eraseLast D nm).length := by
  unfold eraseLast
  cases hl : lastIndexOf D nm with
  | none => exact ⟨rfl, hw⟩
  | some k =>
    have hk := lastIndexOf_some hl
    have hklt := lastIndexOf_some_lt hl
    have hwk : w ≤ k := by
      apply Nat.le_of_not_lt
      intro hlt
      apply hn
      rw [List.mem_iff_getElem?]
      exact ⟨k, by rw [List.getElem?_take, if_pos hlt]; exact hk⟩
    simp only
    constructor
    · rw [List.eraseIdx_eq_take_drop_succ, List.take_append_of_le_length (by rw [List.length_take]; omega),
        List.take_take]
      congr 1
      omega
    · rw [List.length_eraseIdx_of_lt hklt]; omega

theorem insertAt_take_succ (D : List Bytes) (w : Nat) (nm : Bytes) (hw : w ≤ D.length) :
    (insertAt D w nm).take (w+1) = D.take w ++ [nm] := by
  unfold insertAt
  have hl : (D.take w ++ [nm]).length = w + 1 := by simp [List.length_take]; omega
  rw [List.take_append_of_le_length (by omega), List.take_of_length_le (by omega)]

theorem apply_ins_le {ix : List Bytes} {p : Nat} (nm : Bytes) (h : p ≤ ix.length) :
    (Instr.ins p nm).apply ix = some (insertAt ix p nm) := by
  simp [Instr.apply, h]

theorem applyAll_append (ix : List Bytes) (a b : List Instr) :
    applyAll ix (a ++ b) = (applyAll ix a).bind (fun ix' => applyAll ix' b) := by
  induction a generalizing ix with
  | nil => simp [applyAll]
  | cons i r ih =>
    simp only [List.cons_append, applyAll]
    cases i.apply ix with
    | none => rfl
    | some ix' => simp [ih]

theorem applyAll_remLog (ix : List Bytes) (key : Bytes) :
    applyAll ix (remLog ix key) = some (eraseLast ix key) := by
  unfold remLog eraseLast
  split
  · rename_i i hi
    simp [applyAll, Instr.apply, lastIndexOf_some hi]
  · simp [applyAll]

/-- strict replay succeeding IS the range property -/
theorem inRange_iff (ix : List Bytes) (l : List Instr) : InRange ix l ↔ (applyAll ix l).isSome := by
  induction l generalizing ix with
  | nil => simp [InRange, applyAll]
  | cons i r ih =>
    cases i with
    | clear => simp [InRange, applyAll, Instr.apply, ih]
    | ins p n =>
      by_cases hp : p ≤ ix.length <;> simp [InRange, applyAll, Instr.apply, hp, ih]
    | rem p n =>
      by_cases hp : ix[p]? = some n
      · simp only [InRange, applyAll, Instr.apply, hp, ite_true, Option.bind_some, (List.getElem?_eq_some_iff.mp hp).1,
          true_and, ih]
      · simp only [InRange, applyAll, Instr.apply, hp, ite_false, Option.bind_none, false_and, and_false,
          Option.isSome_none, Bool.false_eq_true]

theorem inRange_of_applyAll {ix : List Bytes} {l : List Instr} {ix' : List Bytes}
    (h : applyAll ix l = some ix') : InRange ix l :=
  (inRange_iff ix l).mpr (by rw [h]; rfl)

set_option linter.unusedVariables false in
/-- `ha` is implied by `hx` (`inRange_of_applyAll`) and plays no part in the proof. -/
theorem inRange_append (ix : List Bytes) (a b : List Instr) (ix' : List Bytes)
    (ha : InRange ix a) (hx : applyAll ix a = some ix') (hb : InRange ix' b) : InRange ix (a ++ b) := by
  rw [inRange_iff, applyAll_append, hx]
  exact (inRange_iff ix' b).mp hb

theorem applyAll_snapshot_aux (pre ix : List Bytes) :
    applyAll pre ((ix.zipIdx pre.length).map (fun (nm, i) => Instr.ins i nm)) = some (pre ++ ix) := by
  induction ix generalizing pre with
  | nil => simp [applyAll]
  | cons x r ih =>
    simp only [List.zipIdx_cons, List.map_cons, applyAll, Instr.apply, Nat.le_refl, if_true,
      Option.bind_some, insertAt_end]
    have := ih (pre ++ [x])
    simp only [List.length_append, List.length_singleton] at this
    rw [this]; simp

theorem applyAll_snapshot (any ix : List Bytes) :
    applyAll any (Instr.clear :: (ix.zipIdx.map (fun (nm, i) => Instr.ins i nm))) = some ix := by
  simp only [applyAll, Instr.apply, Option.bind_some]
  simpa using applyAll_snapshot_aux [] ix

end Muscle.Reflector
