import MuscleModel.Reflector.SyncFor

/-!
# The data commands of any session keep every subscriber in sync: SETDATA, `setm`, the index commands (C04)

`Chg.sync`: every sequence of notified changes (`Chg` from `Changes`, within the depth the model sees) is a `SyncAll` and keeps `Good`;
SETDATA with either flag value and INSERTORDEREDDATA are such sequences, REORDERDATA is quiet (`Chg.quiet`).
-/


namespace Muscle.Reflector
open Muscle Muscle.Eng.SrvEngine

theorem good_createStep {sv : Server} (h : Good sv) (a : Nat) (cur : List Bytes) (cl : Bytes) (dd : Option Nat)
    (hcl : cSlash ∉ cl) : Good (createStep sv a cur cl dd) := by
  unfold createStep
  constructor
  · apply MK.notifyChanged
    have := h.marks.putChild a cur (Node.fresh cl dd) false rfl
    rw [putChild_quiet] at this
    exact this
  · apply NS.notifyChanged
    exact NS.putKid cur _ (allNodes_leaf (c := (Node.fresh cl dd).setSubs _) hcl rfl) h.noSlash

theorem good_overStep {sv : Server} (h : Good sv) (a : Nat) (v : List Bytes) (n0 : Node) (d : Option Nat) :
    Good (overStep sv a v n0 d) := by
  unfold overStep
  constructor
  · apply MK.notifyChanged
    exact h.marks.setField v _ (fun _ => rfl) (fun _ => rfl) (fun _ => rfl)
  · apply NS.notifyChanged
    exact NS.setField v _ (fun _ => rfl) (fun _ => rfl) h.noSlash

theorem sync_createStep {sv : Server} (h : Good sv) (a : Nat) {cur : List Bytes} {node : Node}
    (hp : getNode sv cur = some node) (cl : Bytes) (hk : findKid cl node.kids = none) (hlen : cur.length < fuelDepth)
    (hcl : cSlash ∉ cl) (dd : Option Nat) {sid : Nat} {s : Sess} (hs : sv.sess? sid = some s) (hen : s.subsEnabled = true)
    (hcv : (sid ≠ a ∨ bySelfOf sv a = true) ↔ visible s (cur ++ [cl]) = true) (m : Mirror) :
    ∃ evs, Sync sid s sv (createStep sv a cur cl dd) m evs := by
  have hg1 := good_createStep h a cur cl dd hcl
  unfold createStep at hg1 ⊢
  have hns1 := hg1.2.of_root (notifyChanged_root ..).symm
  have hnames : ∀ x ∈ cur ++ [cl], cSlash ∉ x := by
    intro x hx
    rcases List.mem_append.1 hx with hx | hx
    · exact h.noSlash.names hp x hx
    · simp at hx; subst hx; exact hcl
  exact ⟨_, sync_create h.marks cur (Node.fresh cl dd) rfl hp hk hlen (hns1.unamb hnames) hs hen a hcv m⟩

theorem syncAll_createStep {sv : Server} (h : Good sv) {a : Nat} {own : List Bytes} (ho : ownerName own = some (sidName a))
    {cur : List Bytes} (hpre : own <+: cur) {node : Node} (hp : getNode sv cur = some node) (cl : Bytes)
    (hk : findKid cl node.kids = none) (hlen : cur.length < fuelDepth) (hcl : cSlash ∉ cl) (dd : Option Nat) :
    SyncAll sv (createStep sv a cur cl dd) :=
  fun _ _ hs hen m => sync_createStep h a hp cl hk hlen hcl dd hs hen
    (caller_visible_owner hs (ownerName_extend ho (hpre.trans (List.prefix_append _ _)))) m

theorem syncAll_overStep {sv : Server} (h : Good sv) {a : Nat} {own : List Bytes} (ho : ownerName own = some (sidName a))
    {v : List Bytes} (hpre : own <+: v) (hv : v ≠ []) {n0 : Node} (hn0 : getNode sv v = some n0) (d : Option Nat) :
    SyncAll sv (overStep sv a v n0 d) :=
  fun _ _ hs hen m => ⟨_, sync_overwrite h.marks hv hn0 d (h.noSlash.unamb (h.noSlash.names hn0)) hs hen a
    (caller_visible_owner hs (ownerName_extend ho hpre)) m⟩

/-- the depth the model sees: session-node depth 2 plus the clauses -/
def SetOK (path : Bytes) : Prop := 2 + (pathClauses path).length ≤ fuelDepth

/-- THE MIRROR THEOREM for data commands.  A sequence of notified changes of session `a` inside its own subtree, within the
    depth the model sees, keeps every enabled subscriber in sync and keeps `Good`. -/
theorem Chg.sync {a : Nat} {own : List Bytes} {s0 x : Server} (h : Chg (cSlash ∉ ·) (· ≤ fuelDepth) a own s0 x) (h0 : Good s0)
    (ho : ownerName own = some (sidName a)) : SyncKept Good s0 x := by
  have := h.rel_inv (R := SyncAll) (I := Good) SyncAll.refl SyncAll.trans (fun y m hp hi => ?_) h0
  · exact ⟨this.1, this.2⟩
  cases m with
  | field path f =>
    obtain ⟨_, hf, hdata⟩ := hp
    exact ⟨.of_quiet fun sid => quiet_setField sid y path f hf.name hf.kids hdata,
      hi.marks.setField path f hf.name hf.kids hf.subs, NS.setField path f hf.name hf.kids hi.noSlash⟩
  | notifyIndex names node instr =>
    exact ⟨.of_quiet fun sid => quiet_notifyIndex sid y names node instr, hi.1.of_notif (notifyIndex_notif ..), hi.2.notifyIndex ..⟩
  | indexing =>
    exact ⟨.of_quiet fun sid => quiet_updSess_flag sid a y, hi.marks.updSess_keep _ _ (fun _ => ⟨rfl, rfl⟩), hi.noSlash.updSess ..⟩
  | last cur cl d =>
    -- within the visible depth the clause is a `createStep` or an `overStep`
    obtain ⟨hpre, ⟨node, hp, hcl⟩, hlen⟩ := hp
    have hlen1 : cur.length < fuelDepth := Nat.lt_of_succ_le hlen
    show SyncAll y (Reflector.setDataClauses a d false y cur [cl]) ∧ Good (Reflector.setDataClauses a d false y cur [cl])
    cases hk : findKid cl node.kids with
    | none =>
      rw [setDataClauses_create a d hp hk hlen1]
      exact ⟨syncAll_createStep hi ho hpre hp cl hk hlen1 (hcl hk) d, good_createStep hi a cur cl d (hcl hk)⟩
    | some child =>
      have hc := getNode_child hp cl hk hlen1
      rw [setDataClauses_over a d hp hk hc]
      exact ⟨syncAll_overStep hi ho (hpre.trans (List.prefix_append _ _)) (by simp) hc d, good_overStep hi a _ child d⟩
  | create cur cl dd =>
    obtain ⟨hpre, ⟨node, hp, hk⟩, hlen, hcl⟩ := hp
    exact ⟨syncAll_createStep hi ho hpre hp cl hk (Nat.lt_of_succ_le hlen) hcl dd, good_createStep hi a cur cl dd hcl⟩

/-- PR_COMMAND_SETDATA with either flag value, any path within the depth bound -/
theorem syncKept_setDataNode {sv : Server} (h : Good sv) (a : Nat) (path : Bytes) (hok : SetOK path) (d : Option Nat)
    (ati : Bool) : SyncKept Good sv (setDataNode sv a path d ati) := by
  cases hsa : sv.sess? a with
  | none => simp only [setDataNode, hsa]; exact .refl h
  | some sa =>
    exact (Chg.refl.setDataNode noSlash_autoName hsa rfl path (noSlash_pathClauses path) (fun _ hk => Nat.le_trans hk hok) d ati).sync h
      (ownerName_sessNames hsa)

/-- `setm`: several payloads set one after the other without a push in between -/
theorem syncKept_setm {sv : Server} (h : Good sv) (a : Nat) (path : Bytes) (hok : SetOK path) (vs : List Nat) :
    SyncKept Good sv (vs.foldl (fun sv v => runCmd sv a (.set path v false)) sv) := by
  induction vs generalizing sv with
  | nil => exact .refl h
  | cons v r ih =>
    have k := syncKept_setDataNode h a path hok (some v) false
    exact k.trans (ih k.inv)

/-- the nodes the insert traversal visits lie above the depth the model sees -/
def InsDepthOK (sv : Server) (a : Nat) (key : Bytes) : Prop :=
  ∀ sa, sv.sess? a = some sa → ∀ v ∈ travSession sv sa (pmOfKeys [(key, none)] none) cbContinue, v.length < fuelDepth

theorem syncKept_insertOrdered {a : Nat} {sv : Server} (h : Good sv) (key before : Bytes) (vals : List Nat)
    (hd : InsDepthOK sv a key) : SyncKept Good sv (insertOrdered sv a key before vals) := by
  cases hsa : sv.sess? a with
  | none => simp only [insertOrdered, hsa]; exact .refl h
  | some sa =>
    exact (Chg.refl.insertOrdered noSlash_autoName hsa rfl key before vals (fun v hv => hd sa hsa v hv)).sync h (ownerName_sessNames hsa)

theorem quiet_reorder (sid a : Nat) (sv : Server) (key before : Bytes) :
    Quiet sid sv (Reflector.reorder sv a key before) := by
  cases hsa : sv.sess? a with
  | none => simp only [Reflector.reorder, reorderCore, hsa]; exact Quiet.refl sid sv
  | some sa => exact (Chg.refl.reorder (N := fun _ => True) hsa rfl key before).quiet sid

end Muscle.Reflector
