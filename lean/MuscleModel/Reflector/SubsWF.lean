import MuscleModel.Reflector.TravProofsCands

/-!
# The algebra of a session's `NodePathMatcher` (lemmas for C04)

`SubsWF pm`: group keys pairwise distinct, entry paths pairwise distinct inside a group, every entry's clause list is
the `/`-split of its path, sits in the group keyed by its clause count, has no empty clause and satisfies the
pattern-layer laws (`GoodPath`).  `pmPut` of a good path and `pmRemove` keep it.  `pmMatchCount` after `pmPut` (new
entry: +1 on the paths its clauses match; existing entry: unchanged) and after `pmRemove` (−1 on the paths the removed
entry's clauses match).
-/

namespace Muscle.Reflector
open Muscle

/-- a normalised subscription path the theorems accept: no empty clause (`pmPut` stores `a//b` under clause count 3, `pmFind` and
    `pmRemove` look it up under `pathDepth` = 2: the pattern side of finding F11, which the repair of `SetDataNode` does not touch) and the
    two pattern-layer laws of C05 for every clause -/
def GoodPath (p : Bytes) : Prop :=
  (∀ c ∈ splitSlash p, c ≠ []) ∧ (∀ c ∈ splitSlash p, UniqueLaw c ∧ UVListLaw c)

structure SubsWF (pm : PM) : Prop where
  keys : (pm.map (·.1)).Nodup
  paths : ∀ g ∈ pm, (g.2.map Entry.path).Nodup
  ent : ∀ g ∈ pm, ∀ e ∈ g.2, e.clauses = splitSlash e.path ∧ e.clauses.length = g.1 ∧ GoodPath e.path

theorem SubsWF.nil : SubsWF [] := ⟨by simp, by simp, by simp⟩

theorem SubsWF.pmWF {pm : PM} (h : SubsWF pm) : pmWF pm = true :=
  pmWF_iff.2 fun g hg e he => (h.ent g hg e he).2.1

theorem SubsWF.laws {pm : PM} (h : SubsWF pm) : ClauseLaws pm := by
  intro e he c hc
  simp only [allEntries, List.mem_flatMap] at he
  obtain ⟨g, hg, heg⟩ := he
  obtain ⟨h1, _, h3⟩ := h.ent g hg e heg
  rw [h1] at hc
  exact h3.2 c hc

theorem splitSlashAux_ne_nil (p cur : Bytes) : splitSlashAux p cur ≠ [] := by
  induction p generalizing cur with
  | nil => simp [splitSlashAux]
  | cons c r ih =>
    rw [splitSlashAux]
    split
    · simp
    · exact ih _

theorem mr_splitSlash_length_pos (p : Bytes) : 0 < (splitSlash p).length := by
  have := splitSlashAux_ne_nil p []
  unfold splitSlash
  exact List.length_pos_iff.2 this

theorem pathDepth_good {p : Bytes} (h : ∀ c ∈ splitSlash p, c ≠ []) : pathDepth p = (splitSlash p).length := by
  cases p with
  | nil => exact absurd rfl (h [] (by simp [splitSlash, splitSlashAux]))
  | cons c r =>
    by_cases hc : c = cSlash
    · exact absurd rfl (h [] (by simp [splitSlash, splitSlashAux, hc]))
    · simp only [pathDepth, hc, if_false]
      congr 1
      rw [List.filter_eq_self]
      intro x hx
      have := h x hx
      cases x with
      | nil => exact absurd rfl this
      | cons _ _ => rfl

theorem pmGroup_putGroup (d : Nat) (e : Entry) (pm : PM) (k : Nat) :
    pmGroup (pmPutGroup d e pm) k = if k = d then putEntry e (pmGroup pm d) else pmGroup pm k := by
  induction pm with
  | nil =>
    simp only [pmPutGroup, pmGroup]
    by_cases hk : k = d
    · subst hk; simp [putEntry]
    · have : ¬ d = k := fun e => hk e.symm
      simp [hk, this]
  | cons g r ih =>
    obtain ⟨k0, es⟩ := g
    rw [pmPutGroup]
    by_cases h0 : k0 = d
    · subst h0
      simp only [if_true, pmGroup]
      by_cases hk : k = k0
      · subst hk; simp
      · have : ¬ k0 = k := fun e => hk e.symm
        simp [hk, this]
    · simp only [h0, if_false, pmGroup]
      by_cases hk : k0 = k
      · subst hk
        have : ¬ k0 = d := h0
        simp [this]
      · simp only [hk, if_false]
        exact ih

theorem pmGroup_not_key {pm : PM} {k : Nat} (h : k ∉ pm.map (·.1)) : pmGroup pm k = [] := by
  induction pm with
  | nil => rfl
  | cons g r ih =>
    obtain ⟨k0, es⟩ := g
    simp only [List.map_cons, List.mem_cons, not_or] at h
    rw [pmGroup, if_neg (fun e => h.1 e.symm)]
    exact ih h.2

/-- what `pmRemove` leaves of one group -/
def remGroup (str : Bytes) (k0 : Nat) (es : List Entry) : List Entry :=
  if k0 = pathDepth str then es.filter (fun e => e.path ≠ str) else es

theorem pmRemove_cons (k0 : Nat) (es : List Entry) (r : PM) (str : Bytes) :
    pmRemove ((k0, es) :: r) str =
      (if (remGroup str k0 es).isEmpty then pmRemove r str else (k0, remGroup str k0 es) :: pmRemove r str) := by
  have hg : (if k0 = pathDepth str then (k0, es.filter (fun e => e.path ≠ str)) else (k0, es)) =
      (k0, remGroup str k0 es) := by
    unfold remGroup; split <;> rfl
  unfold pmRemove
  dsimp only
  rw [List.map_cons, List.filter_cons]
  dsimp only
  rw [hg]
  cases (remGroup str k0 es).isEmpty <;> rfl

theorem pmRemove_keys_sub (pm : PM) (str : Bytes) : ((pmRemove pm str).map (·.1)).Sublist (pm.map (·.1)) := by
  induction pm with
  | nil => simp [pmRemove]
  | cons g r ih =>
    obtain ⟨k0, es⟩ := g
    rw [pmRemove_cons]
    by_cases hemp : (remGroup str k0 es).isEmpty
    · rw [if_pos hemp]; exact List.Sublist.cons _ ih
    · rw [if_neg hemp]
      simp only [List.map_cons]
      exact List.Sublist.cons_cons _ ih

theorem pmGroup_of_mem {pm : PM} (hk : (pm.map (·.1)).Nodup) {g : Nat × List Entry} (hg : g ∈ pm) :
    pmGroup pm g.1 = g.2 := by
  induction pm with
  | nil => cases hg
  | cons g0 r ih =>
    obtain ⟨k0, es⟩ := g0
    simp only [List.map_cons, List.nodup_cons] at hk
    rcases List.mem_cons.1 hg with rfl | hg
    · simp [pmGroup]
    · have : k0 ≠ g.1 := by
        intro e0
        apply hk.1
        rw [e0]
        exact List.mem_map_of_mem hg
      rw [pmGroup, if_neg this]
      exact ih hk.2 hg

theorem pmGroup_remove {pm : PM} (hk : (pm.map (·.1)).Nodup) (str : Bytes) (k : Nat) :
    pmGroup (pmRemove pm str) k =
      if k = pathDepth str then (pmGroup pm k).filter (fun e => e.path ≠ str) else pmGroup pm k := by
  induction pm with
  | nil => simp [pmRemove, pmGroup]
  | cons g r ih =>
    obtain ⟨k0, es⟩ := g
    simp only [List.map_cons, List.nodup_cons] at hk
    obtain ⟨hk0, hkr⟩ := hk
    have ih := ih hkr
    rw [pmRemove_cons]
    by_cases hemp : (remGroup str k0 es).isEmpty
    · rw [if_pos hemp, ih]
      by_cases hkk : k0 = k
      · subst hkk
        rw [pmGroup_not_key hk0]
        simp only [pmGroup, if_true]
        have he : remGroup str k0 es = [] := by simpa using hemp
        unfold remGroup at he
        by_cases hd : k0 = pathDepth str
        · rw [if_pos hd] at he; rw [if_pos hd, if_pos hd, he]; rfl
        · rw [if_neg hd] at he; simp [hd, he]
      · simp only [pmGroup, hkk, if_false]
    · rw [if_neg hemp]
      simp only [pmGroup]
      by_cases hkk : k0 = k
      · subst hkk
        simp only [if_true, remGroup]
      · simp only [hkk, if_false]
        exact ih

theorem pmFind_some {pm : PM} (h : SubsWF pm) {fix : Bytes} {e : Entry} (hf : pmFind pm fix = some e) :
    e ∈ pmGroup pm (pathDepth fix) ∧ e.path = fix ∧ e.clauses = splitSlash fix ∧
      pathDepth fix = (splitSlash fix).length ∧ GoodPath fix := by
  unfold pmFind at hf
  have hm := List.mem_of_find?_eq_some hf
  have hp := List.find?_some hf
  simp only [decide_eq_true_eq] at hp
  obtain ⟨g, hg, hg1, heg⟩ := pmGroup_mem hm
  obtain ⟨h1, h2, h3⟩ := h.ent g hg e heg
  rw [hp] at h1 h3
  refine ⟨hm, hp, h1, ?_, h3⟩
  rw [← h1, h2, hg1]

theorem pmFind_goodPath {pm : PM} (h : SubsWF pm) {fix : Bytes} {e : Entry} (hf : pmFind pm fix = some e) :
    GoodPath fix := (pmFind_some h hf).2.2.2.2

theorem pmFind_none {pm : PM} {fix : Bytes} (hf : pmFind pm fix = none) :
    ∀ x ∈ pmGroup pm (pathDepth fix), x.path ≠ fix := by
  unfold pmFind at hf
  rw [List.find?_eq_none] at hf
  intro x hx
  simpa using hf x hx

theorem clausesMatch_len {cs ns : List Bytes} (h : cs.length ≠ ns.length) : clausesMatch cs ns = false := by
  cases hc : clausesMatch cs ns with
  | false => rfl
  | true => exact absurd ((clausesMatch_iff cs ns).1 hc).1 h

theorem ne_nil_of_noEmptyClause {fix : Bytes} (h : ∀ c ∈ splitSlash fix, c ≠ []) : fix ≠ [] := by
  intro e; subst e
  exact h [] (by simp [splitSlash, splitSlashAux]) rfl

theorem pmPut_eq {pm : PM} {fix : Bytes} (hg : ∀ c ∈ splitSlash fix, c ≠ []) (f : Option Filt) :
    pmPut pm fix f = pmPutGroup (splitSlash fix).length { path := fix, clauses := splitSlash fix, filter := f } pm := by
  unfold pmPut
  cases fix with
  | nil => exact absurd rfl (ne_nil_of_noEmptyClause hg)
  | cons c r => simp

theorem pmPutGroup_keys (d : Nat) (e : Entry) (pm : PM) :
    (pmPutGroup d e pm).map (·.1) = if d ∈ pm.map (·.1) then pm.map (·.1) else pm.map (·.1) ++ [d] := by
  induction pm with
  | nil => simp [pmPutGroup]
  | cons g0 r ih =>
    obtain ⟨k0, es⟩ := g0
    rw [pmPutGroup]
    by_cases h0 : k0 = d
    · rw [if_pos h0]; simp [h0]
    · rw [if_neg h0]
      have hd : ¬ d = k0 := fun e => h0 e.symm
      simp only [List.map_cons, List.mem_cons, hd, false_or, ih]
      split <;> simp

/-! ## the entries that match a path

A matcher is a finite map path ↦ filter: `pmPut` selects what `pmRemove` selects and the new entry (`pmSel_put`), a matcher holding `e`
for `fix` what `pmRemove` selects and `e` (`pmSel_found`), removing a path that is not held changes nothing (`pmSel_absent`) — each up to
the order of the entries, which neither a count nor an `any` sees. -/

def pmSel (pm : PM) (v : List Bytes) : List Entry := (pmGroup pm v.length).filter (fun e => clausesMatch e.clauses v)

theorem pmMatchCount_sel (pm : PM) (v : List Bytes) : pmMatchCount pm v = (pmSel pm v).length := rfl

theorem pmMatchesPath_sel (pm : PM) (v : List Bytes) (uf : Bool) (d : Option Nat) :
    pmMatchesPath pm v uf d = (pmSel pm v).any (fun e => e.filterOk uf d) := by
  unfold pmMatchesPath pmSel; rw [List.any_filter]

theorem filter_path_ne_self {es : List Entry} {p : Bytes} (h : ∀ x ∈ es, x.path ≠ p) :
    es.filter (fun x => x.path ≠ p) = es :=
  List.filter_eq_self.2 fun x hx => by simpa using h x hx

theorem putEntry_perm {es : List Entry} (hnd : (es.map Entry.path).Nodup) (e : Entry) :
    (putEntry e es).Perm (e :: es.filter (fun x => x.path ≠ e.path)) := by
  induction es with
  | nil => exact .refl _
  | cons x r ih =>
    rw [List.map_cons, List.nodup_cons] at hnd
    rw [putEntry, List.filter_cons]
    by_cases hx : x.path = e.path
    · rw [if_pos hx, if_neg (by simpa using hx),
        filter_path_ne_self fun y hy e' => hnd.1 (by rw [hx, ← e']; exact List.mem_map_of_mem hy)]
    · rw [if_neg hx, if_pos (by simpa using hx)]
      exact ((ih hnd.2).cons x).trans (.swap e x _)

theorem putEntry_self {es : List Entry} {e : Entry} (he : e ∈ es) (hnd : (es.map Entry.path).Nodup) : putEntry e es = es := by
  induction es with
  | nil => cases he
  | cons x r ih =>
    rw [List.map_cons, List.nodup_cons] at hnd
    rw [putEntry]
    rcases List.mem_cons.1 he with rfl | he
    · rw [if_pos rfl]
    · rw [if_neg fun hx => hnd.1 (by rw [hx]; exact List.mem_map_of_mem he), ih he hnd.2]

theorem SubsWF.group_nodup {pm : PM} (h : SubsWF pm) (k : Nat) : ((pmGroup pm k).map Entry.path).Nodup := by
  by_cases hk : k ∈ pm.map (·.1)
  · obtain ⟨g, hg, rfl⟩ := List.mem_map.1 hk
    rw [pmGroup_of_mem h.keys hg]; exact h.paths g hg
  · rw [pmGroup_not_key hk]; exact List.nodup_nil

theorem SubsWF.group_ent {pm : PM} (h : SubsWF pm) {k : Nat} {e : Entry} (he : e ∈ pmGroup pm k) :
    e.clauses = splitSlash e.path ∧ e.clauses.length = k ∧ GoodPath e.path := by
  obtain ⟨g, hg, rfl, heg⟩ := pmGroup_mem he
  exact h.ent g hg e heg

def selOf (fix : Bytes) (e : Entry) (v : List Bytes) : List Entry := if clausesMatch (splitSlash fix) v then [e] else []

theorem pmSel_put {pm : PM} (h : SubsWF pm) {fix : Bytes} (hg : ∀ c ∈ splitSlash fix, c ≠ []) (f : Option Filt)
    (v : List Bytes) : (pmSel (pmPut pm fix f) v).Perm (selOf fix ({ path := fix, clauses := splitSlash fix, filter := f }) v ++ pmSel (pmRemove pm fix) v) := by
  unfold pmSel selOf
  rw [pmPut_eq hg, pmGroup_putGroup, pmGroup_remove h.keys, pathDepth_good hg]
  by_cases hv : v.length = (splitSlash fix).length
  · rw [if_pos hv, if_pos hv, hv]
    refine ((putEntry_perm (h.group_nodup _) ({ path := fix, clauses := splitSlash fix, filter := f })).filter _).trans ?_
    rw [List.filter_cons]
    split <;> exact .refl _
  · rw [if_neg hv, if_neg hv, clausesMatch_len fun e => hv e.symm]
    exact .refl _

theorem pmSel_found {pm : PM} (h : SubsWF pm) {fix : Bytes} {e : Entry} (hf : pmFind pm fix = some e) (v : List Bytes) :
    (pmSel pm v).Perm (selOf fix e v ++ pmSel (pmRemove pm fix) v) := by
  obtain ⟨hm, hp, hc, hd, hgood⟩ := pmFind_some h hf
  have he : ({ path := fix, clauses := splitSlash fix, filter := e.filter } : Entry) = e := by
    obtain ⟨p, c, fl⟩ := e; simp only at hp hc; subst hp hc; rfl
  have := pmSel_put h hgood.1 e.filter v
  rw [he] at this
  refine .trans (.of_eq ?_) this
  unfold pmSel
  rw [pmPut_eq hgood.1, pmGroup_putGroup]
  split
  · rename_i hv; rw [he, ← hd, putEntry_self hm (h.group_nodup _), hv, hd]
  · rfl

theorem pmSel_absent {pm : PM} (hk : (pm.map (·.1)).Nodup) {fix : Bytes} (hf : pmFind pm fix = none) (v : List Bytes) :
    pmSel (pmRemove pm fix) v = pmSel pm v := by
  unfold pmSel
  rw [pmGroup_remove hk]
  split
  · rename_i hv; rw [hv, filter_path_ne_self (pmFind_none hf)]
  · rfl

theorem pmSel_remove_sub {pm : PM} (hk : (pm.map (·.1)).Nodup) (fix : Bytes) (v : List Bytes) :
    (pmSel (pmRemove pm fix) v).Sublist (pmSel pm v) := by
  unfold pmSel
  rw [pmGroup_remove hk]
  split
  · exact List.filter_sublist.filter _
  · exact .refl _

theorem pmSel_single {fix : Bytes} (hg : ∀ c ∈ splitSlash fix, c ≠ []) (f : Option Filt) (v : List Bytes) :
    pmSel (pmPut [] fix f) v = selOf fix ({ path := fix, clauses := splitSlash fix, filter := f }) v := by
  unfold pmSel selOf
  rw [pmPut_eq hg, pmGroup_putGroup]
  by_cases hv : v.length = (splitSlash fix).length
  · rw [if_pos hv]; simp [pmGroup, putEntry, List.filter_cons]
  · rw [if_neg hv, clausesMatch_len fun e => hv e.symm]; rfl

theorem any_selOf (fix : Bytes) (e : Entry) (v : List Bytes) (q : Entry → Bool) :
    (selOf fix e v).any q = (clausesMatch (splitSlash fix) v && q e) := by
  unfold selOf; split <;> simp [*]

theorem length_selOf (fix : Bytes) (e : Entry) (v : List Bytes) :
    (selOf fix e v).length = if clausesMatch (splitSlash fix) v then 1 else 0 := by
  unfold selOf; split <;> rfl

theorem pmMatchCount_put_new {pm : PM} (h : SubsWF pm) {fix : Bytes} (hg : ∀ c ∈ splitSlash fix, c ≠ [])
    (hf : pmFind pm fix = none) (f : Option Filt) (v : List Bytes) :
    pmMatchCount (pmPut pm fix f) v = pmMatchCount pm v + (if clausesMatch (splitSlash fix) v then 1 else 0) := by
  rw [pmMatchCount_sel, (pmSel_put h hg f v).length_eq, pmSel_absent h.keys hf, List.length_append, length_selOf,
    Nat.add_comm]; rfl

theorem pmMatchCount_put_old {pm : PM} (h : SubsWF pm) {fix : Bytes} {e : Entry} (hf : pmFind pm fix = some e)
    (f : Option Filt) (v : List Bytes) : pmMatchCount (pmPut pm fix f) v = pmMatchCount pm v := by
  rw [pmMatchCount_sel, pmMatchCount_sel, (pmSel_put h (pmFind_goodPath h hf).1 f v).length_eq,
    (pmSel_found h hf v).length_eq, List.length_append, List.length_append, length_selOf, length_selOf]

theorem pmMatchCount_remove {pm : PM} (h : SubsWF pm) {str : Bytes} {e : Entry} (hf : pmFind pm str = some e)
    (v : List Bytes) :
    pmMatchCount pm v = pmMatchCount (pmRemove pm str) v + (if clausesMatch (splitSlash str) v then 1 else 0) := by
  rw [pmMatchCount_sel, (pmSel_found h hf v).length_eq, List.length_append, length_selOf, Nat.add_comm]; rfl

theorem SubsWF.of_groups {pm : PM} (hk : (pm.map (·.1)).Nodup)
    (H : ∀ k, ((pmGroup pm k).map Entry.path).Nodup ∧
      ∀ e ∈ pmGroup pm k, e.clauses = splitSlash e.path ∧ e.clauses.length = k ∧ GoodPath e.path) : SubsWF pm :=
  ⟨hk, fun g hg => by rw [← pmGroup_of_mem hk hg]; exact (H g.1).1,
    fun g hg e he => (H g.1).2 e (by rw [pmGroup_of_mem hk hg]; exact he)⟩

theorem SubsWF.put {pm : PM} (h : SubsWF pm) {fix : Bytes} (hgood : GoodPath fix) (f : Option Filt) :
    SubsWF (pmPut pm fix f) := by
  rw [pmPut_eq hgood.1]
  refine SubsWF.of_groups ?_ fun k => ?_
  · rw [pmPutGroup_keys]
    split
    · exact h.keys
    · rename_i hn
      exact List.nodup_append.2 ⟨h.keys, by simp, fun a ha b hb => by simp at hb; subst hb; exact fun e => hn (e ▸ ha)⟩
  · rw [pmGroup_putGroup]
    split
    · rename_i hk; subst hk
      have hp := putEntry_perm (h.group_nodup (splitSlash fix).length) { path := fix, clauses := splitSlash fix, filter := f }
      refine ⟨(hp.map Entry.path).nodup_iff.2 ?_, fun e he => ?_⟩
      · rw [List.map_cons, List.nodup_cons]
        refine ⟨fun hm => ?_, (List.filter_sublist.map _).nodup (h.group_nodup _)⟩
        obtain ⟨x, hx, hxp⟩ := List.mem_map.1 hm
        simpa [hxp] using (List.mem_filter.1 hx).2
      · rcases List.mem_cons.1 (hp.mem_iff.1 he) with rfl | he
        · exact ⟨rfl, rfl, hgood⟩
        · exact h.group_ent (List.mem_filter.1 he).1
    · exact ⟨h.group_nodup k, fun e => h.group_ent⟩

theorem SubsWF.remove {pm : PM} (h : SubsWF pm) (str : Bytes) : SubsWF (pmRemove pm str) := by
  refine SubsWF.of_groups ((pmRemove_keys_sub pm str).nodup h.keys) fun k => ?_
  rw [pmGroup_remove h.keys]
  split
  · exact ⟨(List.filter_sublist.map _).nodup (h.group_nodup k), fun e he => h.group_ent (List.mem_filter.1 he).1⟩
  · exact ⟨h.group_nodup k, fun e => h.group_ent⟩

theorem SubsWF.single {fix : Bytes} (hgood : GoodPath fix) (f : Option Filt) : SubsWF (pmPut [] fix f) :=
  SubsWF.nil.put hgood f

theorem pmMatchesPath_single {fix : Bytes} (hg : ∀ c ∈ splitSlash fix, c ≠ []) (f : Option Filt) (v : List Bytes) (uf : Bool)
    (d : Option Nat) :
    pmMatchesPath (pmPut [] fix f) v uf d =
      (clausesMatch (splitSlash fix) v && ({ path := fix, clauses := splitSlash fix, filter := f } : Entry).filterOk uf d) := by
  rw [pmMatchesPath_sel, pmSel_single hg, any_selOf]

theorem pmMatchesPath_single_nodata {fix : Bytes} (hg : ∀ c ∈ splitSlash fix, c ≠ []) (v : List Bytes) (d : Option Nat) :
    pmMatchesPath (pmPut [] fix none) v false d = clausesMatch (splitSlash fix) v := by
  rw [pmMatchesPath_single hg]; simp [Entry.filterOk]

theorem pmMatchesPath_nodata (pm : PM) (v : List Bytes) (d : Option Nat) :
    pmMatchesPath pm v false d = decide (pmMatchCount pm v > 0) := by
  rw [pmMatchesPath_sel, pmMatchCount_sel]
  have : (fun e : Entry => e.filterOk false d) = fun _ => true := by
    funext e; unfold Entry.filterOk; split <;> rfl
  rw [this]
  cases pmSel pm v <;> simp

theorem pmMatchesPath_put_new {pm : PM} (h : SubsWF pm) {fix : Bytes} (hg : ∀ c ∈ splitSlash fix, c ≠ [])
    (hf : pmFind pm fix = none) (f : Option Filt) (v : List Bytes) (uf : Bool) (d : Option Nat) :
    pmMatchesPath (pmPut pm fix f) v uf d =
      (pmMatchesPath pm v uf d || pmMatchesPath (pmPut [] fix f) v uf d) := by
  simp only [pmMatchesPath_sel]
  rw [(pmSel_put h hg f v).any_eq, pmSel_absent h.keys hf, pmSel_single hg, List.any_append, Bool.or_comm]

theorem pmMatchesPath_remove_mono {pm : PM} (hk : (pm.map (·.1)).Nodup) (str : Bytes) (v : List Bytes) (uf : Bool)
    (d : Option Nat) (h : pmMatchesPath (pmRemove pm str) v uf d = true) : pmMatchesPath pm v uf d = true := by
  rw [pmMatchesPath_sel, List.any_eq_true] at h ⊢
  obtain ⟨e, he, hc⟩ := h
  exact ⟨e, (pmSel_remove_sub hk str v).subset he, hc⟩

theorem pmMatchesPath_split {pm : PM} (h : SubsWF pm) {fix : Bytes} {e : Entry} (hf : pmFind pm fix = some e)
    (v : List Bytes) (uf : Bool) (d : Option Nat) :
    pmMatchesPath pm v uf d =
      (pmMatchesPath (pmRemove pm fix) v uf d || (clausesMatch (splitSlash fix) v && e.filterOk uf d)) := by
  simp only [pmMatchesPath_sel]
  rw [(pmSel_found h hf v).any_eq, List.any_append, any_selOf, Bool.or_comm]

theorem pmMatchesPath_replace {pm : PM} (h : SubsWF pm) {fix : Bytes} {e : Entry} (hf : pmFind pm fix = some e)
    (f : Option Filt) (v : List Bytes) (uf : Bool) (d : Option Nat) :
    pmMatchesPath (pmPut pm fix f) v uf d =
      (pmMatchesPath (pmRemove pm fix) v uf d ||
        (clausesMatch (splitSlash fix) v && ({ path := fix, clauses := splitSlash fix, filter := f } : Entry).filterOk uf d)) := by
  simp only [pmMatchesPath_sel]
  rw [(pmSel_put h (pmFind_goodPath h hf).1 f v).any_eq, List.any_append, any_selOf, Bool.or_comm]

end Muscle.Reflector
