import MuscleModel.Reflector.IndexProofsTree
import MuscleModel.Reflector.TravProofsCands

/-!
# C13: every visit of the wildcard traversal is the name path of an existing node

No pattern laws are needed: whatever the matcher and the callback, `doTraversal` only ever records paths it
reached by descending through children.  With pairwise different sibling names (part of `NodeInv`) such a path is
found again by name lookup (`below`).
-/

namespace Muscle.Reflector
open Muscle

/-- `ext` is the name path of a node below `n` (lookup by name at every level; no fuel) -/
def below : Node → List Bytes → Bool
  | _, [] => true
  | n, a :: r =>
    match findKid a n.kids with
    | some k => below k r
    | none => false

theorem below_updateAt {f : Node → Node} (hf : ∀ n, (f n).name = n.name) (hk : ∀ n, (f n).kids = n.kids)
    (fuel : Nat) (n : Node) (path q : List Bytes) :
    below (updateAt fuel n path f) q = below n q := by
  induction path generalizing fuel n q with
  | nil => rw [updateAt_nil]; cases q <;> simp only [below, hk]
  | cons b rest ih =>
    cases fuel with
    | zero => rfl
    | succ fuel =>
      simp only [updateAt]
      cases hb : findKid b n.kids with
      | none => rfl
      | some k =>
        cases q with
        | nil => rfl
        | cons a r =>
          have hn : (updateAt fuel k rest f).name = b := by rw [updateAt_name hf, findKid_name hb]
          have hs := findKid_putKid_same (updateAt fuel k rest f) n.kids
          rw [hn] at hs
          simp only [below, Node.setKids_kids]
          by_cases hab : a = b
          · rw [hab, hs, hb]; exact ih fuel k r
          · rw [findKid_putKid_ne (by rw [hn]; exact fun e => hab e.symm)]

theorem below_of_nodeAt {fuel : Nat} {root n : Node} {pre v : List Bytes} (h : nodeAt fuel root pre = some n)
    (hv : below n v = true) : below root (pre ++ v) = true := by
  induction pre generalizing fuel root with
  | nil => rw [nodeAt_nil] at h; cases h; simpa using hv
  | cons a r ih =>
    cases fuel with
    | zero => simp [nodeAt] at h
    | succ fuel =>
      simp only [nodeAt] at h
      cases hk : findKid a root.kids with
      | none => simp [hk] at h
      | some k =>
        simp only [hk] at h
        simp only [List.cons_append, below, hk]
        exact ih h

theorem below_snoc_findKid {fuel : Nat} {n p : Node} {pre : List Bytes} {k : Bytes}
    (hb : below n (pre ++ [k]) = true) (hp : nodeAt fuel n pre = some p) : (findKid k p.kids).isSome := by
  induction pre generalizing fuel n with
  | nil =>
    rw [nodeAt_nil] at hp; cases hp
    simp only [List.nil_append, below] at hb
    cases hk : findKid k p.kids with
    | none => simp [hk] at hb
    | some c => rfl
  | cons a r ih =>
    cases fuel with
    | zero => simp [nodeAt] at hp
    | succ fuel =>
      simp only [nodeAt] at hp
      simp only [List.cons_append, below] at hb
      cases hk : findKid a n.kids with
      | none => simp [hk] at hp
      | some c =>
        simp only [hk] at hp hb
        exact ih hb hp

/-- every recorded visit is `names ++ ext` with `ext` a path below `node` -/
def VOK (node : Node) (names : Visit) (vs : List Visit) : Prop :=
  ∀ v ∈ vs, ∃ ext, v = names ++ ext ∧ below node ext = true

theorem VOK.append {node : Node} {names : Visit} {a b : List Visit} (ha : VOK node names a) (hb : VOK node names b) :
    VOK node names (a ++ b) := by
  intro v hv
  rcases List.mem_append.mp hv with h | h
  · exact ha v h
  · exact hb v h

theorem kidsNodup_of_allNodes : ∀ (fuel : Nat) (n : Node), AllNodes NodeInv n → kidsNodup fuel n = true := by
  intro fuel
  induction fuel with
  | zero => intro n _; rfl
  | succ fuel ih =>
    intro n h
    simp only [kidsNodup, Bool.and_eq_true, decide_eq_true_eq, List.all_eq_true]
    exact ⟨h.here.2, fun k hk => ih k (h.kid k hk)⟩

theorem descendants_below : ∀ (fuel : Nat) (node : Node) (pre : List Bytes) (p : List Bytes × Node),
    p ∈ descendants fuel node pre → AllNodes NodeInv node → ∃ ext, p.1 = pre ++ ext ∧ below node ext = true := by
  intro fuel
  induction fuel with
  | zero => intro node pre p h; simp [descendants] at h
  | succ fuel ih =>
    intro node pre p h hn
    rw [descendants] at h
    obtain ⟨k, hk, h⟩ := List.mem_flatMap.1 h
    have hf := findKid_of_mem hn.here.2 hk
    rcases List.mem_cons.1 h with rfl | h
    · exact ⟨[k.name], rfl, by simp [below, hf]⟩
    · obtain ⟨ext, he, hb⟩ := ih k _ p h (hn.kid k hk)
      exact ⟨k.name :: ext, by simp [he], by simp [below, hf, hb]⟩

theorem travAux_vok (ctx : TCtx) (fuel : Nat) (node : Node) (names : Visit) (depth : Nat) (hn : AllNodes NodeInv node) :
    VOK node names (travAux ctx fuel node names depth).1 := by
  intro v hv
  obtain ⟨c, hc, rfl⟩ := List.mem_map.1 ((travAux_sublist ctx fuel node names depth).subset hv)
  exact descendants_below fuel node names c (mem_cands _ _ _ fuel node names depth c hc) hn

/-- every visit of `DoTraversal` from `node` is the name path of a node below `node` — for every matcher, every
    callback, every fuel -/
theorem doTraversal_sound (pm : PM) (uf : Bool) (rd : Nat) (cb : Visit → Nat → Node → Bool × Int) (node : Node)
    (fuel : Nat) (hnode : AllNodes NodeInv node) : ∀ v ∈ doTraversal pm uf rd cb node fuel, below node v = true := by
  intro v hv
  obtain ⟨ext, he, hb⟩ := travAux_vok _ fuel node [] rd hnode v hv
  simp at he; subst he; exact hb

end Muscle.Reflector
