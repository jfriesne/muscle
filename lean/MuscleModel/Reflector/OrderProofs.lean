import MuscleModel.Reflector.Departure

/-!
# Inboxes are append-only (C07) — what is queued for a client is never removed or reordered

* `InboxExt P t t'`: `t'` has the id of `t` and `t'.inbox = t.inbox ++ e` with every line of `e` satisfying `P`.
* `InboxApp P sv sv'` = `SessAll₂ (InboxExt P) sv.sessions sv'.sessions`; reflexive and transitive.  It holds across every write of
  `Data` and of `Delivers` (EffectSteps.lean), hence of every handler and of histories of events (`OdEv`, `odRunEvs`).
* `od_sendMsg_text`: everything a `send` appends to anybody's inbox is a copy of its own text.
`od_` (order of delivery) prefixes the lemmas here that hang on no notion by dot notation; the FIFO statements built on them are in
`Props/C05.lean`.
-/


namespace Muscle.Reflector
open Muscle Muscle.Eng.SrvEngine

def InboxExt (P : String → Prop) (t t' : Sess) : Prop :=
  t'.sid = t.sid ∧ ∃ e, t'.inbox = t.inbox ++ e ∧ ∀ x ∈ e, P x

theorem InboxExt.refl (P : String → Prop) (t : Sess) : InboxExt P t t := ⟨rfl, [], by simp, by simp⟩

theorem InboxExt.of_eq {P : String → Prop} {t t' : Sess} (h1 : t'.sid = t.sid) (h2 : t'.inbox = t.inbox) : InboxExt P t t' :=
  ⟨h1, [], by simp [h2], by simp⟩

theorem InboxExt.trans {P : String → Prop} {a b c : Sess} (h1 : InboxExt P a b) (h2 : InboxExt P b c) : InboxExt P a c := by
  obtain ⟨s1, e1, i1, p1⟩ := h1
  obtain ⟨s2, e2, i2, p2⟩ := h2
  refine ⟨s2.trans s1, e1 ++ e2, by rw [i2, i1, List.append_assoc], ?_⟩
  intro x hx
  rcases List.mem_append.mp hx with hx | hx
  · exact p1 x hx
  · exact p2 x hx

theorem InboxExt.one {P : String → Prop} (t : Sess) (w : String) (hw : P w) : InboxExt P t { t with inbox := t.inbox ++ [w] } :=
  ⟨rfl, [w], rfl, by intro x hx; simp at hx; subst hx; exact hw⟩

theorem InboxExt.extra {P : String → Prop} {Q : Sess → Prop} {t : Sess} (h : ∃ t', Q t' ∧ InboxExt P t t') :
    ∃ t' extra, Q t' ∧ t'.inbox = t.inbox ++ extra :=
  let ⟨t', h1, _, e, h3, _⟩ := h
  ⟨t', e, h1, h3⟩

def InboxApp (P : String → Prop) (sv sv' : Server) : Prop := SessAll₂ (InboxExt P) sv.sessions sv'.sessions

theorem InboxApp.refl (P : String → Prop) (sv : Server) : InboxApp P sv sv := SessAll₂.refl (InboxExt.refl P) _

theorem InboxApp.trans {P : String → Prop} {a b c : Server} (h1 : InboxApp P a b) (h2 : InboxApp P b c) : InboxApp P a c :=
  SessAll₂.trans (R := InboxExt P) (fun _ _ _ => InboxExt.trans) _ _ _ h1 h2

theorem InboxExt.sid {P : String → Prop} (a b : Sess) (h : InboxExt P a b) : b.sid = a.sid := h.1

theorem InboxApp.sids {P : String → Prop} {a b : Server} (h : InboxApp P a b) : b.sessions.map (·.sid) = a.sessions.map (·.sid) :=
  SessAll₂.ind (motive := fun l l' => l'.map (·.sid) = l.map (·.sid)) rfl
    (fun _ _ _ _ hab _ ih => by simp only [List.map_cons, hab.1, ih]) _ _ h

theorem od_updSess {P : String → Prop} (sv : Server) (sid : Nat) (f : Sess → Sess) (hf : ∀ t, InboxExt P t (f t)) :
    InboxApp P sv (sv.updSess sid f) :=
  SessAll₂.updSess (InboxExt.refl P) sv sid f (fun t _ => hf t)

theorem od_deliver {P : String → Prop} (sv : Server) (sid : Nat) (what : String) (hw : P what) :
    InboxApp P sv (sv.deliver sid what) :=
  od_updSess sv sid _ (fun t => InboxExt.one t what hw)

theorem od_pushOnce (sv : Server) : InboxApp AnyLine sv (pushOnce sv) := by
  unfold InboxApp pushOnce
  apply SessAll₂.map_right
  intro t
  cases h1 : t.nextData <;> cases h2 : t.nextIdx <;> simp only [h1, h2]
  · exact InboxExt.refl AnyLine t
  · exact ⟨rfl, [_], rfl, fun _ _ => trivial⟩
  · exact ⟨rfl, [_], rfl, fun _ _ => trivial⟩
  · exact ⟨rfl, _, List.append_assoc _ _ _, fun _ _ => trivial⟩

theorem Delivers.inboxApp {T : Nat → Prop} {L : String → Prop} {a b : Server} (h : Delivers T L a b) : InboxApp L a b := by
  obtain ⟨ds, hd, rfl⟩ := h
  exact foldl_rel (InboxApp.refl L) InboxApp.trans _ ds (fun sv d hm => od_deliver sv d.1 d.2 (hd d hm).2) a

theorem NotifOp.inboxApp (x : Server) (op : Op) (h : NotifOp op) : InboxApp AnyLine x (op.run x) := by
  cases op with
  | dirty d => exact .refl _ x
  | push => exact od_pushOnce x
  | sess t f =>
    exact od_updSess x t f (fun s => ⟨(congrArg Sess.sid (h s).1 :), (h s).2.choose, (h s).2.choose_spec, fun _ _ => trivial⟩)
  | node path f => exact h.elim

theorem Notif.inboxApp {a b : Server} (h : Notif a b) : InboxApp AnyLine a b :=
  h.rel (InboxApp.refl _) InboxApp.trans NotifOp.inboxApp

theorem Data.inboxApp {sid : Nat} {own : List Bytes} {N : Bytes → Prop} {a b : Server} (h : Data sid own N a b) :
    InboxApp AnyLine a b := by
  refine h.rel (InboxApp.refl _) InboxApp.trans (fun x op hp => ?_)
  cases op with
  | dirty d => exact NotifOp.inboxApp x (.dirty d) hp
  | push => exact NotifOp.inboxApp x .push hp
  | node path f => exact .refl _ x
  | sess t f =>
    rcases hp with hp | ⟨rfl, hf⟩
    · exact NotifOp.inboxApp x _ hp
    · exact od_updSess x t f (fun s => .of_eq (congrArg Sess.sid (hf s) :) (congrArg Sess.inbox (hf s) :))

theorem od_pushAll (sv : Server) : InboxApp AnyLine sv (pushAll sv) := (pushAll_notif sv).inboxApp

theorem od_sendMsg_text (sv : Server) (sid : Nat) (tag : Nat) (keys : List Bytes) :
    InboxApp (· = msgText sid tag) sv (runCmd sv sid (.send tag keys)) := (sendMsg_delivers sv sid tag keys).inboxApp

theorem od_runCmd (sv : Server) (sid : Nat) (c : Cmd) : InboxApp AnyLine sv (runCmd sv sid c) :=
  runCmd_three (P := InboxApp AnyLine sv) sv sid c (.refl _ sv)
    (fun _ hf => od_updSess _ _ _ (fun t => .of_eq (congrArg Sess.sid (hf t) :) (congrArg Sess.inbox (hf t) :)))
    (fun _ _ h => h.inboxApp)

/-- `detach x`: the sessions with another id in place, append-only -/
theorem od_detach (sv : Server) (x : Nat) :
    SessAll₂ (InboxExt AnyLine) (sv.sessions.filter (fun t => t.sid ≠ x)) (detach sv x).sessions ∨ detach sv x = sv := by
  cases hs : sv.sess? x with
  | none => right; unfold detach; rw [hs]
  | some s =>
    left
    rw [(detach_eq sv x s hs).2.1]
    exact SessAll₂.filter InboxExt.sid (fun i => decide (i ≠ x)) _ _ (detachBody_data (N := fun _ => True) sv x s).inboxApp

theorem od_lookup {P : String → Prop} {sv sv' : Server} (h : InboxApp P sv sv') (b : Nat) (t : Sess) (ht : sv.sess? b = some t) :
    ∃ t', sv'.sess? b = some t' ∧ InboxExt P t t' :=
  SessAll₂.find InboxExt.sid b _ _ h t ht

theorem od_lookup_attach (sv : Server) (slot : Nat) (host : Bytes) (b : Nat) (t : Sess) (ht : sv.sess? b = some t) :
    ∃ t', (attach sv slot host).1.sess? b = some t' ∧ InboxExt AnyLine t t' := by
  -- the old sessions in place, append-only; one new session at the end
  obtain ⟨l1, n', e, h, _⟩ :=
    SessAll₂.snoc_left _ _ _ (attach_grow (N := fun _ => True) sv slot host trivial trivial).data.inboxApp
  obtain ⟨t', h1, h2⟩ := SessAll₂.find InboxExt.sid b _ _ h t ht
  refine ⟨t', ?_, h2⟩
  unfold Server.sess?
  rw [e, List.find?_append, h1]
  rfl

theorem od_lookup_detach (sv : Server) (x b : Nat) (hb : b ≠ x) (t : Sess) (ht : sv.sess? b = some t) :
    ∃ t', (detach sv x).sess? b = some t' ∧ InboxExt AnyLine t t' := by
  rcases od_detach sv x with h | h
  · have hf : (sv.sessions.filter (fun t => t.sid ≠ x)).find? (fun s => s.sid = b) = some t := by
      rw [find?_filter_of_imp]
      · exact ht
      · intro s hs
        simp only [decide_eq_true_eq] at hs ⊢
        rw [hs]; exact hb
    exact SessAll₂.find InboxExt.sid b _ _ h t hf
  · rw [h]; exact ⟨t, ht, InboxExt.refl AnyLine t⟩

inductive OdEv where
  | cmd (sid : Nat) (c : Cmd)
  | push
  | attach (slot : Nat) (host : Bytes)
  | detach (sid : Nat)

def odRunEv (sv : Server) : OdEv → Server
  | .cmd sid c => runCmd sv sid c
  | .push => pushAll sv
  | .attach slot host => (Muscle.Reflector.attach sv slot host).1
  | .detach sid => Muscle.Reflector.detach sv sid

def odRunEvs (sv : Server) (evs : List OdEv) : Server := evs.foldl odRunEv sv

theorem od_lookup_ev (sv : Server) (e : OdEv) (b : Nat) (hb : e ≠ .detach b) (t : Sess) (ht : sv.sess? b = some t) :
    ∃ t', (odRunEv sv e).sess? b = some t' ∧ InboxExt AnyLine t t' := by
  cases e with
  | cmd sid c => exact od_lookup (od_runCmd sv sid c) b t ht
  | push => exact od_lookup (od_pushAll sv) b t ht
  | attach slot host => exact od_lookup_attach sv slot host b t ht
  | detach x =>
    have : b ≠ x := by intro e; subst e; exact hb rfl
    exact od_lookup_detach sv x b this t ht

theorem od_lookup_evs (evs : List OdEv) (b : Nat) (hb : ∀ e ∈ evs, e ≠ .detach b) (sv : Server) :
    ∀ (t : Sess), sv.sess? b = some t → ∃ t', (odRunEvs sv evs).sess? b = some t' ∧ InboxExt AnyLine t t' :=
  foldl_rel (R := fun x y => ∀ t, x.sess? b = some t → ∃ t', y.sess? b = some t' ∧ InboxExt AnyLine t t')
    (fun _ t ht => ⟨t, ht, InboxExt.refl AnyLine t⟩)
    (fun h1 h2 t ht => by
      obtain ⟨t1, g1, e1⟩ := h1 t ht
      obtain ⟨t2, g2, e2⟩ := h2 t1 g1
      exact ⟨t2, g2, e1.trans e2⟩)
    odRunEv evs (fun x e he t ht => od_lookup_ev x e b (hb e he) t ht) sv

theorem od_lookup_cmds (hist : List (Nat × Cmd)) (b : Nat) (sv : Server) (t : Sess) (ht : sv.sess? b = some t) :
    ∃ t', (hist.foldl (fun sv p => runCmd sv p.1 p.2) sv).sess? b = some t' ∧ InboxExt AnyLine t t' := by
  have h := od_lookup_evs (hist.map (fun p => OdEv.cmd p.1 p.2)) b
    (by intro e he; obtain ⟨p, _, rfl⟩ := List.mem_map.mp he; exact fun h => OdEv.noConfusion h) sv t ht
  rwa [odRunEvs, List.foldl_map] at h

end Muscle.Reflector
