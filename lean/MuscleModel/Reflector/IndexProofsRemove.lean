import MuscleModel.Reflector.IndexProofsOps

/-!
# C13: `removeChild` (recursive removal) seen from the parent of the removed child

`Upd path a b`: the tree of `b` is the tree of `a` with one name-preserving update at `path`.  Such updates compose at
one path, and an update further down is an update here; so taking the descendants of a child apart (`removalOrder`) is ONE
update at the child, whatever it does there is forgotten when the child itself goes, and on the tree `removeChild` is
`removeOne` (`removeChild_root`).
-/

namespace Muscle.Reflector
open Muscle

def Upd (path : List Bytes) (a b : Server) : Prop :=
  ∃ f : Node → Node, (∀ n, (f n).name = n.name) ∧ b.root = (setNode a path f).root

namespace Upd
variable {path : List Bytes} {a b c : Server}

theorem refl (a : Server) : Upd path a a :=
  ⟨fun q => q, fun _ => rfl, by rw [setNode_fix _ _ (fun _ _ => rfl)]⟩

theorem trans (h1 : Upd path a b) (h2 : Upd path b c) : Upd path a c := by
  obtain ⟨f, hf, e1⟩ := h1
  obtain ⟨g, hg, e2⟩ := h2
  exact ⟨fun q => g (f q), fun n => (hg _).trans (hf n), by rw [e2, setNode_root_congr e1, setNode_setNode hf hg]⟩

theorem lift {pre ext : List Bytes} (h : Upd (pre ++ ext) a b) : Upd pre a b := by
  obtain ⟨f, hf, e⟩ := h
  exact ⟨_, fun n => updateAt_name hf _ n ext, by rw [e, setNode_root, updateAt_append]; rfl⟩

end Upd

theorem removeOne_upd (sv : Server) (by_ : Nat) (notify : Bool) (parent : List Bytes) (key : Bytes) :
    Upd parent sv (removeOne sv by_ notify (parent ++ [key])) := by
  cases hc : getNode sv (parent ++ [key]) with
  | none => rw [removeOne_absent by_ notify hc]; exact .refl sv
  | some c => exact ⟨_, fun n => by simp, removeOne_root by_ notify hc⟩

theorem removeKid_putKid (c : Node) (ks : List Node) : removeKid c.name (putKid c ks) = removeKid c.name ks := by
  induction ks with
  | nil => simp [putKid, removeKid]
  | cons k r ih =>
    by_cases hk : k.name = c.name
    · simp [putKid, removeKid, hk]
    · simp [putKid, removeKid, hk, ih]

/-- what `removeOne` makes of the parent does not depend on what happened to the child before -/
theorem removeAt_absorb {f : Node → Node} (hf : ∀ n, (f n).name = n.name) (j : Nat) (p : Node) (key : Bytes) :
    ((updateAt j p [key] f).setIndex (eraseLast (updateAt j p [key] f).index key)).setKids
        (removeKid key (updateAt j p [key] f).kids) =
      (p.setIndex (eraseLast p.index key)).setKids (removeKid key p.kids) := by
  cases j with
  | zero => rfl
  | succ j =>
    rw [updateAt_succ_cons]
    cases hk : findKid key p.kids with
    | none => rfl
    | some k =>
      have := removeKid_putKid (f k) p.kids
      rw [(hf k).trans (findKid_name hk)] at this
      cases p
      simp only [updateAt_nil, Node.setKids, Node.setIndex, Node.index, Node.kids, Node.name, Node.data, Node.ctr,
        Node.subs] at this ⊢
      rw [this]

/-- the descendants' part of `removalOrder` -/
def removalDesc : Nat → List Bytes → Node → List (List Bytes)
  | 0, _, _ => []
  | fuel+1, names, n => n.kids.flatMap (fun k => removalOrder fuel (names ++ [k.name]) k)

theorem removalOrder_eq (fuel : Nat) (names : List Bytes) (n : Node) :
    removalOrder fuel names n = removalDesc fuel names n ++ [names] := by
  cases fuel <;> simp [removalOrder, removalDesc]

theorem removalDesc_ext (fuel : Nat) (names : List Bytes) (n : Node) :
    ∀ q ∈ removalDesc fuel names n, ∃ e k, q = (names ++ e) ++ [k] := by
  intro q hq
  cases fuel with
  | zero => simp [removalDesc] at hq
  | succ fuel =>
    simp only [removalDesc, List.mem_flatMap] at hq
    obtain ⟨c, _, hc⟩ := hq
    obtain ⟨e, he⟩ := removalOrder_prefix _ _ _ q hc
    have hne : [c.name] ++ e ≠ [] := by simp
    refine ⟨([c.name] ++ e).dropLast, ([c.name] ++ e).getLast hne, ?_⟩
    rw [List.append_assoc, List.dropLast_concat_getLast, ← he]
    simp

/-- the state after the descendants of `parent ++ [key]` have been removed -/
def removeDescs (sv : Server) (by_ : Nat) (notify : Bool) (names : List Bytes) (n : Node) : Server :=
  (removalDesc fuelDepth names n).foldl (fun sv nm => removeOne sv by_ notify nm) sv

theorem removeChild_eq {sv : Server} {names : List Bytes} {n : Node} (by_ : Nat) (notify : Bool)
    (h : getNode sv names = some n) :
    removeChild sv by_ notify names = removeOne (removeDescs sv by_ notify names n) by_ notify names := by
  simp [removeChild, h, removalOrder_eq, List.foldl_append, removeDescs]

theorem removeChild_absent {sv : Server} {names : List Bytes} (by_ : Nat) (notify : Bool)
    (h : getNode sv names = none) : removeChild sv by_ notify names = sv := by
  simp [removeChild, h]

theorem foldl_removeOne_upd (by_ : Nat) (notify : Bool) (names : List Bytes) (qs : List (List Bytes))
    (hq : ∀ q ∈ qs, ∃ e k, q = (names ++ e) ++ [k]) (sv : Server) :
    Upd names sv (qs.foldl (fun sv nm => removeOne sv by_ notify nm) sv) :=
  foldl_rel Upd.refl Upd.trans _ qs (fun sv q hq' => by
    obtain ⟨e, k, rfl⟩ := hq q hq'
    exact (removeOne_upd sv by_ notify (names ++ e) k).lift) sv

theorem removeDescs_upd (sv : Server) (by_ : Nat) (notify : Bool) (names : List Bytes) (n : Node) :
    Upd names sv (removeDescs sv by_ notify names n) :=
  foldl_removeOne_upd by_ notify names _ (removalDesc_ext _ _ _) sv

theorem removeDescs_parent_index {sv : Server} {parent : List Bytes} {p : Node} {key : Bytes} (by_ : Nat)
    (notify : Bool) (c : Node) (h : getNode sv parent = some p) :
    ∃ q, getNode (removeDescs sv by_ notify (parent ++ [key]) c) parent = some q ∧ q.index = p.index := by
  obtain ⟨f, hf, e⟩ := removeDescs_upd sv by_ notify (parent ++ [key]) c
  exact ⟨_, by rw [getNode_congr e, getNode_setNode_prefix hf, h]; rfl, updateAt_cons_index ..⟩

/-- on the tree, `RemoveChild(key, recurse)` is `RemoveChild` of the child alone: the last index entry named `key` gone,
    the child gone -/
theorem removeChild_root {sv : Server} {parent : List Bytes} {key : Bytes} {c : Node} (by_ : Nat) (notify : Bool)
    (hc : getNode sv (parent ++ [key]) = some c) :
    (removeChild sv by_ notify (parent ++ [key])).root =
      (setNode sv parent (fun q => (q.setIndex (eraseLast q.index key)).setKids (removeKid key q.kids))).root := by
  obtain ⟨f, hf, e⟩ := removeDescs_upd sv by_ notify (parent ++ [key]) c
  have hc' : getNode (removeDescs sv by_ notify (parent ++ [key]) c) (parent ++ [key]) = some (f c) := by
    rw [getNode_congr e, getNode_setNode hf, hc]; rfl
  rw [removeChild_eq by_ notify hc, removeOne_root by_ notify hc', setNode_root_congr e, setNode_root, setNode_root,
    setNode_root, updateAt_append, updateAt_updateAt (fun n => updateAt_name hf _ n [key]) (fun n => by simp)]
  exact updateAt_congr _ _ _ (fun p _ => removeAt_absorb hf _ p key)

theorem getNode_removeChild {sv : Server} {parent : List Bytes} {p c : Node} {key : Bytes} (by_ : Nat) (notify : Bool)
    (h : getNode sv parent = some p) (hc : getNode sv (parent ++ [key]) = some c) :
    getNode (removeChild sv by_ notify (parent ++ [key])) parent =
      some ((p.setIndex (eraseLast p.index key)).setKids (removeKid key p.kids)) := by
  rw [getNode_congr (removeChild_root by_ notify hc), getNode_setNode (fun n => by simp), h]; rfl

end Muscle.Reflector
