import MuscleModel.Reflector.CommandEffects

/-!
# One command and a history of one session: from `OnlyOwn` to the statements of `Props/C06.lean`

The frame of one command (`runCmd_own`), of a history (`runHistory_own`), what C06 states of them (`SessKept`, `host_kept`), and the demo
state of C06's examples.
-/


namespace Muscle.Reflector
open Muscle

/-- what a command of session `sid` must leave alone in session `t` (after: `t'`): identity always;
    the subscription set and the parameters listed below when `t` is another session (`SessFrame` also gives `routeKeys` and
    `routeFilts`).  (`nextData`, `nextIdx`, `inbox` may change: that is how `t` is notified.) -/
def SessKept (sid : Nat) (t t' : Sess) : Prop :=
  t'.sid = t.sid ∧ t'.host = t.host ∧ t'.slot = t.slot ∧
  (t.sid ≠ sid →
    t'.subs = t.subs ∧ t'.params = t.params ∧ t'.reflectSelf = t.reflectSelf ∧ t'.maxItems = t.maxItems ∧
    t'.subsEnabled = t.subsEnabled ∧ t'.indexingPresent = t.indexingPresent ∧ t'.route = t.route ∧
    t'.hasRouteKeys = t.hasRouteKeys)

theorem SessFrame.kept {sid : Nat} {t t' : Sess} (h : SessFrame sid t t') : SessKept sid t t' := by
  refine ⟨h.sid, h.host, h.slot, fun hne => ?_⟩
  have hc := h.core hne
  exact ⟨(congrArg Sess.subs hc :), (congrArg Sess.params hc :), (congrArg Sess.reflectSelf hc :), (congrArg Sess.maxItems hc :),
    (congrArg Sess.subsEnabled hc :), (congrArg Sess.indexingPresent hc :), (congrArg Sess.route hc :),
    (congrArg Sess.hasRouteKeys hc :)⟩

theorem sessions_kept {sid : Nat} {l l' : List Sess} (h : SessAll₂ (SessFrame sid) l l') :
    l'.length = l.length ∧ ∀ (i : Nat) (t : Sess), l[i]? = some t → ∃ t', l'[i]? = some t' ∧ SessKept sid t t' :=
  ⟨SessAll₂.length _ _ h, fun i t ht => let ⟨t', h1, h2⟩ := SessAll₂.get _ _ h i t ht; ⟨t', h1, h2.kept⟩⟩

theorem sess?_kept {sid : Nat} {sv sv' : Server} (h : SessAll₂ (SessFrame sid) sv.sessions sv'.sessions)
    (tid : Nat) {t : Sess} (ht : sv.sess? tid = some t) : ∃ t', sv'.sess? tid = some t' ∧ SessFrame sid t t' :=
  SessAll₂.find (fun _ _ h => h.sid) tid _ _ h t ht

theorem OnlyOwn.sess {sid : Nat} {own : List Bytes} {sv sv' : Server} (h : OnlyOwn sid own sv sv') {s : Sess}
    (hs : sv.sess? sid = some s) : ∃ s', sv'.sess? sid = some s' ∧ sessNames s' = sessNames s := by
  obtain ⟨s', hs', hk⟩ := sess?_kept h.sessions sid hs
  exact ⟨s', hs', by simp only [sessNames, hk.sid, hk.host]⟩

/-- a host node that looks the same through `strip` is still there, and so is each of its children -/
theorem host_kept {sid : Nat} {sv sv' : Server} {h : Bytes}
    (hh : (getNode sv' [h]).map (strip sid) = (getNode sv [h]).map (strip sid)) (n : Bytes) :
    ((getNode sv [h]).isSome → (getNode sv' [h]).isSome) ∧ ((getNode sv [h, n]).isSome → (getNode sv' [h, n]).isSome) := by
  have two : ∀ x : Server, getNode x [h, n] = (getNode x [h]).bind (fun p => findKid n p.kids) :=
    fun x => getNode_snoc_eq x [h] n (by simp [fuelDepth])
  rw [two, two]
  cases h2 : getNode sv [h] with
  | none => exact ⟨fun h => by simp at h, fun h => by simp at h⟩
  | some p =>
    cases h1 : getNode sv' [h] with
    | none => rw [h1, h2] at hh; simp at hh
    | some p' =>
      rw [h1, h2] at hh
      simp only [Option.map_some, Option.some.injEq] at hh
      have hk : p'.kids.map Node.name = p.kids.map Node.name := congrArg Stripped.kidNames hh
      refine ⟨fun _ => rfl, fun hn => ?_⟩
      simp only [Option.bind_some] at hn ⊢
      rw [findKid_isSome_iff] at hn ⊢
      rw [hk]; exact hn

end Muscle.Reflector

namespace Muscle.Eng.SrvEngine
open Muscle Muscle.Eng Muscle.Reflector

theorem runCmd_own (sv : Server) (sid : Nat) (s : Sess) (hs : sv.sess? sid = some s) (c : Cmd) :
    OnlyOwn sid (sessNames s) sv (runCmd sv sid c) :=
  runCmd_three (P := OnlyOwn sid (sessNames s) sv) sv sid c (OnlyOwn.refl ..)
    (fun f hf => updSess_own sv sid _ f (fun t => Sess.ident_of_paramFrame (hf t)))
    (fun s' hs' h => by cases hs.symm.trans hs'; exact h.onlyOwn)

theorem runCmd_sessions (sv : Server) (sid : Nat) (c : Cmd) :
    SessAll₂ (SessFrame sid) sv.sessions (runCmd sv sid c).sessions := by
  cases hs : sv.sess? sid with
  | some s => exact (runCmd_own sv sid s hs c).sessions
  | none => rw [runCmd_absent sv sid hs c]; exact SessAll₂.refl (SessFrame.refl sid) _

/-! ## a concrete state for the non-vacuity examples of `Props/C06.lean`

Two sessions on two hosts; session 1 owns the node `x` = 7, on which session 0 holds one subscription mark.
(`sidName` is left symbolic: `toString` does not reduce in the kernel.) -/

def demoS0 : Sess := { slot := 0, sid := 0, host := [104] }
def demoS1 : Sess := { slot := 1, sid := 1, host := [105] }

def demoSv : Server :=
  { root := .mk [] none
      [ .mk [104] none [ .mk (sidName 0) none [] [] 0 [] ] [] 0 [],
        .mk [105] none [ .mk (sidName 1) none [ .mk [120] (some 7) [] [] 0 [(0, 1)] ] [] 0 [] ] [] 0 [] ] [] 0 [],
    live := true,
    sessions := [ demoS0, demoS1 ],
    nextSid := 2 }

/-- a session's commands, each followed by the push of pending update Messages (what the engine's `step` and
    a BATCH do) -/
def runHistory (sv : Server) (sid : Nat) (cmds : List Cmd) : Server :=
  cmds.foldl (fun sv c => pushAll (runCmd sv sid c)) sv

theorem runHistory_own (sid : Nat) (cmds : List Cmd) (sv : Server) (s : Sess) (hs : sv.sess? sid = some s) :
    OnlyOwn sid (sessNames s) sv (runHistory sv sid cmds) :=
  (foldl_rel_inv (R := OnlyOwn sid (sessNames s)) (I := fun x => ∃ s', x.sess? sid = some s' ∧ sessNames s' = sessNames s)
    (OnlyOwn.refl _ _) OnlyOwn.trans _ cmds (fun x c _ ⟨s', hs', he⟩ => by
      have h1 : OnlyOwn sid (sessNames s) x (pushAll (runCmd x sid c)) :=
        he ▸ (runCmd_own x sid s' hs' c).trans ((pushAll_notifyOnly _).onlyOwn _ _)
      obtain ⟨s2, hs2, he2⟩ := h1.sess hs'
      exact ⟨h1, s2, hs2, he2.trans he⟩) sv ⟨s, hs, rfl⟩).1

end Muscle.Eng.SrvEngine
