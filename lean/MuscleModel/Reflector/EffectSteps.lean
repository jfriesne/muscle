import MuscleModel.Reflector.Handlers
import MuscleModel.Reflector.Strip
import MuscleModel.Reflector.SessRel

/-!
# The writes the handlers are made of

Every handler changes the server state by a sequence of writes of four kinds (`Op`): the dirty flag, `pushOnce`, an update of one
session, an update of one node.  `Acts Op.run p a b` says that `b` comes from `a` by such writes, each allowed by `p` in the state it is made
in; a property of all handlers is proved by one
induction (`Acts.rel`, `Acts.inv`) and one case distinction over the kind of write.
Three predicates, each implying the next, name what the handlers do: `NotifOp` (the notification pipeline; `Notif a b`), `GrowOp sid
own N` (also fields and childless nodes put below `own`, nothing removed; `Grow`: SETDATA, INSERTORDEREDDATA, REORDERDATA), `DataOp sid own N` (also removals below
`own`, marks of `sid`, `sid`'s own session; `Data`: every data command and the departure).  `Delivers T L a b` — nothing but lines
satisfying `L` delivered to sessions whose id satisfies `T` — keeps the list of lines.  No notification touches the tree (`…_root`,
`getNode_notifyIndex`, `getNode_notifyChanged`).

A handler is stated once, at the finest of the three closures it satisfies; `N` is what a reader needs of the names of new nodes (no `/`
for `NS`, `fun _ => True` where names do not matter).  A write that
removes or rearranges children keeps `MK` only under `TreeInv`, so for such a handler `MK`, the mirror (`Sync`) and `TreeInv` are proved by
themselves (as for REMOVEDATA).  These are the invariants of the later modules: `MK` (Marks.lean: the subscriber tables are what the
subscriptions say), `NS` (NoSlash.lean: no `/` in a node name), `TreeInv` (IndexProofsTreeInv.lean: every ordered index lists children of
its node), `Sync` (SyncSteps.lean: a subscriber's mirror stays right).

The two relations read off here:
* `NotifyOnly sv sv'`: the tree is the same and every session is the same except for its pending update
  Messages and its inbox (`nextData`, `nextIdx`, `inbox`) — all the notification pipeline may do.
* `OnlyOwn sid own sv sv'`: every node whose path does not extend `own` looks the same through `strip sid`,
  and the session tables are related by `SessFrame sid` position by position (a foreign session: everything but
  `nextData/nextIdx/inbox`; a session with id `sid`: slot, id and host).
Both are reflexive and transitive.
-/


namespace Muscle.Reflector
open Muscle

/-- a session without its notification state -/
def Sess.core (t : Sess) : Sess := { t with nextData := none, nextIdx := none, inbox := [] }

/-- what a command of session `a` keeps of a session `t` (after: `t'`): its identity, and all but the notification state
    when `t` is another session -/
structure SessFrame (a : Nat) (t t' : Sess) : Prop where
  sid : t'.sid = t.sid
  host : t'.host = t.host
  slot : t'.slot = t.slot
  core : t.sid ≠ a → t'.core = t.core

def NotifyOnly (sv sv' : Server) : Prop :=
  sv'.root = sv.root ∧ sv'.sessions.map Sess.core = sv.sessions.map Sess.core

structure OnlyOwn (sid : Nat) (own : List Bytes) (sv sv' : Server) : Prop where
  tree : ∀ names, ¬ own <+: names → (getNode sv' names).map (strip sid) = (getNode sv names).map (strip sid)
  sessions : SessAll₂ (SessFrame sid) sv.sessions sv'.sessions

theorem SessFrame.refl (sid : Nat) (t : Sess) : SessFrame sid t t := ⟨rfl, rfl, rfl, fun _ => rfl⟩

theorem SessFrame.trans {sid : Nat} {a b c : Sess} (h1 : SessFrame sid a b) (h2 : SessFrame sid b c) : SessFrame sid a c :=
  ⟨h2.sid.trans h1.sid, h2.host.trans h1.host, h2.slot.trans h1.slot,
   fun hne => (h2.core (by rw [h1.sid]; exact hne)).trans (h1.core hne)⟩

theorem SessFrame.of_core (sid : Nat) {t t' : Sess} (h : t'.core = t.core) : SessFrame sid t t' :=
  ⟨(congrArg Sess.sid h :), (congrArg Sess.host h :), (congrArg Sess.slot h :), fun _ => h⟩

theorem NotifyOnly.refl (sv : Server) : NotifyOnly sv sv := ⟨rfl, rfl⟩

theorem NotifyOnly.trans {a b c : Server} (h1 : NotifyOnly a b) (h2 : NotifyOnly b c) : NotifyOnly a c :=
  ⟨h2.1.trans h1.1, h2.2.trans h1.2⟩

theorem OnlyOwn.refl (sid : Nat) (own : List Bytes) (sv : Server) : OnlyOwn sid own sv sv :=
  ⟨fun _ _ => rfl, SessAll₂.refl (SessFrame.refl sid) _⟩

theorem OnlyOwn.trans {sid : Nat} {own : List Bytes} {a b c : Server}
    (h1 : OnlyOwn sid own a b) (h2 : OnlyOwn sid own b c) : OnlyOwn sid own a c :=
  ⟨fun names hn => (h2.tree names hn).trans (h1.tree names hn),
   SessAll₂.trans (R := SessFrame sid) (fun _ _ _ => SessFrame.trans) _ _ _ h1.sessions h2.sessions⟩

theorem NotifyOnly.onlyOwn {sv sv' : Server} (h : NotifyOnly sv sv') (sid : Nat) (own : List Bytes) :
    OnlyOwn sid own sv sv' := by
  exact ⟨fun names _ => congrArg _ (getNode_congr h.1 names), SessAll₂.of_map_eq Sess.core (fun _ _ => SessFrame.of_core sid) _ _ h.2⟩

inductive Op where
  | dirty (d : Bool)
  | push
  | sess (t : Nat) (f : Sess → Sess)
  | node (path : List Bytes) (f : Node → Node)

def Op.run : Op → Server → Server
  | .dirty d, a => { a with subsDirty := d }
  | .push, a => pushOnce a
  | .sess t f, a => a.updSess t f
  | .node path f, a => setNode a path f

/-- `b` comes from `a` by moves `run m`, each allowed by `p` in the state it is made in.  The handlers are read at two alphabets of
    moves: the single writes (`Op`, `Op.run`; `p` sees the state because the subscriber table of a new leaf is computed from it) and,
    in `Changes`, the notified changes (`Move`, `Move.run a`). -/
inductive Acts {M : Type} (run : M → Server → Server) (p : Server → M → Prop) (a : Server) : Server → Prop
  | refl : Acts run p a a
  | step {x : Server} (m : M) : Acts run p a x → p x m → Acts run p a (run m x)

namespace Acts
variable {M : Type} {run : M → Server → Server} {p q : Server → M → Prop} {a b c : Server}

/-- one write; stated for `Op` because `run m a` is matched against the state written only once `M` is known -/
theorem one {p : Server → Op → Prop} (op : Op) (h : p a op) : Acts Op.run p a (op.run a) := .step op .refl h

theorem trans (h1 : Acts run p a b) (h2 : Acts run p b c) : Acts run p a c := by
  induction h2 with
  | refl => exact h1
  | step m _ hp ih => exact .step m ih hp

theorem mono (hpq : ∀ x m, p x m → q x m) (h : Acts run p a b) : Acts run q a b := by
  induction h with
  | refl => exact .refl
  | step m _ hp ih => exact .step m ih (hpq _ m hp)

theorem foldl_from {α} (g : Server → α → Server) (l : List α) (hg : ∀ y v, v ∈ l → Acts run p a y → Acts run p a (g y v))
    (y : Server) (h : Acts run p a y) : Acts run p a (l.foldl g y) :=
  (foldl_rel_inv (R := fun _ _ => True) (I := fun y => Acts run p a y) (fun _ => trivial) (fun _ _ => trivial) g l
    (fun y v hv hy => ⟨trivial, hg y v hv hy⟩) y h).2

theorem foldl {α} (g : Server → α → Server) (l : List α) (hg : ∀ x v, v ∈ l → Acts run p x (g x v)) (x : Server) :
    Acts run p x (l.foldl g x) :=
  foldl_from g l (fun _ v hv hy => hy.trans (hg _ v hv)) x .refl

theorem rel_inv {R : Server → Server → Prop} {I : Server → Prop} (hr : ∀ x, R x x) (ht : ∀ {x y z}, R x y → R y z → R x z)
    (h1 : ∀ x m, p x m → I x → R x (run m x) ∧ I (run m x)) (h : Acts run p a b) (ha : I a) : R a b ∧ I b := by
  induction h with
  | refl => exact ⟨hr a, ha⟩
  | step m _ hp ih => have := h1 _ m hp ih.2; exact ⟨ht ih.1 this.1, this.2⟩

theorem rel {R : Server → Server → Prop} (hr : ∀ x, R x x) (ht : ∀ {x y z}, R x y → R y z → R x z)
    (h1 : ∀ x m, p x m → R x (run m x)) (h : Acts run p a b) : R a b :=
  (rel_inv (I := fun _ => True) hr ht (fun x m hp _ => ⟨h1 x m hp, trivial⟩) h trivial).1

theorem inv {P : Server → Prop} (h1 : ∀ x m, p x m → P x → P (run m x)) (h : Acts run p a b) (ha : P a) : P b :=
  (rel_inv (R := fun _ _ => True) (fun _ => trivial) (fun _ _ => trivial) (fun x m hp hx => ⟨trivial, h1 x m hp hx⟩) h ha).2

theorem nextSid {p : Server → Op → Prop} (h : Acts Op.run p a b) : b.nextSid = a.nextSid :=
  h.rel (R := fun x y => y.nextSid = x.nextSid) (fun _ => rfl) (fun h1 h2 => h2.trans h1) (fun _ op _ => by cases op <;> rfl)

end Acts

/-- the line a receiver sees for the client-to-client Message `tag` of session `sid` (the text `sendMsg` builds) -/
def msgText (sid tag : Nat) : String := "MSG 1234 from=" ++ toString sid ++ " tag=" ++ toString tag

/-- the lines `ds` (receiver id, text), delivered one after the other -/
def deliverAll (sv : Server) (ds : List (Nat × String)) : Server := ds.foldl (fun sv d => sv.deliver d.1 d.2) sv

def AnyLine : String → Prop := fun _ => True

/-- `b` is `a` after lines satisfying `L` were delivered to sessions whose id satisfies `T` -/
def Delivers (T : Nat → Prop) (L : String → Prop) (a b : Server) : Prop :=
  ∃ ds, (∀ d ∈ ds, T d.1 ∧ L d.2) ∧ b = deliverAll a ds

theorem Delivers.refl (T : Nat → Prop) (L : String → Prop) (a : Server) : Delivers T L a a := ⟨[], by simp, rfl⟩

theorem Delivers.trans {T : Nat → Prop} {L : String → Prop} {a b c : Server} (h1 : Delivers T L a b) (h2 : Delivers T L b c) :
    Delivers T L a c := by
  obtain ⟨d1, p1, rfl⟩ := h1
  obtain ⟨d2, p2, rfl⟩ := h2
  refine ⟨d1 ++ d2, fun d hd => ?_, (List.foldl_append ..).symm⟩
  rcases List.mem_append.mp hd with hd | hd
  · exact p1 d hd
  · exact p2 d hd

theorem Delivers.one {T : Nat → Prop} {L : String → Prop} (a : Server) {t : Nat} {w : String} (ht : T t) (hw : L w) :
    Delivers T L a (a.deliver t w) :=
  ⟨[(t, w)], by intro d hd; simp only [List.mem_singleton] at hd; subst hd; exact ⟨ht, hw⟩, rfl⟩

theorem Delivers.foldl {T : Nat → Prop} {L : String → Prop} {α} (g : Server → α → Server) (l : List α)
    (hg : ∀ sv a, a ∈ l → Delivers T L sv (g sv a)) (sv : Server) : Delivers T L sv (l.foldl g sv) :=
  foldl_rel (Delivers.refl T L) Delivers.trans g l hg sv

def NotifOp : Op → Prop
  | .dirty _ | .push => True
  | .sess _ f => ∀ s, (f s).core = s.core ∧ ∃ e, (f s).inbox = s.inbox ++ e
  | .node _ _ => False

abbrev Notif : Server → Server → Prop := Acts Op.run (fun _ => NotifOp)

namespace Notif

theorem dirty (a : Server) (d : Bool) : Notif a { a with subsDirty := d } := .one (.dirty d) trivial

theorem push (a : Server) : Notif a (pushOnce a) := .one .push trivial

/-- a session's pending update Messages are replaced -/
theorem pend (a : Server) (t : Nat) (f : Sess → Sess) (hf : ∀ s, (f s).core = s.core ∧ (f s).inbox = s.inbox) :
    Notif a (a.updSess t f) :=
  .one (.sess t f) (fun s => ⟨(hf s).1, [], by rw [(hf s).2, List.append_nil]⟩)

theorem deliver (a : Server) (t : Nat) (w : String) : Notif a (a.deliver t w) :=
  .one (.sess t _) (fun _ => ⟨rfl, [w], rfl⟩)

theorem foldl {α} (g : Server → α → Server) (hg : ∀ sv a, Notif sv (g sv a)) (l : List α) (sv : Server) :
    Notif sv (l.foldl g sv) :=
  Acts.foldl g l (fun sv a _ => hg sv a) sv

end Notif

theorem Delivers.notif {T : Nat → Prop} {L : String → Prop} {a b : Server} (h : Delivers T L a b) : Notif a b := by
  obtain ⟨ds, _, rfl⟩ := h
  exact Notif.foldl _ (fun sv d => .deliver sv d.1 d.2) ds a

/-- what a data command keeps of its own session: all but the subscriptions, the `SUBSCRIBE:` parameter names and
    `indexingPresent` (the pending update Messages and the inbox change through notification writes only) -/
def Sess.dataFrame (s : Sess) : Sess :=
  { s with subs := [], indexingPresent := false, params := s.params.filter (fun n => !subscribePrefix.isPrefixOf n) }

theorem Sess.ident_of_dataFrame {s s' : Sess} (h : s'.dataFrame = s.dataFrame) :
    s'.sid = s.sid ∧ s'.host = s.host ∧ s'.slot = s.slot :=
  ⟨(congrArg Sess.sid h :), (congrArg Sess.host h :), (congrArg Sess.slot h :)⟩

structure IsField (f : Node → Node) : Prop where
  name : ∀ n, (f n).name = n.name
  kids : ∀ n, (f n).kids = n.kids
  subs : ∀ n, (f n).subs = n.subs

/-- the writes of the handlers that remove no child: notifications, a field (not name, children, subscriber table) of a node below
    `own`, a childless node named by `N` put below `own` (`putKid`: a child of that name is replaced) with the subscriber table
    `NodeCreated` gives it in state `x`, the indexing flag of session `sid` -/
def GrowOp (sid : Nat) (own : List Bytes) (N : Bytes → Prop) (x : Server) : Op → Prop
  | .node path f => own <+: path ∧ (IsField f ∨ ∃ c : Node, c.kids = [] ∧ N c.name ∧
      f = fun q => q.setKids (putKid (c.setSubs (marksForNewNode x (path ++ [c.name]))) q.kids))
  | .sess t f => NotifOp (.sess t f) ∨ (t = sid ∧ f = fun s => { s with indexingPresent := true })
  | op => NotifOp op

/-- the writes of every data command of session `sid` owning the subtree `own`, and of its departure: those of `GrowOp`, a child removed
    below `own`, any node (un)marked for `sid`, an update of `sid`'s own session that keeps `Sess.dataFrame` -/
def DataOp (sid : Nat) (own : List Bytes) (N : Bytes → Prop) (x : Server) : Op → Prop
  | .node path f => GrowOp sid own N x (.node path f) ∨
      (own <+: path ∧ ∃ key, f = fun p => p.setKids (removeKid key p.kids)) ∨
      ∃ delta, f = fun n => n.setSubs (adjustSubs n.subs sid delta)
  | .sess t f => NotifOp (.sess t f) ∨ (t = sid ∧ ∀ s, (f s).dataFrame = s.dataFrame)
  | op => NotifOp op

abbrev Grow (sid : Nat) (own : List Bytes) (N : Bytes → Prop) : Server → Server → Prop := Acts Op.run (GrowOp sid own N)
abbrev Data (sid : Nat) (own : List Bytes) (N : Bytes → Prop) : Server → Server → Prop := Acts Op.run (DataOp sid own N)

section
variable {sid : Nat} {own : List Bytes} {N : Bytes → Prop}

theorem NotifOp.grow (x : Server) (op : Op) (h : NotifOp op) : GrowOp sid own N x op := by
  cases op with
  | sess t f => exact .inl h
  | node path f => exact h.elim
  | _ => exact h

theorem GrowOp.data (x : Server) (op : Op) (h : GrowOp sid own N x op) : DataOp sid own N x op := by
  cases op with
  | sess t f =>
    rcases h with h | ⟨rfl, rfl⟩
    · exact .inl h
    · exact .inr ⟨rfl, fun _ => rfl⟩
  | node path f => exact .inl h
  | _ => exact h

theorem Notif.grow {a b : Server} (h : Notif a b) : Grow sid own N a b := h.mono NotifOp.grow
theorem Grow.data {a b : Server} (h : Grow sid own N a b) : Data sid own N a b := h.mono GrowOp.data
theorem Notif.data {a b : Server} (h : Notif a b) : Data sid own N a b := h.grow.data

theorem GrowOp.field (x : Server) {path : List Bytes} (f : Node → Node) (hp : own <+: path) (hf : IsField f) :
    GrowOp sid own N x (.node path f) :=
  ⟨hp, .inl hf⟩

theorem DataOp.removeKid (x : Server) {path : List Bytes} (key : Bytes) (hp : own <+: path) :
    DataOp sid own N x (.node path (fun p => p.setKids (removeKid key p.kids))) :=
  .inr (.inl ⟨hp, key, rfl⟩)

theorem Grow.field (x : Server) {path : List Bytes} (f : Node → Node) (hp : own <+: path) (hf : IsField f) :
    Grow sid own N x (setNode x path f) :=
  .one (.node path f) (GrowOp.field x f hp hf)

theorem Grow.leaf (x : Server) {path : List Bytes} (c : Node) (hp : own <+: path) (hk : c.kids = []) (hn : N c.name) :
    Grow sid own N x (setNode x path (fun q => q.setKids (putKid (c.setSubs (marksForNewNode x (path ++ [c.name]))) q.kids))) :=
  .one (.node path _) ⟨hp, .inr ⟨c, hk, hn, rfl⟩⟩

theorem Grow.setData (x : Server) {path : List Bytes} (d : Option Nat) (hp : own <+: path) :
    Grow sid own N x (setNode x path (fun p => p.setData d)) :=
  Grow.field x _ hp ⟨fun _ => rfl, fun _ => rfl, fun _ => rfl⟩

theorem Grow.indexing (x : Server) : Grow sid own N x (x.updSess sid (fun s => { s with indexingPresent := true })) :=
  .one (.sess sid _) (.inr ⟨rfl, rfl⟩)

theorem Data.mark (x : Server) (path : List Bytes) (delta : Option Int) :
    Data sid own N x (setNode x path (fun n => n.setSubs (adjustSubs n.subs sid delta))) :=
  .one (.node path _) (.inr (.inr ⟨delta, rfl⟩))

theorem Data.self (x : Server) (f : Sess → Sess) (hf : ∀ s, (f s).dataFrame = s.dataFrame) : Data sid own N x (x.updSess sid f) :=
  .one (.sess sid f) (.inr ⟨rfl, hf⟩)

end

theorem updSess_notifyOnly (sv : Server) (sid : Nat) (f : Sess → Sess) (hf : ∀ t, (f t).core = t.core) :
    NotifyOnly sv (sv.updSess sid f) :=
  ⟨rfl, map_updSess Sess.core sv sid f hf⟩

theorem pushOnce_notifyOnly (sv : Server) : NotifyOnly sv (pushOnce sv) := by
  refine ⟨rfl, ?_⟩
  simp only [pushOnce, List.map_map]
  apply List.map_congr_left
  intro t _
  simp only [Function.comp]
  cases t.nextData <;> cases t.nextIdx <;> simp [Sess.core]

theorem NotifOp.notifyOnly (x : Server) (op : Op) (h : NotifOp op) : NotifyOnly x (op.run x) := by
  cases op with
  | dirty d => exact ⟨rfl, rfl⟩
  | push => exact pushOnce_notifyOnly x
  | sess t f => exact updSess_notifyOnly x t f (fun s => (h s).1)
  | node path f => exact h.elim

theorem Notif.notifyOnly {a b : Server} (h : Notif a b) : NotifyOnly a b :=
  h.rel NotifyOnly.refl NotifyOnly.trans (fun x op hp => NotifOp.notifyOnly x op hp)

theorem Notif.root {a b : Server} (h : Notif a b) : b.root = a.root := h.notifyOnly.1

theorem updSess_own (sv : Server) (sid : Nat) (own : List Bytes) (f : Sess → Sess)
    (hf : ∀ t, (f t).sid = t.sid ∧ (f t).host = t.host ∧ (f t).slot = t.slot) :
    OnlyOwn sid own sv (sv.updSess sid f) :=
  ⟨fun _ _ => rfl, SessAll₂.updSess (SessFrame.refl sid) sv sid f
    (fun t ht => ⟨(hf t).1, (hf t).2.1, (hf t).2.2, fun hne => absurd ht hne⟩)⟩

theorem setNode_own (sv : Server) (sid : Nat) {own path : List Bytes} (f : Node → Node)
    (h : own <+: path) (hf : ∀ n, (f n).name = n.name) :
    OnlyOwn sid own sv (setNode sv path f) :=
  ⟨fun names hn => getNode_setNode_off (strip sid) (strip_setKids sid) hf sv path names (fun hp => hn (h.trans hp)),
    SessAll₂.refl (SessFrame.refl sid) _⟩

/-- (un)marking any node for `sid` is invisible through `strip sid` -/
theorem setNode_subs (sv : Server) (sid : Nat) (own path : List Bytes) (delta : Option Int) :
    OnlyOwn sid own sv (setNode sv path (fun n => n.setSubs (adjustSubs n.subs sid delta))) :=
  ⟨fun names _ => getNode_setNode_subs sid (adjustSubs · sid delta) (adjustSubs_filter · sid delta) sv path names,
    SessAll₂.refl (SessFrame.refl sid) _⟩

theorem Data.onlyOwn {sid : Nat} {own : List Bytes} {N : Bytes → Prop} {a b : Server} (h : Data sid own N a b) :
    OnlyOwn sid own a b := by
  refine h.rel (OnlyOwn.refl sid own) OnlyOwn.trans (fun x op hp => ?_)
  cases op with
  | dirty d => exact (NotifOp.notifyOnly x (.dirty d) hp).onlyOwn sid own
  | push => exact (NotifOp.notifyOnly x .push hp).onlyOwn sid own
  | node path f =>
    -- a node write keeps the names below `own`, or is a mark of the sender
    rcases hp with ⟨hp, hf | ⟨c, _, _, rfl⟩⟩ | ⟨hp, key, rfl⟩ | ⟨delta, rfl⟩
    · exact setNode_own x sid f hp hf.name
    · exact setNode_own x sid _ hp (fun _ => rfl)
    · exact setNode_own x sid _ hp (fun _ => rfl)
    · exact setNode_subs x sid own path delta
  | sess t f =>
    rcases hp with hp | ⟨rfl, hf⟩
    · exact (NotifOp.notifyOnly x _ hp).onlyOwn sid own
    · exact updSess_own x t own f (fun s => Sess.ident_of_dataFrame (hf s))

theorem pushAll_notif (sv : Server) : Notif sv (pushAll sv) := by
  unfold pushAll
  split
  · exact .push sv
  · exact .refl

theorem nodeChangedAux_notif (sv : Server) (sid : Nat) (np : Bytes) (d : Option Nat) (removed : Bool) :
    Notif sv (nodeChangedAux sv sid np d removed) := by
  unfold nodeChangedAux
  split
  · exact .refl
  · simp only []
    -- every branch ends with the flush at `maxItems`
    have flush : ∀ (b : Server), Notif sv b →
        Notif sv (match b.sess? sid with
          | none => b
          | some s => match s.nextData with
            | some m => if m.numNames ≥ s.maxItems then pushAll b else b
            | none => b) := by
      intro b hb
      split
      · exact hb
      · split
        · split
          · exact hb.trans (pushAll_notif b)
          · exact hb
        · exact hb
    apply flush
    have pend : ∀ (b : Server) (m : Option UpdMsg), Notif b (b.updSess sid (fun s => { s with nextData := m })) :=
      fun b m => .pend b sid _ (fun _ => ⟨rfl, rfl⟩)
    split
    · split
      · -- remove after set: flush, then start a new Message
        exact ((((Notif.dirty sv true).trans (pend _ _)).trans (pushAll_notif _)).trans (pend _ _)).trans (Notif.dirty _ true)
      · exact (Notif.dirty sv true).trans (pend _ _)
    · exact (Notif.dirty sv true).trans (pend _ _)

theorem nodeChanged_notif (sv : Server) (sid : Nat) (names : List Bytes) (newData : Option Nat)
    (oldData : Option (Option Nat)) (removed : Bool) :
    Notif sv (nodeChanged sv sid names newData oldData removed) := by
  unfold nodeChanged
  split
  · exact .refl
  · -- every branch is the state itself or one `nodeChangedAux`
    cases oldData <;> simp only [] <;> repeat' apply ite_pred
    all_goals first | exact .refl | exact nodeChangedAux_notif ..

theorem notifyChanged_notif (sv : Server) (by_ : Nat) (names : List Bytes) (node : Node)
    (oldData : Option (Option Nat)) (removed : Bool) :
    Notif sv (notifyChanged sv by_ names node oldData removed) := by
  unfold notifyChanged
  apply Notif.foldl
  intro sv ⟨sid, c⟩
  repeat' split
  all_goals first | exact .refl | exact nodeChanged_notif ..

theorem notifyIndex_notif (sv : Server) (names : List Bytes) (node : Node) (instr : Bytes) :
    Notif sv (notifyIndex sv names node instr) := by
  unfold notifyIndex
  apply Notif.foldl
  intro sv ⟨sid, c⟩
  simp only []
  split
  · exact .refl
  · split
    · exact .refl
    · refine Acts.trans (Notif.pend sv sid _ ?_) (Notif.dirty _ true)
      exact fun _ => ⟨rfl, rfl⟩

@[simp] theorem updSess_root (sv : Server) (sid : Nat) (f : Sess → Sess) : (sv.updSess sid f).root = sv.root := rfl
@[simp] theorem deliver_root (sv : Server) (sid : Nat) (w : String) : (sv.deliver sid w).root = sv.root := rfl
@[simp] theorem pushOnce_root (sv : Server) : (pushOnce sv).root = sv.root := rfl
@[simp] theorem pushAll_root (sv : Server) : (pushAll sv).root = sv.root := (pushAll_notif sv).root

@[simp] theorem nodeChangedAux_root (sv : Server) (sid : Nat) (np : Bytes) (d : Option Nat) (removed : Bool) :
    (nodeChangedAux sv sid np d removed).root = sv.root := (nodeChangedAux_notif ..).root

@[simp] theorem nodeChanged_root (sv : Server) (sid : Nat) (names : List Bytes) (nd : Option Nat)
    (od : Option (Option Nat)) (removed : Bool) : (nodeChanged sv sid names nd od removed).root = sv.root :=
  (nodeChanged_notif ..).root

@[simp] theorem notifyChanged_root (sv : Server) (by_ : Nat) (names : List Bytes) (node : Node)
    (od : Option (Option Nat)) (removed : Bool) : (notifyChanged sv by_ names node od removed).root = sv.root :=
  (notifyChanged_notif ..).root

@[simp] theorem notifyIndex_root (sv : Server) (names : List Bytes) (node : Node) (instr : Bytes) :
    (notifyIndex sv names node instr).root = sv.root := (notifyIndex_notif ..).root

@[simp] theorem getNode_notifyIndex (sv : Server) (names : List Bytes) (node : Node) (instr : Bytes) (q : List Bytes) :
    getNode (notifyIndex sv names node instr) q = getNode sv q := getNode_congr (by simp) q

@[simp] theorem getNode_notifyChanged (sv : Server) (by_ : Nat) (names : List Bytes) (node : Node)
    (od : Option (Option Nat)) (removed : Bool) (q : List Bytes) :
    getNode (notifyChanged sv by_ names node od removed) q = getNode sv q := getNode_congr (by simp) q

@[simp] theorem getNode_updSess (sv : Server) (sid : Nat) (f : Sess → Sess) (q : List Bytes) :
    getNode (sv.updSess sid f) q = getNode sv q := rfl

theorem pushAll_notifyOnly (sv : Server) : NotifyOnly sv (pushAll sv) := (pushAll_notif sv).notifyOnly

theorem nextSid_pushAll (sv : Server) : (pushAll sv).nextSid = sv.nextSid := (pushAll_notif sv).nextSid

theorem putChild_quiet (sv : Server) (by_ : Nat) (parent : List Bytes) (child : Node) :
    putChild sv by_ parent child false =
      setNode sv parent (fun q => q.setKids (putKid (child.setSubs (marksForNewNode sv (parent ++ [child.name]))) q.kids)) := by
  unfold putChild
  simp

theorem putChild_notify (sv : Server) (by_ : Nat) (parent : List Bytes) (child : Node) :
    putChild sv by_ parent child true =
      notifyChanged (putChild sv by_ parent child false) by_ (parent ++ [child.name])
        (child.setSubs (marksForNewNode sv (parent ++ [child.name])))
        (((getNode sv parent).bind (fun p => findKid child.name p.kids)).map (·.data)) false := by
  simp [putChild]

/-- the names `InsertOrderedChild` generates are acceptable -/
abbrev AutoOK (N : Bytes → Prop) : Prop := ∀ fuel ctr kids, N (autoName fuel ctr kids).1

section
variable {sid : Nat} {own : List Bytes} {N : Bytes → Prop}

theorem putChild_grow (sv : Server) (by_ : Nat) {parent : List Bytes} (child : Node) (notify : Bool)
    (h : own <+: parent) (hk : child.kids = []) (hn : N child.name) : Grow sid own N sv (putChild sv by_ parent child notify) := by
  have core : Grow sid own N sv (putChild sv by_ parent child false) := by
    rw [putChild_quiet]
    exact Grow.leaf sv child h hk hn
  cases notify with
  | false => exact core
  | true => rw [putChild_notify]; exact core.trans (notifyChanged_notif ..).grow

end

end Muscle.Reflector
