import MuscleModel.Reflector.IndexProofsRemove
import MuscleModel.Reflector.IndexProofsTree

/-!
# C13: one operation on a parent node (`IdxOp.step`: the node afterwards, replay of its log, the invariant) and sequences of
operations (`runOps_step`)
-/

namespace Muscle.Reflector
open Muscle

/-- the parent node after the operation: the client that applies what the operation emitted to the old index holds
    the new index, and the invariant survives under the operation's precondition -/
theorem IdxOp.step {sv : Server} {parent : List Bytes} {p : Node} (op : IdxOp) (h : getNode sv parent = some p) :
    ∃ p', getNode (op.run parent sv) parent = some p' ∧ applyAll p.index (op.log parent sv) = some p'.index ∧
      (IdxInv p → op.ok p → IdxInv p') := by
  cases op with
  | insert by_ d before name nc =>
    simp only [IdxOp.run, IdxOp.log, h]
    by_cases hb : before = removeFromIndexName
    · rw [insertOrderedChild_unindexed by_ d name nc h hb, if_pos hb]
      exact ⟨_, getNode_insertOrderedPut _ _ _ _ _ h, by simp [applyAll], fun hinv _ => by
        obtain ⟨c, _, hk⟩ := insertOrderedPutNode_kids sv parent p d (ordPair p name).1 (ordPair p name).2
        exact IdxInv.of_same (by simp) (by intro x; rw [hk]; simp) (IdxInv.putKid c hinv)⟩
    · rw [if_neg hb]
      exact ⟨_, getNode_insertOrderedChild by_ d name nc h hb,
        by simp [applyAll, apply_ins_le _ (insertPos_le _ _)], fun hinv hok =>
        idxInv_insert (i := insertPos p.index before) hinv (hok.resolve_left hb) (by simp)
          (insertOrderedNode_kids _ _ _ _ _ _ _)⟩
  | reorder child before =>
    exact ⟨_, getNode_reorderChild child before h, by simp [IdxOp.log, h, applyAll_reorderLog],
      fun hinv hok => idxInv_reorder hinv hok⟩
  | removeEntry key =>
    exact ⟨_, getNode_removeIndexEntry key true h, by simp [IdxOp.log, h, applyAll_remLog],
      fun hinv _ => hinv.eraseLast key⟩
  | removeOne by_ key =>
    simp only [IdxOp.run, IdxOp.log, h]
    cases hc : getNode sv (parent ++ [key]) with
    | none => rw [removeOne_absent by_ true hc]; exact ⟨p, h, rfl, fun hinv _ => hinv⟩
    | some c =>
      exact ⟨_, getNode_removeOne by_ true h hc, by simp [applyAll_remLog], fun hinv _ => idxInv_removeKid key hinv⟩
  | removeChild by_ key =>
    simp only [IdxOp.run, IdxOp.log, h]
    cases hc : getNode sv (parent ++ [key]) with
    | none => rw [removeChild_absent by_ true hc]; exact ⟨p, h, rfl, fun hinv _ => hinv⟩
    | some c =>
      exact ⟨_, getNode_removeChild by_ true h hc, by simp [applyAll_remLog], fun hinv _ => idxInv_removeKid key hinv⟩
  | put by_ child notify =>
    exact ⟨_, getNode_putChild by_ child notify h, by simp [IdxOp.log, applyAll], fun hinv _ => IdxInv.putKid _ hinv⟩

/-- the preconditions along a run -/
def OpsOk (parent : List Bytes) : Server → List IdxOp → Prop
  | _, [] => True
  | sv, op :: r => (∀ p, getNode sv parent = some p → op.ok p) ∧ OpsOk parent (op.run parent sv) r

/-- the instructions of a run, before rendering -/
def opsLog (parent : List Bytes) : Server → List IdxOp → List Instr
  | _, [] => []
  | sv, op :: r => op.log parent sv ++ opsLog parent (op.run parent sv) r

theorem runOps_log (parent : List Bytes) (sv : Server) (ops : List IdxOp) :
    (runOps parent sv ops).2 = (opsLog parent sv ops).map Instr.render := by
  induction ops generalizing sv with
  | nil => rfl
  | cons op r ih => simp [runOps, opsLog, ih]

theorem runOps_step {parent : List Bytes} (ops : List IdxOp) {sv : Server} {p : Node}
    (h : getNode sv parent = some p) :
    ∃ p', getNode (runOps parent sv ops).1 parent = some p' ∧
      applyAll p.index (opsLog parent sv ops) = some p'.index ∧
      (IdxInv p → OpsOk parent sv ops → IdxInv p') := by
  induction ops generalizing sv p with
  | nil => exact ⟨p, h, rfl, fun hi _ => hi⟩
  | cons op r ih =>
    obtain ⟨p1, hp1, hr1, hi1⟩ := op.step h
    obtain ⟨p2, hp2, hr2, hi2⟩ := ih hp1
    exact ⟨p2, by simpa [runOps] using hp2, by rw [opsLog, applyAll_append, hr1]; exact hr2,
      fun hi hok => hi2 (hi1 hi (hok.1 p h)) hok.2⟩

end Muscle.Reflector
