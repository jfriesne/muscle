import MuscleModel.Reflector.IndexProofsRemove
import MuscleModel.Reflector.CommandFrame

/-!
# Departure (`detach`)

* the subtree of the departing session is gone (needs: child names unique below the root and below the host node);
* the un-mark pass clears the mark of the departing session on every node it visits and touches no other mark;
* apart from the root, the host node and the departed subtree every node looks the same through `strip`.
-/


namespace Muscle.Reflector
open Muscle

theorem removeChild_gone (sv : Server) (by_ : Nat) (notify : Bool) (parent : List Bytes) (key : Bytes)
    (hpl : parent.length < fuelDepth)
    (hnd : ∀ p, getNode sv parent = some p → (p.kids.map Node.name).Nodup) :
    getNode (removeChild sv by_ notify (parent ++ [key])) (parent ++ [key]) = none := by
  cases hg : getNode sv (parent ++ [key]) with
  | none => rw [removeChild_absent by_ notify hg]; exact hg
  | some c =>
    obtain ⟨p, hp, _⟩ := getNode_snoc hg
    rw [getNode_snoc_eq _ _ _ hpl, getNode_removeChild by_ notify hp hg]
    exact findKid_removeKid_nodup key p.kids (hnd p hp)

/-- the reference count of `sid` on the node at `names`, if that node exists -/
def markAt (sv : Server) (sid : Nat) (names : List Bytes) : Option Nat :=
  (getNode sv names).map (fun n => subCount n.subs sid)

def unmark (sid : Nat) (sv : Server) (v : List Bytes) : Server :=
  setNode sv v (fun n => n.setSubs (adjustSubs n.subs sid none))

theorem markAt_unmark (sv : Server) (sid : Nat) (v names : List Bytes) :
    markAt (unmark sid sv v) sid names = if names = v then (markAt sv sid names).map (fun _ => 0) else markAt sv sid names := by
  unfold markAt unmark
  simp only [getNode, setNode, nodeAt_updateAt_proj (fun n => subCount n.subs sid) (fun _ _ => rfl)
    (f := fun n => n.setSubs (adjustSubs n.subs sid none)) (fun _ => rfl) (fun _ => rfl), Node.setSubs_subs, subCount_adjustSubs_same, adjNew]
  by_cases hv : names = v
  · simp only [hv, if_true, Option.map_map]; rfl
  · simp only [hv, if_false]

theorem markAt_unmark_all (sid : Nat) (V : List (List Bytes)) : ∀ (sv : Server) (names : List Bytes),
    markAt (V.foldl (unmark sid) sv) sid names = if names ∈ V then (markAt sv sid names).map (fun _ => 0) else markAt sv sid names := by
  induction V with
  | nil => intro sv names; simp
  | cons v r ih =>
    intro sv names
    rw [List.foldl_cons, ih, markAt_unmark]
    by_cases h1 : names = v
    · subst h1
      by_cases h2 : names ∈ r
      · cases markAt sv sid names <;> simp [h2]
      · simp [h2]
    · by_cases h2 : names ∈ r
      · simp [h1, h2]
      · simp [h1, h2]

/-- the state of `detach` just before the un-mark pass: own subtree (and an emptied host node) removed,
    pending update Messages pushed -/
def detachPre (sv : Server) (sid : Nat) (s : Sess) : Server :=
  let sv := removeChild sv sid true (sessNames s)
  let sv := match getNode sv [s.host] with
    | some h => if h.kids.isEmpty then removeChild sv sid true [s.host] else sv
    | none => sv
  pushAll sv

/-- the removal phase of `detach` writes below the host node (or removes it): `Data` with the whole tree as its subtree.  With
    `own = []` the frame says nothing about the tree; `detach_frame` and `Props.C06.departure_subtree_gone` follow the two removals themselves
    (`removeChild_root`) -/
theorem detachPre_data {N : Bytes → Prop} (sv : Server) (sid : Nat) (s : Sess) : Data sid [] N sv (detachPre sv sid s) := by
  unfold detachPre
  have h1 := removeChild_data (sid := sid) (N := N) sv sid true (sessNames s) (List.nil_prefix) (by simp [sessNames])
  refine Acts.trans ?_ (pushAll_notif _).data
  split
  · exact ite_pred (h1.trans (removeChild_data _ sid true [s.host] (List.nil_prefix) (by simp))) h1
  · exact h1

/-- `detach` up to the point where the departed session leaves the table (and but for the `live` flag): the removal phase,
    then, unless the tree is empty, the un-mark pass -/
def detachBody (sv : Server) (sid : Nat) (s : Sess) : Server :=
  if (detachPre sv sid s).root.kids.isEmpty then detachPre sv sid s
  else (travGlobal (detachPre sv sid s) s.subs false cbContinue).foldl (unmark sid) (detachPre sv sid s)

theorem detachBody_data {N : Bytes → Prop} (sv : Server) (sid : Nat) (s : Sess) : Data sid [] N sv (detachBody sv sid s) :=
  ite_pred (detachPre_data sv sid s)
    ((detachPre_data sv sid s).trans (Acts.foldl (unmark sid) _ (fun sv1 v _ => Data.mark sv1 v none) _))

theorem detach_unfold {sv : Server} {sid : Nat} {s : Sess} (hs : sv.sess? sid = some s) :
    detach sv sid =
      let pre := detachPre sv sid s
      let sv4 := if pre.root.kids.isEmpty then { pre with live := false }
        else (travGlobal pre s.subs false cbContinue).foldl
          (fun sv v => setNode sv v (fun n => n.setSubs (adjustSubs n.subs sid none))) pre
      { sv4 with sessions := sv4.sessions.filter (fun t => t.sid ≠ sid) } := by
  unfold Reflector.detach; rw [hs]; rfl

theorem detach_eq (sv : Server) (sid : Nat) (s : Sess) (hs : sv.sess? sid = some s) :
    (detach sv sid).root = (detachBody sv sid s).root ∧
    (detach sv sid).sessions = (detachBody sv sid s).sessions.filter (fun t => t.sid ≠ sid) ∧
    (detach sv sid).nextSid = (detachBody sv sid s).nextSid := by
  rw [detach_unfold hs]
  unfold detachBody unmark
  by_cases hk : (detachPre sv sid s).root.kids.isEmpty <;> simp [hk]

theorem nextSid_detach (sv : Server) (sid : Nat) : (detach sv sid).nextSid = sv.nextSid := by
  cases hs : sv.sess? sid with
  | none => unfold detach; rw [hs]
  | some s => exact (detach_eq sv sid s hs).2.2.trans (detachBody_data (N := fun _ => True) sv sid s).nextSid

theorem markAt_congr_root {a b : Server} (h : a.root = b.root) (sid : Nat) (names : List Bytes) :
    markAt a sid names = markAt b sid names := by
  rw [markAt, getNode_congr h names]; rfl

theorem markAt_detach (sv : Server) (sid : Nat) (s : Sess) (hs : sv.sess? sid = some s) (names : List Bytes) :
    markAt (detach sv sid) sid names =
      if ¬ (detachPre sv sid s).root.kids.isEmpty ∧ names ∈ travGlobal (detachPre sv sid s) s.subs false cbContinue
      then (markAt (detachPre sv sid s) sid names).map (fun _ => 0)
      else markAt (detachPre sv sid s) sid names := by
  rw [markAt_congr_root (detach_eq sv sid s hs).1]
  unfold detachBody
  by_cases hk : (detachPre sv sid s).root.kids.isEmpty
  · simp [hk]
  · simp only [hk, Bool.false_eq_true, if_false, not_false_eq_true, true_and]
    exact markAt_unmark_all sid _ _ names

/-- unique child names below the root and below the host node of `s` -/
def HostWF (sv : Server) (s : Sess) : Prop :=
  (sv.root.kids.map Node.name).Nodup ∧ ∀ p, getNode sv [s.host] = some p → (p.kids.map Node.name).Nodup

/-- the host node, once it has lost its last session, goes with the second `removeChild` of `detach` -/
theorem detach_host_gone (sv : Server) (sid : Nat) (s : Sess) (hwf : HostWF sv s) :
    getNode (removeChild (removeChild sv sid true (sessNames s)) sid true [s.host]) [s.host] = none := by
  apply removeChild_gone _ sid true [] s.host (by simp [fuelDepth])
  intro p hp
  -- the first `removeChild` works below the host node: the root keeps its child names (read off `strip 0`; any id would do)
  have hs := (removeChild_data (sid := 0) (N := fun _ => True) sv sid true (sessNames s)
    (List.prefix_append [s.host] [sidName s.sid]) (by simp [sessNames])).onlyOwn.tree [] (by intro h; have := h.length_le; simp at this)
  rw [hp, getNode_nil] at hs
  simp only [Option.map_some, Option.some.injEq] at hs
  have hk : p.kids.map Node.name = sv.root.kids.map Node.name := congrArg Stripped.kidNames hs
  rw [hk]; exact hwf.1

theorem detachPre_own_gone (sv : Server) (sid : Nat) (s : Sess) (hwf : HostWF sv s) :
    getNode (detachPre sv sid s) (sessNames s) = none := by
  have h1 : getNode (removeChild sv sid true (sessNames s)) (sessNames s) = none :=
    removeChild_gone sv sid true [s.host] (sidName s.sid) (by simp [fuelDepth]) hwf.2
  unfold detachPre
  simp only []
  rw [getNode_congr (pushAll_root _)]
  split
  · exact ite_pred (P := fun x => getNode x (sessNames s) = none)
      (getNode_append_none _ [s.host] [sidName s.sid] (detach_host_gone sv sid s hwf)) h1
  · exact h1

theorem getNode_of_markAt_none {sv : Server} {sid : Nat} {names : List Bytes} (h : markAt sv sid names = none) :
    getNode sv names = none := by
  unfold markAt at h
  cases hg : getNode sv names with
  | none => rfl
  | some n => rw [hg] at h; simp at h

theorem detach_sessions (sv : Server) (sid : Nat) : ∀ t ∈ (detach sv sid).sessions, t.sid ≠ sid ∨ sv.sess? sid = none := by
  intro t ht
  cases hs : sv.sess? sid with
  | none => exact Or.inr rfl
  | some s =>
    left
    rw [(detach_eq sv sid s hs).2.1] at ht
    simpa using (List.mem_filter.mp ht).2

/-! ## what `detach` leaves alone

Removing the child `key` of `parent` changes `parent` itself (children, index) and everything at or below
`parent ++ [key]`, nothing else. -/

theorem setNode_local (sv : Server) (sid : Nat) (parent : List Bytes) (key : Bytes) (f : Node → Node)
    (hname : ∀ n, (f n).name = n.name) (hk : ∀ m b, b ≠ key → findKid b (f m).kids = findKid b m.kids)
    (names : List Bytes) (hn : names ≠ parent) (hp : ¬ (parent ++ [key]) <+: names) :
    (getNode (setNode sv parent f) names).map (strip sid) = (getNode sv names).map (strip sid) := by
  by_cases hpre : parent <+: names
  · obtain ⟨ext, rfl⟩ := hpre
    cases ext with
    | nil => exact absurd (List.append_nil _) hn
    | cons b r =>
      rw [getNode_setNode_sibling hname hk sv parent (fun e => hp ⟨r, by rw [e, List.append_assoc, List.singleton_append]⟩)]
  · exact getNode_setNode_off (strip sid) (strip_setKids sid) hname sv parent names hpre

theorem removeChild_local (sv : Server) (sid by_ : Nat) (notify : Bool) (parent : List Bytes) (key : Bytes)
    (names : List Bytes) (hn : names ≠ parent) (hp : ¬ (parent ++ [key]) <+: names) :
    (getNode (removeChild sv by_ notify (parent ++ [key])) names).map (strip sid) = (getNode sv names).map (strip sid) := by
  cases hc : getNode sv (parent ++ [key]) with
  | none => rw [removeChild_absent by_ notify hc]
  | some c =>
    rw [getNode_congr (removeChild_root by_ notify hc)]
    exact setNode_local sv sid parent key _ (fun _ => by simp) (fun m b hb => by simp [findKid_removeKid_ne hb]) names hn hp

theorem detach_view (sv : Server) (sid : Nat) (s : Sess) (hs : sv.sess? sid = some s) :
    SessAll₂ (SessFrame sid) (sv.sessions.filter (fun t => t.sid ≠ sid)) (detach sv sid).sessions := by
  rw [(detach_eq sv sid s hs).2.1]
  exact SessAll₂.filter (fun _ _ h => h.sid) (fun i => decide (i ≠ sid)) _ _ (detachBody_data (N := fun _ => True) sv sid s).onlyOwn.sessions

/-- the tree after `detach`: outside the departed subtree, and apart from the root and the host node (which lose a
    child), every node looks the same through `strip sid` -/
theorem detach_frame (sv : Server) (sid : Nat) (s : Sess) (hs : sv.sess? sid = some s) (hwf : HostWF sv s)
    (names : List Bytes) (h0 : names ≠ []) (h1 : names ≠ [s.host]) (h2 : ¬ sessNames s <+: names) :
    (getNode (detach sv sid) names).map (strip sid) = (getNode sv names).map (strip sid) := by
  -- the un-mark pass is invisible through `strip sid`
  have hun : ∀ (V : List (List Bytes)) (x : Server),
      (getNode (V.foldl (unmark sid) x) names).map (strip sid) = (getNode x names).map (strip sid) :=
    fun V x => foldl_inv (fun y => (getNode y names).map (strip sid) = (getNode x names).map (strip sid)) (unmark sid)
      (fun y v hy => (getNode_setNode_subs sid (adjustSubs · sid none) (adjustSubs_filter · sid none) y v names).trans hy) V x rfl
  rw [getNode_congr (detach_eq sv sid s hs).1 names]
  unfold detachBody
  have hpre : (getNode (detachPre sv sid s) names).map (strip sid) = (getNode sv names).map (strip sid) := by
    have e1 : (getNode (removeChild sv sid true (sessNames s)) names).map (strip sid) = (getNode sv names).map (strip sid) :=
      removeChild_local sv sid sid true [s.host] (sidName s.sid) names h1 h2
    unfold detachPre
    simp only []
    rw [getNode_congr (pushAll_root _)]
    split
    · rename_i hn hg
      by_cases hempty : hn.kids.isEmpty = true
      case neg => rw [if_neg hempty]; exact e1
      rw [if_pos hempty]
      -- the emptied host node goes: nothing was below it, and (unique names below the root) nothing is now
      by_cases hh : [s.host] <+: names
      · obtain ⟨w, rfl⟩ := hh
        rw [getNode_append_none _ [s.host] w (detach_host_gone sv sid s hwf), ← e1]
        cases w with
        | nil => exact absurd rfl h1
        | cons b rest => rw [getNode_below_leaf _ [s.host] hg (by simpa using hempty) b rest]
      · exact (removeChild_local (removeChild sv sid true (sessNames s)) sid sid true [] s.host names h0
          (by simpa using hh)).trans e1
    · exact e1
  exact ite_pred (P := fun x => (getNode x names).map (strip sid) = _) hpre ((hun _ _).trans hpre)

/-! ## a concrete state for the non-vacuity example of `departure_no_marks_partial`

One session (id 0, host `h`, subscribed to `x`) and a tree holding just the node `/x` with one mark of session 0
(the session's own nodes are absent, so that nothing depends on the kernel evaluating `toString`).  The un-mark
traversal visits `/x`, the only marked node. -/

def orphanS : Sess := { slot := 0, sid := 0, host := [104], subs := [(1, [{ path := [120], clauses := [[120]], filter := none }])] }
def orphanSv : Server :=
  { root := .mk [] none [ .mk [120] none [] [] 0 [(0, 1)] ] [] 0 [], live := true, sessions := [orphanS], nextSid := 1 }

theorem orphan_sess : orphanSv.sess? 0 = some orphanS := rfl
theorem orphan_trav : travGlobal orphanSv orphanS.subs false cbContinue = [[[120]]] := by decide
theorem orphan_pre : detachPre orphanSv 0 orphanS = orphanSv := rfl
theorem orphan_mark : markAt orphanSv 0 [[120]] = some 1 := rfl
theorem orphan_cover : ∀ names k, markAt (detachPre orphanSv 0 orphanS) 0 names = some k → k ≠ 0 →
      names ∈ travGlobal (detachPre orphanSv 0 orphanS) orphanS.subs false cbContinue := by
  intro names k hm hk
  rw [orphan_pre] at hm ⊢
  rw [orphan_trav]
  match names, hm with
  | [], hm =>
    have : markAt orphanSv 0 [] = some 0 := rfl
    rw [this] at hm; injection hm with e; exact absurd e.symm hk
  | [a], hm =>
    by_cases ha : a = [120]
    · subst ha; simp
    · have : markAt orphanSv 0 [a] = none := by
        have ha' : ¬ ([120] : Bytes) = a := fun e => ha e.symm
        simp [markAt, getNode, fuelDepth, nodeAt, orphanSv, findKid, Node.kids, Node.name, ha']
      rw [this] at hm; cases hm
  | a :: b :: r, hm =>
    have : markAt orphanSv 0 (a :: b :: r) = none := by
      by_cases ha : ([120] : Bytes) = a <;>
        simp [markAt, getNode, fuelDepth, nodeAt, orphanSv, findKid, Node.kids, Node.name, ha]
    rw [this] at hm; cases hm

end Muscle.Reflector
