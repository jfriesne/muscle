import MuscleModel.Reflector.SyncSteps

/-!
# PR_COMMAND_SETDATA with the exact list of events (C04: `step_mirror_set_overwrite`, `step_mirror_set_create`)

The mirror theorem for every SETDATA is `Chg.setDataNode` with `Chg.sync` (SyncSet), which says that SOME events reach each subscriber.  For the
two shapes of the command that change one node (the node exists; the parent exists and the last clause does not) the two theorems here name the
events: the clause loop is walked down to that node (`setDataClauses_existing`, `setDataClauses_create_last`), and what remains is
`sync_overwrite` resp. `sync_create` of SyncSteps.
-/

namespace Muscle.Reflector
open Muscle

theorem setDataClauses_existing (by_ : Nat) (d : Option Nat) :
    ∀ (cls : List Bytes) (sv : Server) (cur : List Bytes) (n0 : Node), cls ≠ [] → getNode sv (cur ++ cls) = some n0 →
      setDataClauses by_ d false sv cur cls =
        notifyChanged (setNode sv (cur ++ cls) (fun n => n.setData d)) by_ (cur ++ cls) (n0.setData d)
          (some n0.data) false := by
  intro cls
  induction cls with
  | nil => intro sv cur n0 h; exact absurd rfl h
  | cons cl rest ih =>
    intro sv cur n0 _ hn
    have hsplit : cur ++ cl :: rest = (cur ++ [cl]) ++ rest := by simp
    obtain ⟨c, hc, _⟩ := Option.bind_eq_some_iff.1 ((getNode_append sv (cur ++ [cl]) rest).symm.trans (hsplit ▸ hn))
    obtain ⟨p, hp, hk⟩ := getNode_snoc hc
    cases rest with
    | nil =>
      obtain rfl : c = n0 := Option.some.inj (hc.symm.trans hn)
      exact setDataClauses_over by_ d hp hk hc
    | cons r1 rs =>
      rw [setDataClauses_down by_ d false hp hk (by simp), ih sv (cur ++ [cl]) n0 (by simp) (by rw [← hsplit]; exact hn), hsplit]

theorem setDataNode_overwrite {sv : Server} {a : Nat} {sa : Sess} (hsa : sv.sess? a = some sa) (path : Bytes)
    (hpath : ∀ c r, path = c :: r → c ≠ cSlash) (hne : pathClauses path ≠ []) (d : Option Nat) {n0 : Node}
    (hn : getNode sv (sessNames sa ++ pathClauses path) = some n0) :
    setDataNode sv a path d false =
      notifyChanged (setNode sv (sessNames sa ++ pathClauses path) (fun n => n.setData d)) a
        (sessNames sa ++ pathClauses path) (n0.setData d) (some n0.data) false := by
  unfold setDataNode
  rw [hsa]
  simp only []
  cases path with
  | nil => exact absurd (by decide) hne
  | cons c r =>
    simp only [hpath c r rfl, if_false]
    exact setDataClauses_existing a d _ sv _ n0 hne hn

/-- The whole command SETDATA on an existing node.  Session `a` sets an existing node of its own subtree to `d`: every attached session `sid`
    with subscriptions enabled receives through its pipe exactly the events `evs` below, and a mirror that was right
    before is right afterwards. -/
theorem sync_set_overwrite {sv : Server} (hk : MK sv) {a : Nat} {sa : Sess} (hsa : sv.sess? a = some sa) (path : Bytes)
    (hpath : ∀ c r, path = c :: r → c ≠ cSlash) (hne : pathClauses path ≠ []) (d : Option Nat) {n0 : Node}
    (hn : getNode sv (sessNames sa ++ pathClauses path) = some n0)
    (hu : Unamb sv (sessNames sa ++ pathClauses path))
    {sid : Nat} {s : Sess} (hs : sv.sess? sid = some s) (hen : s.subsEnabled = true) (m : Mirror) :
    Sync sid s sv (setDataNode sv a path d false) m
      (evsFor sid (changeEvents (setNode sv (sessNames sa ++ pathClauses path) (fun n => n.setData d)) a
        (sessNames sa ++ pathClauses path) (n0.setData d) (some n0.data) false)) := by
  rw [setDataNode_overwrite hsa path hpath hne d hn]
  exact sync_overwrite hk (by simp [sessNames]) hn d hu hs hen a (caller_visible hsa hs _) m

theorem setDataClauses_create_last (by_ : Nat) (d : Option Nat) (cl : Bytes) :
    ∀ (cls : List Bytes) (sv : Server) (cur : List Bytes) (p : Node), getNode sv (cur ++ cls) = some p →
      findKid cl p.kids = none → (cur ++ cls).length < fuelDepth →
      setDataClauses by_ d false sv cur (cls ++ [cl]) =
        notifyChanged (putChild sv by_ (cur ++ cls) (Node.fresh cl d) false) by_ (cur ++ cls ++ [cl])
          ((Node.fresh cl d).setSubs (marksForNewNode sv (cur ++ cls ++ [cl]))) none false := by
  intro cls
  induction cls with
  | nil =>
    intro sv cur p hp hk hlen
    simp only [List.append_nil] at hp hlen ⊢
    rw [List.nil_append, setDataClauses_create by_ d hp hk hlen, putChild_quiet]; rfl
  | cons c1 rest ih =>
    intro sv cur p hp hk hlen
    have hsplit : cur ++ c1 :: rest = (cur ++ [c1]) ++ rest := by simp
    obtain ⟨c, hc, _⟩ := Option.bind_eq_some_iff.1 ((getNode_append sv (cur ++ [c1]) rest).symm.trans (hsplit ▸ hp))
    obtain ⟨p0, hp0, hk0⟩ := getNode_snoc hc
    rw [List.cons_append, setDataClauses_down by_ d false hp0 hk0 (by simp),
      ih sv (cur ++ [c1]) p (by rw [← hsplit]; exact hp) hk (by rw [← hsplit]; exact hlen), hsplit]

/-- The whole command SETDATA on a path whose parent node exists and whose last clause does not. -/
theorem sync_set_create_last {sv : Server} (hk : MK sv) {a : Nat} {sa : Sess} (hsa : sv.sess? a = some sa)
    (cls : List Bytes) (cl : Bytes) (path : Bytes) (hpath : ∀ c r, path = c :: r → c ≠ cSlash)
    (hsp : pathClauses path = cls ++ [cl]) (d : Option Nat) {p : Node}
    (hp : getNode sv (sessNames sa ++ cls) = some p) (hkid : findKid cl p.kids = none)
    (hlen : (sessNames sa ++ cls).length < fuelDepth)
    (hu1 : Unamb (putChild sv a (sessNames sa ++ cls) (Node.fresh cl d) false) (sessNames sa ++ cls ++ [cl]))
    {sid : Nat} {s : Sess} (hs : sv.sess? sid = some s) (hen : s.subsEnabled = true) (m : Mirror) :
    Sync sid s sv (setDataNode sv a path d false) m
      (evsFor sid (changeEvents (putChild sv a (sessNames sa ++ cls) (Node.fresh cl d) false) a
        (sessNames sa ++ cls ++ [cl]) ((Node.fresh cl d).setSubs (marksForNewNode sv (sessNames sa ++ cls ++ [cl])))
        none false)) := by
  have heq : setDataNode sv a path d false =
      notifyChanged (putChild sv a (sessNames sa ++ cls) (Node.fresh cl d) false) a (sessNames sa ++ cls ++ [cl])
        ((Node.fresh cl d).setSubs (marksForNewNode sv (sessNames sa ++ cls ++ [cl]))) none false := by
    unfold setDataNode
    rw [hsa]
    simp only []
    cases path with
    | nil => exact absurd hsp (by simp [pathClauses, splitSlash, splitSlashAux])
    | cons c r =>
      simp only [hpath c r rfl, if_false]
      have hsp' : (splitSlash (c :: r)).filter (· ≠ []) = cls ++ [cl] := hsp
      rw [hsp']
      exact setDataClauses_create_last a d cl cls sv _ p hp hkid hlen
  rw [heq]
  rw [putChild_quiet] at hu1 ⊢
  have hcv : (sid ≠ a ∨ bySelfOf sv a = true) ↔ visible s (sessNames sa ++ cls ++ [cl]) = true := by
    rw [List.append_assoc]; exact caller_visible hsa hs _
  exact sync_create hk (sessNames sa ++ cls) (Node.fresh cl d) rfl hp hkid hlen hu1 hs hen a hcv m

end Muscle.Reflector
