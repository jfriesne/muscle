import MuscleModel.Reflector.TreeLaws

/-!
# What one session cannot change in a node: `strip`

`strip sid n` = what an observer other than session `sid` can tell about one node: name, payload, index,
counter, the NAMES of the children in order, and the subscriber table without `sid`'s own entry.
`strip` does not see a change of the children that keeps their names (`strip_setKids`), so `updateAt … path f` with a name-preserving
`f` is invisible through it at every node whose path does not extend `path` (`nodeAt_updateAt_off` of TreeLaws), and at the others
too when `f` rewrites only `sid`'s own subscriber entry (`getNode_setNode_subs`).

Second part: what `adjustSubs` does to the counts (`subCount`) of the adjusted id and of the others; `adjNew` is the `new` of
`adjustSubs` (Server.lean) pulled out.
-/


namespace Muscle.Reflector
open Muscle

structure Stripped where
  name : Bytes
  data : Option Nat
  index : List Bytes
  ctr : Nat
  kidNames : List Bytes
  subs : List (Nat × Nat)

/-- the view of one node that a command of session `sid` must not change outside `sid`'s subtree -/
def strip (sid : Nat) (n : Node) : Stripped :=
  { name := n.name, data := n.data, index := n.index, ctr := n.ctr,
    kidNames := n.kids.map Node.name, subs := n.subs.filter (fun p => p.1 ≠ sid) }

theorem strip_setData_name (n : Node) (d : Option Nat) : (n.setData d).name = n.name := rfl
theorem strip_setKids_name (n : Node) (k : List Node) : (n.setKids k).name = n.name := rfl
theorem strip_setIndex_name (n : Node) (i : List Bytes) : (n.setIndex i).name = n.name := rfl
theorem strip_setCtr_name (n : Node) (c : Nat) : (n.setCtr c).name = n.name := rfl
theorem strip_setSubs_name (n : Node) (s : List (Nat × Nat)) : (n.setSubs s).name = n.name := rfl

theorem strip_setKids (sid : Nat) (n : Node) (k : List Node) (h : k.map Node.name = n.kids.map Node.name) :
    strip sid (n.setKids k) = strip sid n := by
  cases n
  simp only [strip, Node.setKids, Node.name, Node.data, Node.index, Node.ctr, Node.kids, Node.subs] at *
  rw [h]

theorem strip_setSubs (sid : Nat) (n : Node) (s : List (Nat × Nat))
    (h : s.filter (fun p => p.1 ≠ sid) = n.subs.filter (fun p => p.1 ≠ sid)) :
    strip sid (n.setSubs s) = strip sid n := by
  cases n
  simp only [strip, Node.setSubs, Node.name, Node.data, Node.index, Node.ctr, Node.kids, Node.subs] at *
  rw [h]

/-- (Un)marking for `sid` is invisible through `strip sid` at every path: at the node itself by `strip_setSubs`, below it because the
    children are the same, elsewhere because the update keeps names. -/
theorem getNode_setNode_subs (sid : Nat) (g : List (Nat × Nat) → List (Nat × Nat))
    (hg : ∀ s, (g s).filter (fun p => p.1 ≠ sid) = s.filter (fun p => p.1 ≠ sid)) (sv : Server) (path names : List Bytes) :
    (getNode (setNode sv path (fun m => m.setSubs (g m.subs))) names).map (strip sid) = (getNode sv names).map (strip sid) := by
  by_cases hp : path <+: names
  · obtain ⟨ext, rfl⟩ := hp
    rw [getNode_setNode_below (f := fun m => m.setSubs (g m.subs)) (fun _ => rfl), getNode_append]
    cases getNode sv path with
    | none => rfl
    | some t =>
      cases ext with
      | nil =>
        simp only [Option.bind_some, nodeAt_nil, Option.map_some]
        congr 1
        exact strip_setSubs sid t _ (hg _)
      | cons b rest =>
        cases fuelDepth - path.length with
        | zero => rfl
        | succ j => simp only [Option.bind_some, nodeAt_succ_cons, Node.setSubs_kids]
  · exact getNode_setNode_off (strip sid) (strip_setKids sid) (f := fun m => m.setSubs (g m.subs)) (fun _ => rfl) sv path names hp

/-- the new count of the adjusted id -/
def adjNew (cur : Nat) : Option Int → Nat
  | none => 0
  | some d => if d ≥ 0 then cur + d.toNat else (if cur ≥ (-d).toNat then cur - (-d).toNat else 0)

theorem adjustSubs_eq (subs : List (Nat × Nat)) (sid : Nat) (delta : Option Int) :
    adjustSubs subs sid delta =
      if adjNew (subCount subs sid) delta > 0 then
        (if subs.any (fun (k, _) => k = sid) then
          subs.map (fun (k, c) => if k = sid then (k, adjNew (subCount subs sid) delta) else (k, c))
         else subs ++ [(sid, adjNew (subCount subs sid) delta)])
      else subs.filter (fun (k, _) => k ≠ sid) := by
  unfold adjustSubs adjNew
  cases delta <;> rfl

theorem adjustSubs_filter (subs : List (Nat × Nat)) (sid : Nat) (delta : Option Int) :
    (adjustSubs subs sid delta).filter (fun p => p.1 ≠ sid) = subs.filter (fun p => p.1 ≠ sid) := by
  rw [adjustSubs_eq]
  split
  · split
    · apply filter_ne_map_set
      · intro ⟨k, c⟩ hx; simp at hx; simp [hx]
      · intro ⟨k, c⟩ hx; simp at hx; simp [hx]
    · simp [List.filter_append]
  · simp [List.filter_filter]

theorem subCount_filter_ne {sid o : Nat} (h : o ≠ sid) (l : List (Nat × Nat)) :
    subCount (l.filter (fun p => p.1 ≠ sid)) o = subCount l o := by
  unfold subCount
  rw [find?_filter_of_imp]
  intro ⟨k, c⟩ hx
  simp at hx
  simp [hx, h]

/-- marks of another session are readable through `strip sid` -/
theorem subCount_of_strip {sid o : Nat} (h : o ≠ sid) {n n' : Node} (hs : strip sid n' = strip sid n) :
    subCount n'.subs o = subCount n.subs o := by
  rw [← subCount_filter_ne h n'.subs, ← subCount_filter_ne h n.subs]
  exact congrArg (fun x => subCount x.subs o) hs

theorem subCount_nil (sid : Nat) : subCount [] sid = 0 := rfl

theorem find?_none_of_not_any {l : List (Nat × Nat)} {sid : Nat} (h : l.any (fun (k, _) => k = sid) = false) :
    l.find? (fun (k, _) => decide (k = sid)) = none := by
  rw [List.find?_eq_none]
  intro x hx
  simpa using List.any_eq_false.1 h x hx

theorem subCount_not_any (l : List (Nat × Nat)) (sid : Nat) (h : l.any (fun (k, _) => k = sid) = false) :
    subCount l sid = 0 := by
  unfold subCount
  rw [find?_none_of_not_any h]

theorem subCount_append_new (l : List (Nat × Nat)) (sid new : Nat) (h : l.any (fun (k, _) => k = sid) = false) :
    subCount (l ++ [(sid, new)]) sid = new := by
  unfold subCount
  rw [List.find?_append, find?_none_of_not_any h]
  simp

theorem subCount_map_set (l : List (Nat × Nat)) (sid new : Nat) (h : l.any (fun (k, _) => k = sid) = true) :
    subCount (l.map (fun (k, c) => if k = sid then (k, new) else (k, c))) sid = new := by
  induction l with
  | nil => simp at h
  | cons a r ih =>
    obtain ⟨k, c⟩ := a
    by_cases hk : k = sid
    · subst hk
      simp [subCount]
    · have hr : r.any (fun (k, _) => k = sid) = true := by
        simpa [List.any_cons, hk] using h
      have := ih hr
      simp only [subCount, List.map_cons, List.find?_cons, hk, if_false, decide_false] at this ⊢
      exact this

theorem subCount_filter_self (l : List (Nat × Nat)) (sid : Nat) :
    subCount (l.filter (fun (k, _) => k ≠ sid)) sid = 0 := by
  apply subCount_not_any
  rw [List.any_eq_false]
  intro x hx
  have := (List.mem_filter.1 hx).2
  obtain ⟨k, c⟩ := x
  simpa using this

theorem subCount_adjustSubs_same (subs : List (Nat × Nat)) (sid : Nat) (delta : Option Int) :
    subCount (adjustSubs subs sid delta) sid = adjNew (subCount subs sid) delta := by
  rw [adjustSubs_eq]
  split
  · split
    · rename_i h; exact subCount_map_set _ _ _ h
    · rename_i h; exact subCount_append_new _ _ _ (Bool.eq_false_iff.2 h)
  · rename_i h
    rw [subCount_filter_self]; omega

theorem subCount_adjustSubs (subs : List (Nat × Nat)) (sid o : Nat) (delta : Option Int) :
    subCount (adjustSubs subs sid delta) o = if o = sid then adjNew (subCount subs sid) delta else subCount subs o := by
  split
  · rename_i h; subst h; exact subCount_adjustSubs_same _ _ _
  · rename_i h; rw [← subCount_filter_ne h, adjustSubs_filter, subCount_filter_ne h]

theorem adjNew_add (cur c : Nat) : adjNew cur (some (c : Int)) = cur + c := by
  simp [adjNew]

theorem adjNew_one (cur : Nat) : adjNew cur (some 1) = cur + 1 := by
  simp [adjNew]

theorem adjNew_dec (cur : Nat) : adjNew cur (some (-1)) = cur - 1 := by
  simp only [adjNew]
  have : ¬ ((-1 : Int) ≥ 0) := by omega
  rw [if_neg this]
  have h1 : (-(-1 : Int)).toNat = 1 := by decide
  rw [h1]
  split <;> omega

end Muscle.Reflector
