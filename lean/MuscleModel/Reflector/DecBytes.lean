import MuscleModel.Reflector.IndexSpec

/-!
# The bytes of ASCII strings and of decimal numbers

UTF-8 of an ASCII string is one byte per character (`asciiBytes`); the bytes of `toString n` are the decimal digits of `n`
(`decOf_eq_decB`), from which `n` is read back (`decValB_decB`).  Used for index instructions, generated child names and session names.
-/

namespace Muscle.Reflector
open Muscle

theorem byteArray_toList_loop_eq (bs : ByteArray) (k i : Nat) (r : List UInt8) (h : bs.size - i = k) :
    ByteArray.toList.loop bs i r = r.reverse ++ bs.data.toList.drop i := by
  have hsz : bs.data.toList.length = bs.size := by cases bs; rfl
  induction k generalizing i r with
  | zero =>
    have hle := Nat.le_of_sub_eq_zero h
    rw [ByteArray.toList.loop, if_neg (Nat.not_lt.mpr hle), List.drop_eq_nil_of_le (hsz ▸ hle), List.append_nil]
  | succ k ih =>
    have hlt : i < bs.size := Nat.lt_of_sub_eq_succ h
    rw [ByteArray.toList.loop, if_pos hlt, ih (i+1) _ (by rw [Nat.sub_succ, h]; rfl),
      List.drop_eq_getElem_cons (show i < bs.data.toList.length from hsz ▸ hlt), List.reverse_cons,
      List.append_assoc, List.singleton_append]
    congr 2
    cases bs with | mk d =>
    exact getElem!_pos d i hlt

theorem byteArray_toList_eq (bs : ByteArray) : bs.toList = bs.data.toList := by
  simp [ByteArray.toList, byteArray_toList_loop_eq bs _ 0 [] rfl]

/-- UTF-8 of an ASCII string is one byte per character -/
theorem asciiBytes (l : List Char) (h : ∀ c ∈ l, c.val ≤ 127) :
    (String.ofList l).toUTF8.toList = l.map (fun c => c.val.toUInt8) := by
  rw [byteArray_toList_eq]
  simp only [String.toUTF8, String.toByteArray_ofList]
  induction l with
  | nil => simp
  | cons c r ih =>
    rw [← List.singleton_append, List.utf8Encode_append, ByteArray.data_append, List.utf8Encode_singleton]
    have : c.utf8Size = 1 := Char.utf8Size_eq_one_iff.mpr (h c (by simp))
    rw [String.utf8EncodeChar_eq_singleton this]
    simp [ih (fun c hc => h c (List.mem_cons_of_mem _ hc))]

/-- the decimal digits of `n` as bytes -/
def decB (n : Nat) : Bytes := (Nat.toDigits 10 n).map (fun c => c.val.toUInt8)

theorem digit_val {c : Char} (h : c.isDigit = true) : 48 ≤ c.val.toNat ∧ c.val.toNat ≤ 57 := by
  simp only [Char.isDigit, Bool.and_eq_true, decide_eq_true_eq, ge_iff_le, UInt32.le_iff_toNat_le] at h
  exact h

theorem isDigitB_decB (n : Nat) : ∀ b ∈ decB n, isDigitB b = true := by
  intro b hb
  simp only [decB, List.mem_map] at hb
  obtain ⟨c, hc, rfl⟩ := hb
  have := digit_val (Nat.isDigit_of_mem_toDigits (by decide) (by decide) hc)
  simp only [isDigitB, Bool.and_eq_true, decide_eq_true_eq, UInt32.toNat_toUInt8]
  omega

/-- a digit's byte has the digit's value -/
theorem digit_byte {c : Char} (h : c.isDigit = true) : c.val.toUInt8.toNat - 48 = c.toNat - '0'.toNat := by
  have := digit_val h
  have h0 : '0'.toNat = 48 := rfl
  rw [UInt32.toNat_toUInt8, h0, Nat.mod_eq_of_lt (by omega)]
  rfl

theorem decValB_map_aux (l : List Char) (init : Nat) (h : ∀ c ∈ l, c.isDigit = true) :
    (l.map (fun c => c.val.toUInt8)).foldl (fun a b => 10 * a + (b.toNat - 48)) init =
      Nat.ofDigitChars 10 l init := by
  induction l generalizing init with
  | nil => rfl
  | cons c r ih =>
    rw [List.map_cons, List.foldl_cons, Nat.ofDigitChars_cons, ih _ (fun c hc => h c (List.mem_cons_of_mem _ hc)),
      digit_byte (h c List.mem_cons_self)]

theorem decValB_decB (n : Nat) : decValB (decB n) = n := by
  unfold decValB decB
  rw [decValB_map_aux _ _ (fun c hc => Nat.isDigit_of_mem_toDigits (by decide) (by decide) hc)]
  exact Nat.ofDigitChars_ten_toDigits

theorem toUTF8_toList_append (a b : String) : (a ++ b).toUTF8.toList = a.toUTF8.toList ++ b.toUTF8.toList := by
  simp only [byteArray_toList_eq, String.toUTF8, String.toByteArray_append, ByteArray.data_append, Array.toList_append]

theorem charBytes (c : Char) (h : c.val ≤ 127) : (String.ofList [c]).toUTF8.toList = [c.val.toUInt8] :=
  asciiBytes [c] (by simpa using h)

theorem decB_inj {a b : Nat} (h : decB a = decB b) : a = b := by
  simpa [decValB_decB] using congrArg decValB h

theorem decOf_eq_decB (n : Nat) : decOf n = decB n := by
  unfold decOf decB
  rw [Nat.toString_eq_ofList_toDigits, asciiBytes]
  intro c hc
  have := digit_val (Nat.isDigit_of_mem_toDigits (by decide) (by decide) hc)
  have h2 : c.val.toNat ≤ 127 := by omega
  exact UInt32.le_iff_toNat_le.2 h2

end Muscle.Reflector
