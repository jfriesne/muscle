import MuscleModel.Pulse.Ancestors

/-!
Every SCHEDULED list stays sorted by aggregate time under the list maintenance, the public operations and the pulse sweep
(which never changes an aggregate).  In a settled tree the root's aggregate is at or before every time stored below it.
-/

namespace Muscle.Pulse

variable {never d : Nat} {f f' : Forest}

def AllSorted (f : Forest) : Prop := ∀ p, Sorted (fun i => (f i).agg) (f p).sched

theorem allSorted_congr (hs : ∀ p, (f' p).sched = (f p).sched) (ha : ∀ i, (f' i).agg = (f i).agg)
    (h : AllSorted f) : AllSorted f' := by
  intro p; rw [funext ha, hs]; exact h p

theorem allSorted_setL (f : Forest) (p : Nat) (w : Which) (l : List Nat)
    (hl : w = .sched → Sorted (fun i => (f i).agg) l) (h : AllSorted f) : AllSorted (setL f p w l) := by
  intro q
  rw [(sameScalars_setL f p w l).aggFun, ← list_sched, list_setL]
  split
  · rename_i e; exact hl e.2.symm
  · exact h q

theorem allSorted_half (f : Forest) (p c : Nat) (w : Option Which) (h : AllSorted f) : AllSorted (half f p c w) := by
  intro q
  rw [(half_scalars f p c w).aggFun, ← list_sched, half_list]
  split
  · exact erase_sorted (h p)
  · exact h q

theorem allSorted_upd (f : Forest) (n : Nat) (nd : Node) (h1 : nd.sched = (f n).sched) (h2 : nd.agg = (f n).agg) :
    AllSorted f → AllSorted (upd f n nd) :=
  allSorted_congr (fun p => by by_cases hp : p = n <;> simp [upd, hp, h1])
    (fun i => by by_cases hi : i = n <;> simp [upd, hi, h2])

/-- the child is unlinked first, then put in its place by `insertSched`; the recursion up the parent chain only touches
    NEEDSRECALC lists -/
theorem resched_allSorted {p c : Nat} {w : Option Which} (h : resched never d f p c w = some f') :
    AllSorted f → AllSorted f' :=
  resched_lift (ReflTrans.imp AllSorted) allSorted_half
    (fun f p c h => allSorted_setL f p _ _ (fun _ => insertSched_sorted _ c _ (h p)) h)
    (fun f p _ w hw => allSorted_setL f p w _ (fun e => absurd e hw)) h

theorem allSorted_opRel (never : Nat) : OpRel never (Pres AllSorted) :=
  .of_steps (ReflTrans.imp AllSorted) (hnone := fun _ => resched_allSorted) (hrecalc := resched_allSorted)
    (hunvalid := fun f n _ _ => allSorted_upd f n _ rfl rfl) (hclear := fun f n _ _ => allSorted_upd f n _ rfl rfl)
    (horphan := fun f c _ => allSorted_upd f c _ rfl rfl) (hparent := fun f c _ _ => allSorted_upd f c _ rfl rfl)

theorem clearChildren_allSorted (never d : Nat) (f : Forest) (p : Nat) (f' : Forest)
    (hs : AllSorted f) (h : clearChildren never d f p = some f') : AllSorted f' :=
  (allSorted_opRel never).on_clearChildren h hs

def WSorted (w : World) : Prop := AllSorted w.f

theorem pulse_allSorted (never d : Nat) : ∀ (k : Nat),
    (∀ (w w' : World) (n now : Nat), WSorted w → pulseAux never d k w n now = some w' → WSorted w') ∧
    (∀ (w w' : World) (n now : Nat), WSorted w → pulseLoop never d k w n now = some w' → WSorted w') := by
  intro k
  have key := fun now => PulseKeeps.of_steps (never := never) (d := d) (now := now) (ReflTrans.imp WSorted)
    (fun {w w' n} _ _ h hs => by
      obtain ⟨w2, h2, rfl⟩ := callP_some h
      exact allSorted_upd w2.f n _ rfl rfl ((allSorted_opRel never).on_runActs h2 hs))
    (fun {w w' n} h hs => by
      obtain ⟨f', hf, rfl⟩ := pulseFinish_some h
      exact flagUp_lift (ReflTrans.imp AllSorted) resched_allSorted hf hs) k
  exact ⟨fun w w' n now hs h => (key now).aux h hs, fun w w' n now hs h => (key now).loop h hs⟩

theorem gptFinish_agg {w w' : World} {n mn mn' : Nat} (h : gptFinish never d w n mn = some (w', mn')) :
    (w'.f n).agg = newAgg never w.f n := by
  simpa using (gptFinish_fields h n).agg

theorem gptFinish_min {w w' : World} {n mn mn' : Nat} (h : gptFinish never d w n mn = some (w', mn')) :
    mn' ≤ mn ∧ mn' ≤ (w'.f n).agg ∧ (mn' = mn ∨ mn' = (w'.f n).agg) := by
  obtain ⟨_, _, e, _⟩ := gptFinish_some h
  rw [gptFinish_agg h, e]
  split <;> omega

/-- `mn'` is `min`, the wake-up time being reported: at 0 the event loop will not wait -/
theorem gptFinish_live {w w' : World} {n mn mn' : Nat} (h : gptFinish never d w n mn = some (w', mn'))
    (hv : (w.f n).valid = false) : (w'.f n).agg = 0 ∧ mn' = 0 := by
  have h0 : (w'.f n).agg = 0 := by rw [gptFinish_agg h, newAgg, hv]; simp
  exact ⟨h0, by have := (gptFinish_min h).2.1; omega⟩

variable {r a b x z : Nat}

/-- the tree below `r` is settled: every aggregate is at or below the node's own time and its first scheduled child's aggregate
    (what `GetPulseTimeAux` computes), SCHEDULED lists are sorted, every child is in its parent's SCHEDULED list or, with
    aggregate `never`, in its UNSCHEDULED list (so, the lists being disjoint under `Inv`, none waits for recalculation) -/
structure Settled (never : Nat) (f : Forest) (r : Nat) : Prop where
  agg_my : ∀ p, Desc f r p → (f p).agg ≤ (f p).myTime
  agg_fsa : ∀ p, Desc f r p → (f p).agg ≤ firstSchedAgg never f p
  agg_le : ∀ p, Desc f r p → (f p).agg ≤ never
  sorted : ∀ p, Desc f r p → Sorted (fun i => (f i).agg) (f p).sched
  filed : ∀ p c, Desc f r p → (f c).parent = some p →
    c ∈ (f p).sched ∨ (c ∈ (f p).unsched ∧ (f c).agg = never)

theorem Settled.sub (hs : Settled never f r) (ha : Desc f r a) : Settled never f a :=
  { agg_my := fun p hp => hs.agg_my p (desc_trans ha hp)
    agg_fsa := fun p hp => hs.agg_fsa p (desc_trans ha hp)
    agg_le := fun p hp => hs.agg_le p (desc_trans ha hp)
    sorted := fun p hp => hs.sorted p (desc_trans ha hp)
    filed := fun p c hp hc => hs.filed p c (desc_trans ha hp) hc }

theorem firstSchedAgg_head (never : Nat) (hs : (f' x).sched.head? = (f x).sched.head?)
    (ha : ∀ i, (f x).sched.head? = some i → (f' i).agg = (f i).agg) :
    firstSchedAgg never f' x = firstSchedAgg never f x := by
  unfold firstSchedAgg
  cases h1 : (f' x).sched <;> cases h2 : (f x).sched <;> rw [h1, h2] at hs <;> simp at hs
  · subst hs; exact ha _ (by rw [h2]; rfl)

theorem firstSchedAgg_congr (never : Nat) (hs : (f' x).sched = (f x).sched)
    (ha : ∀ i ∈ (f x).sched, (f' i).agg = (f i).agg) : firstSchedAgg never f' x = firstSchedAgg never f x :=
  firstSchedAgg_head never (congrArg _ hs) fun i hi => ha i (List.mem_of_mem_head? hi)

theorem firstSchedAgg_le (never : Nat) (h : ∀ x, (f x).agg ≤ never) (x : Nat) : firstSchedAgg never f x ≤ never := by
  cases hs : (f x).sched with
  | nil => rw [firstSchedAgg_nil hs]; exact Nat.le_refl _
  | cons c t => rw [firstSchedAgg_cons hs]; exact h c

theorem Settled.congr (hs : Settled never f r) (hn : ∀ z, Desc f r z → f' z = f z)
    (hp : SameParents f f') (ha : ∀ z, (f' z).agg = (f z).agg) : Settled never f' r := by
  have back : ∀ z, Desc f' r z → Desc f r z := fun z h => desc_parSub (parSub_of_eq hp) h
  refine ⟨fun p h => ?_, fun p h => ?_, fun p h => ?_, fun p h => ?_, fun p c h hc => ?_⟩
  · rw [hn p (back p h)]; exact hs.agg_my p (back p h)
  · have e := hn p (back p h)
    rw [firstSchedAgg_congr never (by rw [e]) (fun i _ => ha i), e]; exact hs.agg_fsa p (back p h)
  · rw [ha p]; exact hs.agg_le p (back p h)
  · rw [funext ha, hn p (back p h)]; exact hs.sorted p (back p h)
  · rw [hp c] at hc
    rw [hn p (back p h), ha c]
    exact hs.filed p c (back p h) hc

theorem Settled.child_le (h : Settled never f r) {p c : Nat} (hp : Desc f r p) (hc : (f c).parent = some p) :
    (f p).agg ≤ (f c).agg := by
  have ha := h.agg_fsa p hp
  have hs := h.sorted p hp
  rcases h.filed p c hp hc with hm | ⟨_, hn⟩
  · cases hl : (f p).sched with
    | nil => rw [hl] at hm; cases hm
    | cons x xs =>
      rw [firstSchedAgg_cons hl] at ha
      rw [hl] at hm hs
      rcases List.mem_cons.mp hm with rfl | hm
      · exact ha
      · exact Nat.le_trans ha ((List.pairwise_cons.mp hs).1 c hm)
  · rw [hn]; exact h.agg_le p hp

/-- in a settled tree the root's aggregate time is at or before the time requested by every node below it -/
theorem Settled.root_le (h : Settled never f r) (hn : Desc f r x) :
    (f r).agg ≤ (f x).agg ∧ (f r).agg ≤ (f x).myTime := by
  have key : (f r).agg ≤ (f x).agg := by
    induction hn with
    | refl => exact Nat.le_refl _
    | step p c hp hc ih => exact Nat.le_trans ih (h.child_le hp hc)
  exact ⟨key, Nat.le_trans key (h.agg_my x hn)⟩

end Muscle.Pulse
