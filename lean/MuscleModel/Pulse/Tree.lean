/-!
# Pulse-node scheduler (C20): executable model of `util/PulseNode.cpp`

A forest of pulse nodes is a map `id → Node`.  Every node record carries what the C++ object carries:
`_parent`, the three intrusive child lists (`_firstChild[]/_lastChild[]` + sibling links, modelled as
three `List Nat` in list order), `_myScheduledTime`, `_myScheduledTimeValid`, `_aggregatePulseTime`,
`_curList`.  `never` is `MUSCLE_TIME_NEVER`; it is a parameter of every definition (the engine passes
the value regenerated from the headers).

Recursion in the C++ code (up the parent chain in `ReschedulePulseChild`, down the tree in the two
sweeps, the `while` loops) is modelled with explicit fuel; a function that runs out of fuel returns
`none` (`isAnc`: `true`; the engine prints `fuel`, which never matches the implementation), so every theorem of the form
`… = some r → P r` is a statement about the runs that the real code completes.

Core Lean only.
-/

namespace Muscle.Pulse

/-- index of one of the three child lists (`LINKED_LIST_SCHEDULED/UNSCHEDULED/NEEDSRECALC`) -/
inductive Which where
  | sched | unsched | recalc
  deriving DecidableEq, Repr, Inhabited

/-- the fields of one `PulseNode` object -/
structure Node where
  parent : Option Nat      -- `_parent`
  sched : List Nat         -- `_firstChild[LINKED_LIST_SCHEDULED]…`, sorted by `agg`
  unsched : List Nat       -- `_firstChild[LINKED_LIST_UNSCHEDULED]…`
  recalc : List Nat        -- `_firstChild[LINKED_LIST_NEEDSRECALC]…`
  myTime : Nat             -- `_myScheduledTime`
  valid : Bool             -- `_myScheduledTimeValid`
  agg : Nat                -- `_aggregatePulseTime`
  cur : Option Which       -- `_curList` (`none` = -1)
  deriving Repr, Inhabited

/-- `PulseNode::PulseNode()` -/
def Node.fresh (never : Nat) : Node :=
  { parent := none, sched := [], unsched := [], recalc := [], myTime := never, valid := false, agg := never, cur := none }

def Node.list (n : Node) : Which → List Nat
  | .sched => n.sched
  | .unsched => n.unsched
  | .recalc => n.recalc

def Node.setList (n : Node) : Which → List Nat → Node
  | .sched, l => { n with sched := l }
  | .unsched, l => { n with unsched := l }
  | .recalc, l => { n with recalc := l }

abbrev Forest := Nat → Node

def upd (f : Forest) (i : Nat) (v : Node) : Forest := fun j => if j = i then v else f j

/-- the `O(N)` walk of `ReschedulePulseChild`: `while(p->agg < child->agg) p = p->next; insert before p`.
    (The empty case is not reachable from `insertSched`: the C++ loop would run off the list.) -/
def insertBefore (a : Nat → Nat) (c : Nat) : List Nat → List Nat
  | [] => [c]
  | p :: r => if a p < a c then p :: insertBefore a c r else c :: p :: r

/-- `ReschedulePulseChild`, `case LINKED_LIST_SCHEDULED`: empty list / tail shortcut (`>=` the last) / walk -/
def insertSched (a : Nat → Nat) (c : Nat) (l : List Nat) : List Nat :=
  match l.getLast? with
  | none => [c]
  | some last => if a c ≥ a last then l ++ [c] else insertBefore a c l

/- NOTE: the small forest-valued helpers below are `macro_inline`: a forest is a function, and a helper compiled as a
   function of one more argument would redo its work at every look-up (exponential in the number of updates). -/

/-- "First, remove the child from any list he may currently be in" (the unlink step of `ReschedulePulseChild`) -/
@[macro_inline] def unlink (f : Forest) (p c : Nat) : Forest :=
  match (f c).cur with
  | some l => upd f p ((f p).setList l (((f p).list l).erase c))
  | none => f

/-- `child->_curList = whichList` -/
@[macro_inline] def setCur (f : Forest) (c : Nat) (w : Option Which) : Forest := upd f c { (f c) with cur := w }

/-- replace child list `w` of node `p` -/
@[macro_inline] def setL (f : Forest) (p : Nat) (w : Which) (l : List Nat) : Forest := upd f p ((f p).setList w l)

/-- `PulseNode::ReschedulePulseChild(child, whichList)` called on node `p` (`w = none` is `-1`).
    `d` = fuel for the recursion up the parent chain (NEEDSRECALC case). -/
def resched (never : Nat) : Nat → Forest → Nat → Nat → Option Which → Option Forest
  | 0, _, _, _, _ => none
  | d+1, f, p, c, w =>
    if w ≠ (f c).cur ∨ (f c).cur = some .sched then
      let f2 := setCur (unlink f p c) c w
      match w with
      | some .sched => some (setL f2 p .sched (insertSched (fun i => (f2 i).agg) c (f2 p).sched))
      | some .recalc =>
        -- if our child is rescheduled that reschedules us too!
        match (match (f2 p).parent with
               | some g => resched never d f2 g p (some .recalc)
               | none => some f2) with
        | some f3 => some (setL f3 p .recalc (c :: (f3 p).recalc))
        | none => none
      | some .unsched => some (setL f2 p .unsched (c :: (f2 p).unsched))
      | none => some f2
    else some f

/-- `PulseNode::InvalidatePulseTime(clearPrevResult)` on node `n` -/
def invalidate (never d : Nat) (f : Forest) (n : Nat) (clear : Bool) : Option Forest :=
  let f1 := if clear then upd f n { (f n) with myTime := never } else f
  if (f1 n).valid then
    let f2 := upd f1 n { (f1 n) with valid := false }
    match (f2 n).parent with
    | some p => resched never d f2 p n (some .recalc)
    | none => some f2
  else some f1

/-- `child->_parent = NULL; child->_myScheduledTimeValid = false;` -/
@[macro_inline] def orphan (f : Forest) (c : Nat) : Forest := upd f c { (f c) with parent := none, valid := false }

/-- `child->_parent = this` -/
@[macro_inline] def setParent (f : Forest) (c p : Nat) : Forest := upd f c { (f c) with parent := some p }

/-- `PulseNode::RemovePulseChild(child)` called on node `p` -/
def removeChild (never d : Nat) (f : Forest) (p c : Nat) : Option Forest :=
  if (f c).parent = some p then
    match resched never d f p c none with
    | none => none
    | some f1 =>
      if (f p).sched.head? = some c then   -- `doResched`, evaluated before the unlink
        match (orphan f1 c p).parent with
        | some g => resched never d (orphan f1 c) g p (some .recalc)
        | none => some (orphan f1 c)
      else some (orphan f1 c)
  else some f

/-- `PulseNode::PutPulseChild(child)` called on node `p` (callers guarantee `c ≠ p` and no cycle) -/
def putChild (never d : Nat) (f : Forest) (p c : Nat) : Option Forest :=
  match (match (f c).parent with
         | some q => removeChild never d f q c
         | none => some f) with
  | none => none
  | some f1 => resched never d (setParent f1 c p) p c (some .recalc)

/-- what the harness op `detach c` does: `if (c->GetPulseParent()) parent->RemovePulseChild(c)` -/
def detach (never d : Nat) (f : Forest) (c : Nat) : Option Forest :=
  match (f c).parent with
  | some p => removeChild never d f p c
  | none => some f

def removeAll (never d : Nat) (p : Nat) : List Nat → Forest → Option Forest
  | [], f => some f
  | c :: r, f => match removeChild never d f p c with
    | some f' => removeAll never d p r f'
    | none => none

/-- `PulseNode::ClearPulseChildren()`: the three lists in index order, always removing the first child -/
def clearChildren (never d : Nat) (f : Forest) (p : Nat) : Option Forest :=
  match removeAll never d p (f p).sched f with
  | none => none
  | some f1 => match removeAll never d p (f1 p).unsched f1 with
    | none => none
    | some f2 => removeAll never d p (f2 p).recalc f2

/-- `PulseNode::~PulseNode()` followed by the construction of a new object under the same id -/
def destroy (never d : Nat) (f : Forest) (n : Nat) : Option Forest :=
  match detach never d f n with
  | none => none
  | some f1 => match clearChildren never d f1 n with
    | none => none
    | some f2 => some (upd f2 n (Node.fresh never))

/-- is `a` equal to `n` or one of its ancestors?  (out of fuel: `true`, i.e. refuse) -/
def isAnc : Nat → Forest → Nat → Nat → Bool
  | 0, _, _, _ => true
  | d+1, f, a, n => if a = n then true else
    match (f n).parent with
    | some p => isAnc d f a p
    | none => false

/-- `GetFirstScheduledChildTime()` -/
def firstSchedAgg (never : Nat) (f : Forest) (n : Nat) : Nat :=
  match (f n).sched with
  | c :: _ => (f c).agg
  | [] => never

/-! ## Node behaviour: scripts -/

/-- what a callback may do re-entrantly -/
inductive Act where
  | inval (id : Nat) (clear : Bool)
  | setReq (id : Nat) (t : Nat)
  | detach (id : Nat)
  | attach (c p : Nat)
  deriving Repr, Inhabited, DecidableEq

inductive Event where
  | G (id now prev ret : Nat)     -- `GetPulseTime(PulseArgs(now, prev))` returned `ret`
  | P (id now sched : Nat)        -- `Pulse(PulseArgs(now, sched))`
  deriving Repr, Inhabited, DecidableEq

structure World where
  f : Forest
  req : Nat → Nat                  -- the time node `i` returns from its next `GetPulseTime`
  gq : Nat → List (List Act)       -- per node: actions of its next, next-but-one … `GetPulseTime` call
  pq : Nat → List (List Act)       -- the same for `Pulse`
  log : List Event

def updF {α} (g : Nat → α) (i : Nat) (v : α) : Nat → α := fun j => if j = i then v else g j

def World.init (never : Nat) : World :=
  { f := fun _ => Node.fresh never, req := fun _ => never, gq := fun _ => [], pq := fun _ => [], log := [] }

/-- one re-entrant action, through the public API -/
def runAct (never d : Nat) (w : World) : Act → Option World
  | .inval id clear => (invalidate never d w.f id clear).map fun f' => { w with f := f' }
  | .setReq id t => some { w with req := updF w.req id t }
  | .detach id => (detach never d w.f id).map fun f' => { w with f := f' }
  | .attach c p =>
    if isAnc d w.f c p then some w   -- the scripted node refuses an attachment that would close a cycle
    else (putChild never d w.f p c).map fun f' => { w with f := f' }

def runActs (never d : Nat) : World → List Act → Option World
  | w, [] => some w
  | w, a :: r => match runAct never d w a with
    | some w' => runActs never d w' r
    | none => none

/-- the scripted `GetPulseTime(args)` of node `n`, including the two assignments around it in
    `GetPulseTimeAux` (`_myScheduledTimeValid = true; _myScheduledTime = GetPulseTime(…)`) -/
def callG (never d : Nat) (w : World) (n now : Nat) : Option World :=
  let f1 := upd w.f n { (w.f n) with valid := true }
  let prev := (f1 n).myTime
  let acts := (w.gq n).headD []
  let w1 : World := { w with f := f1, gq := updF w.gq n (w.gq n).tail }
  match runActs never d w1 acts with
  | none => none
  | some w2 =>
    let ret := w2.req n
    some { w2 with f := upd w2.f n { (w2.f n) with myTime := ret }, log := w2.log ++ [.G n now prev ret] }

/-- the scripted `Pulse(args)` of node `n` followed by `_myScheduledTimeValid = false` (`PulseAux`) -/
def callP (never d : Nat) (w : World) (n now : Nat) : Option World :=
  let st := (w.f n).myTime
  let acts := (w.pq n).headD []
  let w1 : World := { w with pq := updF w.pq n (w.pq n).tail, log := w.log ++ [.P n now st] }
  match runActs never d w1 acts with
  | none => none
  | some w2 => some { w2 with f := upd w2.f n { (w2.f n) with valid := false } }

/-- the last three statements of `GetPulseTimeAux`: recompute the aggregate, re-file in the parent, lower `min`.
    A node whose request does not stand at this point (it was invalidated again during the second pass) gets the
    aggregate time 0 = "visit me as soon as possible": the next `PulseAux` puts it back into NEEDSRECALC. -/
def gptFinish (never d : Nat) (w : World) (n mn : Nat) : Option (World × Nat) :=
  let old := (w.f n).agg
  let a := min (if (w.f n).valid then (w.f n).myTime else 0) (firstSchedAgg never w.f n)
  let f3 := upd w.f n { (w.f n) with agg := a }
  let r := match (f3 n).parent with
    | some p =>
      if (f3 n).cur = some .recalc ∨ a ≠ old then
        resched never d f3 p n (some (if a = never then Which.unsched else Which.sched))
      else some f3
    | none => some f3
  match r with
  | some f4 => some ({ w with f := f4 }, if a < mn then a else mn)
  | none => none

mutual
/-- `PulseNode::GetPulseTimeAux(now, min)` on node `n`: `for (pass = 0; pass < 2; pass++)` — ask the node if its request
    does not stand, recalculate the needy children; a second pass only if the request was invalidated during the first -/
def gptAux (never d : Nat) : Nat → World → Nat → Nat → Nat → Option (World × Nat)
  | 0, _, _, _, _ => none
  | k+1, w, n, now, mn =>
    match (if (w.f n).valid then some w else callG never d w n now) with
    | none => none
    | some w1 =>
      match gptLoop never d k w1 n now mn with
      | none => none
      | some (w2, mn2) =>
        if (w2.f n).valid then gptFinish never d w2 n mn2      -- `else if (pass > 0) break;`
        else
          match callG never d w2 n now with
          | none => none
          | some w3 =>
            match gptLoop never d k w3 n now mn2 with
            | none => none
            | some (w4, mn4) => gptFinish never d w4 n mn4
/-- `while(firstNeedy) firstNeedy->GetPulseTimeAux(now, min)` -/
def gptLoop (never d : Nat) : Nat → World → Nat → Nat → Nat → Option (World × Nat)
  | 0, _, _, _, _ => none
  | k+1, w, n, now, mn =>
    match (w.f n).recalc with
    | [] => some (w, mn)
    | c :: _ =>
      match gptAux never d k w c now mn with
      | none => none
      | some (w', mn') => gptLoop never d k w' n now mn'
end

/-- the last statement of `PulseAux`: `if (_parent) _parent->ReschedulePulseChild(this, NEEDSRECALC)` -/
def pulseFinish (never d : Nat) (w : World) (n : Nat) : Option World :=
  match (w.f n).parent with
  | some p => (resched never d w.f p n (some .recalc)).map fun f' => { w with f := f' }
  | none => some w

mutual
/-- `PulseNode::PulseAux(now)` on node `n` -/
def pulseAux (never d : Nat) : Nat → World → Nat → Nat → Option World
  | 0, _, _, _ => none
  | k+1, w, n, now =>
    match (if (w.f n).valid ∧ now ≥ (w.f n).myTime then callP never d w n now else some w) with
    | none => none
    | some w1 =>
      match pulseLoop never d k w1 n now with
      | none => none
      | some w2 => pulseFinish never d w2 n
/-- `while((p)&&(now >= p->_aggregatePulseTime)) {p->PulseAux(now); p = _firstChild[SCHEDULED];}` -/
def pulseLoop (never d : Nat) : Nat → World → Nat → Nat → Option World
  | 0, _, _, _ => none
  | k+1, w, n, now =>
    match (w.f n).sched with
    | [] => some w
    | c :: _ =>
      if now ≥ (w.f c).agg then
        match pulseAux never d k w c now with
        | none => none
        | some w' => pulseLoop never d k w' n now
      else some w
end

/-- `PulseNodeManager::CallGetPulseTimeAux(root, now, min)` with `min` starting at `never` -/
def managerGpt (never d k : Nat) (w : World) (root now : Nat) : Option (World × Nat) :=
  gptAux never d k w root now never

/-- `PulseNodeManager::CallPulseAux(root, now)`: `if (now >= p._aggregatePulseTime) p.PulseAux(now)` -/
def managerPulse (never d k : Nat) (w : World) (root now : Nat) : Option World :=
  if now ≥ (w.f root).agg then pulseAux never d k w root now else some w

end Muscle.Pulse
