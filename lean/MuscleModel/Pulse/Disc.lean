import MuscleModel.Pulse.Tree

/-!
# The `GetPulseTimeAux` sweep with a discipline verdict (C20)

`gptAuxC` is `gptAux` plus a stack of the nodes whose `GetPulseTimeAux` is in progress and a Boolean verdict:
`true` only if no `GetPulseTime` callback of the sweep invalidated, detached or (re-)attached a node whose own
`GetPulseTimeAux` was in progress at that moment (the asked node itself or a node further up the call stack).
Callbacks may do all of this to every OTHER node.  `gptC_erase` (`Discipline.lean`) shows that dropping the verdict
gives exactly `gptAux`, so the verdict is a decidable statement about a run of the model.
-/

namespace Muscle.Pulse

/-- the node an action takes the standing request / the parent away from -/
def Act.target : Act → Option Nat
  | .inval id _ => some id
  | .setReq _ _ => none
  | .detach id => some id
  | .attach c _ => some c

def actOK (stk : List Nat) (a : Act) : Bool :=
  match a.target with
  | some t => !(stk.contains t)
  | none => true

def runActsC (never d : Nat) (stk : List Nat) : World → List Act → Option (World × Bool)
  | w, [] => some (w, true)
  | w, a :: r => match runAct never d w a with
    | some w' => match runActsC never d stk w' r with
      | some (w'', b) => some (w'', actOK stk a && b)
      | none => none
    | none => none

/-- `callG` with the verdict for its actions (`stk` = the nodes in progress, the asked node included) -/
def callGC (never d : Nat) (stk : List Nat) (w : World) (n now : Nat) : Option (World × Bool) :=
  let f1 := upd w.f n { (w.f n) with valid := true }
  let prev := (f1 n).myTime
  let acts := (w.gq n).headD []
  let w1 : World := { w with f := f1, gq := updF w.gq n (w.gq n).tail }
  match runActsC never d stk w1 acts with
  | none => none
  | some (w2, b) =>
    let ret := w2.req n
    some ({ w2 with f := upd w2.f n { (w2.f n) with myTime := ret }, log := w2.log ++ [.G n now prev ret] }, b)

mutual
/-- `gptAux` with the stack `stk` of the frames above this one and the verdict -/
def gptAuxC (never d : Nat) : Nat → World → Nat → Nat → Nat → List Nat → Option (World × Nat × Bool)
  | 0, _, _, _, _, _ => none
  | k+1, w, n, now, mn, stk =>
    match (if (w.f n).valid then some (w, true) else callGC never d (n :: stk) w n now) with
    | none => none
    | some (w1, b1) =>
      match gptLoopC never d k w1 n now mn (n :: stk) with
      | none => none
      | some (w2, mn2, b2) =>
        match (if (w2.f n).valid then
                 (match gptFinish never d w2 n mn2 with
                  | some (w', m) => some (w', m, true)
                  | none => none)
               else
                 match callGC never d (n :: stk) w2 n now with
                 | none => none
                 | some (w3, b3) =>
                   match gptLoopC never d k w3 n now mn2 (n :: stk) with
                   | none => none
                   | some (w4, mn4, b4) =>
                     match gptFinish never d w4 n mn4 with
                     | some (w', m) => some (w', m, b3 && b4)
                     | none => none) with
        | some (w', m, b') => some (w', m, b1 && b2 && b')
        | none => none
/-- `gptLoop` for the node on top of `stk` -/
def gptLoopC (never d : Nat) : Nat → World → Nat → Nat → Nat → List Nat → Option (World × Nat × Bool)
  | 0, _, _, _, _, _ => none
  | k+1, w, n, now, mn, stk =>
    match (w.f n).recalc with
    | [] => some (w, mn, true)
    | c :: _ =>
      match gptAuxC never d k w c now mn stk with
      | none => none
      | some (w', mn', b) =>
        match gptLoopC never d k w' n now mn' stk with
        | some (w'', m'', b') => some (w'', m'', b && b')
        | none => none
end

/-- `managerGpt` with the verdict -/
def managerGptC (never d k : Nat) (w : World) (root now : Nat) : Option (World × Nat × Bool) :=
  gptAuxC never d k w root now never []

end Muscle.Pulse
