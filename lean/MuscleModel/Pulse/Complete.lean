import MuscleModel.Pulse.InvOps
import MuscleModel.Pulse.Flagged
import MuscleModel.Pulse.Quiet
import MuscleModel.Pulse.Log

/-!
# Completeness of the pulse sweep (`fires_iff_due`, "⊇") when the `Pulse` callbacks only change requests

In a settled tree every node's aggregate is at or before the times stored below it, so the walk over the sorted SCHEDULED lists
reaches every due node: a sweep of a child changes nothing outside the child's subtree and the call stack, so the siblings
still to come stay settled.
-/

namespace Muscle.Pulse

variable {never d : Nat} {f : Forest} {n c : Nat} {S : List Nat}

theorem stack_not_below_child (hch : Chain f (n :: S)) (hnd : (n :: S).Nodup) (hc : (f c).parent = some n) {y : Nat}
    (hd : Desc f c y) (hy : y ∈ n :: S) : False :=
  child_not_on_stack hch hnd hc (chain_anc hch hd hy)

theorem siblings_apart (hch : Chain f (n :: S)) (hnd : (n :: S).Nodup) {c2 : Nat} (hc : (f c).parent = some n)
    (hc2 : (f c2).parent = some n) (hne : c2 ≠ c) : ¬ Desc f c c2 := by
  intro hd
  rcases desc_inv hd with e | ⟨p, hp, hpar⟩
  · exact hne e
  · rw [hc2] at hpar; cases hpar
    exact stack_not_below_child hch hnd hc hp (by simp)

/-- parents and aggregates stay -/
def QuietRel (f f' : Forest) : Prop :=
  ∀ z, (f' z).parent = (f z).parent ∧ (f' z).agg = (f z).agg

theorem QuietRel.parents {f f' : Forest} (h : QuietRel f f') : SameParents f f' := fun z => (h z).1
theorem QuietRel.agg {f f' : Forest} (h : QuietRel f f') (z : Nat) : (f' z).agg = (f z).agg := (h z).2

theorem QuietRel.pre : ReflTrans QuietRel where
  refl _ _ := ⟨rfl, rfl⟩
  trans a b z := ⟨(b z).1.trans (a z).1, (b z).2.trans (a z).2⟩

theorem SameScalars.quietRel {f f' : Forest} (s : SameScalars f f') : QuietRel f f' :=
  fun z => ⟨s.parent z, s.agg z⟩

/-- `ReschedulePulseChild(child, NEEDSRECALC)` along a call-stack chain changes nodes of the chain only -/
theorem resched_recalc_frame : ∀ {d : Nat} {f : Forest} {p c : Nat} {rest : List Nat} {f' : Forest},
    Chain f (c :: p :: rest) → resched never d f p c (some .recalc) = some f' → ∀ z, z ∉ c :: p :: rest → f' z = f z
  | 0, _, _, _, _, _, _, h, _, _ => by simp [resched] at h
  | d+1, f, p, c, rest, f', hch, h, z, hz => by
    have hzc : z ≠ c := fun e => hz (by simp [e])
    have hzp : z ≠ p := fun e => hz (by simp [e])
    rw [resched_recalc_succ] at h
    split at h
    · cases h; rfl
    · obtain ⟨f3, h3, rfl⟩ := Option.map_eq_some_iff.mp h
      have hch2 : Chain (half f p c (some .recalc)) (p :: rest) :=
        chain_congr (fun y _ => (half_scalars f p c _).parent y) hch.2
      rw [setL, upd_ne _ _ hzp, ← half_other f (some .recalc) hzc hzp]
      rcases flagUp_cases h3 with ⟨g, hg, h3⟩ | ⟨_, rfl⟩
      · cases rest with
        | nil => rw [show _ = none from hch2] at hg; cases hg
        | cons g' rest' =>
          cases hch2.1.symm.trans hg
          exact resched_recalc_frame hch2 h3 z (fun hm => hz (List.mem_cons_of_mem _ hm))
      · rfl

/-- what one step of a quiet pulse sweep on node `n` (stack `n :: S`) establishes -/
structure QuietStep (never : Nat) (n : Nat) (S : List Nat) (w w' : World) (l : List Event) : Prop where
  log : w'.log = w.log ++ l
  rel : QuietRel w.f w'.f
  quiet : PQuiet w'
  inv : Inv never w'.f
  frame : ∀ z, z ∉ n :: S → ¬ Desc w.f n z → w'.f z = w.f z

/-- `PulseAux(n)` on a settled subtree: a due node below `n` is `n` itself or sits below a child whose aggregate is due, and
    such a child is in the sorted SCHEDULED list before the first child that is not due.  `hnow`: at `now = never` a child in
    UNSCHEDULED (aggregate `never`) would be due and is not walked. -/
theorem pulse_complete (now : Nat) (hnow : now < never) : ∀ (k : Nat),
    (∀ {w w' : World} {n : Nat} {S : List Nat}, pulseAux never d k w n now = some w' →
      Inv never w.f → PQuiet w → Chain w.f (n :: S) → (n :: S).Nodup → Settled never w.f n →
      ∃ l, QuietStep never n S w w' l ∧
        ∀ x, Desc w.f n x → (w.f x).valid = true → (w.f x).myTime ≤ now → ∃ s, Event.P x now s ∈ l) ∧
    (∀ {w w' : World} {n : Nat} {S : List Nat}, pulseLoop never d k w n now = some w' →
      Inv never w.f → PQuiet w → Chain w.f (n :: S) → (n :: S).Nodup →
      (∀ c ∈ (w.f n).sched, Settled never w.f c) →
      ∃ l, QuietStep never n S w w' l ∧
        ∀ c ∈ (w.f n).sched, (w.f c).agg ≤ now →
          ∀ x, Desc w.f c x → (w.f x).valid = true → (w.f x).myTime ≤ now → ∃ s, Event.P x now s ∈ l)
  | 0 => ⟨fun h => by simp [pulseAux] at h, fun h => by simp [pulseLoop] at h⟩
  | k+1 => by
    have ih := pulse_complete now hnow k
    refine ⟨fun {w w' n S} h hi hq hch hnd hS => ?_, fun {w w' n S} h hi hq hch hnd hset => ?_⟩
    · obtain ⟨w1, w2, h1, h2, h3⟩ := pulseAux_some.mp h
      -- the node's own callback: it fires if it is due, and touches nothing else
      have s1 : ∃ l0, w1.log = w.log ++ l0 ∧ QuietRel w.f w1.f ∧ PQuiet w1 ∧ Inv never w1.f ∧
          (∀ z, z ≠ n → w1.f z = w.f z) ∧ SameLists w.f w1.f ∧
          ((w.f n).valid = true → (w.f n).myTime ≤ now → ∃ s, Event.P n now s ∈ l0) := by
        split at h1
        · obtain ⟨e1, e3⟩ := callP_quiet hq h1
          refine ⟨_, callP_log h1, ?_, e3, callP_inv h1 hi, fun z hz => by rw [e1, upd_ne _ _ hz],
            e1 ▸ sameLists_scalars _ _ _ _ _, fun _ _ => ⟨_, List.mem_singleton.mpr rfl⟩⟩
          intro z; rw [e1]
          by_cases hz : z = n
          · subst hz; simp
          · rw [upd_ne _ _ hz]; exact ⟨rfl, rfl⟩
        · rename_i hnd'
          cases h1
          exact ⟨[], by simp, QuietRel.pre.refl _, hq, hi, fun _ _ => rfl, fun _ => ⟨rfl, fun _ => rfl⟩,
            fun hv ht => absurd ⟨hv, ht⟩ hnd'⟩
      obtain ⟨l0, hl0, r1, q1, i1, fr1, ls1, due1⟩ := s1
      have hpar1 : SameParents w.f w1.f := r1.parents
      have hch1 : Chain w1.f (n :: S) := chain_congr (fun y _ => hpar1 y) hch
      -- the children in the SCHEDULED list are settled, also after the callback
      have hset1 : ∀ c ∈ (w1.f n).sched, Settled never w1.f c := by
        intro c hc
        rw [ls1.sched] at hc
        have hpc : (w.f c).parent = some n := (hi.sound n c .sched hc).1
        refine (hS.sub (Desc.step n c Desc.refl hpc)).congr (fun z hz => fr1 z ?_) hpar1 r1.agg
        rintro rfl
        exact stack_not_below_child hch hnd hpc hz (by simp)
      obtain ⟨l2, st2, comp2⟩ := ih.2 h2 i1 q1 hch1 hnd hset1
      have hpar2 : SameParents w.f w2.f := SameParents.pre.trans hpar1 st2.rel.parents
      have hch2 : Chain w2.f (n :: S) := chain_congr (fun y _ => hpar2 y) hch
      -- afterwards the node goes back into its parent's NEEDSRECALC list: only the call stack changes
      have i3 := pulseFinish_inv h3 st2.inv
      obtain ⟨f', hf, rfl⟩ := pulseFinish_some h3
      have fr3 : ∀ z, z ∉ n :: S → f' z = w2.f z := by
        rcases flagUp_cases hf with ⟨p, hp, hf⟩ | ⟨_, rfl⟩
        · cases S with
          | nil => rw [show _ = none from hch2] at hp; cases hp
          | cons p' rest => cases hch2.1.symm.trans hp; exact resched_recalc_frame hch2 hf
        · exact fun _ _ => rfl
      refine ⟨l0 ++ l2, ⟨by rw [show _ = w2.log from rfl, st2.log, hl0, List.append_assoc],
        QuietRel.pre.trans (QuietRel.pre.trans r1 st2.rel) (flagUp_sameScalars hf).quietRel, st2.quiet, i3, ?_⟩, ?_⟩
      · intro z hz hnz
        show f' z = w.f z
        rw [fr3 z hz, st2.frame z hz (fun hd => hnz (desc_congr (fun y => (hpar1 y).symm) hd)),
          fr1 z (fun e => hz (by simp [e]))]
      · intro x hx hv ht
        rcases desc_first hx with rfl | ⟨c, hpc, hdc⟩
        · obtain ⟨s, hs⟩ := due1 hv ht
          exact ⟨s, List.mem_append_left _ hs⟩
        · -- x is below the child c of n; c is in the SCHEDULED list with an aggregate that is due
          have hsc : Settled never w.f c := hS.sub (Desc.step n c Desc.refl hpc)
          have hagg : (w.f c).agg ≤ now := Nat.le_trans (hsc.root_le hdc).2 ht
          have hmem : c ∈ (w.f n).sched := by
            rcases hS.filed n c Desc.refl hpc with hm | ⟨_, hne⟩
            · exact hm
            · rw [hne] at hagg; omega
          have hx1 : w1.f x = w.f x := fr1 x (fun e => stack_not_below_child hch hnd hpc (e ▸ hdc) (by simp))
          obtain ⟨s, hs⟩ := comp2 c (by rw [ls1.sched]; exact hmem) (by rw [r1.agg c]; exact hagg) x
            (desc_congr hpar1 hdc) (by rw [hx1]; exact hv) (by rw [hx1]; exact ht)
          exact ⟨s, List.mem_append_right _ hs⟩
    · rcases pulseLoop_some.mp h with ⟨rfl, hstop⟩ | ⟨c, t, w1, he, hdue, h1, h2⟩
      · refine ⟨[], ⟨by simp, QuietRel.pre.refl _, hq, hi, fun _ _ _ => rfl⟩, fun c2 hc2 hagg => ?_⟩
        -- the first scheduled child is not due: by sortedness nobody in the list is
        exfalso
        cases he : (w'.f n).sched with
        | nil => rw [he] at hc2; cases hc2
        | cons c t =>
          have hsorted := hi.sorted n
          rw [he] at hsorted hc2
          rcases List.mem_cons.mp hc2 with e | hm
          · exact hstop c t he (e ▸ hagg)
          · exact hstop c t he (Nat.le_trans ((List.pairwise_cons.mp hsorted).1 c2 hm) hagg)
      · have hcm : c ∈ (w.f n).sched := by rw [he]; simp
        have hpc : (w.f c).parent = some n := (hi.sound n c .sched hcm).1
        have hcn : c ∉ n :: S := child_not_on_stack hch hnd hpc
        obtain ⟨l1, st1, comp1⟩ := ih.1 (S := n :: S) h1 hi hq ⟨hpc, hch⟩ (List.nodup_cons.mpr ⟨hcn, hnd⟩) (hset c hcm)
        have hpar1 : SameParents w.f w1.f := st1.rel.parents
        have hch1 : Chain w1.f (n :: S) := chain_congr (fun y _ => hpar1 y) hch
        -- c has left the SCHEDULED list; nodes below a different child are untouched
        have hcrec : (w1.f c).cur = some .recalc := pulseAux_marks h1 ((hpar1 c).trans hpc)
        have untouched : ∀ c2, (w.f c2).parent = some n → c2 ≠ c → ∀ z, Desc w.f c2 z → w1.f z = w.f z := by
          intro c2 hpc2 hne z hz
          refine st1.frame z (fun hm => ?_) (fun hd => ?_)
          · rcases List.mem_cons.mp hm with e | hm
            · subst e
              exact siblings_apart hch hnd hpc2 hpc (Ne.symm hne) hz
            · exact stack_not_below_child hch hnd hpc2 hz hm
          · rcases desc_linear hd hz with h' | h'
            · exact siblings_apart hch hnd hpc hpc2 hne h'
            · exact siblings_apart hch hnd hpc2 hpc (Ne.symm hne) h'
        have hset1 : ∀ c' ∈ (w1.f n).sched, Settled never w1.f c' := by
          intro c' hc'
          obtain ⟨hp', hcur'⟩ := st1.inv.sound n c' .sched hc'
          have hpc' : (w.f c').parent = some n := (hpar1 c').symm.trans hp'
          have hne : c' ≠ c := fun e => by subst e; rw [hcrec] at hcur'; cases hcur'
          have e' := untouched c' hpc' hne c' Desc.refl
          have hm : c' ∈ (w.f n).sched := hi.complete c' n .sched hpc' (by rw [← e']; exact hcur')
          exact (hset c' hm).congr (untouched c' hpc' hne) hpar1 st1.rel.agg
        obtain ⟨l2, st2, comp2⟩ := ih.2 h2 st1.inv st1.quiet hch1 hnd hset1
        refine ⟨l1 ++ l2, ⟨by rw [st2.log, st1.log, List.append_assoc], QuietRel.pre.trans st1.rel st2.rel, st2.quiet,
          st2.inv, ?_⟩, ?_⟩
        · intro z hz hnz
          have hdnc : Desc w.f n c := Desc.step n c Desc.refl hpc
          rw [st2.frame z hz (fun hd => hnz (desc_congr (fun y => (hpar1 y).symm) hd))]
          refine st1.frame z (fun hm => ?_) (fun hd => hnz (desc_trans hdnc hd))
          rcases List.mem_cons.mp hm with e | hm
          · exact hnz (e ▸ hdnc)
          · exact hz hm
        · intro c2 hc2 hagg x hx hv ht
          by_cases hne : c2 = c
          · subst hne
            obtain ⟨s, hs⟩ := comp1 x hx hv ht
            exact ⟨s, List.mem_append_left _ hs⟩
          · obtain ⟨hpc2, hcur2⟩ := hi.sound n c2 .sched hc2
            have e2 := untouched c2 hpc2 hne c2 Desc.refl
            have ex := untouched c2 hpc2 hne x hx
            have hm1 : c2 ∈ (w1.f n).sched :=
              st1.inv.complete c2 n .sched ((hpar1 c2).trans hpc2) (by rw [e2]; exact hcur2)
            obtain ⟨s, hs⟩ := comp2 c2 hm1 (by rw [e2]; exact hagg) x
              (desc_congr hpar1 hx) (by rw [ex]; exact hv) (by rw [ex]; exact ht)
            exact ⟨s, List.mem_append_right _ hs⟩

/-- `CallPulseAux` on the root of a settled tree, quiet `Pulse` callbacks: every node below the root whose standing request is due
    is pulsed -/
theorem managerPulse_complete {k : Nat} {w w' : World} {root now : Nat} (hnow : now < never)
    (h : managerPulse never d k w root now = some w') (hi : Inv never w.f) (hq : PQuiet w)
    (hroot : (w.f root).parent = none) (hS : Settled never w.f root) :
    ∃ l, w'.log = w.log ++ l ∧
      ∀ x, Desc w.f root x → (w.f x).valid = true → (w.f x).myTime ≤ now → ∃ s, Event.P x now s ∈ l := by
  unfold managerPulse at h
  split at h
  · obtain ⟨l, st, comp⟩ := (pulse_complete now hnow k).1 (S := []) h hi hq hroot (by simp) hS
    exact ⟨l, st.log, comp⟩
  · rename_i hlt
    cases h
    exact ⟨[], by simp, fun x hx _ ht => absurd (Nat.le_trans (hS.root_le hx).2 ht) hlt⟩

end Muscle.Pulse
