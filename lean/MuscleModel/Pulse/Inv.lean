import MuscleModel.Pulse.Settled
import MuscleModel.Base.Lists

/-!
# The structural invariant `InvEx` / `Inv`

`InvEx never Pc Pa f` is the invariant with two exception sets that are needed only *inside* the recursion of
`ReschedulePulseChild` up the parent chain: `Pc` = nodes already switched to NEEDSRECALC but not yet prepended to their
parent's list, `Pa` = nodes whose SCHEDULED list has just lost a child and which are about to be marked.  At every operation
boundary both sets are empty (`Inv`).  The invariant is carried across three kinds of steps: the scalars of one node change (`inv_upd`),
a node leaves the lists (`leave_inv`), or a pending node enters a list of its parent (`enter_inv`).
-/

namespace Muscle.Pulse

variable {never d : Nat} {Pc Pa : Nat → Prop} {f g : Forest} {p c n x : Nat}

def Filed (f : Forest) (x : Nat) : Prop :=
  (∃ q, (f x).parent = some q) ∧ ((f x).cur = some .sched ∨ (f x).cur = some .unsched)

theorem Filed.cur_ne_recalc (h : Filed f x) : (f x).cur ≠ some .recalc := fun e => by
  rcases h.2 with e' | e' <;> (rw [e] at e'; cases e')

theorem Filed.has_parent (h : Filed f x) : (f x).parent ≠ none := fun e => by
  obtain ⟨⟨q, hq⟩, _⟩ := h; rw [e] at hq; cases hq

/-- "aggregate OK": what the aggregate time of a filed node satisfies -/
def AOK (never : Nat) (f : Forest) (x : Nat) : Prop :=
  (f x).agg ≤ (f x).myTime ∧ (f x).agg ≤ firstSchedAgg never f x ∧
  ((f x).valid = true → (f x).agg = min (f x).myTime (firstSchedAgg never f x)) ∧
  ((f x).cur = some .sched ↔ (f x).agg ≠ never)

namespace AOK
variable (h : AOK never f x)
include h
theorem le_myTime : (f x).agg ≤ (f x).myTime := h.1
theorem le_first : (f x).agg ≤ firstSchedAgg never f x := h.2.1
theorem eq_min (hv : (f x).valid = true) : (f x).agg = min (f x).myTime (firstSchedAgg never f x) := h.2.2.1 hv
theorem sched_iff : (f x).cur = some .sched ↔ (f x).agg ≠ never := h.2.2.2
end AOK

structure InvEx (never : Nat) (Pc Pa : Nat → Prop) (f : Forest) : Prop where
  /-- list membership implies the child's `_parent` and `_curList` -/
  sound : ∀ q x l, x ∈ (f q).list l → (f x).parent = some q ∧ (f x).cur = some l
  nodup : ∀ q l, ((f q).list l).Nodup
  /-- `_parent` and `_curList` imply list membership (except for pending nodes) -/
  complete : ∀ x q l, ¬ Pc x → (f x).parent = some q → (f x).cur = some l → x ∈ (f q).list l
  /-- pending nodes are flagged NEEDSRECALC and are in no list -/
  pend : ∀ x, Pc x → (f x).cur = some .recalc ∧ ∀ q l, x ∉ (f q).list l
  rootcur : ∀ x, (f x).parent = none → (f x).cur = none
  childcur : ∀ x q, (f x).parent = some q → (f x).cur ≠ none
  /-- a non-root node with a child waiting for recalculation waits itself -/
  marked : ∀ x q, (f x).parent = some q → (f x).recalc ≠ [] → (f x).cur = some .recalc
  aok : ∀ x, ¬ Pa x → Filed f x → AOK never f x
  aggle : ∀ x, (f x).agg ≤ never

def Inv (never : Nat) (f : Forest) : Prop := InvEx never (fun _ => False) (fun _ => False) f ∧ AllSorted f

namespace Inv
variable (hi : Inv never f)
include hi
theorem sound (q x : Nat) (l : Which) (h : x ∈ (f q).list l) : (f x).parent = some q ∧ (f x).cur = some l := hi.1.sound q x l h
theorem nodup (q : Nat) (l : Which) : ((f q).list l).Nodup := hi.1.nodup q l
theorem complete (x q : Nat) (l : Which) (hp : (f x).parent = some q) (hc : (f x).cur = some l) : x ∈ (f q).list l :=
  hi.1.complete x q l id hp hc
theorem rootcur (x : Nat) (h : (f x).parent = none) : (f x).cur = none := hi.1.rootcur x h
theorem childcur (x q : Nat) (h : (f x).parent = some q) : (f x).cur ≠ none := hi.1.childcur x q h
theorem marked (x q : Nat) (h : (f x).parent = some q) (hr : (f x).recalc ≠ []) : (f x).cur = some .recalc := hi.1.marked x q h hr
theorem aok (x : Nat) (h : Filed f x) : AOK never f x := hi.1.aok x id h
theorem aggle (x : Nat) : (f x).agg ≤ never := hi.1.aggle x
theorem sorted : AllSorted f := hi.2
end Inv

/-- not in a SCHEDULED / UNSCHEDULED list: a root, or a node waiting in NEEDSRECALC -/
def Unfiled (f : Forest) (x : Nat) : Prop := (f x).cur ≠ some .sched ∧ (f x).cur ≠ some .unsched

theorem Unfiled.congr (h : Unfiled f x) (hc : (g x).cur = (f x).cur) : Unfiled g x := by
  rw [Unfiled, hc]; exact h

theorem unfiled_of_cur (h : (f x).cur = none ∨ (f x).cur = some .recalc) : Unfiled f x := by
  rcases h with h | h <;> (rw [Unfiled, h]; simp)

theorem Unfiled.not_filed (h : Unfiled f x) : ¬ Filed f x := fun hf => hf.2.elim h.1 h.2

theorem filed_congr (hp : (g x).parent = (f x).parent) (hc : (g x).cur = (f x).cur) : Filed g x ↔ Filed f x := by
  rw [Filed, Filed, hp, hc]

theorem AOK.congr (hfs : firstSchedAgg never g x = firstSchedAgg never f x) (ha : (g x).agg = (f x).agg)
    (hm : (g x).myTime = (f x).myTime) (hv : (g x).valid = (f x).valid) (hc : (g x).cur = (f x).cur)
    (h : AOK never f x) : AOK never g x := by
  unfold AOK at h ⊢
  rw [hfs, ha, hm, hv, hc]; exact h

namespace InvEx

/-- `Pc` occurs in both polarities (`complete`, `pend`), `Pa` only negatively -/
theorem mono {Pc' Pa' : Nat → Prop} (hi : InvEx never Pc Pa f) (hc : ∀ x, Pc' x ↔ Pc x) (ha : ∀ x, Pa x → Pa' x) :
    InvEx never Pc' Pa' f :=
  { hi with
    complete := fun x q l hx => hi.complete x q l (fun e => hx ((hc x).mpr e))
    pend := fun x hx => hi.pend x ((hc x).mp hx)
    aok := fun x hx => hi.aok x (fun e => hx (ha x e)) }

theorem drop_pa {Pa' : Nat → Prop} (hi : InvEx never Pc Pa' f) (h : ∀ x, Pa' x → ¬ Filed f x) :
    InvEx never Pc Pa f :=
  { hi with aok := fun x _ hf => hi.aok x (fun hp => h x hp hf) hf }

theorem root_notin (hi : InvEx never Pc Pa f) (hr : (f x).parent = none) (q : Nat) (l : Which) : x ∉ (f q).list l :=
  fun h => by rw [(hi.sound q x l h).1] at hr; cases hr

theorem head_parent (hi : InvEx never Pc Pa f) (hp : (f c).parent = some p) (h : (f x).sched.head? = some c) : x = p :=
  Option.some.inj ((hi.sound x c .sched (by rw [list_sched]; exact List.mem_of_mem_head? h)).1.symm.trans hp)

theorem parent_flagged (hi : InvEx never (fun _ => False) Pa f) (hp : (f c).parent = some p)
    (hc : (f c).cur = some .recalc) : (f p).parent = none ∨ (f p).cur = some .recalc := by
  have hm : c ∈ (f p).list .recalc := hi.complete c p .recalc id hp hc
  have hne : (f p).recalc ≠ [] := fun e => by rw [list_recalc, e] at hm; cases hm
  cases hpp : (f p).parent with
  | none => exact Or.inl rfl
  | some q => exact Or.inr (hi.marked p q hpp hne)

theorem child_cur (hi : InvEx never Pc Pa f) (hp : (f c).parent = some p) :
    (f c).cur = some .sched ∨ (f c).cur = some .unsched ∨ (f c).cur = some .recalc := by
  cases hcc : (f c).cur with
  | none => exact absurd hcc (hi.childcur c p hp)
  | some l => cases l <;> simp

theorem unfiled_child (hi : InvEx never Pc Pa f) (hp : (f c).parent = some p) (hu : Unfiled f c) :
    (f c).cur = some .recalc :=
  (hi.child_cur hp).elim (fun e => absurd e hu.1) fun e => e.elim (fun e => absurd e hu.2) id

theorem filed_of_clean (hi : InvEx never (fun _ => False) Pa f) (hp : (f c).parent = some p) (hr : (f p).recalc = []) :
    Filed f c := by
  refine ⟨⟨p, hp⟩, (hi.child_cur hp).elim Or.inl fun e => e.elim Or.inr fun e => ?_⟩
  have := hi.complete c p .recalc id hp e
  rw [list_recalc, hr] at this; cases this

end InvEx

/-- the aggregate of `n` may change only if it is in no SCHEDULED list (`hagg`), and `hn` is `AOK` for the new scalars -/
theorem inv_upd (hi : Inv never f) (nd : Node) (hp : nd.parent = (f n).parent) (hc : nd.cur = (f n).cur)
    (hs : nd.sched = (f n).sched) (hu : nd.unsched = (f n).unsched) (hr : nd.recalc = (f n).recalc)
    (hagg : nd.agg = (f n).agg ∨ (nd.agg ≤ never ∧ ∀ q, n ∉ (f q).sched))
    (hn : Filed f n → AOK never f n → nd.agg ≤ nd.myTime ∧ nd.agg ≤ firstSchedAgg never f n ∧
      (nd.valid = true → nd.agg = min nd.myTime (firstSchedAgg never f n)) ∧ ((f n).cur = some .sched ↔ nd.agg ≠ never)) :
    Inv never (upd f n nd) := by
  have hl : SameLists f (upd f n nd) := sameLists_upd f n nd hc hs hu hr
  have hpar := parent_upd f n nd hp
  have hother : ∀ x, x ≠ n → upd f n nd x = f x := fun x hx => upd_ne f nd hx
  -- the aggregates that SCHEDULED lists are sorted by, and that filed nodes look at, are unchanged
  have hmem : ∀ q, ∀ i ∈ (f q).sched, (upd f n nd i).agg = (f i).agg := by
    intro q i hi'
    by_cases hin : i = n
    · subst hin
      rcases hagg with e | ⟨_, e⟩
      · simpa using e
      · exact absurd hi' (e q)
    · rw [hother i hin]
  have hfs : ∀ x, firstSchedAgg never (upd f n nd) x = firstSchedAgg never f x := fun x =>
    firstSchedAgg_congr never (hl.sched x) (hmem x)
  refine ⟨⟨?_, ?_, ?_, ?_, ?_, ?_, ?_, ?_, ?_⟩, ?_⟩
  · intro q x l hx
    rw [hl.list] at hx; rw [hpar, hl.cur]; exact hi.sound q x l hx
  · intro q l; rw [hl.list]; exact hi.nodup q l
  · intro x q l hx hp' hc'
    rw [hpar] at hp'; rw [hl.cur] at hc'; rw [hl.list]; exact hi.complete x q l hp' hc'
  · exact fun x hx => hx.elim
  · intro x hx; rw [hpar] at hx; rw [hl.cur]; exact hi.rootcur x hx
  · intro x q hx; rw [hpar] at hx; rw [hl.cur]; exact hi.childcur x q hx
  · intro x q hx hne; rw [hpar] at hx; rw [hl.recalc] at hne; rw [hl.cur]; exact hi.marked x q hx hne
  · intro x _ hf
    have hf0 : Filed f x := (filed_congr (hpar x) (hl.cur x)).mp hf
    by_cases hxn : x = n
    · subst hxn
      have := hn hf0 (hi.aok x hf0)
      unfold AOK
      rw [hfs, hl.cur]; simpa using this
    · refine AOK.congr (hfs x) ?_ ?_ ?_ (hl.cur x) (hi.aok x hf0) <;> rw [hother x hxn]
  · intro x
    by_cases hxn : x = n
    · subst hxn
      rcases hagg with e | ⟨e, _⟩
      · simpa [e] using hi.aggle x
      · simpa using e
    · rw [hother x hxn]; exact hi.aggle x
  · intro q
    rw [hl.sched]
    exact (hi.sorted q).imp_of_mem fun {a b} ha hb h => by
      show (upd f n nd a).agg ≤ (upd f n nd b).agg
      rw [hmem q a ha, hmem q b hb]; exact h

/-- withdrawing a standing request (and possibly clearing the stored time) of one node -/
theorem unvalid_inv (hi : Inv never f) (t : Nat) (ht : t = (f n).myTime ∨ t = never) :
    Inv never (upd f n { (f n) with valid := false, myTime := t }) :=
  inv_upd hi _ rfl rfl rfl rfl rfl (Or.inl rfl) (fun _ ha =>
    ⟨ht.elim (fun e => e ▸ ha.le_myTime) (fun e => e ▸ hi.aggle n), ha.le_first, fun e => Bool.noConfusion e, ha.sched_iff⟩)

theorem unfiled_upd_inv (hi : Inv never f) (hun : Unfiled f n) (v : Bool) (t a : Nat) (ha : a ≤ never) :
    Inv never (upd f n { (f n) with valid := v, myTime := t, agg := a }) :=
  inv_upd hi _ rfl rfl rfl rfl rfl (Or.inr ⟨ha, fun q hm => hun.1 (hi.sound q n .sched hm).2⟩)
    (fun hf => absurd hf hun.not_filed)

/-- the node whose SCHEDULED list has lost its first child is excepted from `AOK` until it is marked -/
theorem leave_inv (hi : InvEx never Pc Pa f) (hpc : ¬ Pc c)
    (hl : ∀ q l, (g q).list l = ((f q).list l).erase c)
    (ho : ∀ x, x ≠ c → (g x).parent = (f x).parent ∧ (g x).cur = (f x).cur ∧ (g x).valid = (f x).valid ∧
      (g x).myTime = (f x).myTime)
    (ha : ∀ x, (g x).agg = (f x).agg)
    (hc : ((∃ q, (g c).parent = some q) ∧ (g c).cur = some .recalc) ∨ ((g c).parent = none ∧ (g c).cur = none)) :
    InvEx never (fun x => Pc x ∨ (x = c ∧ (g c).parent ≠ none)) (fun x => Pa x ∨ (f x).sched.head? = some c) g := by
  have hmem : ∀ {q l x}, x ∈ (g q).list l ↔ x ≠ c ∧ x ∈ (f q).list l := fun {q l x} => by
    rw [hl]; exact (hi.nodup q l).mem_erase_iff
  have hcn : ∀ q, (g c).parent ≠ some q ∨ (g c).cur = some .recalc := fun q =>
    hc.elim (fun h => Or.inr h.2) (fun h => Or.inl (by rw [h.1]; simp))
  refine ⟨?_, ?_, ?_, ?_, ?_, ?_, ?_, ?_, ?_⟩
  · intro q x l hx
    obtain ⟨hxc, hx⟩ := hmem.mp hx
    rw [(ho x hxc).1, (ho x hxc).2.1]; exact hi.sound q x l hx
  · intro q l; rw [hl]; exact (hi.nodup q l).erase c
  · intro x q l hx hp hcu
    by_cases hxc : x = c
    · subst hxc
      exact absurd ⟨rfl, by rw [hp]; simp⟩ (fun e => hx (Or.inr e))
    · rw [(ho x hxc).1] at hp; rw [(ho x hxc).2.1] at hcu
      exact hmem.mpr ⟨hxc, hi.complete x q l (fun e => hx (Or.inl e)) hp hcu⟩
  · rintro x (hx | ⟨rfl, hx⟩)
    · have hxc : x ≠ c := fun e => hpc (e ▸ hx)
      exact ⟨by rw [(ho x hxc).2.1]; exact (hi.pend x hx).1, fun q l hm => (hi.pend x hx).2 q l (hmem.mp hm).2⟩
    · exact ⟨hc.elim (fun h => h.2) (fun h => absurd h.1 hx), fun q l hm => (hmem.mp hm).1 rfl⟩
  · intro x hx
    by_cases hxc : x = c
    · subst hxc; exact hc.elim (fun h => by rw [hx] at h; obtain ⟨⟨_, e⟩, _⟩ := h; cases e) (fun h => h.2)
    · rw [(ho x hxc).1] at hx; rw [(ho x hxc).2.1]; exact hi.rootcur x hx
  · intro x q hx
    by_cases hxc : x = c
    · subst hxc; exact (hcn q).elim (fun e => absurd hx e) (fun e => by rw [e]; simp)
    · rw [(ho x hxc).1] at hx; rw [(ho x hxc).2.1]; exact hi.childcur x q hx
  · intro x q hx hne
    by_cases hxc : x = c
    · subst hxc; exact (hcn q).elim (fun e => absurd hx e) id
    · rw [(ho x hxc).1] at hx; rw [(ho x hxc).2.1]
      refine hi.marked x q hx (fun e => hne ?_)
      rw [← list_recalc, hl, list_recalc, e]; rfl
  · intro x hx hf
    have hxc : x ≠ c := by
      rintro rfl
      obtain ⟨q, hq⟩ := hf.1
      exact (hcn q).elim (fun e => e hq) hf.cur_ne_recalc
    have hf0 : Filed f x := (filed_congr (ho x hxc).1 (ho x hxc).2.1).mp hf
    have hhead : (g x).sched.head? = (f x).sched.head? := by
      rw [← list_sched, hl, list_sched]; exact head_erase_ne (fun e => hx (Or.inr e))
    exact AOK.congr (firstSchedAgg_head never hhead fun i _ => ha i) (ha x) (ho x hxc).2.2.2 (ho x hxc).2.2.1 (ho x hxc).2.1
      (hi.aok x (fun e => hx (Or.inl e)) hf0)
  · intro x; rw [ha]; exact hi.aggle x

theorem half_list_erase (hi : InvEx never Pc Pa f) (hp : (f c).parent = some p) (w : Option Which) (q : Nat) (l : Which) :
    (half f p c w q).list l = ((f q).list l).erase c := by
  rw [half_list]
  split
  · rename_i e; rw [e.1]
  · rename_i e
    refine (List.erase_of_not_mem fun hm => e ?_).symm
    obtain ⟨h1, h2⟩ := hi.sound q c l hm
    exact ⟨Option.some.inj (h1.symm.trans hp), h2⟩

/-- `ReschedulePulseChild(child, -1)` on a child of `p` -/
theorem resched_none_list {f1 : Forest} (hi : InvEx never Pc Pa f) (hp : (f c).parent = some p)
    (h : resched never d f p c none = some f1) (q : Nat) (l : Which) : (f1 q).list l = ((f q).list l).erase c := by
  obtain ⟨d, rfl⟩ := resched_pos h
  rw [resched_none_succ, if_neg (hi.childcur c p hp)] at h; cases h
  exact half_list_erase hi hp none q l

/-- `ins` puts the pending node `n` at the front of list `tgt` of its parent, or in its place in the sorted list; the parent is
    a root or waits in NEEDSRECALC itself, so it is not filed -/
theorem enter_inv (tgt : Which) (ins : List Nat → List Nat) (hi : InvEx never (fun x => Pc x ∨ x = n) (fun x => Pa x ∨ x = p) f)
    (hpc : ¬ Pc n) (hp : (f n).parent = some p) (hpp : (f p).parent = none ∨ (f p).cur = some .recalc)
    (hins : ∀ l x, x ∈ ins l ↔ x = n ∨ x ∈ l) (hinsn : ∀ l, l.Nodup → n ∉ l → (ins l).Nodup)
    (hl : ∀ q l, (g q).list l = if q = p ∧ l = tgt then ins ((f p).list tgt) else (f q).list l)
    (hcur : ∀ x, (g x).cur = if x = n then some tgt else (f x).cur)
    (hs : SameScalars f g)
    (hn : tgt ≠ .recalc → (g n).recalc = [] ∧ AOK never g n) : InvEx never Pc Pa g := by
  have hnotin : ∀ q l, n ∉ (f q).list l := (hi.pend n (Or.inr rfl)).2
  have hco : ∀ x, x ≠ n → (g x).cur = (f x).cur := fun x hx => by rw [hcur, if_neg hx]
  have hlo : ∀ q l, ¬ (q = p ∧ l = tgt) → (g q).list l = (f q).list l := fun q l e => by rw [hl, if_neg e]
  have hmem : ∀ {q l x}, x ∈ (f q).list l → x ∈ (g q).list l := fun {q l x} hm => by
    rw [hl]; split
    · rename_i e; exact (hins _ x).mpr (Or.inr (e.1 ▸ e.2 ▸ hm))
    · exact hm
  refine ⟨?_, ?_, ?_, ?_, ?_, ?_, ?_, ?_, ?_⟩
  · intro q x l hx
    rw [hs.parent]
    have key : x ∈ (f q).list l → (f x).parent = some q ∧ (g x).cur = some l := fun hm => by
      rw [hco x (fun e => hnotin q l (e ▸ hm))]; exact hi.sound q x l hm
    rw [hl] at hx
    split at hx
    · rename_i e
      obtain ⟨rfl, rfl⟩ := e
      rcases (hins _ x).mp hx with rfl | hx
      · rw [hcur, if_pos rfl]; exact ⟨hp, rfl⟩
      · exact key hx
    · exact key hx
  · intro q l
    rw [hl]; split
    · exact hinsn _ (hi.nodup p tgt) (hnotin p tgt)
    · exact hi.nodup q l
  · intro x q l hx hp' hc'
    rw [hs.parent] at hp'
    by_cases hxn : x = n
    · subst hxn
      rw [hcur, if_pos rfl] at hc'
      cases hc'; cases hp.symm.trans hp'
      rw [hl, if_pos ⟨rfl, rfl⟩]; exact (hins _ x).mpr (Or.inl rfl)
    · rw [hco x hxn] at hc'
      exact hmem (hi.complete x q l (fun e => e.elim hx hxn) hp' hc')
  · intro x hx
    have hxn : x ≠ n := fun e => hpc (e ▸ hx)
    obtain ⟨h1, h2⟩ := hi.pend x (Or.inl hx)
    refine ⟨(hco x hxn).trans h1, fun q l hm => ?_⟩
    rw [hl] at hm
    split at hm
    · exact ((hins _ x).mp hm).elim hxn (h2 p tgt)
    · exact h2 q l hm
  · intro x hx
    rw [hs.parent] at hx
    rw [hco x (fun e => by rw [e, hp] at hx; cases hx)]; exact hi.rootcur x hx
  · intro x q hx
    rw [hs.parent] at hx
    by_cases hxn : x = n
    · rw [hcur, if_pos hxn]; simp
    · rw [hco x hxn]; exact hi.childcur x q hx
  · intro x q hx hne
    rw [hs.parent] at hx
    by_cases hxn : x = n
    · subst hxn
      rw [hcur, if_pos rfl]
      by_cases ht : tgt = .recalc
      · rw [ht]
      · exact absurd (hn ht).1 hne
    · rw [hco x hxn]
      by_cases hxp : x = p
      · subst hxp
        exact hpp.elim (fun e => by rw [e] at hx; cases hx) id
      · refine hi.marked x q hx (fun e => hne ?_)
        rw [← list_recalc, hlo x _ (fun e => hxp e.1), list_recalc, e]
  · intro x hx hf
    by_cases hxn : x = n
    · subst hxn
      refine (hn fun ht => ?_).2
      exact hf.cur_ne_recalc (by rw [hcur, if_pos rfl, ht])
    · have hf0 : Filed f x := (filed_congr (hs.parent x) (hco x hxn)).mp hf
      have hxp : x ≠ p := by
        rintro rfl
        exact hpp.elim hf0.has_parent hf0.cur_ne_recalc
      have hsch : (g x).sched = (f x).sched := hlo x .sched (fun e => hxp e.1)
      exact AOK.congr (firstSchedAgg_congr never hsch (fun i _ => hs.agg i)) (hs.agg x) (hs.myTime x) (hs.valid x)
        (hco x hxn) (hi.aok x (fun e => e.elim hx hxp) hf0)
  · intro x; rw [hs.agg]; exact hi.aggle x

theorem half_inv (hi : InvEx never Pc Pa f) (hp : (f c).parent = some p) (hpc : ¬ Pc c) :
    InvEx never (fun x => Pc x ∨ x = c) (fun x => Pa x ∨ x = p) (half f p c (some .recalc)) := by
  have hs := half_scalars f p c (some .recalc)
  have hcc : (half f p c (some .recalc) c).cur = some .recalc := by rw [half_cur, if_pos rfl]
  refine (leave_inv hi hpc (half_list_erase hi hp _) (fun x hx => ⟨hs.parent x, ?_, hs.valid x, hs.myTime x⟩) hs.agg
    (Or.inl ⟨⟨p, (hs.parent c).trans hp⟩, hcc⟩)).mono (fun x => ?_) (fun x => ?_)
  · rw [half_cur, if_neg hx]
  · rw [hs.parent c, hp]; simp
  · exact Or.imp_right (hi.head_parent hp)

/-- the part of `ReschedulePulseChild(child, NEEDSRECALC)` after the unlinking, with the recursion as a hypothesis (`ih`), so that
    `resched_recalc_inv` and `adopt_inv`, which reach it from different states, share it -/
theorem recalc_tail_inv {f3 : Forest} (i2 : InvEx never (fun x => Pc x ∨ x = c) (fun x => Pa x ∨ x = p) f) (hpc : ¬ Pc c)
    (hp : (f c).parent = some p) (h : flagUp never d f p = some f3)
    (ih : ∀ {Pc Pa g}, InvEx never Pc Pa f → (f p).parent = some g → resched never d f g p (some .recalc) = some f3 →
      InvEx never Pc Pa f3) :
    InvEx never Pc Pa (setL f3 p .recalc (c :: (f3 p).recalc)) := by
  have s3 := flagUp_sameScalars h
  have i3 : InvEx never (fun x => Pc x ∨ x = c) (fun x => Pa x ∨ x = p) f3 ∧
      ((f3 p).parent = none ∨ (f3 p).cur = some .recalc) := by
    rcases flagUp_cases h with ⟨g, hg, h⟩ | ⟨hg, rfl⟩
    · exact ⟨ih i2 hg h, Or.inr (resched_cur_self h)⟩
    · exact ⟨i2, Or.inl hg⟩
  refine enter_inv .recalc (c :: ·) i3.1 hpc ((s3.parent c).trans hp) i3.2 (fun l x => List.mem_cons)
    (fun l hl hn => List.nodup_cons.mpr ⟨hn, hl⟩) (list_setL f3 p _ _) (fun x => ?_) (sameScalars_setL f3 p _ _)
    (fun e => absurd rfl e)
  rw [cur_setL]
  split
  · rename_i e; rw [e]; exact (i3.1.pend c (Or.inr rfl)).1
  · rfl

/-- `ReschedulePulseChild(child, NEEDSRECALC)` (with its recursion up the parent chain) preserves the invariant -/
theorem resched_recalc_inv : ∀ {d : Nat} {Pc Pa : Nat → Prop} {f : Forest} {p c : Nat} {f' : Forest},
    InvEx never Pc Pa f → (f c).parent = some p → resched never d f p c (some .recalc) = some f' → InvEx never Pc Pa f'
  | 0, _, _, _, _, _, _, _, _, h => by simp [resched] at h
  | d+1, Pc, Pa, f, p, c, f', hi, hp, h => by
    rw [resched_recalc_succ] at h
    split at h
    · cases h; exact hi
    · rename_i hc
      obtain ⟨f3, h3, rfl⟩ := Option.map_eq_some_iff.mp h
      have hpc : ¬ Pc c := fun e => hc (hi.pend c e).1
      exact recalc_tail_inv (half_inv hi hp hpc) hpc (((half_scalars f p c _).parent c).trans hp) h3
        (fun i hg h => resched_recalc_inv i hg h)

theorem flagUp_inv (hi : InvEx never Pc Pa f) (h : flagUp never d f n = some g) : InvEx never Pc Pa g := by
  rcases flagUp_cases h with ⟨p, hp, h⟩ | ⟨_, rfl⟩
  · exact resched_recalc_inv hi hp h
  · exact hi

end Muscle.Pulse
