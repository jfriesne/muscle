import MuscleModel.Pulse.Lift

/-!
A quiet script is a callback that only changes requests: it always completes and leaves the forest alone.  `PQuiet` / `GQuiet`
are `PAll` / `GAll` of "the action has no target", so they are kept by both sweeps and by every operation that queues only such
actions.
-/

namespace Muscle.Pulse

variable {never d : Nat}

/-! A callback consumes the head of its node's queue and its actions never touch a queue; `script` operations append; the
destructor empties the queues of its node.  So a property of all queued actions is kept by everything that only queues actions
having it. -/

def GAll (A : Act → Prop) (w : World) : Prop := ∀ n, ∀ acts ∈ w.gq n, ∀ a ∈ acts, A a

def PAll (A : Act → Prop) (w : World) : Prop := ∀ n, ∀ acts ∈ w.pq n, ∀ a ∈ acts, A a

section
variable {A : Act → Prop}

theorem all_head {q : List (List Act)} (h : ∀ acts ∈ q, ∀ a ∈ acts, A a) : ∀ a ∈ q.headD [], A a := by
  cases q with
  | nil => intro a ha; simp at ha
  | cons x t => exact h x (by simp)

theorem all_upd {q : Nat → List (List Act)} (h : ∀ m, ∀ acts ∈ q m, ∀ a ∈ acts, A a) (n : Nat) {l : List (List Act)}
    (hl : ∀ acts ∈ l, ∀ a ∈ acts, A a) : ∀ m, ∀ acts ∈ updF q n l m, ∀ a ∈ acts, A a := by
  intro m acts ha
  unfold updF at ha
  split at ha
  · exact hl acts ha
  · exact h m acts ha

theorem all_tail {q : Nat → List (List Act)} (h : ∀ m, ∀ acts ∈ q m, ∀ a ∈ acts, A a) (n : Nat) :
    ∀ m, ∀ acts ∈ updF q n (q n).tail m, ∀ a ∈ acts, A a :=
  all_upd h n fun acts ha => h n acts (List.mem_of_mem_tail ha)

theorem callG_all {w w' : World} {n now : Nat} (h : callG never d w n now = some w') :
    GAll A w ∧ PAll A w → GAll A w' ∧ PAll A w' := by
  obtain ⟨w2, h2, rfl⟩ := callG_some h
  obtain ⟨_, e2, e3⟩ := runActs_frame h2
  intro hk
  refine ⟨?_, ?_⟩
  · show ∀ m, ∀ acts ∈ w2.gq m, _
    rw [e2]; exact all_tail hk.1 n
  · show ∀ m, ∀ acts ∈ w2.pq m, _
    rw [e3]; exact hk.2

theorem callP_all {w w' : World} {n now : Nat} (h : callP never d w n now = some w') :
    GAll A w ∧ PAll A w → GAll A w' ∧ PAll A w' := by
  obtain ⟨w2, h2, rfl⟩ := callP_some h
  obtain ⟨_, e2, e3⟩ := runActs_frame h2
  intro hk
  refine ⟨?_, ?_⟩
  · show ∀ m, ∀ acts ∈ w2.gq m, _
    rw [e2]; exact hk.1
  · show ∀ m, ∀ acts ∈ w2.pq m, _
    rw [e3]; exact all_tail hk.2 n

theorem gpt_all (now k : Nat) : GptKeeps never d now k (Pres fun w => GAll A w ∧ PAll A w) :=
  .of_steps (ReflTrans.imp _) (fun _ h => callG_all h)
    (fun h hk => by obtain ⟨f4, rfl, _⟩ := gptFinish_some h; exact hk) k

theorem pulse_all (now k : Nat) : PulseKeeps never d now k (Pres fun w => GAll A w ∧ PAll A w) :=
  .of_steps (ReflTrans.imp _) (fun _ _ h => callP_all h)
    (fun h hk => by
      obtain ⟨f', _, rfl⟩ := pulseFinish_some h
      exact hk) k

/-- operation `o` keeps every property of queued actions that the script it queues has -/
def KeepsQueued (o : Op) (w w' : World) : Prop :=
  ∀ A : Act → Prop, (∀ g c acts, o = Op.script g c acts → ∀ a ∈ acts, A a) → GAll A w ∧ PAll A w → GAll A w' ∧ PAll A w'

/-- What one operation of a history does.  It leaves the forest alone (a refused attach, a sweep on a node that is not a root, a
    change of request, a script), or is one call of the re-entrant API, or the destructor — the log stays in these three —, or it
    is the recalculation sweep from a root, or a pulse sweep. -/
inductive OpStep (never d k : Nat) (w : World) (o : Op) (w' : World) : Prop
  | same (hf : w'.f = w.f) (hl : w'.log = w.log) (hq : KeepsQueued o w w')
  | api (a : Act) (ho : ∀ c p, a = .attach c p → o = .attach c p) (h : Api never d w.f w'.f a) (hl : w'.log = w.log)
      (hq : KeepsQueued o w w')
  | destroy (c : Nat) (h : destroy never d w.f c = some w'.f) (hl : w'.log = w.log) (hq : KeepsQueued o w w')
  | gpt (root now m : Nat) (ho : o = .gpt root now) (hr : (w.f root).parent = none)
      (h : managerGpt never d k w root now = some (w', m))
  | pulse (root now : Nat) (h : managerPulse never d k w root now = some w')

theorem applyOp_step {k : Nat} {w w' : World} {r : Res} {o : Op} (h : applyOp never d k w o = some (w', r)) :
    OpStep never d k w o w' := by
  have same : ∀ {o}, KeepsQueued o w w := fun _ _ hk => hk
  cases o with
  | attach c p =>
    simp only [applyOp] at h
    split at h
    · cases h; exact .same rfl rfl same
    · rename_i hg
      obtain ⟨f', hf, he⟩ := Option.map_eq_some_iff.mp h; cases he
      exact .api (.attach c p) (fun _ _ e => by cases e; rfl) (.attach (by simpa using hg) hf) rfl same
  | detach c =>
    obtain ⟨f', hf, he⟩ := Option.map_eq_some_iff.mp h; cases he
    exact .api (.detach c) (fun _ _ e => nomatch e) (.detach hf) rfl same
  | inval c clear =>
    obtain ⟨f', hf, he⟩ := Option.map_eq_some_iff.mp h; cases he
    exact .api (.inval c clear) (fun _ _ e => nomatch e) (.inval hf) rfl same
  | destroy c =>
    obtain ⟨f', hf, he⟩ := Option.map_eq_some_iff.mp h; cases he
    exact .destroy c hf rfl fun _ _ hk => ⟨all_upd hk.1 _ (by simp), all_upd hk.2 _ (by simp)⟩
  | setReq c t => cases h; exact .same rfl rfl same
  | script g c acts =>
    have snoc : ∀ {A : Act → Prop} {q : List (List Act)}, (∀ l ∈ q, ∀ a ∈ l, A a) → (∀ a ∈ acts, A a) →
        ∀ l ∈ q ++ [acts], ∀ a ∈ l, A a := fun hq ha l hl => by
      rcases List.mem_append.mp hl with hl | hl
      · exact hq l hl
      · rw [List.mem_singleton.mp hl]; exact ha
    cases g
    · cases h; exact .same rfl rfl fun _ ho hk => ⟨hk.1, all_upd hk.2 c (snoc (hk.2 c) (ho _ _ _ rfl))⟩
    · cases h; exact .same rfl rfl fun _ ho hk => ⟨all_upd hk.1 c (snoc (hk.1 c) (ho _ _ _ rfl)), hk.2⟩
  | gpt root now =>
    simp only [applyOp] at h
    split at h
    · cases h; exact .same rfl rfl same
    · rename_i hr
      obtain ⟨⟨w1, m⟩, hf, he⟩ := Option.map_eq_some_iff.mp h; cases he
      exact .gpt root now m rfl (by simpa using hr) hf
  | pulse root now =>
    simp only [applyOp] at h
    split at h
    · cases h; exact .same rfl rfl same
    · obtain ⟨w1, hf, he⟩ := Option.map_eq_some_iff.mp h; cases he
      exact .pulse root now hf

theorem applyOp_all {k : Nat} {w w' : World} {r : Res} {o : Op}
    (ho : ∀ g c acts, o = Op.script g c acts → ∀ a ∈ acts, A a) (h : applyOp never d k w o = some (w', r)) :
    GAll A w ∧ PAll A w → GAll A w' ∧ PAll A w' := fun hk => by
  cases applyOp_step h with
  | same _ _ hq => exact hq A ho hk
  | api _ _ _ _ hq => exact hq A ho hk
  | destroy _ _ _ hq => exact hq A ho hk
  | gpt root now m _ _ h => exact (gpt_all now k).manager h hk
  | pulse root now h => exact (pulse_all now k).manager h hk

end

def PQuiet (w : World) : Prop := ∀ n, ∀ acts ∈ w.pq n, ∀ a ∈ acts, Act.target a = none

def GQuiet (w : World) : Prop := ∀ n, ∀ acts ∈ w.gq n, ∀ a ∈ acts, Act.target a = none

theorem pquiet_tail (w : World) (n : Nat) (h : PQuiet w) (f' : Forest) (lg : List Event) :
    PQuiet { w with f := f', pq := updF w.pq n (w.pq n).tail, log := lg } :=
  all_tail h n

theorem runAct_quiet {w w' : World} {a : Act} (ha : a.target = none) (h : runAct never d w a = some w') : w'.f = w.f := by
  rcases (runAct_api h).1 with e | h
  · exact e
  · cases h <;> simp [Act.target] at ha

theorem runActs_quiet {l : List Act} {w w' : World} (hq : ∀ a ∈ l, Act.target a = none)
    (h : runActs never d w l = some w') : w'.f = w.f :=
  runActs_lift (R := fun w w' => w'.f = w.f) ⟨fun _ => rfl, fun a b => b.trans a⟩ (fun a ha _ _ h => runAct_quiet (hq a ha) h) h

theorem runActs_quiet_some : ∀ (l : List Act) (w : World), (∀ a ∈ l, Act.target a = none) →
    ∃ w', runActs never d w l = some w'
  | [], w, _ => ⟨w, rfl⟩
  | a :: r, w, hq => by
    cases a with
    | setReq id t => exact runActs_quiet_some r _ (fun b hb => hq b (List.mem_cons_of_mem _ hb))
    | inval id c => simpa [Act.target] using hq _ (List.mem_cons_self ..)
    | detach id => simpa [Act.target] using hq _ (List.mem_cons_self ..)
    | attach c p => simpa [Act.target] using hq _ (List.mem_cons_self ..)

theorem callP_quiet {w w' : World} {n now : Nat} (hq : PQuiet w) (h : callP never d w n now = some w') :
    w'.f = upd w.f n { (w.f n) with valid := false } ∧ PQuiet w' := by
  obtain ⟨w2, h2, rfl⟩ := callP_some h
  have e := runActs_quiet (all_head (hq n)) h2
  refine ⟨by simp only [e], fun m => ?_⟩
  show ∀ acts ∈ w2.pq m, _
  rw [(runActs_frame h2).2.2]; exact all_tail hq n m

theorem callP_quiet_some (w : World) (n now : Nat) (hq : PQuiet w) : ∃ w', callP never d w n now = some w' := by
  obtain ⟨w2, e⟩ := runActs_quiet_some (never := never) (d := d) _
    { w with pq := updF w.pq n (w.pq n).tail, log := w.log ++ [.P n now (w.f n).myTime] } (all_head (hq n))
  simp only [callP, e]; exact ⟨_, rfl⟩

theorem callG_quiet {w w' : World} {n now : Nat} (hq : GQuiet w) (h : callG never d w n now = some w') :
    (∃ t, w'.f = upd w.f n { (w.f n) with valid := true, myTime := t }) ∧ GQuiet w' := by
  obtain ⟨w2, h2, rfl⟩ := callG_some h
  have e := runActs_quiet (all_head (hq n)) h2
  refine ⟨⟨w2.req n, by simp only [e, upd_upd, upd_self]⟩, fun m => ?_⟩
  show ∀ acts ∈ w2.gq m, _
  rw [(runActs_frame h2).2.1]; exact all_tail hq n m

theorem callG_quiet_some (w : World) (n now : Nat) (hq : GQuiet w) : ∃ w', callG never d w n now = some w' := by
  obtain ⟨w2, e⟩ := runActs_quiet_some (never := never) (d := d) _
    { w with f := upd w.f n { (w.f n) with valid := true }, gq := updF w.gq n (w.gq n).tail } (all_head (hq n))
  simp only [callG, e]; exact ⟨_, rfl⟩

end Muscle.Pulse
