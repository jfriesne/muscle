import MuscleModel.Pulse.Lift

/-!
# The fuel is not part of the semantics: a sweep that completes with fuel `k` completes with the same result with every larger fuel
-/

namespace Muscle.Pulse

variable {never d : Nat}

theorem pulse_fuel_succ : ∀ (k : Nat),
    (∀ {w r : World} {n now : Nat}, pulseAux never d k w n now = some r → pulseAux never d (k+1) w n now = some r) ∧
    (∀ {w r : World} {n now : Nat}, pulseLoop never d k w n now = some r → pulseLoop never d (k+1) w n now = some r)
  | 0 => ⟨fun h => by simp [pulseAux] at h, fun h => by simp [pulseLoop] at h⟩
  | k+1 => by
    have ih := pulse_fuel_succ k
    refine ⟨fun h => ?_, fun h => ?_⟩
    · obtain ⟨w1, w2, h1, h2, h3⟩ := pulseAux_some.mp h
      exact pulseAux_some.mpr ⟨w1, w2, h1, ih.2 h2, h3⟩
    · exact pulseLoop_some.mpr ((pulseLoop_some.mp h).imp_right
        fun ⟨c, t, w1, he, hdue, h1, h2⟩ => ⟨c, t, w1, he, hdue, ih.1 h1, ih.2 h2⟩)

theorem gpt_fuel_succ : ∀ (k : Nat),
    (∀ {w : World} {n now mn : Nat} {r : World × Nat},
      gptAux never d k w n now mn = some r → gptAux never d (k+1) w n now mn = some r) ∧
    (∀ {w : World} {n now mn : Nat} {r : World × Nat},
      gptLoop never d k w n now mn = some r → gptLoop never d (k+1) w n now mn = some r)
  | 0 => ⟨fun h => by simp [gptAux] at h, fun h => by simp [gptLoop] at h⟩
  | k+1 => by
    have ih := gpt_fuel_succ k
    refine ⟨fun {w n now mn r} h => ?_, fun {w n now mn r} h => ?_⟩
    · obtain ⟨w', m⟩ := r
      obtain ⟨w1, w2, m2, h1, h2, hr⟩ := gptAux_some.mp h
      exact gptAux_some.mpr ⟨w1, w2, m2, h1, ih.2 h2, hr.imp_right
        fun ⟨hv, w3, w4, m4, h3, h4, hf⟩ => ⟨hv, w3, w4, m4, h3, ih.2 h4, hf⟩⟩
    · obtain ⟨w', m⟩ := r
      exact gptLoop_some.mpr ((gptLoop_some.mp h).imp_right
        fun ⟨c, t, w1, mn1, he, h1, h2⟩ => ⟨c, t, w1, mn1, he, ih.1 h1, ih.2 h2⟩)

theorem pulse_fuel_mono {k k' : Nat} (hk : k ≤ k') {w r : World} {n now : Nat}
    (h : pulseAux never d k w n now = some r) : pulseAux never d k' w n now = some r := by
  induction hk with
  | refl => exact h
  | step _ ih => exact (pulse_fuel_succ _).1 ih

theorem gpt_fuel_mono {k k' : Nat} (hk : k ≤ k') {w : World} {n now mn : Nat} {r : World × Nat}
    (h : gptAux never d k w n now mn = some r) : gptAux never d k' w n now mn = some r := by
  induction hk with
  | refl => exact h
  | step _ ih => exact (gpt_fuel_succ _).1 ih

end Muscle.Pulse
