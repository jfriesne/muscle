import MuscleModel.Pulse.Exact
import MuscleModel.Pulse.Fuel
import MuscleModel.Pulse.Parents

/-!
# Sufficient fuel

(a) The recursion of `ReschedulePulseChild` up the parent chain completes with fuel `d > B` when the parent relation has a height
function bounded by `B`; so do all operations built from it.
(b) A quiet sweep of a node of height `< h` completes with fuel `h * (N + 2)` when every child list it walks has at most `N` members:
the measure is the height of the node and, within a node, the length of the list, which every completed child sweep shortens.
(c) With finite support `M` there is a height function with values `≤ M` and every child list has at most `M` members.
-/

namespace Muscle.Pulse

variable {never d : Nat}

def HeightLe (B : Nat) (ht : Nat → Nat) (f : Forest) : Prop :=
  (∀ c p, (f c).parent = some p → ht c < ht p) ∧ ∀ x, ht x < B

theorem heightLe_congr {B : Nat} {ht : Nat → Nat} {f f' : Forest} (h : HeightLe B ht f)
    (hp : SameParents f f') : HeightLe B ht f' :=
  ⟨fun c p e => h.1 c p (hp c ▸ e), h.2⟩

theorem resched_terminates {B : Nat} {ht : Nat → Nat} : ∀ {d : Nat} {f : Forest} (p c : Nat) (w : Option Which),
    HeightLe B ht f → B + 1 ≤ d + ht p → ∃ f', resched never d f p c w = some f'
  | 0, _, p, _, _, h, hd => by have := h.2 p; omega
  | d+1, f, p, c, w, h, hd => by
    match w with
    | none => exact ⟨_, resched_none_succ ..⟩
    | some .sched => exact ⟨_, resched_sched_succ ..⟩
    | some .unsched => exact ⟨_, resched_unsched_succ ..⟩
    | some .recalc =>
      rw [resched_recalc_succ]
      split
      · exact ⟨_, rfl⟩
      · have h2 := heightLe_congr h (half_scalars f p c (some .recalc)).parent
        cases hg : (half f p c (some .recalc) p).parent with
        | none => exact ⟨_, by rw [flagUp_root hg]; rfl⟩
        | some g =>
          rw [flagUp_child hg]
          obtain ⟨f3, e3⟩ := resched_terminates g p (some .recalc) h2
            (show B + 1 ≤ d + ht g by have := h2.1 p g hg; omega)
          exact ⟨setL f3 p .recalc (c :: (f3 p).recalc), by simp only [e3, Option.map_some]⟩

theorem flagUp_terminates {B : Nat} {ht : Nat → Nat} {f : Forest} (n : Nat) (h : HeightLe B ht f) (hd : B < d) :
    ∃ f', flagUp never d f n = some f' := by
  cases hp : (f n).parent with
  | some p => rw [flagUp_child hp]; exact resched_terminates p n _ h (by omega)
  | none => exact ⟨f, flagUp_root hp⟩

theorem invalidate_terminates (never B d : Nat) (ht : Nat → Nat) (f : Forest) (n : Nat) (clear : Bool)
    (h : HeightLe B ht f) (hd : B < d) : ∃ f', invalidate never d f n clear = some f' := by
  rw [invalidate_eq]
  split
  · exact flagUp_terminates n (heightLe_congr h (parent_scalars f n _ _ (f n).agg)) hd
  · exact ⟨_, rfl⟩

theorem pulseFinish_terminates {B : Nat} {ht : Nat → Nat} (w : World) (n : Nat) (h : HeightLe B ht w.f) (hd : B < d) :
    ∃ w', pulseFinish never d w n = some w' := by
  obtain ⟨f', e⟩ := flagUp_terminates (never := never) n h hd
  rw [pulseFinish_eq, e]; exact ⟨_, rfl⟩

theorem gptFinish_terminates {B : Nat} {ht : Nat → Nat} (w : World) (n mn : Nat) (h : HeightLe B ht w.f) (hd : B < d) :
    ∃ r, gptFinish never d w n mn = some r := by
  simp only [gptFinish]
  generalize min (if (w.f n).valid then (w.f n).myTime else 0) (firstSchedAgg never w.f n) = a
  have h3 : HeightLe B ht (upd w.f n { (w.f n) with agg := a }) :=
    heightLe_congr h (parent_scalars w.f n (w.f n).valid (w.f n).myTime a)
  generalize upd w.f n { (w.f n) with agg := a } = f3 at h3
  cases (f3 n).parent with
  | none => exact ⟨_, rfl⟩
  | some p =>
    simp only []
    by_cases hc : (f3 n).cur = some Which.recalc ∨ a ≠ (w.f n).agg
    · obtain ⟨f', e⟩ := resched_terminates (never := never) p n
        (some (if a = never then Which.unsched else Which.sched)) h3 (Nat.le_add_right_of_le hd)
      simp only [if_pos hc, e]; exact ⟨_, rfl⟩
    · simp only [if_neg hc]; exact ⟨_, rfl⟩

theorem pulseLoop_terminates {k n now : Nat} (P : World → Prop)
    (hstep : ∀ v c t, P v → (v.f n).sched = c :: t → now ≥ (v.f c).agg →
      ∃ v1, pulseAux never d k v c now = some v1 ∧ P v1 ∧ (v1.f n).sched.length < (v.f n).sched.length) :
    ∀ (len : Nat) (w : World), P w → (w.f n).sched.length ≤ len →
      ∃ w', pulseLoop never d (k + len + 1) w n now = some w' ∧ P w' := by
  intro len
  induction len with
  | zero =>
    intro w hP hl
    refine ⟨w, pulseLoop_some.mpr (Or.inl ⟨rfl, fun c t e => ?_⟩), hP⟩
    rw [List.eq_nil_of_length_eq_zero (Nat.le_zero.mp hl)] at e; cases e
  | succ len ih =>
    intro w hP hl
    by_cases hdue : ∃ c t, (w.f n).sched = c :: t ∧ now ≥ (w.f c).agg
    · obtain ⟨c, t, hs, hdue⟩ := hdue
      obtain ⟨v1, e1, p1, hlt⟩ := hstep w c t hP hs hdue
      obtain ⟨w', e2, p2⟩ := ih v1 p1 (by omega)
      exact ⟨w', pulseLoop_some.mpr (Or.inr ⟨c, t, v1, hs, hdue, pulse_fuel_mono (by omega) e1, e2⟩), p2⟩
    · exact ⟨w, pulseLoop_some.mpr (Or.inl ⟨rfl, fun c t e hd => hdue ⟨c, t, e, hd⟩⟩), hP⟩

theorem gptLoop_terminates {k n now : Nat} (P : World → Prop)
    (hstep : ∀ v c t mn, P v → (v.f n).recalc = c :: t →
      ∃ v1 m1, gptAux never d k v c now mn = some (v1, m1) ∧ P v1 ∧ (v1.f n).recalc.length < (v.f n).recalc.length) :
    ∀ (len : Nat) (w : World) (mn : Nat), P w → (w.f n).recalc.length ≤ len →
      ∃ w' m', gptLoop never d (k + len + 1) w n now mn = some (w', m') ∧ P w' := by
  intro len
  induction len with
  | zero =>
    intro w mn hP hl
    exact ⟨w, mn, gptLoop_some.mpr (Or.inl ⟨List.eq_nil_of_length_eq_zero (Nat.le_zero.mp hl), rfl, rfl⟩), hP⟩
  | succ len ih =>
    intro w mn hP hl
    cases hs : (w.f n).recalc with
    | nil => exact ⟨w, mn, gptLoop_some.mpr (Or.inl ⟨hs, rfl, rfl⟩), hP⟩
    | cons c t =>
      obtain ⟨v1, m1, e1, p1, hlt⟩ := hstep w c t mn hP hs
      obtain ⟨w', m', e2, p2⟩ := ih v1 m1 p1 (by omega)
      exact ⟨w', m', gptLoop_some.mpr (Or.inr ⟨c, t, v1, m1, hs, gpt_fuel_mono (by omega) e1, e2⟩), p2⟩

theorem callP_keep {w w' : World} {n now : Nat} (h : callP never d w n now = some w') (hq : PQuiet w) :
    PQuiet w' ∧ SameParents w.f w'.f ∧ NoFiling w.f w'.f := by
  obtain ⟨e, q⟩ := callP_quiet hq h
  exact ⟨q, fun z => e ▸ parent_scalars w.f n _ (w.f n).myTime (w.f n).agg z,
    e ▸ (sameLists_scalars w.f n _ (w.f n).myTime (w.f n).agg).noFiling⟩

theorem pulse_quiet (now k : Nat) :
    PulseKeeps never d now k fun w w' => PQuiet w → PQuiet w' ∧ SameParents w.f w'.f ∧ NoFiling w.f w'.f :=
  .of_steps (((SameParents.pre.and NoFiling.pre).comap World.f).guard PQuiet) (fun _ _ h => callP_keep h)
    (fun h hq => by
      obtain ⟨f', hf, rfl⟩ := pulseFinish_some h
      exact ⟨hq, (flagUp_sameScalars hf).parent, (flagUp_flagsOnly hf).noFiling⟩) k

/-- what the termination proof of the pulse sweep carries from state to state -/
structure PulseTerm (never B N : Nat) (ht : Nat → Nat) (v : World) : Prop where
  inv : Inv never v.f
  quiet : PQuiet v
  height : HeightLe B ht v.f
  len : ∀ x, (v.f x).sched.length ≤ N

theorem list_subset {f f1 : Forest} {l : Which} (hi : Inv never f) (hi1 : Inv never f1)
    (hpar : SameParents f f1) (hcur : ∀ x, (f1 x).cur = some l → (f x).cur = some l)
    {n x : Nat} (hx : x ∈ (f1 n).list l) : x ∈ (f n).list l := by
  obtain ⟨hp, hc⟩ := hi1.sound n x l hx
  exact hi.complete x n l ((hpar x).symm.trans hp) (hcur x hc)

theorem PulseTerm.keep {B N : Nat} {ht : Nat → Nat} {v v1 : World} (hP : PulseTerm never B N ht v) (hi1 : Inv never v1.f)
    (hk : PQuiet v1 ∧ SameParents v.f v1.f ∧ NoFiling v.f v1.f) :
    PulseTerm never B N ht v1 ∧ ∀ n x, x ∈ (v1.f n).sched → x ∈ (v.f n).sched := by
  have hsub : ∀ n x, x ∈ (v1.f n).sched → x ∈ (v.f n).sched := fun n x =>
    list_subset (l := .sched) hP.inv hi1 hk.2.1 (fun x e => by
      rcases hk.2.2 x with e' | e' | e'
      · exact e'.symm.trans e
      · rw [e] at e'; cases e'
      · rw [e] at e'; cases e')
  exact ⟨⟨hi1, hk.1, heightLe_congr hP.height hk.2.1, fun x =>
    Nat.le_trans ((hi1.nodup x .sched).length_le_of_subset (hsub x)) (hP.len x)⟩, hsub⟩

/-- one level: fuel `k` for the children, `N + 1` more for the loop over at most `N` of them, one for the call -/
theorem pulseAux_level {B N k n now : Nat} {ht : Nat → Nat} (hd : B < d)
    (hc : ∀ v c, PulseTerm never B N ht v → (v.f c).parent = some n → ∃ v1, pulseAux never d k v c now = some v1)
    {v : World} (hP : PulseTerm never B N ht v) : ∃ v1, pulseAux never d (k + N + 2) v n now = some v1 := by
  have h1 : ∃ w1, (if (v.f n).valid ∧ now ≥ (v.f n).myTime then callP never d v n now else some v) = some w1 ∧
      PulseTerm never B N ht w1 := by
    split
    · obtain ⟨w1, e⟩ := callP_quiet_some (never := never) (d := d) v n now hP.quiet
      exact ⟨w1, e, (hP.keep (callP_inv e hP.inv) (callP_keep e hP.quiet)).1⟩
    · exact ⟨v, rfl, hP⟩
  obtain ⟨w1, e1, p1⟩ := h1
  obtain ⟨w2, e2, p2⟩ := pulseLoop_terminates (never := never) (d := d) (k := k) (n := n) (now := now) (PulseTerm never B N ht)
    (fun v' c t hv hs _ => by
      have hpc := (hv.inv.sound n c .sched (show c ∈ (v'.f n).list .sched by simp [hs])).1
      obtain ⟨v1, ev⟩ := hc v' c hv hpc
      have i1 : Inv never v1.f := (pulse_inv now k).aux ev hv.inv
      have k1 := (pulse_quiet now k).aux ev hv.quiet
      obtain ⟨p1, hsub⟩ := hv.keep i1 k1
      refine ⟨v1, ev, p1, nodup_subset_erase_length (c := c) (i1.nodup n .sched) (by simp [hs])
        (fun x hx => ⟨hsub n x hx, ?_⟩)⟩
      -- the child has been flagged NEEDSRECALC
      rintro rfl
      have := (i1.sound n x .sched hx).2
      rw [pulseAux_marks ev ((k1.2.1 x).trans hpc)] at this; cases this)
    N w1 p1 (p1.len n)
  obtain ⟨w3, e3⟩ := pulseFinish_terminates (never := never) w2 n p2.height hd
  exact ⟨w3, pulseAux_some.mpr ⟨w1, w2, e1, e2, e3⟩⟩

theorem pulseAux_terminates {B N now : Nat} {ht : Nat → Nat} (hd : B < d) (h : Nat) : ∀ {v : World} {n : Nat},
    PulseTerm never B N ht v → ht n < h → ∃ v1, pulseAux never d (h * (N + 2)) v n now = some v1 := by
  induction h with
  | zero => intro v n _ hn; omega
  | succ h ih =>
    intro v n hP hn
    rw [Nat.succ_mul, ← Nat.add_assoc]
    exact pulseAux_level hd (fun v' c hv hpc => ih hv (by have := hv.height.1 c n hpc; omega)) hP

/-- `CallPulseAux` with quiet scripts completes with fuel `B * (N + 2)` (and with every larger fuel) -/
theorem managerPulse_terminates {B N : Nat} {ht : Nat → Nat} (hd : B < d) {w : World} (root t : Nat)
    (hP : PulseTerm never B N ht w) {k : Nat} (hk : B * (N + 2) ≤ k) : ∃ w', managerPulse never d k w root t = some w' := by
  unfold managerPulse
  split
  · obtain ⟨v1, e1⟩ := pulseAux_terminates (now := t) hd B hP (hP.height.2 root)
    exact ⟨v1, pulse_fuel_mono hk e1⟩
  · exact ⟨w, rfl⟩

/-- what the termination proof of the recalculation sweep carries for the frame of `n` with the frames `S` above it -/
structure GptTerm (never B N : Nat) (ht : Nat → Nat) (n : Nat) (S : List Nat) (v : World) : Prop where
  frames : Frames never v.f (n :: S)
  flagged : V v.f
  quiet : GQuiet v
  height : HeightLe B ht v.f
  len : ∀ x, (v.f x).recalc.length ≤ N

theorem recalc_subset {f f1 : Forest} (hi : Inv never f) (hv : V f) (hi1 : Inv never f1)
    (hpar : SameParents f f1) (hfs : KeepsFiled f f1) {m x : Nat} (hx : x ∈ (f1 m).recalc) :
    x ∈ (f m).recalc := by
  refine list_subset (l := .recalc) hi hi1 hpar (fun x hc => ?_) hx
  cases hp : (f x).parent with
  | none => rw [hi1.rootcur x ((hpar x).trans hp)] at hc; cases hc
  | some q =>
    -- a filed node has a standing request (`V`), so it stays filed
    refine Decidable.byContradiction fun hne => ?_
    have hf : Filed f x := ⟨⟨q, hp⟩, (hi.1.child_cur hp).elim Or.inl fun e => e.elim Or.inr fun e => absurd e hne⟩
    have hval : (f x).valid = true := by
      cases hvx : (f x).valid with
      | true => rfl
      | false => exact absurd (hv.flagged hp hvx) hne
    exact (hfs x hf hval).1.cur_ne_recalc hc

theorem GptTerm.step {B N : Nat} {ht : Nat → Nat} {n : Nat} {S : List Nat} {v v1 : World}
    (hP : GptTerm never B N ht n S v) (hF : Frames never v1.f (n :: S)) (hvr : VRel v.f v1.f) (hq : GQuiet v1)
    (hpar : SameParents v.f v1.f) (hsub : ∀ m x, x ∈ (v1.f m).recalc → x ∈ (v.f m).recalc) :
    GptTerm never B N ht n S v1 :=
  ⟨hF, hP.flagged.step hvr, hq, heightLe_congr hP.height hpar, fun x =>
    Nat.le_trans ((hF.inv.nodup x .recalc).length_le_of_subset (hsub x)) (hP.len x)⟩

theorem gptAux_level {B N k n now : Nat} {ht : Nat → Nat} {S : List Nat} (hd : B < d)
    (hc : ∀ v c mn, GptTerm never B N ht c (n :: S) v → ∃ res, gptAux never d k v c now mn = some res)
    {v : World} (mn : Nat) (hP : GptTerm never B N ht n S v) :
    ∃ res, gptAux never d (k + N + 2) v n now mn = some res := by
  have hcall : ∀ {v v1 : World}, GptTerm never B N ht n S v → callG never d v n now = some v1 →
      GptTerm never B N ht n S v1 := by
    intro v v1 hv e
    obtain ⟨F1, _⟩ := callG_frames e (fun a ha => by rw [actOK, all_head (hv.quiet n) a ha]) hv.frames
    obtain ⟨⟨t, et⟩, q1⟩ := callG_quiet hv.quiet e
    refine hv.step F1 (callG_vrel e) q1 (fun z => et ▸ parent_scalars v.f n _ _ (v.f n).agg z) (fun m x hx => ?_)
    rwa [et, (sameLists_scalars v.f n _ _ (v.f n).agg).recalc] at hx
  have hstep : ∀ v c t mn, GptTerm never B N ht n S v → (v.f n).recalc = c :: t →
      ∃ v1 m1, gptAux never d k v c now mn = some (v1, m1) ∧ GptTerm never B N ht n S v1 ∧
        (v1.f n).recalc.length < (v.f n).recalc.length := by
    intro v' c t mn' hv hs
    have Fc := hv.frames.child hs
    obtain ⟨⟨v1, m1⟩, e1⟩ := hc v' c mn' { hv with frames := Fc }
    have ec := (gptC_of_quiet k).1 (n :: S) hv.quiet e1
    have A := gptC_inv ec Fc
    obtain ⟨q1, par1, fs1, hfc⟩ := gptC_quiet_child ec Fc hv.quiet
    have hsub : ∀ m x, x ∈ (v1.f m).recalc → x ∈ (v'.f m).recalc := fun m x =>
      recalc_subset hv.frames.inv hv.flagged A.inv par1 fs1
    refine ⟨v1, m1, e1, hv.step (hv.frames.keeps A.inv A.keeps) A.vrel q1 par1 hsub,
      nodup_subset_erase_length (c := c) (A.inv.nodup n .recalc) (by simp [hs]) (fun x hx => ⟨hsub n x hx, ?_⟩)⟩
    -- the child has been filed
    rintro rfl
    exact hfc.cur_ne_recalc (A.inv.sound n x .recalc hx).2
  have h1 : ∃ w1, (if (v.f n).valid then some v else callG never d v n now) = some w1 ∧ GptTerm never B N ht n S w1 := by
    split
    · exact ⟨v, rfl, hP⟩
    · obtain ⟨w1, e⟩ := callG_quiet_some (never := never) (d := d) v n now hP.quiet
      exact ⟨w1, e, hcall hP e⟩
  obtain ⟨w1, e1, p1⟩ := h1
  obtain ⟨w2, m2, e2, p2⟩ := gptLoop_terminates (GptTerm never B N ht n S) hstep N w1 mn p1 (p1.len n)
  by_cases hv : (w2.f n).valid = true
  · obtain ⟨⟨w', m⟩, ef⟩ := gptFinish_terminates w2 n m2 p2.height hd
    exact ⟨_, gptAux_some.mpr ⟨w1, w2, m2, e1, e2, Or.inl ⟨hv, ef⟩⟩⟩
  · obtain ⟨w3, e3⟩ := callG_quiet_some (never := never) (d := d) w2 n now p2.quiet
    have p3 := hcall p2 e3
    obtain ⟨w4, m4, e4, p4⟩ := gptLoop_terminates (GptTerm never B N ht n S) hstep N w3 m2 p3 (p3.len n)
    obtain ⟨⟨w', m⟩, ef⟩ := gptFinish_terminates w4 n m4 p4.height hd
    exact ⟨_, gptAux_some.mpr ⟨w1, w2, m2, e1, e2, Or.inr ⟨by simpa using hv, w3, w4, m4, e3, e4, ef⟩⟩⟩

theorem gptAux_terminates {B N now : Nat} {ht : Nat → Nat} (hd : B < d) (h : Nat) : ∀ {n : Nat} {S : List Nat} {v : World}
    (mn : Nat), GptTerm never B N ht n S v → ht n < h → ∃ res, gptAux never d (h * (N + 2)) v n now mn = some res := by
  induction h with
  | zero => intro n S v mn _ hn; omega
  | succ h ih =>
    intro n S v mn hP hn
    rw [Nat.succ_mul, ← Nat.add_assoc]
    exact gptAux_level hd (fun v' c mn' hv => ih mn' hv (by have := hv.height.1 c n hv.frames.chain.1; omega)) mn hP

/-- `CallGetPulseTimeAux` on a root with quiet scripts completes with fuel `B * (N + 2)` (and with every larger fuel) -/
theorem managerGpt_terminates {B N : Nat} {ht : Nat → Nat} (hd : B < d) {w : World} {root : Nat} (now : Nat)
    (hi : Inv never w.f) (hV : V w.f) (hq : GQuiet w) (hH : HeightLe B ht w.f)
    (hN : ∀ x, (w.f x).recalc.length ≤ N) (hroot : (w.f root).parent = none) {k : Nat} (hk : B * (N + 2) ≤ k) :
    ∃ res, managerGpt never d k w root now = some res := by
  -- the explicit `never` is the initial `min`
  obtain ⟨res, e⟩ := gptAux_terminates (now := now) hd B never
    ⟨Frames.root hi hroot, hV, hq, hH, hN⟩ (hH.2 root)
  exact ⟨res, gpt_fuel_mono hk e⟩

theorem lists_le_of_fsupp {M : Nat} {f : Forest} (hs : FSupp M f) (hi : Inv never f) (x : Nat) (l : Which) :
    ((f x).list l).length ≤ M := by
  simpa using (hi.nodup x l).length_le_of_subset (l₂ := List.range M)
    (fun y hy => List.mem_range.mpr (hs y x (hi.sound x y l hy).1).1)

/-- with finite support `M` the height bound can be taken as `M + 1`: rank compression of any height function -/
theorem heightLe_explicit {M : Nat} {f : Forest} (hs : FSupp M f) (hH : Height f) : ∃ ht, HeightLe (M + 1) ht f := by
  obtain ⟨ht, hh⟩ := hH
  refine ⟨fun x => ((List.range M).filter (fun y => ht y < ht x)).length, fun c p hp => ?_, fun x => Nat.lt_succ_of_le ?_⟩
  · refine nodup_subset_erase_length (c := c) (List.Nodup.sublist List.filter_sublist List.nodup_range)
      (by simp [(hs c p hp).1, hh c p hp]) (fun x hx => ?_)
    simp at hx
    exact ⟨by simp [hx.1]; have := hh c p hp; omega, fun e => by subst e; omega⟩
  · simpa using List.length_filter_le (fun y => decide (ht y < ht x)) (List.range M)

/-- both sweeps with explicit fuel in a quiet state with finite support `M`: `d > M + 1`, `k ≥ (M + 1) * (M + 2)` -/
theorem sweeps_terminate_explicit {M k : Nat} {w : World} (hs : FSupp M w.f) (hi : Inv never w.f) (hV : V w.f)
    (hH : Height w.f) (hd : M + 1 < d) (hk : (M + 1) * (M + 2) ≤ k) :
    (PQuiet w → ∀ root t, ∃ w', managerPulse never d k w root t = some w') ∧
    (GQuiet w → ∀ root now, (w.f root).parent = none → ∃ res, managerGpt never d k w root now = some res) := by
  obtain ⟨ht, hB⟩ := heightLe_explicit hs hH
  exact ⟨fun hq root t => managerPulse_terminates hd root t
      ⟨hi, hq, hB, fun x => by simpa using lists_le_of_fsupp hs hi x .sched⟩ hk,
    fun hq root now hroot => managerGpt_terminates hd now hi hV hq hB
      (fun x => by simpa using lists_le_of_fsupp hs hi x .recalc) hroot hk⟩

end Muscle.Pulse
