import MuscleModel.Pulse.Lift

/-!
Every `Pulse` callback is made with the time the node last answered from `GetPulseTime`, while that answer stands, and never
before that time — for every script, including scripts that attach/detach/invalidate from inside callbacks (`Good`).  A pulse
sweep only appends `Pulse` entries of nodes that end up without a standing request (`PulseStep`); a recalculation sweep only
appends `GetPulseTime` entries, one for every request that starts to stand (`AskedRel`).
-/

namespace Muscle.Pulse

variable {never d : Nat}

/-- every node whose request stands afterwards had the same standing request before -/
def Mono (f f' : Forest) : Prop :=
  ∀ i, (f' i).valid = true → (f i).valid = true ∧ (f' i).myTime = (f i).myTime

theorem Mono.refl (f : Forest) : Mono f f := fun _ h => ⟨h, rfl⟩

theorem Mono.trans {f g h : Forest} (a : Mono f g) (b : Mono g h) : Mono f h := fun i hi =>
  ⟨(a i (b i hi).1).1, (b i hi).2.trans (a i (b i hi).1).2⟩

theorem SameScalars.mono {f f' : Forest} (h : SameScalars f f') : Mono f f' :=
  fun i hi => ⟨h.valid i ▸ hi, h.myTime i⟩

theorem mono_upd (f : Forest) (n : Nat) (nd : Node)
    (h : nd.valid = true → (f n).valid = true ∧ nd.myTime = (f n).myTime) : Mono f (upd f n nd) := by
  intro i hi
  by_cases hin : i = n
  · subst hin; rw [upd_self] at hi ⊢; exact h hi
  · rw [upd_ne f nd hin] at hi ⊢; exact ⟨hi, rfl⟩

theorem mono_opRel (never : Nat) : OpRel never Mono :=
  .of_steps ⟨Mono.refl, Mono.trans⟩ (hnone := fun _ h => (resched_sameScalars h).mono)
    (hrecalc := fun h => (resched_sameScalars h).mono)
    (hunvalid := fun f n _ _ => mono_upd f n _ (fun e => by cases e))
    (hclear := fun f n _ hv => mono_upd f n _ (fun e => by rw [hv] at e; cases e))
    (horphan := fun f c _ => mono_upd f c _ (fun e => by cases e)) (hparent := fun f c _ _ => mono_upd f c _ (fun e => ⟨e, rfl⟩))

theorem gptFinish_mono {w w' : World} {n mn mn' : Nat} (h : gptFinish never d w n mn = some (w', mn')) :
    Mono w.f w'.f :=
  fun i hi => ⟨(gptFinish_fields h i).valid ▸ hi, (gptFinish_fields h i).myTime⟩

theorem pulseFinish_log_mono {w w' : World} {n : Nat} (h : pulseFinish never d w n = some w') :
    w'.log = w.log ∧ Mono w.f w'.f := by
  obtain ⟨f', hf, rfl⟩ := pulseFinish_some h
  exact ⟨rfl, (flagUp_sameScalars hf).mono⟩

def ansOf (n : Nat) : Event → Option Nat
  | .G id _ _ ret => if id = n then some ret else none
  | .P _ _ _ => none

def lastAns (l : List Event) (n : Nat) : Option Nat := l.reverse.findSome? (ansOf n)

theorem lastAns_snoc (l : List Event) (e : Event) (n : Nat) :
    lastAns (l ++ [e]) n = (match ansOf n e with | some a => some a | none => lastAns l n) := by
  unfold lastAns
  simp [List.reverse_append, List.findSome?_cons]
  cases ansOf n e <;> rfl

/-- the log discipline: each `P id now s` entry comes after an answer `s` of node `id` that is the
    latest one at that point, and `s ≤ now` -/
inductive LogOK : List Event → Prop
  | nil : LogOK []
  | snocG (l : List Event) (id now prev ret : Nat) : LogOK l → LogOK (l ++ [.G id now prev ret])
  | snocP (l : List Event) (id now s : Nat) : LogOK l → lastAns l id = some s → s ≤ now → LogOK (l ++ [.P id now s])

/-- every standing request (except possibly that of node `x`, whose `GetPulseTime` is executing) is the
    node's latest recorded answer -/
def AnsInv (x : Option Nat) (w : World) : Prop :=
  ∀ m, x ≠ some m → (w.f m).valid = true → lastAns w.log m = some (w.f m).myTime

def Good (x : Option Nat) (w : World) : Prop := LogOK w.log ∧ AnsInv x w

theorem good_of_mono {x : Option Nat} {w w' : World} (g : Good x w) (hl : w'.log = w.log) (m : Mono w.f w'.f) :
    Good x w' := by
  refine ⟨hl ▸ g.1, fun i hx hv => ?_⟩
  rw [hl, (m i hv).2]; exact g.2 i hx (m i hv).1

theorem good_weaken {x : Option Nat} {w : World} (g : Good none w) : Good x w :=
  ⟨g.1, fun m _ hv => g.2 m (by simp) hv⟩

theorem runActs_good {x : Option Nat} {l : List Act} {w w' : World} (h : runActs never d w l = some w')
    (g : Good x w) : Good x w' :=
  good_of_mono g (runActs_frame h).1 ((mono_opRel never).on_runActs h)

theorem callG_good {w w' : World} {n now : Nat} (g : Good none w) (h : callG never d w n now = some w') :
    Good none w' := by
  obtain ⟨w2, h2, rfl⟩ := callG_some h
  -- while the callback runs, node `n` is the exception
  have g2 : Good (some n) w2 := by
    refine runActs_good h2 ⟨g.1, fun m hx hv => ?_⟩
    have hmn : m ≠ n := fun e => hx (by rw [e])
    simp only [upd_ne _ _ hmn] at hv ⊢
    exact g.2 m (by simp) hv
  refine ⟨LogOK.snocG _ _ _ _ _ g2.1, fun m _ hv => ?_⟩
  simp only [lastAns_snoc, ansOf]
  by_cases hmn : m = n
  · subst hmn; simp
  · simp only [upd_ne _ _ hmn] at hv ⊢
    simp only [Ne.symm hmn, if_false]
    exact g2.2 m (by simp [Ne.symm hmn]) hv

theorem callP_good {w w' : World} {n now : Nat} (g : Good none w) (hv : (w.f n).valid = true)
    (ht : (w.f n).myTime ≤ now) (h : callP never d w n now = some w') : Good none w' := by
  obtain ⟨w2, h2, rfl⟩ := callP_some h
  have g2 : Good none w2 := by
    refine runActs_good h2 ⟨LogOK.snocP _ _ _ _ g.1 (g.2 n (by simp) hv) ht, fun m hx hvm => ?_⟩
    simp only [lastAns_snoc, ansOf]; exact g.2 m hx hvm
  exact good_of_mono g2 rfl (mono_upd w2.f n _ (fun e => by cases e))

theorem gpt_good (now k : Nat) : GptKeeps never d now k (Pres (Good none)) :=
  .of_steps (ReflTrans.imp _) (fun _ h g => callG_good g h)
    (fun h g => good_of_mono g (gptFinish_frame h).1 (gptFinish_mono h)) k

theorem pulse_good (now k : Nat) : PulseKeeps never d now k (Pres (Good none)) :=
  .of_steps (ReflTrans.imp _) (fun hv ht h g => callP_good g hv ht h)
    (fun h g => good_of_mono g (pulseFinish_log_mono h).1 (pulseFinish_log_mono h).2) k

theorem logOK_P {l : List Event} (h : LogOK l) :
    ∀ (l1 l2 : List Event) (id now s : Nat), l = l1 ++ [.P id now s] ++ l2 → lastAns l1 id = some s ∧ s ≤ now := by
  induction h with
  | nil => intro l1 l2 id now s e; simp at e
  | snocG l id' now' prev ret _ ih =>
    intro l1 l2 id now s e
    rcases List.eq_nil_or_concat l2 with rfl | ⟨l2', x, rfl⟩
    · simp only [List.append_nil] at e
      have := List.append_inj_right' e (by simp)
      simp at this
    · simp only [List.concat_eq_append, ← List.append_assoc] at e
      exact ih l1 l2' id now s (by simpa using List.append_inj_left' e (by simp))
  | snocP l id' now' s' _ ha hs ih =>
    intro l1 l2 id now s e
    rcases List.eq_nil_or_concat l2 with rfl | ⟨l2', x, rfl⟩
    · simp only [List.append_nil] at e
      have e1 := List.append_inj_left' e (by simp)
      have e2 := List.append_inj_right' e (by simp)
      simp at e2
      obtain ⟨rfl, rfl, rfl⟩ := e2
      subst e1
      exact ⟨ha, hs⟩
    · simp only [List.concat_eq_append, ← List.append_assoc] at e
      exact ih l1 l2' id now s (by simpa using List.append_inj_left' e (by simp))

def PulseStep (now : Nat) (w w' : World) : Prop :=
  ∃ l, w'.log = w.log ++ l ∧
    (∀ e ∈ l, ∃ id s, e = .P id now s ∧ s ≤ now ∧ (w'.f id).valid = false) ∧
    Mono w.f w'.f

theorem PulseStep.of_mono {now : Nat} {w w' : World} (hl : w'.log = w.log) (m : Mono w.f w'.f) : PulseStep now w w' :=
  ⟨[], by simp [hl], by simp, m⟩

theorem PulseStep.pre (now : Nat) : ReflTrans (PulseStep now) where
  refl w := .of_mono rfl (Mono.refl _)
  trans {a b c} := by
    rintro ⟨l1, e1, p1, m1⟩ ⟨l2, e2, p2, m2⟩
    refine ⟨l1 ++ l2, by rw [e2, e1, List.append_assoc], fun e he => ?_, m1.trans m2⟩
    rcases List.mem_append.mp he with he | he
    · obtain ⟨id, s, rfl, hs, hv⟩ := p1 e he
      refine ⟨id, s, rfl, hs, ?_⟩
      cases hc : (c.f id).valid with
      | false => rfl
      | true => rw [(m2 id hc).1] at hv; cases hv
    · exact p2 e he

theorem callP_log {w w' : World} {n now : Nat} (h : callP never d w n now = some w') :
    w'.log = w.log ++ [.P n now (w.f n).myTime] := by
  obtain ⟨w2, h2, rfl⟩ := callP_some h
  exact (runActs_frame h2).1

theorem pulse_step (now k : Nat) : PulseKeeps never d now k (PulseStep now) :=
  .of_steps (PulseStep.pre now)
    (fun {w w' n} _ ht h => by
      refine ⟨_, callP_log h, fun e he => ?_, ?_⟩
      · obtain ⟨w2, _, rfl⟩ := callP_some h
        exact ⟨n, _, by simpa using he, ht, by simp⟩
      · obtain ⟨w2, h2, rfl⟩ := callP_some h
        exact ((mono_opRel never).on_runActs h2).trans (mono_upd w2.f n _ (fun e => by cases e)))
    (fun h => .of_mono (pulseFinish_log_mono h).1 (pulseFinish_log_mono h).2) k

def AskedRel (w w' : World) : Prop :=
  ∃ l, w'.log = w.log ++ l ∧
    ∀ x, (w.f x).valid = false → (w'.f x).valid = true → ∃ now prev ret, Event.G x now prev ret ∈ l

theorem AskedRel.of_mono {w w' : World} (hl : w'.log = w.log) (hm : Mono w.f w'.f) : AskedRel w w' :=
  ⟨[], by simp [hl], fun x h1 h2 => by rw [(hm x h2).1] at h1; cases h1⟩

theorem AskedRel.pre : ReflTrans AskedRel where
  refl w := AskedRel.of_mono rfl (Mono.refl _)
  trans {a b c} := by
    rintro ⟨l1, e1, p1⟩ ⟨l2, e2, p2⟩
    refine ⟨l1 ++ l2, by rw [e2, e1, List.append_assoc], fun x hx hx' => ?_⟩
    cases hb : (b.f x).valid with
    | true =>
      obtain ⟨n, p, r, hm⟩ := p1 x hx hb
      exact ⟨n, p, r, List.mem_append_left _ hm⟩
    | false =>
      obtain ⟨n, p, r, hm⟩ := p2 x hb hx'
      exact ⟨n, p, r, List.mem_append_right _ hm⟩

theorem callG_log {w w' : World} {n now : Nat} (h : callG never d w n now = some w') :
    w'.log = w.log ++ [.G n now (w.f n).myTime (w'.f n).myTime] := by
  obtain ⟨w2, h2, rfl⟩ := callG_some h
  simp [(runActs_frame h2).1]

theorem callG_asked {w w' : World} {n now : Nat} (h : callG never d w n now = some w') : AskedRel w w' := by
  refine ⟨_, callG_log h, fun x hx hx' => ?_⟩
  by_cases hxn : x = n
  · subst hxn; exact ⟨now, _, _, List.mem_singleton.mpr rfl⟩
  · obtain ⟨w2, h2, rfl⟩ := callG_some h
    simp only [upd_ne _ _ hxn] at hx'
    have := ((mono_opRel never).on_runActs h2 x hx').1
    simp only [upd_ne _ _ hxn, hx] at this
    cases this

theorem gpt_asked (now k : Nat) : GptKeeps never d now k AskedRel :=
  .of_steps AskedRel.pre (fun _ h => callG_asked h)
    (fun h => AskedRel.of_mono (gptFinish_frame h).1 (gptFinish_mono h)) k

/-- if the request does not stand after the first pass, the node is asked again at once, with its stored time as previous answer -/
theorem gptAux_log_rest {k : Nat} {w1 w2 w' : World} {n now mn m2 m : Nat}
    (h2 : gptLoop never d k w1 n now mn = some (w2, m2))
    (hr : AfterFirstPass never d k now n w2 m2 w' m) :
    (∃ l, w'.log = w1.log ++ l) ∧
      ((w2.f n).valid = false → ∃ ret l, w'.log = w2.log ++ [.G n now (w2.f n).myTime ret] ++ l) := by
  obtain ⟨l2, e2, _⟩ := (gpt_asked now k).loop h2
  rcases hr with ⟨hv, hf⟩ | ⟨_, w3, w4, m4, h3, h4, hf⟩
  · exact ⟨⟨l2, by rw [(gptFinish_frame hf).1, e2]⟩, fun e => by rw [hv] at e; cases e⟩
  · obtain ⟨l4, e4, _⟩ := (gpt_asked now k).loop h4
    have e' : w'.log = w2.log ++ [.G n now (w2.f n).myTime (w3.f n).myTime] ++ l4 := by
      rw [(gptFinish_frame hf).1, e4, callG_log h3]
    exact ⟨⟨l2 ++ [.G n now (w2.f n).myTime (w3.f n).myTime] ++ l4, by rw [e', e2]; simp⟩, fun _ => ⟨_, l4, e'⟩⟩

end Muscle.Pulse
