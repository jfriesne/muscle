import MuscleModel.Pulse.Inv

/-!
The invariant under the public operations, the pulse sweep and the last statements of `GetPulseTimeAux`.  Each operation is a
sequence of the three moves of `Inv.lean` (`inv_upd`, `leave_inv`, `enter_inv`) and of `flagUp`.
-/

namespace Muscle.Pulse

variable {never d : Nat} {f f' : Forest} {p c n : Nat}

theorem invalidate_inv {clear : Bool} (h : invalidate never d f n clear = some f') (hi : Inv never f) : Inv never f' := by
  refine ⟨?_, (allSorted_opRel never).on_invalidate trivial h hi.sorted⟩
  rw [invalidate_eq] at h
  split at h
  · exact flagUp_inv (unvalid_inv hi _ (by cases clear <;> simp)).1 h
  · cases h
    split
    · rename_i hv _
      have := unvalid_inv (n := n) hi never (Or.inr rfl)
      rw [show (false : Bool) = (f n).valid by simpa using hv] at this
      exact this.1
    · exact hi.1

/-- the state after `ReschedulePulseChild(child, -1); child->_parent = NULL; child->_myScheduledTimeValid = false` -/
theorem cut_inv {f1 : Forest} (hi : Inv never f) (hp : (f c).parent = some p) (h1 : resched never d f p c none = some f1) :
    InvEx never (fun _ => False) (fun x => (f x).sched.head? = some c) (orphan f1 c) := by
  have hs := resched_sameScalars h1
  refine (leave_inv (g := orphan f1 c) hi.1 id (fun q l => ?_) (fun x hx => ?_) (fun x => ?_) (Or.inr ⟨?_, ?_⟩)).mono
    (fun x => ⟨fun e => e.elim, ?_⟩) (fun x e => e.elim False.elim id)
  · rw [(sameLists_orphan f1 c).list, resched_none_list hi.1 hp h1]
  · rw [orphan_ne f1 hx, hs.parent, hs.valid, hs.myTime, resched_cur_ne (by simp) h1 hx]; exact ⟨rfl, rfl, rfl, rfl⟩
  · by_cases hx : x = c
    · subst hx; rw [orphan_self]; exact hs.agg x
    · rw [orphan_ne f1 hx, hs.agg]
  · rw [orphan_self]
  · rw [orphan_self]; exact resched_cur_self h1
  · rintro (e | ⟨_, e⟩)
    · exact e
    · rw [orphan_self] at e; exact absurd rfl e

theorem removeChild_inv (h : removeChild never d f p c = some f') (hi : Inv never f) : Inv never f' := by
  refine ⟨?_, (allSorted_opRel never).on_removeChild trivial h hi.sorted⟩
  rw [removeChild_eq] at h
  split at h
  · rename_i hp
    obtain ⟨f1, h1, h⟩ := Option.bind_eq_some_iff.mp h
    have ic := cut_inv hi hp h1
    -- only `p` can have lost its first scheduled child
    have honly : ∀ x, (f x).sched.head? = some c → x = p := fun x => hi.1.head_parent hp
    split at h
    · -- it is marked by the reschedule, or is a root: not filed either way
      refine (flagUp_inv ic h).drop_pa (fun x hx hf => ?_)
      cases honly x hx
      exact (flagUp_self h).elim hf.cur_ne_recalc hf.has_parent
    · rename_i hne; cases h
      exact ic.drop_pa (fun x hx _ => hne (honly x hx ▸ hx))
  · cases h; exact hi.1

theorem adopt_inv (hroot : (f c).parent = none) (h : resched never d (setParent f c p) p c (some .recalc) = some f')
    (hi : Inv never f) : Inv never f' := by
  have hs0 : AllSorted (setParent f c p) := allSorted_upd f c _ rfl rfl hi.sorted
  refine ⟨?_, resched_allSorted h hs0⟩
  have hcur : (setParent f c p c).cur = none := by simpa [setParent] using hi.rootcur c hroot
  obtain ⟨d, rfl⟩ := resched_pos h
  rw [resched_recalc_succ, if_neg (by rw [hcur]; simp)] at h
  obtain ⟨f3, h3, rfl⟩ := Option.map_eq_some_iff.mp h
  have hs := half_scalars (setParent f c p) p c (some .recalc)
  have hpar : (half (setParent f c p) p c (some .recalc) c).parent = some p := by
    rw [hs.parent]; simp [setParent]
  have ho : ∀ x, x ≠ c → setParent f c p x = f x := fun x hx => upd_ne _ _ hx
  have ia : InvEx never (fun x => False ∨ x = c) (fun x => False ∨ x = p) (half (setParent f c p) p c (some .recalc)) := by
    refine (leave_inv hi.1 id (fun q l => ?_) (fun x hx => ?_) (fun x => ?_) (Or.inl ⟨⟨p, hpar⟩, ?_⟩)).mono
      (fun x => ⟨fun e => e.elim False.elim (fun e => Or.inr ⟨e, by rw [hpar]; simp⟩), fun e => e.elim False.elim
        (fun e => Or.inr e.1)⟩) (fun x e => e.elim False.elim (fun e => ?_))
    · rw [half_list, hcur, if_neg (by simp), (sameLists_setParent f c p).list,
        List.erase_of_not_mem (hi.1.root_notin hroot q l)]
    · rw [hs.parent, hs.valid, hs.myTime, half_cur, if_neg hx, ho x hx]; exact ⟨rfl, rfl, rfl, rfl⟩
    · rw [hs.agg]
      by_cases hx : x = c
      · subst hx; simp [setParent]
      · rw [ho x hx]
    · rw [half_cur, if_pos rfl]
    · exact absurd (List.mem_of_mem_head? e) (by rw [← list_sched]; exact hi.1.root_notin hroot x .sched)
  exact recalc_tail_inv ia id hpar h3 (fun i hg h => resched_recalc_inv i hg h)

theorem inv_opRel (never : Nat) : OpRel never (Pres (Inv never)) where
  toReflTrans := ReflTrans.imp (Inv never)
  on_invalidate _ := invalidate_inv
  on_removeChild _ := removeChild_inv
  on_adopt _ := adopt_inv

theorem clearChildren_inv (never d : Nat) (f : Forest) (p : Nat) (f' : Forest)
    (hs : Inv never f) (h : clearChildren never d f p = some f') : Inv never f' :=
  (inv_opRel never).on_clearChildren h hs

theorem removeAll_empties (w : Which) : ∀ {l : List Nat} {f f' : Forest},
    removeAll never d n l f = some f' → Inv never f → (f n).parent = none → (f n).list w = l →
    (f' n).parent = none ∧ (f' n).list w = [] ∧ (∀ w', w' ≠ w → (f' n).list w' = (f n).list w')
  | [], f, f', h, _, hn, hl => by cases h; exact ⟨hn, hl, fun _ _ => rfl⟩
  | c :: r, f, f', h, hi, hn, hl => by
    simp only [removeAll] at h
    split at h
    · rename_i f1 hf1
      obtain ⟨hp, hc⟩ := hi.sound n c w (by rw [hl]; simp)
      have i1 : Inv never f1 := removeChild_inv hf1 hi
      have hn1 : (f1 n).parent = none := by
        rw [removeChild_parent hf1, if_neg (fun e => by rw [← e.1, hn] at hp; cases hp)]; exact hn
      -- the parent is a root, so nothing but the unlinking happens
      have hl1 : ∀ w', (f1 n).list w' = if w' = w then r else (f n).list w' := by
        intro w'
        rw [removeChild_eq, if_pos hp] at hf1
        obtain ⟨g, hg, hf1⟩ := Option.bind_eq_some_iff.mp hf1
        have e2 : (orphan g c n).parent = none := by
          rw [parent_orphan, (resched_sameScalars hg).parent, hn]; simp
        have e1 : (f1 n).list w' = ((f n).list w').erase c := by
          rw [← resched_none_list hi.1 hp hg, ← (sameLists_orphan g c).list]
          rw [flagUp_root e2] at hf1
          split at hf1 <;> (cases hf1; rfl)
        rw [e1]
        split
        · rename_i hw; rw [hw, hl, List.erase_cons_head]
        · rename_i hw
          exact List.erase_of_not_mem fun hm => hw (Option.some.inj ((hi.sound n c w' hm).2.symm.trans hc))
      obtain ⟨a1, a2, a3⟩ := removeAll_empties w h i1 hn1 (by rw [hl1]; simp)
      exact ⟨a1, a2, fun w' hw => by rw [a3 w' hw, hl1, if_neg hw]⟩
    · cases h

/-- the destructor (followed by the construction of a new object under the same id) preserves the invariant -/
theorem destroy_inv (h : destroy never d f n = some f') (hi : Inv never f) : Inv never f' := by
  rw [destroy_eq] at h
  obtain ⟨f1, h1, h⟩ := Option.bind_eq_some_iff.mp h
  obtain ⟨f2, h2, rfl⟩ := Option.map_eq_some_iff.mp h
  have i1 : Inv never f1 := (inv_opRel never).on_detach trivial h1 hi
  rw [clearChildren_eq] at h2
  obtain ⟨g1, e1, h2⟩ := Option.bind_eq_some_iff.mp h2
  obtain ⟨g2, e2, e3⟩ := Option.bind_eq_some_iff.mp h2
  have j1 : Inv never g1 := (inv_opRel never).on_removeAll e1 i1
  have j2 : Inv never g2 := (inv_opRel never).on_removeAll e2 j1
  have j3 : Inv never f2 := (inv_opRel never).on_removeAll e3 j2
  obtain ⟨a1, a2, a3⟩ := removeAll_empties .sched e1 i1 (detach_root h1) rfl
  obtain ⟨b1, b2, b3⟩ := removeAll_empties .unsched e2 j1 a1 rfl
  obtain ⟨c1, c2, c3⟩ := removeAll_empties .recalc e3 j2 b1 rfl
  -- a parent-less, child-less node is replaced by a newly constructed one
  refine inv_upd j3 _ c1.symm (j3.rootcur n c1).symm ?_ ?_ c2.symm
    (Or.inr ⟨Nat.le_refl _, fun q hm => j3.1.root_notin c1 q .sched hm⟩)
    (fun hf => absurd c1 hf.has_parent)
  · exact ((c3 .sched (by decide)).trans ((b3 .sched (by decide)).trans a2)).symm
  · exact ((c3 .unsched (by decide)).trans b2).symm

theorem callP_inv {w w' : World} {now : Nat} (h : callP never d w n now = some w') (hi : Inv never w.f) :
    Inv never w'.f := by
  obtain ⟨w2, h2, rfl⟩ := callP_some h
  exact unvalid_inv ((inv_opRel never).on_runActs h2 hi) _ (Or.inl rfl)

theorem pulseFinish_inv {w w' : World} (h : pulseFinish never d w n = some w') (hi : Inv never w.f) :
    Inv never w'.f := by
  obtain ⟨f', hf, rfl⟩ := pulseFinish_some h
  exact ⟨flagUp_inv hi.1 hf, flagUp_lift (ReflTrans.imp AllSorted) resched_allSorted hf hi.sorted⟩

theorem pulse_inv (now k : Nat) : PulseKeeps never d now k (Pres fun w => Inv never w.f) :=
  .of_steps (ReflTrans.imp _) (fun _ _ h => callP_inv h) pulseFinish_inv k

theorem gptFinish_inv {w w' : World} {mn mn' : Nat} (h : gptFinish never d w n mn = some (w', mn')) (hi : Inv never w.f)
    (hr : (w.f n).recalc = []) (hv : (w.f n).valid = true) (hun : Unfiled w.f n) : Inv never w'.f := by
  obtain ⟨f4, rfl, _, hcase⟩ := gptFinish_some h
  have hfs := firstSchedAgg_le never hi.aggle n
  have ha : newAgg never w.f n = min (w.f n).myTime (firstSchedAgg never w.f n) := by rw [newAgg, hv]; rfl
  -- (1) the new aggregate is stored: `f3`
  have i3 : Inv never (upd w.f n { (w.f n) with agg := newAgg never w.f n }) :=
    unfiled_upd_inv hi hun (w.f n).valid (w.f n).myTime _ (by rw [ha]; omega)
  rcases hcase with ⟨_, rfl⟩ | ⟨p, hp, _, h4⟩
  · exact i3
  · refine ⟨?_, resched_allSorted h4 i3.sorted⟩
    have hl3 := sameLists_scalars w.f n (w.f n).valid (w.f n).myTime (newAgg never w.f n)
    have hsc3 := setAgg_fields w.f n (newAgg never w.f n)
    generalize upd w.f n { (w.f n) with agg := newAgg never w.f n } = f3 at i3 h4 hl3 hsc3
    have hc : (w.f n).cur = some .recalc := hi.1.unfiled_child hp hun
    have hp3 : (f3 n).parent = some p := (hsc3 n).1.trans hp
    have hnp : n ≠ p := fun e => by
      have := hi.complete n n .recalc (e ▸ hp) hc
      rw [list_recalc, hr] at this; cases this
    obtain ⟨ins, hins, hinsn, rfl⟩ := resched_file_some (by split <;> decide) ((hl3.cur n).trans hc) h4
    have htgt : ∀ t, (if newAgg never w.f n = never then Which.unsched else Which.sched) = t →
        (t = .sched ↔ newAgg never w.f n ≠ never) := by
      rintro t rfl
      by_cases e : newAgg never w.f n = never
      · rw [if_pos e]; exact ⟨fun h => Which.noConfusion h, fun h => absurd e h⟩
      · rw [if_neg e]; exact ⟨fun _ => e, fun _ => rfl⟩
    generalize (if newAgg never w.f n = never then Which.unsched else Which.sched) = tgt at *
    -- (2) `n` leaves its parent's NEEDSRECALC list (`half_inv`: pending), (3) and enters list `tgt` (`enter_inv`)
    have s2 := half_scalars f3 p n (some .recalc)
    refine enter_inv tgt ins (half_inv i3.1 hp3 id) id ((s2.parent n).trans hp3) ?_ hins hinsn (fun q l => ?_)
      (fun x => ?_) (s2.symm.trans ((half_scalars f3 p n (some tgt)).trans (sameScalars_setL _ p _ _))) (fun ht => ?_)
    · rw [s2.parent, (hsc3 p).1, half_cur, if_neg (Ne.symm hnp), hl3.cur]
      exact hi.1.parent_flagged hp hc
    · simp only [list_setL, half_list]
    · rw [cur_setL, half_cur, half_cur]; split <;> rfl
    · have hnl : ∀ q, n ∉ (w.f q).sched := fun q hm => hun.1 (hi.sound q n .sched hm).2
      have hlist : ∀ l, (setL (half f3 p n (some tgt)) p tgt (ins ((half f3 p n (some tgt) p).list tgt)) n).list l =
          ((w.f n).list l).erase n := fun l => by
        rw [list_setL, if_neg (fun e => hnp e.1), half_list_erase i3.1 hp3, hl3.list]
      have hsc4 := (half_scalars f3 p n (some tgt)).trans (sameScalars_setL _ p tgt (ins ((half f3 p n (some tgt) p).list tgt)))
      refine ⟨by rw [← list_recalc, hlist, list_recalc, hr]; rfl, ?_⟩
      have hsch := (hlist .sched).trans (List.erase_of_not_mem (hnl n))
      have hfsa := firstSchedAgg_congr never hsch (fun i hm => by
        rw [hsc4.agg, (hsc3 i).2.2.2, if_neg (fun e : i = n => hnl n (e ▸ hm))])
      unfold AOK
      rw [hfsa, hsc4.agg, (hsc3 n).2.2.2, if_pos rfl, hsc4.myTime, (hsc3 n).2.2.1, hsc4.valid, (hsc3 n).2.1, cur_setL, half_cur,
        if_pos rfl, ha]
      refine ⟨Nat.min_le_left _ _, Nat.min_le_right _ _, fun _ => rfl, fun e => ?_, fun e => ?_⟩
      · rw [← ha]; exact (htgt tgt rfl).mp (Option.some.inj e)
      · rw [(htgt tgt rfl).mpr (ha ▸ e)]

theorem clean_below {f : Forest} {r x : Nat} (hi : Inv never f) (hr : (f r).recalc = []) (hx : Desc f r x) :
    (f x).recalc = [] ∧ (x = r ∨ Filed f x) := by
  induction hx with
  | refl => exact ⟨hr, Or.inl rfl⟩
  | step q c _ hc ih =>
    have hf := hi.1.filed_of_clean hc ih.1
    refine ⟨?_, Or.inr hf⟩
    cases hrc : (f c).recalc with
    | nil => rfl
    | cons a t =>
      exact absurd (hi.marked c q hc (by rw [hrc]; simp)) hf.cur_ne_recalc

theorem settled_of_inv {f : Forest} {r : Nat} (hi : Inv never f) (hr : (f r).recalc = [])
    (h1 : (f r).agg ≤ (f r).myTime) (h2 : (f r).agg ≤ firstSchedAgg never f r) : Settled never f r := by
  refine ⟨fun p hp => ?_, fun p hp => ?_, fun p _ => hi.aggle p, fun p _ => hi.sorted p, fun p c hp hcp => ?_⟩
  · rcases (clean_below hi hr hp).2 with rfl | hf
    · exact h1
    · exact (hi.aok p hf).le_myTime
  · rcases (clean_below hi hr hp).2 with rfl | hf
    · exact h2
    · exact (hi.aok p hf).le_first
  · have hf := hi.1.filed_of_clean hcp (clean_below hi hr hp).1
    rcases hf.2 with hcur | hcur
    · exact Or.inl (hi.complete c p .sched hcp hcur)
    · refine Or.inr ⟨hi.complete c p .unsched hcp hcur, Decidable.byContradiction fun e => ?_⟩
      have := (hi.aok c hf).sched_iff.mpr e
      rw [hcur] at this; cases this

end Muscle.Pulse
