import MuscleModel.Pulse.Fields
import MuscleModel.Pulse.Ops
import MuscleModel.Pulse.Disc

/-!
Every operation of the model is a composition of a few steps, and the two sweeps are one recursion scheme each.  A relation that
is reflexive and transitive (`ReflTrans`) and holds across the steps therefore holds across the composition; this file proves that
once per level.  "`P` is preserved" is the relation `Pres P` (a `ReflTrans` by `ReflTrans.imp P`).
-/

namespace Muscle.Pulse

structure ReflTrans {α : Type} (R : α → α → Prop) : Prop where
  refl : ∀ a, R a a
  trans : ∀ {a b c}, R a b → R b c → R a c

abbrev Pres {α : Type} (P : α → Prop) (a b : α) : Prop := P a → P b

theorem ReflTrans.imp {α : Type} (P : α → Prop) : ReflTrans (fun a b => P a → P b) :=
  ⟨fun _ h => h, fun h1 h2 h => h2 (h1 h)⟩

theorem ReflTrans.comap {α β : Type} {R : β → β → Prop} (hR : ReflTrans R) (g : α → β) :
    ReflTrans (fun a b => R (g a) (g b)) :=
  ⟨fun _ => hR.refl _, hR.trans⟩

theorem ReflTrans.and {α : Type} {R S : α → α → Prop} (hR : ReflTrans R) (hS : ReflTrans S) :
    ReflTrans (fun a b => R a b ∧ S a b) :=
  ⟨fun _ => ⟨hR.refl _, hS.refl _⟩, fun h1 h2 => ⟨hR.trans h1.1 h2.1, hS.trans h1.2 h2.2⟩⟩

theorem ReflTrans.guard {α : Type} {R : α → α → Prop} (hR : ReflTrans R) (P : α → Prop) :
    ReflTrans (fun a b => P a → P b ∧ R a b) :=
  ⟨fun _ h => ⟨h, hR.refl _⟩, fun h1 h2 h => ⟨(h2 (h1 h).1).1, hR.trans (h1 h).2 (h2 (h1 h).1).2⟩⟩

variable {never d : Nat}

section Forest
variable {R : Forest → Forest → Prop} {f f' : Forest} {p c n : Nat}

theorem flagUp_lift (hR : ReflTrans R) (hres : ∀ {p}, resched never d f p n (some .recalc) = some f' → R f f')
    (h : flagUp never d f n = some f') : R f f' := by
  rcases flagUp_cases h with ⟨p, _, h⟩ | ⟨_, rfl⟩
  · exact hres h
  · exact hR.refl _

theorem resched_recalc_lift (hR : ReflTrans R) (hhalf : ∀ f p c, R f (half f p c (some .recalc)))
    (hcons : ∀ f p c, R f (setL f p .recalc (c :: (f p).recalc))) :
    ∀ {d f p c f'}, resched never d f p c (some .recalc) = some f' → R f f'
  | 0, _, _, _, _, h => by simp [resched] at h
  | d+1, f, p, c, f', h => by
    rw [resched_recalc_succ] at h
    split at h
    · cases h; exact hR.refl f
    · obtain ⟨f3, h3, rfl⟩ := Option.map_eq_some_iff.mp h
      exact hR.trans (hR.trans (hhalf f p c) (flagUp_lift hR (resched_recalc_lift hR hhalf hcons) h3)) (hcons f3 p c)

theorem resched_lift (hR : ReflTrans R) (hhalf : ∀ f p c w, R f (half f p c w))
    (hsched : ∀ f p c, R f (setL f p .sched (insertSched (fun i => (f i).agg) c (f p).sched)))
    (hcons : ∀ f p c w, w ≠ .sched → R f (setL f p w (c :: (f p).list w))) :
    ∀ {d f p c w f'}, resched never d f p c w = some f' → R f f'
  | 0, _, _, _, _, _, h => by simp [resched] at h
  | d+1, f, p, c, none, f', h => by
    rw [resched_none_succ] at h; cases h
    split
    · exact hR.refl f
    · exact hhalf f p c none
  | d+1, f, p, c, some .sched, f', h => by
    rw [resched_sched_succ] at h; cases h
    exact hR.trans (hhalf f p c _) (hsched _ p c)
  | d+1, f, p, c, some .unsched, f', h => by
    rw [resched_unsched_succ] at h; cases h
    split
    · exact hR.refl f
    · exact hR.trans (hhalf f p c _) (hcons _ p c .unsched (by decide))
  | d+1, f, p, c, some .recalc, f', h =>
    resched_recalc_lift hR (fun f p c => hhalf f p c _) (fun f p c => hcons f p c .recalc (by decide)) h

theorem SameScalars.pre : ReflTrans SameScalars := ⟨SameScalars.refl, SameScalars.trans⟩

theorem resched_sameScalars {w : Option Which} (h : resched never d f p c w = some f') : SameScalars f f' :=
  resched_lift SameScalars.pre half_scalars (fun f p _ => sameScalars_setL f p _ _)
    (fun f p _ w _ => sameScalars_setL f p w _) h

theorem flagUp_sameScalars (h : flagUp never d f n = some f') : SameScalars f f' :=
  flagUp_lift SameScalars.pre resched_sameScalars h

def FlagsOnly (f f' : Forest) : Prop := ∀ x, (f' x).cur = (f x).cur ∨ (f' x).cur = some .recalc

theorem FlagsOnly.pre : ReflTrans FlagsOnly where
  refl _ _ := Or.inl rfl
  trans a b x := (b x).elim (fun e => e ▸ a x) Or.inr

theorem FlagsOnly.keep (h : FlagsOnly f f') {x : Nat} (hx : (f x).cur = some .recalc) : (f' x).cur = some .recalc :=
  (h x).elim (fun e => e.trans hx) id

theorem resched_recalc_flagsOnly (h : resched never d f p c (some .recalc) = some f') : FlagsOnly f f' :=
  resched_recalc_lift FlagsOnly.pre (fun f p c x => by rw [half_cur]; split <;> simp)
    (fun f p c x => Or.inl (cur_setL f p _ _ x)) h

theorem flagUp_flagsOnly (h : flagUp never d f n = some f') : FlagsOnly f f' :=
  flagUp_lift FlagsOnly.pre resched_recalc_flagsOnly h

theorem resched_cur_self {w : Option Which} (h : resched never d f p c w = some f') : (f' c).cur = w := by
  obtain ⟨d, rfl⟩ := resched_pos h
  match w with
  | none =>
    rw [resched_none_succ] at h; cases h
    split
    · assumption
    · rw [half_cur, if_pos rfl]
  | some .sched => rw [resched_sched_succ] at h; cases h; rw [cur_setL, half_cur, if_pos rfl]
  | some .unsched =>
    rw [resched_unsched_succ] at h; cases h
    split
    · assumption
    · rw [cur_setL, half_cur, if_pos rfl]
  | some .recalc =>
    rw [resched_recalc_succ] at h
    split at h
    · rename_i hc; cases h; exact hc
    · obtain ⟨f3, h3, rfl⟩ := Option.map_eq_some_iff.mp h
      rw [cur_setL]
      exact (flagUp_flagsOnly h3).keep (by rw [half_cur, if_pos rfl])

theorem flagUp_self {n : Nat} (h : flagUp never d f n = some f') : (f' n).cur = some .recalc ∨ (f' n).parent = none := by
  rcases flagUp_cases h with ⟨p, _, h⟩ | ⟨hp, rfl⟩
  · exact Or.inl (resched_cur_self h)
  · exact Or.inr hp

/-- `hw`: a child headed for NEEDSRECALC flags its ancestors too -/
theorem resched_cur_ne {w : Option Which} {x : Nat} (hw : w ≠ some .recalc) (h : resched never d f p c w = some f')
    (hx : x ≠ c) : (f' x).cur = (f x).cur := by
  obtain ⟨d, rfl⟩ := resched_pos h
  match w with
  | none =>
    rw [resched_none_succ] at h; cases h
    split
    · rfl
    · rw [half_cur, if_neg hx]
  | some .sched => rw [resched_sched_succ] at h; cases h; rw [cur_setL, half_cur, if_neg hx]
  | some .unsched =>
    rw [resched_unsched_succ] at h; cases h
    split
    · rfl
    · rw [cur_setL, half_cur, if_neg hx]
  | some .recalc => exact absurd rfl hw

/-! `OpRelT never T R`: `R` holds across `InvalidatePulseTime`, `RemovePulseChild` and the adoption of a parent-less child
(`child->_parent = this; ReschedulePulseChild(child, NEEDSRECALC)`) whenever the node operated on (the invalidated node, the
child: `Act.target`) satisfies `T`; hence across every operation built from them on such nodes.  `OpRel never R`: on every node.
With `T = (· ≠ x)` this states what operations on other nodes leave alone at `x`. -/

structure OpRelT (never : Nat) (T : Nat → Prop) (R : Forest → Forest → Prop) : Prop extends ReflTrans R where
  on_invalidate : ∀ {d f n clear f'}, T n → invalidate never d f n clear = some f' → R f f'
  on_removeChild : ∀ {d f p c f'}, T c → removeChild never d f p c = some f' → R f f'
  on_adopt : ∀ {d f p c f'}, T c → (f c).parent = none →
    resched never d (setParent f c p) p c (some .recalc) = some f' → R f f'

abbrev OpRel (never : Nat) (R : Forest → Forest → Prop) : Prop := OpRelT never (fun _ => True) R

/-- only the steps at the node operated on need `T`; the marking of its former or new ancestors (`hrecalc`) does not -/
theorem OpRelT.of_steps {T : Nat → Prop} (hR : ReflTrans R)
    (hnone : ∀ {d f p c f'}, T c → resched never d f p c none = some f' → R f f')
    (hrecalc : ∀ {d f p c f'}, resched never d f p c (some .recalc) = some f' → R f f')
    (hunvalid : ∀ f n t, T n → R f (upd f n { (f n) with valid := false, myTime := t }))
    (hclear : ∀ f n, T n → (f n).valid = false → R f (upd f n { (f n) with myTime := never }))
    (horphan : ∀ f c, T c → R f (orphan f c)) (hparent : ∀ f c p, T c → R f (setParent f c p)) : OpRelT never T R where
  toReflTrans := hR
  on_invalidate ht h := by
    rw [invalidate_eq] at h
    split at h
    · exact hR.trans (hunvalid _ _ _ ht) (flagUp_lift hR hrecalc h)
    · rename_i hv; cases h
      split
      · exact hclear _ _ ht (by simpa using hv)
      · exact hR.refl _
  on_removeChild {_ f _ c _} ht h := by
    rw [removeChild_eq] at h
    split at h
    · obtain ⟨f1, h1, h⟩ := Option.bind_eq_some_iff.mp h
      have r1 : R f (orphan f1 c) := hR.trans (hnone ht h1) (horphan f1 c ht)
      split at h
      · exact hR.trans r1 (flagUp_lift hR hrecalc h)
      · cases h; exact r1
    · cases h; exact hR.refl _
  on_adopt {_ f p c _} ht _ h := hR.trans (hparent f c p ht) (hrecalc h)

theorem detach_lift (hR : ReflTrans R) (hrem : ∀ {p}, removeChild never d f p c = some f' → R f f')
    (h : detach never d f c = some f') : R f f' := by
  unfold detach at h
  split at h
  · exact hrem h
  · cases h; exact hR.refl f

theorem removeAll_lift (hR : ReflTrans R) (hrem : ∀ {f c f'}, removeChild never d f p c = some f' → R f f') :
    ∀ {l f f'}, removeAll never d p l f = some f' → R f f'
  | [], f, f', h => by cases h; exact hR.refl f
  | c :: r, f, f', h => by
    simp only [removeAll] at h
    split at h
    · rename_i f1 h1; exact hR.trans (hrem h1) (removeAll_lift hR hrem h)
    · cases h

theorem clearChildren_lift (hR : ReflTrans R) (hrem : ∀ {f c f'}, removeChild never d f p c = some f' → R f f')
    (h : clearChildren never d f p = some f') : R f f' := by
  rw [clearChildren_eq] at h
  obtain ⟨f1, h1, h⟩ := Option.bind_eq_some_iff.mp h
  obtain ⟨f2, h2, h⟩ := Option.bind_eq_some_iff.mp h
  exact hR.trans (hR.trans (removeAll_lift hR hrem h1) (removeAll_lift hR hrem h2)) (removeAll_lift hR hrem h)

theorem removeChild_parent (h : removeChild never d f p c = some f') (x : Nat) :
    (f' x).parent = if x = c ∧ (f c).parent = some p then none else (f x).parent := by
  rw [removeChild_eq] at h
  split at h
  · rename_i hp
    obtain ⟨f1, h1, h⟩ := Option.bind_eq_some_iff.mp h
    have e : (orphan f1 c x).parent = if x = c ∧ (f c).parent = some p then none else (f x).parent := by
      rw [parent_orphan, (resched_sameScalars h1).parent]; simp [hp]
    split at h
    · rw [(flagUp_sameScalars h).parent, e]
    · cases h; exact e
  · rename_i hp; cases h; simp [hp]

theorem removeAll_root {l : List Nat} (h : removeAll never d n l f = some f') (hr : (f n).parent = none) :
    (f' n).parent = none :=
  removeAll_lift (ReflTrans.imp fun g => (g n).parent = none)
    (fun e hg => by rw [removeChild_parent e]; split <;> simp [*]) h hr

theorem detach_root (h : detach never d f c = some f') : (f' c).parent = none := by
  unfold detach at h
  split at h
  · rename_i q hq; rw [removeChild_parent h]; simp [hq]
  · rename_i hq; cases h; exact hq

namespace OpRelT
variable {T : Nat → Prop} (hR : OpRelT never T R)
include hR

theorem on_detach (ht : T c) (h : detach never d f c = some f') : R f f' :=
  detach_lift hR.toReflTrans (hR.on_removeChild ht) h

theorem on_putChild (ht : T c) (h : putChild never d f p c = some f') : R f f' := by
  rw [putChild_eq] at h
  obtain ⟨f1, h1, h⟩ := Option.bind_eq_some_iff.mp h
  exact hR.trans (hR.on_detach ht h1) (hR.on_adopt ht (detach_root h1) h)

end OpRelT

namespace OpRel
variable (hR : OpRel never R)
include hR

theorem on_removeAll {l : List Nat} (h : removeAll never d p l f = some f') : R f f' :=
  removeAll_lift hR.toReflTrans (hR.on_removeChild trivial) h

theorem on_clearChildren (h : clearChildren never d f p = some f') : R f f' :=
  clearChildren_lift hR.toReflTrans (hR.on_removeChild trivial) h

theorem on_destroy (hfresh : ∀ f n, (f n).parent = none → R f (upd f n (Node.fresh never)))
    (h : destroy never d f n = some f') : R f f' := by
  rw [destroy_eq] at h
  obtain ⟨f1, h1, h⟩ := Option.bind_eq_some_iff.mp h
  obtain ⟨f2, h2, rfl⟩ := Option.map_eq_some_iff.mp h
  refine hR.trans (hR.trans (hR.on_detach trivial h1) (hR.on_clearChildren h2)) (hfresh f2 n ?_)
  rw [clearChildren_eq] at h2
  obtain ⟨g1, e1, h2⟩ := Option.bind_eq_some_iff.mp h2
  obtain ⟨g2, e2, h2⟩ := Option.bind_eq_some_iff.mp h2
  exact removeAll_root h2 (removeAll_root e2 (removeAll_root e1 (detach_root h1)))

end OpRel
end Forest

inductive Api (never d : Nat) (f f' : Forest) : Act → Prop
  | inval {n clear} : invalidate never d f n clear = some f' → Api never d f f' (.inval n clear)
  | detach {c} : detach never d f c = some f' → Api never d f f' (.detach c)
  | attach {c p} : isAnc d f c p = false → putChild never d f p c = some f' → Api never d f f' (.attach c p)

theorem runAct_api {w w' : World} {a : Act} (h : runAct never d w a = some w') :
    (w'.f = w.f ∨ Api never d w.f w'.f a) ∧ w'.log = w.log ∧ w'.gq = w.gq ∧ w'.pq = w.pq := by
  cases a with
  | setReq id t => cases h; exact ⟨Or.inl rfl, rfl, rfl, rfl⟩
  | inval id clear =>
    obtain ⟨f', hf, rfl⟩ := Option.map_eq_some_iff.mp h
    exact ⟨Or.inr (.inval hf), rfl, rfl, rfl⟩
  | detach id =>
    obtain ⟨f', hf, rfl⟩ := Option.map_eq_some_iff.mp h
    exact ⟨Or.inr (.detach hf), rfl, rfl, rfl⟩
  | attach c p =>
    simp only [runAct] at h
    split at h
    · cases h; exact ⟨Or.inl rfl, rfl, rfl, rfl⟩
    · rename_i hg
      obtain ⟨f', hf, rfl⟩ := Option.map_eq_some_iff.mp h
      exact ⟨Or.inr (.attach (by simpa using hg) hf), rfl, rfl, rfl⟩

theorem OpRelT.on_api {T : Nat → Prop} {R : Forest → Forest → Prop} (hR : OpRelT never T R) {f f' : Forest} {a : Act}
    (h : Api never d f f' a) (ht : ∀ t, a.target = some t → T t) : R f f' := by
  cases h with
  | inval h => exact hR.on_invalidate (ht _ rfl) h
  | detach h => exact hR.on_detach (ht _ rfl) h
  | attach _ h => exact hR.on_putChild (ht _ rfl) h

theorem OpRel.on_api {R : Forest → Forest → Prop} (hR : OpRel never R) {f f' : Forest} {a : Act}
    (h : Api never d f f' a) : R f f' :=
  OpRelT.on_api hR h fun _ _ => trivial

section World
variable {R : World → World → Prop}

theorem runActs_lift (hR : ReflTrans R) : ∀ {l : List Act} {w w' : World},
    (∀ a ∈ l, ∀ {w w'}, runAct never d w a = some w' → R w w') → runActs never d w l = some w' → R w w'
  | [], w, w', _, h => by cases h; exact hR.refl w
  | a :: r, w, w', hs, h => by
    simp only [runActs] at h
    split at h
    · rename_i w1 h1
      exact hR.trans (hs a (by simp) h1) (runActs_lift hR (fun b hb => hs b (List.mem_cons_of_mem _ hb)) h)
    · cases h

theorem runActs_frame {l : List Act} {w w' : World} (h : runActs never d w l = some w') :
    w'.log = w.log ∧ w'.gq = w.gq ∧ w'.pq = w.pq :=
  runActs_lift (R := fun w w' => w'.log = w.log ∧ w'.gq = w.gq ∧ w'.pq = w.pq)
    ⟨fun _ => ⟨rfl, rfl, rfl⟩, fun h1 h2 => ⟨h2.1.trans h1.1, h2.2.1.trans h1.2.1, h2.2.2.trans h1.2.2⟩⟩
    (fun _ _ _ _ h => (runAct_api h).2) h

theorem OpRelT.on_runActs {T : Nat → Prop} {R : Forest → Forest → Prop} (hR : OpRelT never T R) {l : List Act} {w w' : World}
    (ht : ∀ a ∈ l, ∀ t, a.target = some t → T t) (h : runActs never d w l = some w') : R w.f w'.f :=
  runActs_lift (hR.toReflTrans.comap World.f) (fun a ha _ _ h => by
    rcases (runAct_api h).1 with e | h
    · rw [e]; exact hR.refl _
    · exact hR.on_api h (ht a ha)) h

theorem OpRel.on_runActs {R : Forest → Forest → Prop} (hR : OpRel never R) {l : List Act} {w w' : World}
    (h : runActs never d w l = some w') : R w.f w'.f :=
  OpRelT.on_runActs hR (fun _ _ _ _ => trivial) h

theorem callP_some {w w' : World} {n now : Nat} (h : callP never d w n now = some w') :
    ∃ w2, runActs never d { w with pq := updF w.pq n (w.pq n).tail, log := w.log ++ [.P n now (w.f n).myTime] }
        ((w.pq n).headD []) = some w2 ∧
      w' = { w2 with f := upd w2.f n { (w2.f n) with valid := false } } := by
  simp only [callP] at h
  split at h
  · cases h
  · rename_i w2 h2; cases h; exact ⟨w2, h2, rfl⟩

theorem callG_some {w w' : World} {n now : Nat} (h : callG never d w n now = some w') :
    ∃ w2, runActs never d { w with f := upd w.f n { (w.f n) with valid := true }, gq := updF w.gq n (w.gq n).tail }
        ((w.gq n).headD []) = some w2 ∧
      w' = { w2 with f := upd w2.f n { (w2.f n) with myTime := w2.req n },
                     log := w2.log ++ [.G n now (w.f n).myTime (w2.req n)] } := by
  simp only [callG] at h
  split at h
  · cases h
  · rename_i w2 h2; cases h; exact ⟨w2, h2, by simp⟩

theorem pulseFinish_some {w w' : World} {n : Nat} (h : pulseFinish never d w n = some w') :
    ∃ f', flagUp never d w.f n = some f' ∧ w' = { w with f := f' } := by
  rw [pulseFinish_eq] at h
  exact Option.map_eq_some_iff.mp h |>.imp fun _ h => ⟨h.1, h.2.symm⟩

/-- the aggregate time the last statements of `GetPulseTimeAux` compute for node `n` -/
def newAgg (never : Nat) (f : Forest) (n : Nat) : Nat :=
  min (if (f n).valid then (f n).myTime else 0) (firstSchedAgg never f n)

theorem gptFinish_some {w w' : World} {n mn mn' : Nat} (h : gptFinish never d w n mn = some (w', mn')) :
    ∃ f4, w' = { w with f := f4 } ∧ mn' = (if newAgg never w.f n < mn then newAgg never w.f n else mn) ∧
      ((((w.f n).parent = none ∨ ¬ ((w.f n).cur = some .recalc ∨ newAgg never w.f n ≠ (w.f n).agg)) ∧
          f4 = upd w.f n { (w.f n) with agg := newAgg never w.f n }) ∨
        ∃ p, (w.f n).parent = some p ∧ ((w.f n).cur = some .recalc ∨ newAgg never w.f n ≠ (w.f n).agg) ∧
          resched never d (upd w.f n { (w.f n) with agg := newAgg never w.f n }) p n
            (some (if newAgg never w.f n = never then Which.unsched else Which.sched)) = some f4) := by
  simp only [gptFinish] at h
  rw [show min (if (w.f n).valid then (w.f n).myTime else 0) (firstSchedAgg never w.f n) = newAgg never w.f n from rfl] at h
  have e1 : (upd w.f n { (w.f n) with agg := newAgg never w.f n } n).parent = (w.f n).parent := by simp
  have e2 : (upd w.f n { (w.f n) with agg := newAgg never w.f n } n).cur = (w.f n).cur := by simp
  generalize upd w.f n { (w.f n) with agg := newAgg never w.f n } = f3 at h e1 e2 ⊢
  rw [e1, e2] at h
  split at h
  · rename_i f4 h4
    cases h
    refine ⟨f4, rfl, rfl, ?_⟩
    cases hp : (w.f n).parent with
    | none => rw [hp] at h4; cases h4; exact Or.inl ⟨Or.inl rfl, rfl⟩
    | some p =>
      rw [hp] at h4
      by_cases hc : (w.f n).cur = some .recalc ∨ newAgg never w.f n ≠ (w.f n).agg
      · exact Or.inr ⟨p, rfl, hc, by simpa only [if_pos hc] using h4⟩
      · simp only [if_neg hc] at h4
        cases h4; exact Or.inl ⟨Or.inr hc, rfl⟩
  · cases h

/-- what the last statements of `GetPulseTimeAux` on node `n` do to the fields of node `x` (`f` before, `f'` after) -/
structure FinishedAt (never : Nat) (f f' : Forest) (n x : Nat) : Prop where
  valid : (f' x).valid = (f x).valid
  myTime : (f' x).myTime = (f x).myTime
  parent : (f' x).parent = (f x).parent
  agg : (f' x).agg = if x = n then newAgg never f n else (f x).agg
  cur : x ≠ n → (f' x).cur = (f x).cur

theorem gptFinish_fields {w w' : World} {n mn mn' : Nat} (h : gptFinish never d w n mn = some (w', mn')) (x : Nat) :
    FinishedAt never w.f w'.f n x := by
  obtain ⟨f4, rfl, _, hr⟩ := gptFinish_some h
  obtain ⟨c, a, b, e⟩ := setAgg_fields w.f n (newAgg never w.f n) x
  have g := (sameLists_scalars w.f n (w.f n).valid (w.f n).myTime (newAgg never w.f n)).cur x
  rcases hr with ⟨_, rfl⟩ | ⟨p, _, _, h4⟩
  · exact ⟨a, b, c, e, fun _ => g⟩
  · have s := resched_sameScalars h4
    exact ⟨(s.valid x).trans a, (s.myTime x).trans b, (s.parent x).trans c, (s.agg x).trans e,
      fun hx => (resched_cur_ne (by split <;> simp) h4 hx).trans g⟩

theorem gptFinish_frame {w w' : World} {n mn mn' : Nat} (h : gptFinish never d w n mn = some (w', mn')) :
    w'.log = w.log ∧ w'.gq = w.gq ∧ w'.pq = w.pq := by
  obtain ⟨f4, rfl, _⟩ := gptFinish_some h
  exact ⟨rfl, rfl, rfl⟩

theorem pulseAux_some {k : Nat} {w w' : World} {n now : Nat} :
    pulseAux never d (k+1) w n now = some w' ↔
    ∃ w1 w2, (if (w.f n).valid ∧ now ≥ (w.f n).myTime then callP never d w n now else some w) = some w1 ∧
      pulseLoop never d k w1 n now = some w2 ∧ pulseFinish never d w2 n = some w' := by
  refine ⟨fun h => ?_, fun ⟨w1, w2, h1, h2, h3⟩ => by simp only [pulseAux, h1, h2]; exact h3⟩
  simp only [pulseAux] at h
  split at h
  · cases h
  · rename_i w1 h1
    split at h
    · cases h
    · rename_i w2 h2; exact ⟨w1, w2, h1, h2, h⟩

theorem pulseLoop_some {k : Nat} {w w' : World} {n now : Nat} :
    pulseLoop never d (k+1) w n now = some w' ↔
    (w' = w ∧ ∀ c t, (w.f n).sched = c :: t → ¬ now ≥ (w.f c).agg) ∨
    ∃ c t w1, (w.f n).sched = c :: t ∧ now ≥ (w.f c).agg ∧ pulseAux never d k w c now = some w1 ∧
      pulseLoop never d k w1 n now = some w' := by
  constructor
  case mpr =>
    rintro (⟨rfl, hn⟩ | ⟨c, t, w1, he, hdue, h1, h2⟩)
    · rw [pulseLoop]
      cases he : (w'.f n).sched with
      | nil => rfl
      | cons c t => simp only [if_neg (hn c t he)]
    · simp only [pulseLoop, he, if_pos hdue, h1]; exact h2
  intro h
  simp only [pulseLoop] at h
  split at h
  · rename_i he; cases h; exact Or.inl ⟨rfl, fun c t e => by rw [he] at e; cases e⟩
  · rename_i c t he
    split at h
    · rename_i hdue
      split at h
      · cases h
      · rename_i w1 h1; exact Or.inr ⟨c, t, w1, he, hdue, h1, h⟩
    · rename_i hnd; cases h
      exact Or.inl ⟨rfl, fun c' t' e => by rw [he] at e; cases e; exact hnd⟩

structure PulseKeeps (never d now k : Nat) (R : World → World → Prop) : Prop where
  refl : ∀ w, R w w
  aux : ∀ {w w' n}, pulseAux never d k w n now = some w' → R w w'
  loop : ∀ {w w' n}, pulseLoop never d k w n now = some w' → R w w'

namespace PulseKeeps

/-- for a relation whose step at `n` is not a composition of steps: it may look at what `n`'s own loop did (`pulse_vrel`) -/
theorem of_induct (hR : ReflTrans R) {now : Nat}
    (haux : ∀ {w w1 w2 w' n},
      (if (w.f n).valid ∧ now ≥ (w.f n).myTime then callP never d w n now else some w) = some w1 →
      R w1 w2 → pulseFinish never d w2 n = some w' → R w w') :
    ∀ k, PulseKeeps never d now k R
  | 0 => ⟨hR.refl, fun h => by simp [pulseAux] at h, fun h => by simp [pulseLoop] at h⟩
  | k+1 => by
    have ih := of_induct hR haux k
    refine ⟨hR.refl, fun h => ?_, fun h => ?_⟩
    · obtain ⟨w1, w2, h1, h2, h3⟩ := pulseAux_some.mp h
      exact haux h1 (ih.loop h2) h3
    · rcases pulseLoop_some.mp h with ⟨rfl, _⟩ | ⟨c, t, w1, _, _, h1, h2⟩
      · exact hR.refl _
      · exact hR.trans (ih.aux h1) (ih.loop h2)

theorem of_steps (hR : ReflTrans R) {now : Nat}
    (hcall : ∀ {w w' n}, (w.f n).valid = true → (w.f n).myTime ≤ now → callP never d w n now = some w' → R w w')
    (hfin : ∀ {w w' n}, pulseFinish never d w n = some w' → R w w') (k : Nat) : PulseKeeps never d now k R :=
  .of_induct hR (fun h1 h2 h3 => by
    refine hR.trans (hR.trans ?_ h2) (hfin h3)
    split at h1
    · rename_i hc; exact hcall hc.1 hc.2 h1
    · cases h1; exact hR.refl _) k

theorem manager {now k : Nat} (hK : PulseKeeps never d now k R) {w w' : World} {root : Nat}
    (h : managerPulse never d k w root now = some w') : R w w' := by
  unfold managerPulse at h
  split at h
  · exact hK.aux h
  · cases h; exact hK.refl w

end PulseKeeps

/-- the rest of `GetPulseTimeAux` on `n` after the first pass has led to `(w2, m2)`: the filing, or, when the request does not stand,
    a second pass and then the filing -/
def AfterFirstPass (never d k now n : Nat) (w2 : World) (m2 : Nat) (w' : World) (m : Nat) : Prop :=
  ((w2.f n).valid = true ∧ gptFinish never d w2 n m2 = some (w', m)) ∨
  ((w2.f n).valid = false ∧ ∃ w3 w4 m4, callG never d w2 n now = some w3 ∧
    gptLoop never d k w3 n now m2 = some (w4, m4) ∧ gptFinish never d w4 n m4 = some (w', m))

/-- a second pass is made exactly when the request does not stand after the first: a node is asked at most twice by its own
    `GetPulseTimeAux` call, however often it invalidates itself -/
theorem gptAux_some {k : Nat} {w w' : World} {n now mn m : Nat} :
    gptAux never d (k+1) w n now mn = some (w', m) ↔
    ∃ w1 w2 m2, (if (w.f n).valid then some w else callG never d w n now) = some w1 ∧
      gptLoop never d k w1 n now mn = some (w2, m2) ∧ AfterFirstPass never d k now n w2 m2 w' m := by
  constructor
  case mpr =>
    rintro ⟨w1, w2, m2, h1, h2, hr⟩
    simp only [gptAux, h1, h2]
    rcases hr with ⟨hv, hf⟩ | ⟨hv, w3, w4, m4, h3, h4, hf⟩
    · simp only [hv, if_true]; exact hf
    · simp [hv, h3, h4, hf]
  intro h
  simp only [gptAux] at h
  split at h
  · cases h
  · rename_i w1 h1
    split at h
    · cases h
    · rename_i w2 m2 h2
      refine ⟨w1, w2, m2, h1, h2, ?_⟩
      split at h
      · rename_i hv; exact Or.inl ⟨hv, h⟩
      · rename_i hv
        refine Or.inr ⟨by simpa using hv, ?_⟩
        split at h
        · cases h
        · rename_i w3 h3
          split at h
          · cases h
          · rename_i w4 m4 h4; exact ⟨w3, w4, m4, h3, h4, h⟩

theorem gptLoop_some {k : Nat} {w w' : World} {n now mn m : Nat} :
    gptLoop never d (k+1) w n now mn = some (w', m) ↔
    ((w.f n).recalc = [] ∧ w' = w ∧ m = mn) ∨
    ∃ c t w1 mn1, (w.f n).recalc = c :: t ∧ gptAux never d k w c now mn = some (w1, mn1) ∧
      gptLoop never d k w1 n now mn1 = some (w', m) := by
  constructor
  case mpr =>
    rintro (⟨he, rfl, rfl⟩ | ⟨c, t, w1, mn1, he, h1, h2⟩)
    · simp only [gptLoop, he]
    · simp only [gptLoop, he, h1]; exact h2
  intro h
  simp only [gptLoop] at h
  split at h
  · rename_i he; cases h; exact Or.inl ⟨he, rfl, rfl⟩
  · rename_i c t he
    split at h
    · cases h
    · rename_i w1 mn1 h1; exact Or.inr ⟨c, t, w1, mn1, he, h1, h⟩

theorem gptLoop_empties : ∀ {k : Nat} {w w' : World} {n now mn mn' : Nat},
    gptLoop never d k w n now mn = some (w', mn') → (w'.f n).recalc = []
  | 0, _, _, _, _, _, _, h => by simp [gptLoop] at h
  | k+1, _, _, _, _, _, _, h => by
    rcases gptLoop_some.mp h with ⟨he, rfl, _⟩ | ⟨_, _, _, _, _, _, h2⟩
    · exact he
    · exact gptLoop_empties h2

structure GptKeeps (never d now k : Nat) (R : World → World → Prop) : Prop where
  aux : ∀ {w w' n mn m}, gptAux never d k w n now mn = some (w', m) → R w w'
  loop : ∀ {w w' n mn m}, gptLoop never d k w n now mn = some (w', m) → R w w'

namespace GptKeeps

theorem of_steps (hR : ReflTrans R) {now : Nat}
    (hcall : ∀ {w w' n}, (w.f n).valid = false → callG never d w n now = some w' → R w w')
    (hfin : ∀ {w w' n mn mn'}, gptFinish never d w n mn = some (w', mn') → R w w') :
    ∀ k, GptKeeps never d now k R
  | 0 => ⟨fun h => by simp [gptAux] at h, fun h => by simp [gptLoop] at h⟩
  | k+1 => by
    have ih := of_steps hR hcall hfin k
    refine ⟨fun {w _ _ _ _} h => ?_, fun h => ?_⟩
    · obtain ⟨w1, w2, m2, h1, h2, hr⟩ := gptAux_some.mp h
      have r1 : R w w1 := by
        split at h1
        · cases h1; exact hR.refl _
        · rename_i hv; exact hcall (by simpa using hv) h1
      rcases hr with ⟨_, hf⟩ | ⟨hv, w3, w4, m4, h3, h4, hf⟩
      · exact hR.trans (hR.trans r1 (ih.loop h2)) (hfin hf)
      · exact hR.trans (hR.trans (hR.trans (hR.trans r1 (ih.loop h2)) (hcall hv h3)) (ih.loop h4)) (hfin hf)
    · rcases gptLoop_some.mp h with ⟨_, rfl, _⟩ | ⟨c, t, w1, mn1, _, h1, h2⟩
      · exact hR.refl _
      · exact hR.trans (ih.aux h1) (ih.loop h2)

theorem manager {now k : Nat} (hK : GptKeeps never d now k R) {w w' : World} {root m : Nat}
    (h : managerGpt never d k w root now = some (w', m)) : R w w' :=
  hK.aux h

end GptKeeps

theorem runOps_lift (hR : ReflTrans R) {k : Nat} : ∀ {ops : List Op} {w w' : World},
    (∀ o ∈ ops, ∀ {w w' r}, applyOp never d k w o = some (w', r) → R w w') → runOps never d k w ops = some w' → R w w'
  | [], w, w', _, h => by cases h; exact hR.refl w
  | o :: r, w, w', hs, h => by
    simp only [runOps] at h
    split at h
    · rename_i w1 r1 h1
      exact hR.trans (hs o (by simp) h1) (runOps_lift hR (fun o' ho' => hs o' (List.mem_cons_of_mem _ ho')) h)
    · cases h

end World

end Muscle.Pulse
