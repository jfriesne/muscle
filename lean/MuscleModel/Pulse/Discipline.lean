import MuscleModel.Pulse.InvOps
import MuscleModel.Pulse.Flagged

/-!
# The disciplined `GetPulseTimeAux` sweep

When no `GetPulseTime` callback touches a node whose own `GetPulseTimeAux` is in progress (the verdict of `gptAuxC`), the sweep
preserves `Inv` and `V`, keeps the frames above it as they are, and leaves the tree below the root settled with every request
standing.  The frames in progress form a duplicate-free chain of parent pointers ending in a root, none of them filed (`Frames`).
-/

namespace Muscle.Pulse

variable {never d : Nat}

theorem runActsC_eq (stk : List Nat) : ∀ (l : List Act) (w : World),
    runActsC never d stk w l = (runActs never d w l).map fun w' => (w', l.all (actOK stk))
  | [], _ => rfl
  | a :: r, w => by
    simp only [runActsC, runActs]
    cases runAct never d w a with
    | none => rfl
    | some w1 =>
      simp only [runActsC_eq stk r w1]
      cases runActs never d w1 r <;> simp

theorem callGC_eq (stk : List Nat) (w : World) (n now : Nat) :
    callGC never d stk w n now = (callG never d w n now).map fun w' => (w', ((w.gq n).headD []).all (actOK stk)) := by
  simp only [callGC, callG, runActsC_eq]
  cases runActs never d _ ((w.gq n).headD []) <;> rfl

theorem gptAuxC_some {k : Nat} {w w' : World} {n now mn m : Nat} {stk : List Nat} {b : Bool} :
    gptAuxC never d (k+1) w n now mn stk = some (w', m, b) ↔
    ∃ w1 b1 w2 m2 b2 b', (if (w.f n).valid then some (w, true) else callGC never d (n :: stk) w n now) = some (w1, b1) ∧
      gptLoopC never d k w1 n now mn (n :: stk) = some (w2, m2, b2) ∧ b = (b1 && b2 && b') ∧
      (((w2.f n).valid = true ∧ gptFinish never d w2 n m2 = some (w', m) ∧ b' = true) ∨
       ((w2.f n).valid = false ∧ ∃ w3 b3 w4 m4 b4, callGC never d (n :: stk) w2 n now = some (w3, b3) ∧
          gptLoopC never d k w3 n now m2 (n :: stk) = some (w4, m4, b4) ∧ gptFinish never d w4 n m4 = some (w', m) ∧
          b' = (b3 && b4))) := by
  constructor
  case mpr =>
    rintro ⟨w1, b1, w2, m2, b2, b', h1, h2, rfl, hr⟩
    simp only [gptAuxC, h1, h2]
    rcases hr with ⟨hv, hf, rfl⟩ | ⟨hv, w3, b3, w4, m4, b4, h3, h4, hf, rfl⟩
    · simp [hv, hf]
    · simp [hv, h3, h4, hf]
  intro h
  simp only [gptAuxC] at h
  split at h
  · cases h
  · rename_i w1 b1 h1
    split at h
    · cases h
    · rename_i w2 m2 b2 h2
      split at h
      · rename_i w5 m5 b5 h5
        cases h
        refine ⟨w1, b1, w2, m2, b2, b5, h1, h2, rfl, ?_⟩
        split at h5
        · rename_i hv
          split at h5
          · rename_i h3; cases h5; exact Or.inl ⟨hv, h3, rfl⟩
          · cases h5
        · rename_i hv
          refine Or.inr ⟨by simpa using hv, ?_⟩
          split at h5
          · cases h5
          · rename_i w3 b3 h3
            split at h5
            · cases h5
            · rename_i w4 m4 b4 h4
              split at h5
              · rename_i h6; cases h5; exact ⟨w3, b3, w4, m4, b4, h3, h4, h6, rfl⟩
              · cases h5
      · cases h

theorem gptLoopC_some {k : Nat} {w w' : World} {n now mn m : Nat} {stk : List Nat} {b : Bool} :
    gptLoopC never d (k+1) w n now mn stk = some (w', m, b) ↔
    ((w.f n).recalc = [] ∧ w' = w ∧ m = mn ∧ b = true) ∨
    ∃ c t w1 mn1 b1 b2, (w.f n).recalc = c :: t ∧ gptAuxC never d k w c now mn stk = some (w1, mn1, b1) ∧
      gptLoopC never d k w1 n now mn1 stk = some (w', m, b2) ∧ b = (b1 && b2) := by
  constructor
  case mpr =>
    rintro (⟨he, rfl, rfl, rfl⟩ | ⟨c, t, w1, mn1, b1, b2, he, h1, h2, rfl⟩)
    · simp only [gptLoopC, he]
    · simp only [gptLoopC, he, h1, h2]
  intro h
  simp only [gptLoopC] at h
  split at h
  · rename_i he; cases h; exact Or.inl ⟨he, rfl, rfl, rfl⟩
  · rename_i c t he
    split at h
    · cases h
    · rename_i w1 mn1 b1 h1
      split at h
      · rename_i b2 h2; cases h; exact Or.inr ⟨c, t, w1, mn1, b1, b2, he, h1, h2, rfl⟩
      · cases h

theorem callGC_erase {stk : List Nat} {w w' : World} {n now : Nat} {b : Bool}
    (h : callGC never d stk w n now = some (w', b)) :
    callG never d w n now = some w' ∧ (b = true → ∀ a ∈ (w.gq n).headD [], actOK stk a = true) := by
  rw [callGC_eq] at h
  obtain ⟨v, hv, e⟩ := Option.map_eq_some_iff.mp h
  cases e
  exact ⟨hv, fun e => List.all_eq_true.mp e⟩

theorem gptC_erase : ∀ (k : Nat),
    (∀ {w w' : World} {n now mn m : Nat} {stk : List Nat} {b : Bool},
      gptAuxC never d k w n now mn stk = some (w', m, b) → gptAux never d k w n now mn = some (w', m)) ∧
    (∀ {w w' : World} {n now mn m : Nat} {stk : List Nat} {b : Bool},
      gptLoopC never d k w n now mn stk = some (w', m, b) → gptLoop never d k w n now mn = some (w', m))
  | 0 => ⟨fun h => by simp [gptAuxC] at h, fun h => by simp [gptLoopC] at h⟩
  | k+1 => by
    have ih := gptC_erase k
    refine ⟨fun {w w' n now mn m stk b} h => ?_, fun h => ?_⟩
    · obtain ⟨w1, b1, w2, m2, b2, b', h1, h2, _, hr⟩ := gptAuxC_some.mp h
      have e1 : (if (w.f n).valid then some w else callG never d w n now) = some w1 := by
        split at h1
        · rename_i hv; cases h1; rw [if_pos hv]
        · rename_i hv; rw [if_neg hv]; exact (callGC_erase h1).1
      refine gptAux_some.mpr ⟨w1, w2, m2, e1, ih.2 h2, ?_⟩
      rcases hr with ⟨hv, hf, _⟩ | ⟨hv, w3, b3, w4, m4, b4, h3, h4, hf, _⟩
      · exact Or.inl ⟨hv, hf⟩
      · exact Or.inr ⟨hv, w3, w4, m4, (callGC_erase h3).1, ih.2 h4, hf⟩
    · rcases gptLoopC_some.mp h with ⟨he, rfl, rfl, _⟩ | ⟨c, t, w1, mn1, b1, b2, he, h1, h2, _⟩
      · exact gptLoop_some.mpr (Or.inl ⟨he, rfl, rfl⟩)
      · exact gptLoop_some.mpr (Or.inr ⟨c, t, w1, mn1, he, ih.1 h1, ih.2 h2⟩)

theorem managerGptC_erase {k : Nat} {w w' : World} {root now m : Nat} {b : Bool}
    (h : managerGptC never d k w root now = some (w', m, b)) : managerGpt never d k w root now = some (w', m) :=
  (gptC_erase k).1 h

/-- no node becomes filed: a `_curList` only changes to NEEDSRECALC or to none -/
def NoFiling (f f' : Forest) : Prop :=
  ∀ x, (f' x).cur = (f x).cur ∨ (f' x).cur = some .recalc ∨ (f' x).cur = none

theorem NoFiling.pre : ReflTrans NoFiling where
  refl _ _ := Or.inl rfl
  trans a b x := (b x).elim (fun e => e ▸ a x) Or.inr

theorem NoFiling.unfiled {f f' : Forest} (h : NoFiling f f') {x : Nat} (hu : Unfiled f x) : Unfiled f' x := by
  rcases h x with e | e
  · exact hu.congr e
  · exact unfiled_of_cur e.symm

theorem FlagsOnly.noFiling {f f' : Forest} (h : FlagsOnly f f') : NoFiling f f' :=
  fun x => (h x).imp_right Or.inl

theorem SameLists.noFiling {f f' : Forest} (h : SameLists f f') : NoFiling f f' := fun x => Or.inl (h.cur x)

/-- the frames of the `GetPulseTimeAux` calls in progress, innermost first -/
structure Frames (never : Nat) (f : Forest) (stk : List Nat) : Prop where
  inv : Inv never f
  chain : Chain f stk
  nodup : stk.Nodup
  unfiled : ∀ y ∈ stk, Unfiled f y

theorem Frames.root {f : Forest} {r : Nat} (hi : Inv never f) (hr : (f r).parent = none) : Frames never f [r] :=
  ⟨hi, hr, by simp, fun y hy => by
    rw [List.mem_singleton.mp hy]; exact unfiled_of_cur (Or.inl (hi.rootcur r hr))⟩

theorem Frames.child {f : Forest} {n c : Nat} {S t : List Nat} (h : Frames never f (n :: S)) (he : (f n).recalc = c :: t) :
    Frames never f (c :: n :: S) := by
  obtain ⟨hpc, hcc⟩ := h.inv.sound n c .recalc (by rw [list_recalc, he]; simp)
  refine ⟨h.inv, ⟨hpc, h.chain⟩, List.nodup_cons.mpr ⟨child_not_on_stack h.chain h.nodup hpc, h.nodup⟩, fun y hy => ?_⟩
  rcases List.mem_cons.mp hy with rfl | hy
  · exact unfiled_of_cur (Or.inr hcc)
  · exact h.unfiled y hy

/-- what a (part of a) sweep guarantees for the frames above it -/
def Keeps (stk : List Nat) (f f' : Forest) : Prop :=
  ∀ y ∈ stk, (f' y).parent = (f y).parent ∧ (f' y).valid = (f y).valid ∧ (Unfiled f y → Unfiled f' y)

namespace Keeps
variable {stk : List Nat} {f f' : Forest} {y : Nat} (k : Keeps stk f f') (hy : y ∈ stk)
include k hy
theorem parent : (f' y).parent = (f y).parent := (k y hy).1
theorem valid : (f' y).valid = (f y).valid := (k y hy).2.1
theorem unfiled (hu : Unfiled f y) : Unfiled f' y := (k y hy).2.2 hu
end Keeps

theorem Keeps.pre (stk : List Nat) : ReflTrans (Keeps stk) where
  refl _ _ _ := ⟨rfl, rfl, id⟩
  trans a b _ hy :=
    ⟨(b.parent hy).trans (a.parent hy), (b.valid hy).trans (a.valid hy), fun hu => b.unfiled hy (a.unfiled hy hu)⟩

theorem keeps_opRel (never : Nat) (stk : List Nat) : OpRelT never (· ∉ stk) (Keeps stk) :=
  have up : ∀ (f : Forest) (n : Nat) (nd : Node), n ∉ stk → Keeps stk f (upd f n nd) :=
    fun f n nd hn y hy => by
      have e := upd_ne f nd (fun e : y = n => hn (e ▸ hy))
      exact ⟨by rw [e], by rw [e], fun hu => hu.congr (by rw [e])⟩
  .of_steps (Keeps.pre stk)
    (hnone := fun {_ _ _ c _} hc h y hy =>
      ⟨(resched_sameScalars h).parent y, (resched_sameScalars h).valid y,
        fun hu => hu.congr (resched_cur_ne (by simp) h (fun e : y = c => hc (e ▸ hy)))⟩)
    (hrecalc := fun h y _ =>
      ⟨(resched_sameScalars h).parent y, (resched_sameScalars h).valid y, (resched_recalc_flagsOnly h).noFiling.unfiled⟩)
    (hunvalid := fun f n _ hn => up f n _ hn) (hclear := fun f n hn _ => up f n _ hn) (horphan := fun f c hc => up f c _ hc)
    (hparent := fun f c _ hc => up f c _ hc)

theorem runActs_stack_alone {stk : List Nat} {l : List Act} {w w' : World} (h : runActs never d w l = some w')
    (hok : ∀ a ∈ l, actOK stk a = true) : Keeps stk w.f w'.f :=
  (keeps_opRel never stk).on_runActs (fun a ha t et => by
    have := hok a ha
    rw [actOK, et] at this
    simpa using this) h

theorem Frames.congr {f f' : Forest} {S : List Nat} (h : Frames never f S) (hi : Inv never f')
    (hp : ∀ y ∈ S, (f' y).parent = (f y).parent) (hu : ∀ y ∈ S, Unfiled f y → Unfiled f' y) : Frames never f' S :=
  ⟨hi, chain_congr hp h.chain, h.nodup, fun y hy => hu y hy (h.unfiled y hy)⟩

theorem Frames.keeps {f f' : Forest} {S : List Nat} (h : Frames never f S) (hi : Inv never f') (k : Keeps S f f') :
    Frames never f' S :=
  h.congr hi (fun _ hy => k.parent hy) (fun _ hy => k.unfiled hy)

theorem callG_frames {stk : List Nat} {w w' : World} {n now : Nat} (h : callG never d w n now = some w')
    (hok : ∀ a ∈ (w.gq n).headD [], actOK (n :: stk) a = true) (hF : Frames never w.f (n :: stk)) :
    Frames never w'.f (n :: stk) ∧ (w'.f n).valid = true ∧ Keeps stk w.f w'.f ∧ (w'.f n).parent = (w.f n).parent := by
  suffices hs : Inv never w'.f ∧ (w'.f n).valid = true ∧ Keeps stk w.f w'.f ∧ (w'.f n).parent = (w.f n).parent ∧
      Unfiled w'.f n from
    ⟨hF.congr hs.1 (fun y hy => (List.mem_cons.mp hy).elim (fun e => e ▸ hs.2.2.2.1) (fun hy => (hs.2.2.1 y hy).1))
      (fun y hy hu => (List.mem_cons.mp hy).elim (fun e => e ▸ hs.2.2.2.2) (fun hy => (hs.2.2.1 y hy).2.2 hu)),
     hs.2.1, hs.2.2.1, hs.2.2.2.1⟩
  obtain ⟨w2, h2, rfl⟩ := callG_some h
  have hun := hF.unfiled n (by simp)
  have i1 : Inv never (upd w.f n { (w.f n) with valid := true }) :=
    unfiled_upd_inv hF.inv hun true (w.f n).myTime (w.f n).agg (hF.inv.aggle n)
  have i2 : Inv never w2.f := (inv_opRel never).on_runActs h2 i1
  have k2 := runActs_stack_alone h2 hok
  have hu2 : Unfiled w2.f n := k2.unfiled (by simp) (hun.congr (by simp))
  refine ⟨unfiled_upd_inv i2 hu2 (w2.f n).valid (w2.req n) (w2.f n).agg (i2.aggle n), ?_, fun y hy => ?_, ?_, ?_⟩
  · simpa using k2.valid (y := n) (by simp)
  · have hyn : y ≠ n := fun e => (List.nodup_cons.mp hF.nodup).1 (e ▸ hy)
    have hy' := List.mem_cons_of_mem n hy
    have a := k2.valid hy'
    have b := k2.parent hy'
    simp only [upd_ne _ _ hyn] at a b ⊢
    exact ⟨b, a, fun hu => (k2.unfiled hy' (hu.congr (by simp only [upd_ne _ _ hyn]))).congr (by simp only [upd_ne _ _ hyn])⟩
  · simpa using k2.parent (y := n) (by simp)
  · simpa [Unfiled] using hu2

theorem gptFinish_keeps {w w' : World} {n mn mn' : Nat} {stk : List Nat} (h : gptFinish never d w n mn = some (w', mn'))
    (hn : n ∉ stk) : Keeps stk w.f w'.f := fun y hy => by
  have o := gptFinish_fields h y
  exact ⟨o.parent, o.valid, fun hu => hu.congr (o.cur fun e => hn (e ▸ hy))⟩

/-- What a disciplined `GetPulseTimeAux` call on `n` (frames `stk` above it) from `(w, mn)` to `(w', m)` establishes; `R` holds up to
    the call's own filing (`filing`: the state before it, with the frames intact). -/
structure FrameRun (never d : Nat) (R : World × Nat → World × Nat → Prop) (stk : List Nat) (n : Nat)
    (w : World) (mn : Nat) (w' : World) (m : Nat) : Prop where
  inv : Inv never w'.f
  keeps : Keeps stk w.f w'.f
  parent : (w'.f n).parent = (w.f n).parent
  valid : (w'.f n).valid = true
  vrel : VRel w.f w'.f
  filing : ∃ w2 m2, R (w, mn) (w2, m2) ∧ Frames never w2.f (n :: stk) ∧ (w2.f n).recalc = [] ∧ (w2.f n).valid = true ∧
    gptFinish never d w2 n m2 = some (w', m)

/-- the same for the loop of the node on top of `stk` -/
structure LoopRun (never : Nat) (R : World × Nat → World × Nat → Prop) (stk : List Nat) (n : Nat)
    (w : World) (mn : Nat) (w' : World) (m : Nat) : Prop where
  inv : Inv never w'.f
  keeps : Keeps stk w.f w'.f
  empty : (w'.f n).recalc = []
  vrel : VRel w.f w'.f
  rel : R (w, mn) (w', m)

/-- The recursion of the disciplined sweep, once.  The frames are carried through it (after pass 0 the node's request stands and
    nothing in the loop may touch it, a frame in progress, so the second pass never happens under the verdict), and with them a
    relation `R` on (state, `min` so far) whose filing step may use the frames: the invariant holds at every filing, and the node filed
    is an unfiled child of the frame below it.  For a frame `R` is stated up to
    its own filing: that is a filing in a parent's list for a non-root only, and the parent's loop adds it (`hfin`).
    `r` is the root the sweep started from. -/
theorem gptC_sweep {R : World × Nat → World × Nat → Prop} (hR : ReflTrans R) (r now : Nat)
    (hcall : ∀ {w w' n mn}, (w.f n).valid = false → callG never d w n now = some w' → R (w, mn) (w', mn))
    (hfin : ∀ {stk w w' c p mn mn'}, Frames never w.f (c :: p :: stk) → (c :: p :: stk).getLast? = some r →
      (w.f c).valid = true → gptFinish never d w c mn = some (w', mn') → R (w, mn) (w', mn')) :
    ∀ k, (∀ {w w' n mn m stk}, gptAuxC never d k w n now mn stk = some (w', m, true) → Frames never w.f (n :: stk) →
            (n :: stk).getLast? = some r → FrameRun never d R stk n w mn w' m) ∧
         (∀ {w w' n mn m rest}, gptLoopC never d k w n now mn (n :: rest) = some (w', m, true) →
            Frames never w.f (n :: rest) → (n :: rest).getLast? = some r → LoopRun never R (n :: rest) n w mn w' m)
  | 0 => ⟨fun h => by simp [gptAuxC] at h, fun h => by simp [gptLoopC] at h⟩
  | k+1 => by
    have ih := gptC_sweep hR r now hcall hfin k
    refine ⟨fun {w w' n mn m stk} h hF hl => ?_, fun {w w' n mn m rest} h hF hl => ?_⟩
    · obtain ⟨w1, b1, w2, m2, b2, b', h1, h2, hb, hr⟩ := gptAuxC_some.mp h
      simp only [Bool.true_eq, Bool.and_eq_true] at hb
      obtain ⟨⟨rfl, rfl⟩, rfl⟩ := hb
      have hnstk : n ∉ stk := (List.nodup_cons.mp hF.nodup).1
      have s1 : Frames never w1.f (n :: stk) ∧ (w1.f n).valid = true ∧ Keeps stk w.f w1.f ∧
          (w1.f n).parent = (w.f n).parent ∧ VRel w.f w1.f ∧ R (w, mn) (w1, mn) := by
        split at h1
        · rename_i hv; cases h1
          exact ⟨hF, hv, (Keeps.pre stk).refl _, rfl, VRel.pre.refl _, hR.refl _⟩
        · rename_i hv
          obtain ⟨hg, hok⟩ := callGC_erase h1
          obtain ⟨a1, a2, a3, a4⟩ := callG_frames hg (hok rfl) hF
          exact ⟨a1, a2, a3, a4, callG_vrel hg, hcall (by simpa using hv) hg⟩
      obtain ⟨F1, hv1, k1, p1, v1, r1⟩ := s1
      have L := ih.2 h2 F1 hl
      have hv2 : (w2.f n).valid = true := (L.keeps.valid (by simp)).trans hv1
      rcases hr with ⟨_, hf, _⟩ | ⟨hv, _⟩
      · have o := gptFinish_fields hf n
        exact ⟨gptFinish_inv hf L.inv L.empty hv2 (L.keeps.unfiled (by simp) (F1.unfiled n (by simp))),
          (Keeps.pre stk).trans ((Keeps.pre stk).trans k1 (fun y hy => L.keeps y (List.mem_cons_of_mem _ hy)))
            (gptFinish_keeps hf hnstk),
          o.parent.trans ((L.keeps.parent (by simp)).trans p1), o.valid.trans hv2,
          VRel.pre.trans (VRel.pre.trans v1 L.vrel) (gptFinish_vrel hf hv2),
          w2, m2, hR.trans r1 L.rel, F1.keeps L.inv L.keeps, L.empty, hv2, hf⟩
      · rw [hv2] at hv; cases hv
    · rcases gptLoopC_some.mp h with ⟨he, rfl, rfl, _⟩ | ⟨c, t, w1, mn1, b1, b2, he, h1, h2, hb⟩
      · exact ⟨hF.inv, (Keeps.pre _).refl _, he, VRel.pre.refl _, hR.refl _⟩
      · simp only [Bool.true_eq, Bool.and_eq_true] at hb
        obtain ⟨rfl, rfl⟩ := hb
        have hl' : (c :: n :: rest).getLast? = some r := by rw [List.getLast?_cons_cons]; exact hl
        have A := ih.1 h1 (hF.child he) hl'
        obtain ⟨u2, m2, r1, F2, hr2, hv2, hf⟩ := A.filing
        have L := ih.2 h2 (hF.keeps A.inv A.keeps) hl
        exact ⟨L.inv, (Keeps.pre _).trans A.keeps L.keeps, L.empty, VRel.pre.trans A.vrel L.vrel,
          hR.trans (hR.trans r1 (hfin F2 hl' hv2 hf)) L.rel⟩

theorem gptC_inv {k : Nat} {w w' : World} {n now mn m : Nat} {stk : List Nat}
    (h : gptAuxC never d k w n now mn stk = some (w', m, true)) (hF : Frames never w.f (n :: stk)) :
    FrameRun never d (fun _ _ => True) stk n w mn w' m :=
  (gptC_sweep (R := fun _ _ => True) ⟨fun _ => trivial, fun _ _ => trivial⟩
    ((n :: stk).getLast (by simp)) now (fun _ _ => trivial) (fun _ _ _ _ => trivial) k).1 h hF
    (List.getLast?_eq_some_getLast (by simp))

/-- what a disciplined sweep from a root establishes: the root's list is empty, its request stands, its aggregate is exact, and
    the reported time `m` is at or before it -/
structure RootRun (never : Nat) (w w' : World) (root m : Nat) : Prop where
  inv : Inv never w'.f
  vrel : VRel w.f w'.f
  isRoot : (w'.f root).parent = none
  valid : (w'.f root).valid = true
  empty : (w'.f root).recalc = []
  agg : (w'.f root).agg = min (w'.f root).myTime (firstSchedAgg never w'.f root)
  le : m ≤ (w'.f root).agg

theorem managerGptC_root {k : Nat} {w w' : World} {root now m : Nat}
    (h : managerGptC never d k w root now = some (w', m, true)) (hi : Inv never w.f)
    (hroot : (w.f root).parent = none) : RootRun never w w' root m := by
  unfold managerGptC at h
  have A := gptC_inv h (Frames.root hi hroot)
  obtain ⟨v, mv, _, _, hre, hv, hf⟩ := A.filing
  have hI := A.inv
  have hpr := A.parent.trans hroot
  have o := gptFinish_fields hf root
  -- the root is filed nowhere: only its aggregate changes
  have e4 : w'.f = upd v.f root { (v.f root) with agg := newAgg never v.f root } := by
    obtain ⟨f4, e, _, hcase⟩ := gptFinish_some hf
    rcases hcase with ⟨_, e'⟩ | ⟨p, hp, _⟩
    · rw [e]; exact e'
    · rw [← o.parent, hpr] at hp; cases hp
  refine ⟨hI, A.vrel, hpr, A.valid, by rw [e4]; simpa using hre, ?_, (gptFinish_min hf).2.1⟩
  have hfs : firstSchedAgg never w'.f root = firstSchedAgg never v.f root := by
    refine firstSchedAgg_congr never (by rw [e4]; simp) (fun i hm => ?_)
    rw [e4, upd_ne _ _ (fun e => hI.1.root_notin hpr root .sched (by rw [list_sched, e4]; simpa [e] using hm))]
  rw [hfs, o.myTime, gptFinish_agg hf, newAgg, hv]; rfl

theorem RootRun.settled {w w' : World} {root m : Nat} (A : RootRun never w w' root m) : Settled never w'.f root :=
  settled_of_inv A.inv A.empty (A.agg ▸ Nat.min_le_left _ _) (A.agg ▸ Nat.min_le_right _ _)

/-- `reasked`: after a disciplined sweep from a root, every node below the root has a standing request again -/
theorem managerGptC_reasks {k : Nat} {w w' : World} {root now m : Nat}
    (h : managerGptC never d k w root now = some (w', m, true)) (hi : Inv never w.f) (hV : V w.f)
    (hroot : (w.f root).parent = none) :
    V w'.f ∧ ∀ x, Desc w'.f root x → (w'.f x).valid = true := by
  have A := managerGptC_root h hi hroot
  have v' := hV.step A.vrel
  refine ⟨v', fun x hx => ?_⟩
  -- nobody below the root waits in NEEDSRECALC, so nobody below the root is without a request
  rcases (clean_below A.inv A.empty hx).2 with rfl | hf
  · exact A.valid
  · obtain ⟨q, hq⟩ := hf.1
    cases hvx : (w'.f x).valid with
    | true => rfl
    | false => exact absurd (v'.flagged hq hvx) hf.cur_ne_recalc

end Muscle.Pulse
