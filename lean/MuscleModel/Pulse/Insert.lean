import MuscleModel.Pulse.Tree

/-!
# The sorted insert of `ReschedulePulseChild` (`case LINKED_LIST_SCHEDULED`): membership, sortedness, no duplicates
-/

namespace Muscle.Pulse

def Sorted (a : Nat → Nat) (l : List Nat) : Prop := l.Pairwise (fun x y => a x ≤ a y)

variable {a : Nat → Nat} {c : Nat} {l : List Nat}

theorem mem_insertBefore (a : Nat → Nat) (c x : Nat) (l : List Nat) :
    x ∈ insertBefore a c l ↔ x = c ∨ x ∈ l := by
  induction l with
  | nil => simp [insertBefore]
  | cons p r ih =>
    simp only [insertBefore]
    split
    · simp only [List.mem_cons, ih, or_left_comm]
    · simp [List.mem_cons]

theorem mem_insertSched (a : Nat → Nat) (c x : Nat) (l : List Nat) :
    x ∈ insertSched a c l ↔ x = c ∨ x ∈ l := by
  unfold insertSched
  split
  · rename_i h
    have : l = [] := by simpa using h
    simp [this]
  · split
    · simp [List.mem_append, or_comm]
    · exact mem_insertBefore a c x l

theorem insertBefore_sorted (h : Sorted a l) : Sorted a (insertBefore a c l) := by
  induction l with
  | nil => simp [insertBefore, Sorted]
  | cons p r ih =>
    obtain ⟨hp, hr⟩ := List.pairwise_cons.mp h
    simp only [insertBefore]
    split
    · refine List.pairwise_cons.mpr ⟨fun y hy => ?_, ih hr⟩
      rcases (mem_insertBefore a c y r).mp hy with rfl | hy
      · omega
      · exact hp y hy
    · refine List.pairwise_cons.mpr ⟨fun y hy => ?_, h⟩
      rcases List.mem_cons.mp hy with rfl | hy
      · omega
      · have := hp y hy; omega

theorem sorted_le_last {last : Nat} : ∀ {l : List Nat}, Sorted a l → l.getLast? = some last → ∀ x ∈ l, a x ≤ a last
  | [p], _, hl, x, hx => by
    simp at hl hx; subst hl hx; exact Nat.le_refl _
  | p :: q :: r, hs, hl, x, hx => by
    obtain ⟨hp, hr⟩ := List.pairwise_cons.mp hs
    have ih := sorted_le_last hr (by simpa [List.getLast?_cons_cons] using hl)
    rcases List.mem_cons.mp hx with rfl | hx
    · exact Nat.le_trans (hp q (by simp)) (ih q (by simp))
    · exact ih x hx

/-- the tail shortcut is sound exactly because it is guarded by `>=` against the LAST element -/
theorem append_sorted {last : Nat} (h : Sorted a l) (hl : l.getLast? = some last) (hge : a c ≥ a last) :
    Sorted a (l ++ [c]) := by
  refine List.pairwise_append.mpr ⟨h, by simp, fun x hx y hy => ?_⟩
  have : y = c := by simpa using hy
  subst this
  exact Nat.le_trans (sorted_le_last h hl x hx) hge

theorem insertSched_sorted (a : Nat → Nat) (c : Nat) (l : List Nat) (h : Sorted a l) :
    Sorted a (insertSched a c l) := by
  unfold insertSched
  split
  · simp [Sorted]
  · split
    · rename_i hl hge; exact append_sorted h hl hge
    · exact insertBefore_sorted h

/-- the `O(N)` walk is entered only when `child < last`, so it never runs off the end of the list -/
theorem insertBefore_not_last (a : Nat → Nat) (c last : Nat) (l : List Nat)
    (hl : l.getLast? = some last) (hlt : a c < a last) :
    (insertBefore a c l).getLast? = some last := by
  induction l with
  | nil => simp at hl
  | cons p r ih =>
    simp only [insertBefore]
    split
    · cases r with
      | nil =>
        simp at hl; subst hl; omega
      | cons q r' =>
        have := ih (by simpa [List.getLast?_cons_cons] using hl)
        cases hib : insertBefore a c (q :: r') with
        | nil => rw [hib] at this; simp at this
        | cons x xs => rw [hib] at this; simpa [List.getLast?_cons_cons] using this
    · simpa [List.getLast?_cons_cons] using hl

theorem erase_sorted (h : Sorted a l) : Sorted a (l.erase c) :=
  List.Pairwise.sublist List.erase_sublist h

theorem nodup_insertBefore : ∀ {l : List Nat}, l.Nodup → c ∉ l → (insertBefore a c l).Nodup
  | [], _, _ => by simp [insertBefore]
  | p :: r, hn, hc => by
    obtain ⟨hpr, hr⟩ := List.nodup_cons.mp hn
    simp only [insertBefore]
    split
    · refine List.nodup_cons.mpr ⟨fun hm => ?_, nodup_insertBefore hr (fun e => hc (List.mem_cons_of_mem _ e))⟩
      rcases (mem_insertBefore a c p r).mp hm with e | e
      · exact hc (by simp [e])
      · exact hpr e
    · exact List.nodup_cons.mpr ⟨hc, hn⟩

theorem nodup_insertSched (hn : l.Nodup) (hc : c ∉ l) : (insertSched a c l).Nodup := by
  unfold insertSched
  split
  · simp
  · split
    · refine List.nodup_append.mpr ⟨hn, by simp, fun x hx y hy => ?_⟩
      have : y = c := by simpa using hy
      subst this
      exact fun e => hc (e ▸ hx)
    · exact nodup_insertBefore hn hc

end Muscle.Pulse
