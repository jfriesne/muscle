import MuscleModel.Pulse.Ancestors
import MuscleModel.Pulse.Quiet

/-!
# Properties of the parent relation in every reachable state: finite height, finite support

Only `attach` adds a parent pointer, and only for a root that passes the cycle guard `isAnc`; everything else removes parent
pointers or leaves them alone.  A property of forests that survives both (`ParentProp`) therefore holds in every state reached
by any history.  Two instances: finite height (`Height`), and all parent pointers live among the ids the attaches of the
history mention (`FSupp`).
-/

namespace Muscle.Pulse

variable {never d : Nat} {f f' : Forest}

/-- the cycle guard of `attach` is sound for every depth: out of fuel it refuses -/
theorem isAnc_sound : ∀ (d : Nat) (f : Forest) (a n : Nat), isAnc d f a n = false → ¬ Desc f a n := by
  intro d
  induction d with
  | zero => intro f a n h; simp [isAnc] at h
  | succ d ih =>
    intro f a n h hd
    simp only [isAnc] at h
    split at h
    · cases h
    · rename_i hne
      rcases desc_inv hd with e | ⟨p, hp, hpar⟩
      · exact hne e.symm
      · rw [hpar] at h
        exact ih f a p h hp

theorem invalidate_parent {n : Nat} {clear : Bool} (h : invalidate never d f n clear = some f') (x : Nat) :
    (f' x).parent = (f x).parent := by
  rw [invalidate_eq] at h
  split at h
  · rw [(flagUp_sameScalars h).parent, parent_scalars f n _ _ (f n).agg]
  · cases h; split
    · exact parent_scalars f n (f n).valid _ (f n).agg x
    · rfl

theorem removeChild_parSub {p c : Nat} (h : removeChild never d f p c = some f') : ParSub f f' := fun x q e => by
  rw [removeChild_parent h] at e
  split at e
  · cases e
  · exact e

theorem detach_parSub {c : Nat} (h : detach never d f c = some f') : ParSub f f' :=
  detach_lift ParSub.pre removeChild_parSub h

theorem destroy_parSub {n : Nat} (h : destroy never d f n = some f') : ParSub f f' := by
  rw [destroy_eq] at h
  obtain ⟨f1, h1, h⟩ := Option.bind_eq_some_iff.mp h
  obtain ⟨f2, h2, rfl⟩ := Option.map_eq_some_iff.mp h
  refine ParSub.pre.trans (ParSub.pre.trans (detach_parSub h1) (clearChildren_lift ParSub.pre removeChild_parSub h2)) ?_
  intro x q e
  by_cases hx : x = n
  · subst hx; simp [Node.fresh] at e
  · rwa [upd_ne _ _ hx] at e

theorem putChild_parents {p c : Nat} (h : putChild never d f p c = some f') :
    ∃ f1, ParSub f f1 ∧ ∀ x, (f' x).parent = if x = c then some p else (f1 x).parent := by
  rw [putChild_eq] at h
  obtain ⟨f1, h1, h⟩ := Option.bind_eq_some_iff.mp h
  exact ⟨f1, detach_parSub h1, fun x => by rw [(resched_sameScalars h).parent, parent_setParent]⟩

/-- `P` survives the removal of parent pointers, and the setting of the pointer `c → p` for a `c` that is not above `p`
    when the action `attach c p` is admissible (`A`) -/
structure ParentProp (A : Act → Prop) (P : Forest → Prop) : Prop where
  mono : ∀ {f f'}, ParSub f f' → P f → P f'
  add : ∀ {f f' c p}, A (.attach c p) → ¬ Desc f c p →
    (∀ x, (f' x).parent = if x = c then some p else (f x).parent) → P f → P f'

/-- what an operation of a history must satisfy: its own attach and the actions it queues are admissible -/
def opOK (A : Act → Prop) : Op → Prop
  | .attach c p => A (.attach c p)
  | .script _ _ acts => ∀ a ∈ acts, A a
  | _ => True

namespace ParentProp
variable {A : Act → Prop} {P : Forest → Prop} (hP : ParentProp A P)
include hP

theorem eq (h : SameParents f f') : P f → P f' := hP.mono (parSub_of_eq h)

theorem on_api {a : Act} (ha : ∀ c p, a = .attach c p → A a) (h : Api never d f f' a) : P f → P f' := by
  cases h with
  | inval h => exact hP.eq (invalidate_parent h)
  | detach h => exact hP.mono (detach_parSub h)
  | attach hg h =>
    obtain ⟨f1, s1, hpar⟩ := putChild_parents h
    exact fun hp => hP.add (ha _ _ rfl) (fun hd => isAnc_sound d f _ _ hg (desc_parSub s1 hd)) hpar (hP.mono s1 hp)

theorem on_runActs {l : List Act} {w w' : World} (ha : ∀ a ∈ l, A a) (h : runActs never d w l = some w') :
    P w.f → P w'.f :=
  runActs_lift (ReflTrans.imp fun w : World => P w.f) (fun a hm _ _ h => by
    rcases (runAct_api h).1 with e | h
    · rw [e]; exact id
    · exact hP.on_api (fun _ _ _ => ha a hm) h) h

/-- the argument is there for the notation `hP.Keep` only -/
def Keep (_ : ParentProp A P) (w : World) : Prop := P w.f ∧ GAll A w ∧ PAll A w

theorem on_callG {w w' : World} {n now : Nat} (h : callG never d w n now = some w') (hk : hP.Keep w) : hP.Keep w' := by
  refine ⟨?_, callG_all h hk.2⟩
  obtain ⟨w2, h2, rfl⟩ := callG_some h
  exact hP.eq (parent_scalars w2.f n _ _ (w2.f n).agg)
    (hP.on_runActs (all_head (hk.2.1 n)) h2 (hP.eq (parent_scalars w.f n _ (w.f n).myTime (w.f n).agg) hk.1))

theorem on_callP {w w' : World} {n now : Nat} (h : callP never d w n now = some w') (hk : hP.Keep w) : hP.Keep w' := by
  refine ⟨?_, callP_all h hk.2⟩
  obtain ⟨w2, h2, rfl⟩ := callP_some h
  exact hP.eq (parent_scalars w2.f n _ (w2.f n).myTime (w2.f n).agg) (hP.on_runActs (all_head (hk.2.2 n)) h2 hk.1)

theorem on_gpt (now k : Nat) : GptKeeps never d now k (Pres hP.Keep) :=
  .of_steps (ReflTrans.imp _) (fun _ h => hP.on_callG h)
    (fun h hk => ⟨hP.eq (fun x => (gptFinish_fields h x).parent) hk.1, by
      obtain ⟨f4, rfl, _⟩ := gptFinish_some h; exact hk.2⟩) k

theorem on_pulse (now k : Nat) : PulseKeeps never d now k (Pres hP.Keep) :=
  .of_steps (ReflTrans.imp _) (fun _ _ h => hP.on_callP h)
    (fun h hk => by
      obtain ⟨f', hf, rfl⟩ := pulseFinish_some h
      exact ⟨hP.eq (flagUp_sameScalars hf).parent hk.1, hk.2⟩) k

theorem on_applyOp {k : Nat} {w w' : World} {r : Res} {o : Op} (ho : opOK A o)
    (h : applyOp never d k w o = some (w', r)) (hk : hP.Keep w) : hP.Keep w' := by
  refine ⟨?_, applyOp_all (fun g c acts e => by subst e; exact ho) h hk.2⟩
  cases applyOp_step h with
  | same hf _ _ => rw [hf]; exact hk.1
  | api a e h _ _ => exact hP.on_api (fun c p ea => ea ▸ (e c p ea ▸ ho : opOK A (.attach c p))) h hk.1
  | destroy c h _ _ => exact hP.mono (destroy_parSub h) hk.1
  | gpt root now m _ _ h => exact ((hP.on_gpt now k).manager h hk).1
  | pulse root now h => exact ((hP.on_pulse now k).manager h hk).1

theorem on_runOps {k : Nat} {ops : List Op} {w w' : World} (ho : ∀ o ∈ ops, opOK A o)
    (h : runOps never d k w ops = some w') : hP.Keep w → hP.Keep w' :=
  runOps_lift (ReflTrans.imp hP.Keep) (fun o hm _ _ _ h => hP.on_applyOp (ho o hm) h) h

theorem init (h0 : P (World.init never).f) : hP.Keep (World.init never) :=
  ⟨h0, fun n acts ha => by simp [World.init] at ha, fun n acts ha => by simp [World.init] at ha⟩

end ParentProp

/-- giving `c` the parent `p` in a forest in which `p` is not below `c`: everything below `c` keeps its height,
    everything else is lifted above it -/
theorem height_parentProp : ParentProp (fun _ => True) Height where
  mono s := fun ⟨ht, hh⟩ => ⟨ht, fun c p e => hh c p (s c p e)⟩
  add {f f' c p} _ hnd hpar := fun ⟨ht, hh⟩ => by
    classical
    refine ⟨fun x => if Desc f c x then ht x else ht x + ht c + 1, fun x y hxy => ?_⟩
    rw [hpar] at hxy
    by_cases hxc : x = c
    · subst hxc
      rw [if_pos rfl] at hxy; cases hxy
      simp only [Desc.refl, if_true, hnd, if_false]
      omega
    · rw [if_neg hxc] at hxy
      have hlt := hh x y hxy
      by_cases hx : Desc f c x
      · by_cases hy : Desc f c y
        · simp only [hx, hy, if_true]; exact hlt
        · simp only [hx, hy, if_true, if_false]; omega
      · have hy : ¬ Desc f c y := fun hy => hx (Desc.step y x hy hxy)
        simp only [hx, hy, if_false]; omega

theorem opOK_true (o : Op) : opOK (fun _ => True) o := by
  cases o <;> first | trivial | exact fun _ _ => trivial

def FSupp (M : Nat) (f : Forest) : Prop := ∀ c p, (f c).parent = some p → c < M ∧ p < M

/-- 1 + the largest node id an `attach` action mentions (0 for the other actions: only `attach` creates a parent pointer) -/
def actBound : Act → Nat
  | .attach c p => max c p + 1
  | _ => 0

def actsBound (l : List Act) : Nat := l.foldr (fun a m => max (actBound a) m) 0

def opBound : Op → Nat
  | .attach c p => max c p + 1
  | .script _ _ acts => actsBound acts
  | _ => 0

/-- `M` can be taken as this bound of the history -/
def opsBound (ops : List Op) : Nat := ops.foldr (fun o m => max (opBound o) m) 0

theorem fsupp_parentProp (M : Nat) : ParentProp (fun a => actBound a ≤ M) (FSupp M) where
  mono s h := fun c p e => h c p (s c p e)
  add {f f' c p} ha _ hpar h := fun x q e => by
    rw [hpar] at e
    split at e
    · rename_i hx
      cases e; subst hx
      simp only [actBound] at ha
      omega
    · exact h x q e

theorem le_foldr_max {α : Type} (b : α → Nat) : ∀ {l : List α} {a : α}, a ∈ l → b a ≤ l.foldr (fun a m => max (b a) m) 0
  | c :: t, a, h => by
    simp only [List.foldr_cons]
    rcases List.mem_cons.mp h with rfl | h
    · exact Nat.le_max_left _ _
    · exact Nat.le_trans (le_foldr_max b h) (Nat.le_max_right _ _)

theorem opOK_of_bound {M : Nat} {o : Op} (h : opBound o ≤ M) : opOK (fun a => actBound a ≤ M) o := by
  cases o with
  | attach c p => exact h
  | script g c acts => exact fun a ha => Nat.le_trans (le_foldr_max actBound ha) h
  | _ => trivial

end Muscle.Pulse
