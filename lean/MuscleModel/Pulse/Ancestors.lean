import MuscleModel.Pulse.Lift

/-!
The vocabulary of the parent relation: `Desc f r x` (`x` is `r` or below `r`; the ancestor comes first), what is kept when parent
pointers only disappear (`ParSub`) or stay (`SameParents`), the call stack of a sweep as a chain of parent pointers ending in a root
(`Chain`), and finite height (`Height`).
-/

namespace Muscle.Pulse

variable {f f' : Forest}

inductive Desc (f : Forest) (r : Nat) : Nat → Prop
  | refl : Desc f r r
  | step (p c : Nat) : Desc f r p → (f c).parent = some p → Desc f r c

variable {r a b x z : Nat}

theorem desc_trans (h1 : Desc f r a) (h2 : Desc f a x) : Desc f r x := by
  induction h2 with
  | refl => exact h1
  | step p c _ hc ih => exact Desc.step p c ih hc

theorem desc_inv (h : Desc f r x) : x = r ∨ ∃ p, Desc f r p ∧ (f x).parent = some p := by
  cases h with
  | refl => exact Or.inl rfl
  | step p _ hp hc => exact Or.inr ⟨p, hp, hc⟩

def ParSub (f f' : Forest) : Prop := ∀ c p, (f' c).parent = some p → (f c).parent = some p

theorem ParSub.pre : ReflTrans ParSub := ⟨fun _ _ _ h => h, fun a b c p e => a c p (b c p e)⟩

def SameParents (f f' : Forest) : Prop := ∀ x, (f' x).parent = (f x).parent

theorem parSub_of_eq (h : SameParents f f') : ParSub f f' := fun c _ e => h c ▸ e

theorem SameParents.pre : ReflTrans SameParents := ⟨fun _ _ => rfl, fun a b x => (b x).trans (a x)⟩

theorem desc_parSub (s : ParSub f f') (h : Desc f' r x) : Desc f r x := by
  induction h with
  | refl => exact Desc.refl
  | step p c _ hc ih => exact Desc.step p c ih (s c p hc)

theorem desc_congr (hp : SameParents f f') (h : Desc f r x) : Desc f' r x :=
  desc_parSub (parSub_of_eq fun z => (hp z).symm) h

theorem desc_first (h : Desc f r x) : x = r ∨ ∃ c, (f c).parent = some r ∧ Desc f c x := by
  induction h with
  | refl => exact Or.inl rfl
  | step p c _ hc ih =>
    rcases ih with rfl | ⟨c0, h0, hd⟩
    · exact Or.inr ⟨c, hc, Desc.refl⟩
    · exact Or.inr ⟨c0, h0, Desc.step p c hd hc⟩

theorem desc_linear (h1 : Desc f a z) (h2 : Desc f b z) : Desc f a b ∨ Desc f b a := by
  induction h1 generalizing b with
  | refl => exact Or.inr h2
  | step p c hp hc ih =>
    rcases desc_inv h2 with rfl | ⟨p', hp', hc'⟩
    · exact Or.inl (Desc.step p c hp hc)
    · rw [hc] at hc'; cases hc'
      exact ih hp'

/-- the call stack of a sweep: every node is a child of the next one, the bottom one is a root -/
def Chain (f : Forest) : List Nat → Prop
  | [] => True
  | [a] => (f a).parent = none
  | a :: b :: r => (f a).parent = some b ∧ Chain f (b :: r)

theorem chain_congr : ∀ {l : List Nat}, (∀ y ∈ l, (f' y).parent = (f y).parent) → Chain f l → Chain f' l
  | [], _, _ => trivial
  | [a], hp, hc => (hp a (by simp)).trans hc
  | a :: b :: r, hp, hc =>
    ⟨(hp a (by simp)).trans hc.1, chain_congr (fun y hy => hp y (List.mem_cons_of_mem _ hy)) hc.2⟩

theorem chain_parent : ∀ {a : Nat} {r : List Nat}, Chain f (a :: r) →
    ∀ {y z : Nat}, y ∈ a :: r → (f y).parent = some z → z ∈ r
  | a, [], hc, y, z, hy, hz => by
    have : y = a := by simpa using hy
    subst this; rw [show (f y).parent = none from hc] at hz; cases hz
  | a, b :: r', hc, y, z, hy, hz => by
    rcases List.mem_cons.mp hy with rfl | hy
    · rw [hc.1] at hz; cases hz; simp
    · exact List.mem_cons_of_mem _ (chain_parent hc.2 hy hz)

theorem child_not_on_stack {n c : Nat} {S : List Nat} (hch : Chain f (n :: S)) (hnd : (n :: S).Nodup)
    (hc : (f c).parent = some n) : c ∉ n :: S :=
  fun hm => (List.nodup_cons.mp hnd).1 (chain_parent hch hm hc)

theorem chain_anc {n : Nat} {S : List Nat} (hc : Chain f (n :: S)) {a y : Nat} (h : Desc f a y) :
    y ∈ n :: S → a ∈ n :: S := by
  induction h with
  | refl => exact id
  | step p y' _ hpar ih => exact fun hy => ih (List.mem_cons_of_mem _ (chain_parent hc hy hpar))

theorem chain_desc {r : Nat} : ∀ {S : List Nat}, Chain f S → S.getLast? = some r → ∀ y ∈ S, Desc f r y
  | [a], _, hl, y, hy => by
    cases hl; rw [List.mem_singleton.mp hy]; exact Desc.refl
  | a :: b :: t, hc, hl, y, hy => by
    have hb := chain_desc hc.2 (by simpa using hl)
    rcases List.mem_cons.mp hy with rfl | hy
    · exact Desc.step b y (hb b (by simp)) hc.1
    · exact hb y hy

/-- the parent relation has finite height: a function that strictly decreases from parent to child -/
def Height (f : Forest) : Prop := ∃ ht : Nat → Nat, ∀ c p, (f c).parent = some p → ht c < ht p

end Muscle.Pulse
