import MuscleModel.Pulse.Insert

/-!
Two groups of fields never meet: the list maintenance (`ReschedulePulseChild`) touches `_curList` and the child lists only
(`SameScalars`), the assignments made by the public operations touch `_parent`, `_myScheduledTime(Valid)` and
`_aggregatePulseTime` only (`SameLists`).  `Tree.lean` follows the C++ statement by statement, so the same expressions occur
inline in several operations; the `_eq` / `_succ` lemmas at the end rewrite each operation once through `half` and `flagUp`.

Words: a node's request *stands* while `_myScheduledTimeValid` is set; a child is *filed* when it is in its parent's SCHEDULED
or UNSCHEDULED list (`Filed`, `Inv.lean`), as opposed to waiting in NEEDSRECALC.

Argument order: `resched never d f p c w`, `removeChild … p c` and `putChild … p c` take the PARENT first (they are member
functions of the parent); `Act.attach c p`, `Op.attach c p` and `isAnc d f c p` take the CHILD first (the harness syntax).
-/

namespace Muscle.Pulse

variable {never d : Nat} {f f' : Forest} {p c n x : Nat}

@[simp] theorem list_sched (n : Node) : n.list .sched = n.sched := rfl
@[simp] theorem list_unsched (n : Node) : n.list .unsched = n.unsched := rfl
@[simp] theorem list_recalc (n : Node) : n.list .recalc = n.recalc := rfl

theorem list_setList (n : Node) (w l' : Which) (l : List Nat) :
    (n.setList w l).list l' = if l' = w then l else n.list l' := by
  cases w <;> cases l' <;> simp [Node.setList, Node.list]

@[simp] theorem cur_setList (n : Node) (w : Which) (l : List Nat) : (n.setList w l).cur = n.cur := by cases w <;> rfl
@[simp] theorem parent_setList (n : Node) (w : Which) (l : List Nat) : (n.setList w l).parent = n.parent := by cases w <;> rfl
@[simp] theorem valid_setList (n : Node) (w : Which) (l : List Nat) : (n.setList w l).valid = n.valid := by cases w <;> rfl
@[simp] theorem myTime_setList (n : Node) (w : Which) (l : List Nat) : (n.setList w l).myTime = n.myTime := by cases w <;> rfl
@[simp] theorem agg_setList (n : Node) (w : Which) (l : List Nat) : (n.setList w l).agg = n.agg := by cases w <;> rfl

@[simp] theorem upd_self (f : Forest) (n : Nat) (v : Node) : upd f n v n = v := if_pos rfl
theorem upd_ne (f : Forest) (v : Node) (h : x ≠ n) : upd f n v x = f x := if_neg h

def SameScalars (f f' : Forest) : Prop :=
  ∀ i, (f' i).valid = (f i).valid ∧ (f' i).myTime = (f i).myTime ∧ (f' i).agg = (f i).agg ∧ (f' i).parent = (f i).parent

namespace SameScalars
variable {g h : Forest}
theorem refl (f : Forest) : SameScalars f f := fun _ => ⟨rfl, rfl, rfl, rfl⟩
theorem trans (a : SameScalars f g) (b : SameScalars g h) : SameScalars f h := fun i =>
  ⟨(b i).1.trans (a i).1, (b i).2.1.trans (a i).2.1, (b i).2.2.1.trans (a i).2.2.1, (b i).2.2.2.trans (a i).2.2.2⟩
theorem valid (s : SameScalars f f') (i : Nat) : (f' i).valid = (f i).valid := (s i).1
theorem myTime (s : SameScalars f f') (i : Nat) : (f' i).myTime = (f i).myTime := (s i).2.1
theorem agg (s : SameScalars f f') (i : Nat) : (f' i).agg = (f i).agg := (s i).2.2.1
theorem parent (s : SameScalars f f') (i : Nat) : (f' i).parent = (f i).parent := (s i).2.2.2
theorem aggFun (s : SameScalars f f') : (fun i => (f' i).agg) = fun i => (f i).agg := funext s.agg
theorem symm (s : SameScalars f f') : SameScalars f' f := fun i =>
  ⟨(s.valid i).symm, (s.myTime i).symm, (s.agg i).symm, (s.parent i).symm⟩
end SameScalars

def SameLists (f f' : Forest) : Prop := ∀ x, (f' x).cur = (f x).cur ∧ ∀ l, (f' x).list l = (f x).list l

namespace SameLists
theorem cur (s : SameLists f f') (x : Nat) : (f' x).cur = (f x).cur := (s x).1
theorem list (s : SameLists f f') (x : Nat) (l : Which) : (f' x).list l = (f x).list l := (s x).2 l
theorem sched (s : SameLists f f') (x : Nat) : (f' x).sched = (f x).sched := s.list x .sched
theorem recalc (s : SameLists f f') (x : Nat) : (f' x).recalc = (f x).recalc := s.list x .recalc
end SameLists

theorem sameLists_upd (f : Forest) (n : Nat) (nd : Node) (hc : nd.cur = (f n).cur) (hs : nd.sched = (f n).sched)
    (hu : nd.unsched = (f n).unsched) (hr : nd.recalc = (f n).recalc) : SameLists f (upd f n nd) := by
  intro x
  by_cases hx : x = n
  · subst hx; exact ⟨by simpa using hc, fun l => by cases l <;> simpa⟩
  · simp [upd_ne f nd hx]

theorem parent_upd (f : Forest) (n : Nat) (nd : Node) (h : nd.parent = (f n).parent) (z : Nat) :
    (upd f n nd z).parent = (f z).parent := by
  by_cases hz : z = n
  · subst hz; simpa using h
  · rw [upd_ne _ _ hz]

theorem parent_scalars (f : Forest) (n : Nat) (v : Bool) (t a : Nat) (z : Nat) :
    (upd f n { (f n) with valid := v, myTime := t, agg := a } z).parent = (f z).parent :=
  parent_upd f n { (f n) with valid := v, myTime := t, agg := a } rfl z

theorem sameLists_scalars (f : Forest) (n : Nat) (v : Bool) (t a : Nat) :
    SameLists f (upd f n { (f n) with valid := v, myTime := t, agg := a }) := sameLists_upd f n _ rfl rfl rfl rfl

theorem setAgg_fields (f : Forest) (n a x : Nat) :
    (upd f n { (f n) with agg := a } x).parent = (f x).parent ∧ (upd f n { (f n) with agg := a } x).valid = (f x).valid ∧
    (upd f n { (f n) with agg := a } x).myTime = (f x).myTime ∧
    (upd f n { (f n) with agg := a } x).agg = (if x = n then a else (f x).agg) := by
  by_cases hx : x = n
  · subst hx; simp
  · simp [upd_ne _ _ hx, hx]

theorem sameScalars_setL (f : Forest) (p : Nat) (w : Which) (l : List Nat) : SameScalars f (setL f p w l) := by
  intro i
  unfold setL upd
  split <;> simp [*]

theorem cur_setL (f : Forest) (p : Nat) (w : Which) (l : List Nat) (q : Nat) : (setL f p w l q).cur = (f q).cur := by
  unfold setL upd
  split <;> simp [*]

theorem list_setL (f : Forest) (p : Nat) (w : Which) (l : List Nat) (q : Nat) (l' : Which) :
    (setL f p w l q).list l' = if q = p ∧ l' = w then l else (f q).list l' := by
  unfold setL upd
  by_cases h : q = p
  · subst h; simp [list_setList]
  · simp [h]

theorem sameScalars_unlink (f : Forest) (p c : Nat) : SameScalars f (unlink f p c) := by
  unfold unlink
  split
  · exact sameScalars_setL f p _ _
  · exact SameScalars.refl f

theorem cur_unlink (f : Forest) (p c q : Nat) : (unlink f p c q).cur = (f q).cur := by
  unfold unlink
  cases (f c).cur with
  | none => rfl
  | some l => exact cur_setL f p _ _ q

theorem list_unlink (f : Forest) (p c q : Nat) (l' : Which) :
    (unlink f p c q).list l' = if q = p ∧ (f c).cur = some l' then ((f p).list l').erase c else (f q).list l' := by
  unfold unlink
  cases hl : (f c).cur with
  | none => simp
  | some l =>
    show (setL f p l _ q).list l' = _
    rw [list_setL]
    by_cases h : l' = l
    · subst h; simp
    · simp [h, Ne.symm h]

theorem sameScalars_setCur (f : Forest) (c : Nat) (w : Option Which) : SameScalars f (setCur f c w) := by
  intro i
  unfold setCur upd
  split <;> simp [*]

theorem cur_setCur (f : Forest) (c : Nat) (w : Option Which) (q : Nat) :
    (setCur f c w q).cur = if q = c then w else (f q).cur := by
  unfold setCur upd
  split <;> simp [*]

theorem list_setCur (f : Forest) (c : Nat) (w : Option Which) (q : Nat) (l' : Which) :
    (setCur f c w q).list l' = (f q).list l' := by
  unfold setCur upd
  split <;> (cases l' <;> simp [*, Node.list])

/-- the state after the first half of `ReschedulePulseChild`: child unlinked, `_curList` set -/
def half (f : Forest) (p c : Nat) (w : Option Which) : Forest := setCur (unlink f p c) c w

theorem half_scalars (f : Forest) (p c : Nat) (w : Option Which) : SameScalars f (half f p c w) :=
  (sameScalars_unlink f p c).trans (sameScalars_setCur _ c w)

theorem half_cur (f : Forest) (p c : Nat) (w : Option Which) (q : Nat) :
    (half f p c w q).cur = if q = c then w else (f q).cur := by
  unfold half; rw [cur_setCur, cur_unlink]

theorem half_list (f : Forest) (p c : Nat) (w : Option Which) (q : Nat) (l' : Which) :
    (half f p c w q).list l' = if q = p ∧ (f c).cur = some l' then ((f p).list l').erase c else (f q).list l' := by
  unfold half; rw [list_setCur, list_unlink]

theorem half_other (f : Forest) (w : Option Which) (hc : x ≠ c) (hp : x ≠ p) : half f p c w x = f x := by
  unfold half setCur unlink upd
  cases (f c).cur <;> simp [hc, hp]

theorem sameLists_orphan (f : Forest) (c : Nat) : SameLists f (orphan f c) := sameLists_upd f c _ rfl rfl rfl rfl

theorem sameLists_setParent (f : Forest) (c p : Nat) : SameLists f (setParent f c p) := sameLists_upd f c _ rfl rfl rfl rfl

theorem orphan_ne (f : Forest) (h : x ≠ c) : orphan f c x = f x := upd_ne f _ h

theorem orphan_self (f : Forest) (c : Nat) : orphan f c c = { (f c) with parent := none, valid := false } := upd_self ..

theorem parent_orphan (f : Forest) (c x : Nat) : (orphan f c x).parent = if x = c then none else (f x).parent := by
  unfold orphan upd; split <;> simp [*]

theorem parent_setParent (f : Forest) (c p x : Nat) : (setParent f c p x).parent = if x = c then some p else (f x).parent := by
  unfold setParent upd; split <;> simp [*]

/-- `if (_parent) _parent->ReschedulePulseChild(this, NEEDSRECALC)` -/
def flagUp (never d : Nat) (f : Forest) (n : Nat) : Option Forest :=
  match (f n).parent with
  | some p => resched never d f p n (some .recalc)
  | none => some f

theorem firstSchedAgg_nil (h : (f x).sched = []) : firstSchedAgg never f x = never := by
  rw [firstSchedAgg, h]

theorem firstSchedAgg_cons {t : List Nat} (h : (f x).sched = c :: t) : firstSchedAgg never f x = (f c).agg := by
  rw [firstSchedAgg, h]

theorem flagUp_child (hp : (f n).parent = some p) : flagUp never d f n = resched never d f p n (some .recalc) := by
  rw [flagUp, hp]

theorem flagUp_root (hp : (f n).parent = none) : flagUp never d f n = some f := by
  rw [flagUp, hp]

theorem flagUp_cases (h : flagUp never d f n = some f') :
    (∃ p, (f n).parent = some p ∧ resched never d f p n (some .recalc) = some f') ∨ ((f n).parent = none ∧ f' = f) := by
  cases hp : (f n).parent with
  | some p => rw [flagUp_child hp] at h; exact Or.inl ⟨p, rfl, h⟩
  | none => rw [flagUp_root hp] at h; cases h; exact Or.inr ⟨rfl, rfl⟩

theorem resched_none_succ (never d : Nat) (f : Forest) (p c : Nat) :
    resched never (d+1) f p c none = some (if (f c).cur = none then f else half f p c none) := by
  simp only [resched, half]
  cases (f c).cur <;> simp

theorem resched_sched_succ (never d : Nat) (f : Forest) (p c : Nat) :
    resched never (d+1) f p c (some .sched) = some (setL (half f p c (some .sched)) p .sched
      (insertSched (fun i => (half f p c (some .sched) i).agg) c (half f p c (some .sched) p).sched)) := by
  have : some Which.sched ≠ (f c).cur ∨ (f c).cur = some Which.sched := (Decidable.em _).symm.imp_left Ne.symm
  simp only [resched, half, this, if_true]

theorem resched_unsched_succ (never d : Nat) (f : Forest) (p c : Nat) :
    resched never (d+1) f p c (some .unsched) = some (if (f c).cur = some .unsched then f else
      setL (half f p c (some .unsched)) p .unsched (c :: (half f p c (some .unsched) p).unsched)) := by
  simp only [resched, half]
  by_cases h : (f c).cur = some .unsched <;> simp [h]
  intro e; exact absurd e.symm h

theorem resched_recalc_succ (never d : Nat) (f : Forest) (p c : Nat) :
    resched never (d+1) f p c (some .recalc) = if (f c).cur = some .recalc then some f else
      (flagUp never d (half f p c (some .recalc)) p).map fun f3 => setL f3 p .recalc (c :: (f3 p).recalc) := by
  by_cases h : (f c).cur = some .recalc
  · simp [resched, h]
  · have : some Which.recalc ≠ (f c).cur ∨ (f c).cur = some Which.sched := Or.inl (Ne.symm h)
    simp only [resched, half, flagUp, this, h, if_true, if_false]
    cases (setCur (unlink f p c) c (some Which.recalc) p).parent with
    | none => rfl
    | some g => simp only []; cases resched never d _ g p (some Which.recalc) <;> rfl

theorem resched_pos {w : Option Which} (h : resched never d f p c w = some f') : ∃ d', d = d' + 1 := by
  cases d with
  | zero => simp [resched] at h
  | succ d => exact ⟨d, rfl⟩

/-- `ins` puts the child at the front of UNSCHEDULED or in its place in SCHEDULED -/
theorem resched_file_some {t : Which} (ht : t ≠ .recalc) (hc : (f c).cur = some .recalc)
    (h : resched never d f p c (some t) = some f') :
    ∃ ins : List Nat → List Nat, (∀ l x, x ∈ ins l ↔ x = c ∨ x ∈ l) ∧ (∀ l, l.Nodup → c ∉ l → (ins l).Nodup) ∧
      f' = setL (half f p c (some t)) p t (ins ((half f p c (some t) p).list t)) := by
  obtain ⟨d, rfl⟩ := resched_pos h
  cases t with
  | recalc => exact absurd rfl ht
  | sched =>
    rw [resched_sched_succ] at h; cases h
    exact ⟨_, fun l x => mem_insertSched _ c x l, fun l => nodup_insertSched, rfl⟩
  | unsched =>
    rw [resched_unsched_succ, if_neg (by rw [hc]; simp)] at h; cases h
    exact ⟨(c :: ·), fun l x => List.mem_cons, fun l hl hn => List.nodup_cons.mpr ⟨hn, hl⟩, rfl⟩

theorem upd_upd (f : Forest) (n : Nat) (a b : Node) : upd (upd f n a) n b = upd f n b := by
  funext x; unfold upd; split <;> rfl

/-- the two assignments of `InvalidatePulseTime` as one -/
theorem invalidate_eq (never d : Nat) (f : Forest) (n : Nat) (clear : Bool) :
    invalidate never d f n clear =
      if (f n).valid then
        flagUp never d (upd f n { (f n) with valid := false, myTime := if clear then never else (f n).myTime }) n
      else some (if clear then upd f n { (f n) with myTime := never } else f) := by
  unfold invalidate flagUp
  by_cases hv : (f n).valid
  · cases clear <;> (simp [hv, upd_upd]; cases (f n).parent <;> rfl)
  · cases clear <;> simp [hv]

theorem removeChild_eq (never d : Nat) (f : Forest) (p c : Nat) :
    removeChild never d f p c =
      if (f c).parent = some p then
        (resched never d f p c none).bind fun f1 =>
          if (f p).sched.head? = some c then flagUp never d (orphan f1 c) p else some (orphan f1 c)
      else some f := by
  unfold removeChild flagUp
  split
  · cases resched never d f p c none <;> rfl
  · rfl

theorem putChild_eq (never d : Nat) (f : Forest) (p c : Nat) :
    putChild never d f p c =
      (detach never d f c).bind fun f1 => resched never d (setParent f1 c p) p c (some .recalc) := by
  unfold putChild detach
  cases (f c).parent with
  | none => rfl
  | some q => simp only []; cases removeChild never d f q c <;> rfl

theorem clearChildren_eq (never d : Nat) (f : Forest) (p : Nat) :
    clearChildren never d f p =
      (removeAll never d p (f p).sched f).bind fun f1 => (removeAll never d p (f1 p).unsched f1).bind fun f2 =>
        removeAll never d p (f2 p).recalc f2 := by
  unfold clearChildren
  cases removeAll never d p (f p).sched f with
  | none => rfl
  | some f1 => simp only [Option.bind_some]; cases removeAll never d p (f1 p).unsched f1 <;> rfl

theorem destroy_eq (never d : Nat) (f : Forest) (n : Nat) :
    destroy never d f n =
      (detach never d f n).bind fun f1 => (clearChildren never d f1 n).map fun f2 => upd f2 n (Node.fresh never) := by
  unfold destroy
  cases detach never d f n with
  | none => rfl
  | some f1 => simp only [Option.bind_some]; cases clearChildren never d f1 n <;> rfl

theorem pulseFinish_eq (never d : Nat) (w : World) (n : Nat) :
    pulseFinish never d w n = (flagUp never d w.f n).map fun f' => { w with f := f' } := by
  unfold pulseFinish flagUp
  cases (w.f n).parent <;> rfl

end Muscle.Pulse
