import MuscleModel.Pulse.Lift

/-!
A non-root node without a standing request is flagged NEEDSRECALC (`V`) — at every step boundary.  `VRel f f'` is what a step
must do for that (`VEx.step`): every node that is left without a request and unflagged was so before.  A node that has fired is
flagged only when its `PulseAux` returns; that is handled per node (`VStep`, `flagUp_vstep`, `PulseKeeps.of_induct`), and the
exception set of `VEx` is only ever empty.
-/

namespace Muscle.Pulse

variable {never d : Nat} {f g f' : Forest} {n x : Nat}

/-- `V` for "valid or flagged" -/
def VEx (X : Nat → Prop) (f : Forest) : Prop :=
  ∀ x q, ¬ X x → (f x).parent = some q → (f x).valid = false → (f x).cur = some .recalc

abbrev V (f : Forest) : Prop := VEx (fun _ => False) f

theorem VEx.flagged {q : Nat} (v : V f) (hp : (f x).parent = some q) (hv : (f x).valid = false) :
    (f x).cur = some .recalc :=
  v x q id hp hv

def VStep (f f' : Forest) (x : Nat) : Prop :=
  ∀ q, (f' x).parent = some q → (f' x).valid = false →
    (f' x).cur = some .recalc ∨
    ((∃ q', (f x).parent = some q') ∧ (f x).valid = false ∧ ((f x).cur = some .recalc → (f' x).cur = some .recalc))

def VRel (f f' : Forest) : Prop := ∀ x, VStep f f' x

theorem VStep.of_eq (hp : (f' x).parent = (f x).parent) (hv : (f' x).valid = (f x).valid) (hc : (f' x).cur = (f x).cur) :
    VStep f f' x := fun q hq hvx => Or.inr ⟨⟨q, hp ▸ hq⟩, hv ▸ hvx, fun e => hc ▸ e⟩

theorem VStep.of_upd_ne (f : Forest) (nd : Node) (hx : x ≠ n) : VStep f (upd f n nd) x :=
  .of_eq (by rw [upd_ne _ _ hx]) (by rw [upd_ne _ _ hx]) (by rw [upd_ne _ _ hx])

theorem VStep.trans (a : VStep f g x) (b : VStep g f' x) : VStep f f' x := by
  intro q hp hv
  rcases b q hp hv with h1 | ⟨⟨q', hq'⟩, hv', hk'⟩
  · exact Or.inl h1
  · rcases a q' hq' hv' with h2 | ⟨hq, hv0, hk⟩
    · exact Or.inl (hk' h2)
    · exact Or.inr ⟨hq, hv0, fun e => hk' (hk e)⟩

theorem VRel.pre : ReflTrans VRel := ⟨fun _ _ => .of_eq rfl rfl rfl, fun a b x => (a x).trans (b x)⟩

theorem VEx.step {X : Nat → Prop} (v : VEx X f) (r : VRel f f') : VEx X f' := by
  intro x q hx hp hv
  rcases r x q hp hv with h | ⟨⟨q', hq'⟩, hv', hk⟩
  · exact h
  · exact hk (v x q' hx hq' hv')

theorem vrel_of_flagsOnly (s : SameScalars f f') (k : FlagsOnly f f') : VRel f f' :=
  fun x q hp hv => Or.inr ⟨⟨q, s.parent x ▸ hp⟩, s.valid x ▸ hv, k.keep⟩

theorem flagUp_vrel (h : flagUp never d f n = some f') : VRel f f' :=
  vrel_of_flagsOnly (flagUp_sameScalars h) (flagUp_flagsOnly h)

theorem upd_vrel (f : Forest) (n : Nat) (nd : Node) (h1 : nd.parent = (f n).parent) (h2 : nd.cur = (f n).cur)
    (h3 : nd.valid = false → (f n).valid = false) : VRel f (upd f n nd) := by
  intro x
  by_cases hx : x = n
  · subst hx
    exact fun q hp hv => Or.inr ⟨⟨q, by simpa [h1] using hp⟩, h3 (by simpa using hv), fun e => by simpa [h2] using e⟩
  · exact .of_upd_ne f nd hx

/-- after `flagUp` node `n` is a root or flagged -/
theorem flagUp_vstep (h : flagUp never d f n = some f') : VStep g f' n := by
  intro q hq _
  rcases flagUp_self h with e | e
  · exact Or.inl e
  · rw [e] at hq; cases hq

theorem vrel_opRel (never : Nat) : OpRel never VRel where
  toReflTrans := VRel.pre
  on_invalidate {_ f n clear _} _ h := by
    rw [invalidate_eq] at h
    split at h
    · -- the request is withdrawn: the node itself is flagged by the reschedule (or is a root)
      intro x
      by_cases hx : x = n
      · subst hx; exact flagUp_vstep h
      · exact (VStep.of_upd_ne f _ hx).trans (flagUp_vrel h x)
    · cases h
      split
      · exact upd_vrel f n _ rfl rfl id
      · exact VRel.pre.refl f
  on_removeChild {d f p c _} _ h := by
    rw [removeChild_eq] at h
    split at h
    · obtain ⟨f1, h1, h⟩ := Option.bind_eq_some_iff.mp h
      -- `ReschedulePulseChild(child, -1)` touches the `_curList` of the child only; the child then becomes a root
      have r2 : VRel f (orphan f1 c) := by
        intro x
        by_cases hx : x = c
        · subst hx; exact fun q hq => by simp [orphan] at hq
        · have s1 := resched_sameScalars h1
          refine .of_eq ?_ ?_ ?_ <;> rw [orphan, upd_ne _ _ hx]
          · exact s1.parent x
          · exact s1.valid x
          · exact resched_cur_ne (by simp) h1 hx
      split at h
      · exact VRel.pre.trans r2 (flagUp_vrel h)
      · cases h; exact r2
    · cases h; exact VRel.pre.refl f
  on_adopt {_ f p c _} _ _ h := by
    -- the child gets its parent and is flagged NEEDSRECALC
    intro x
    by_cases hx : x = c
    · subst hx; exact fun _ _ _ => Or.inl (resched_cur_self h)
    · exact (VStep.of_upd_ne f _ hx).trans (vrel_of_flagsOnly (resched_sameScalars h) (resched_recalc_flagsOnly h) x)

theorem destroy_vrel (h : destroy never d f n = some f') : VRel f f' :=
  (vrel_opRel never).on_destroy (fun f n hr x => by
    by_cases hx : x = n
    · subst hx; exact fun q hq => by simp [Node.fresh] at hq
    · exact .of_upd_ne f _ hx) h

/-- a node that fires loses its request, and is flagged when its `PulseAux` returns -/
theorem pulse_vrel (now k : Nat) : PulseKeeps never d now k fun w w' => VRel w.f w'.f :=
  .of_induct (VRel.pre.comap World.f) (fun {w w1 w2 w' n} h1 r2 h3 => by
    obtain ⟨f', hf, rfl⟩ := pulseFinish_some h3
    intro x
    by_cases hx : x = n
    · subst hx; exact flagUp_vstep hf
    · refine VStep.trans ?_ ((r2 x).trans (flagUp_vrel hf x))
      split at h1
      · obtain ⟨v, hv, rfl⟩ := callP_some h1
        exact ((vrel_opRel never).on_runActs hv x).trans (.of_upd_ne v.f _ hx)
      · cases h1; exact VRel.pre.refl _ x) k

/-- a node `PulseAux` has visited and that still has a parent is flagged NEEDSRECALC: the next `GetPulseTimeAux` sweep asks it -/
theorem pulseAux_marks {k : Nat} {w w' : World} {n now q : Nat} (h : pulseAux never d k w n now = some w')
    (hq : (w'.f n).parent = some q) : (w'.f n).cur = some .recalc := by
  cases k with
  | zero => simp [pulseAux] at h
  | succ k =>
    obtain ⟨_, w2, _, _, h3⟩ := pulseAux_some.mp h
    obtain ⟨f', hf, rfl⟩ := pulseFinish_some h3
    exact (flagUp_self hf).elim id fun e => by rw [e] at hq; cases hq

theorem callG_vrel {w w' : World} {now : Nat} (h : callG never d w n now = some w') : VRel w.f w'.f := by
  obtain ⟨w2, h2, rfl⟩ := callG_some h
  have r1 : VRel w.f (upd w.f n { (w.f n) with valid := true }) := upd_vrel w.f n _ rfl rfl (fun e => Bool.noConfusion e)
  have r3 : VRel w2.f (upd w2.f n { (w2.f n) with myTime := w2.req n }) := upd_vrel w2.f n _ rfl rfl id
  exact VRel.pre.trans (VRel.pre.trans r1 ((vrel_opRel never).on_runActs h2)) r3

theorem gptFinish_vrel {w w' : World} {mn mn' : Nat} (h : gptFinish never d w n mn = some (w', mn'))
    (hv : (w.f n).valid = true) : VRel w.f w'.f := by
  intro x
  have o := gptFinish_fields h x
  by_cases hx : x = n
  · subst hx; exact fun q _ hvx => by rw [o.valid, hv] at hvx; cases hvx
  · exact .of_eq o.parent o.valid (o.cur hx)

end Muscle.Pulse
