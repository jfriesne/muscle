import MuscleModel.Pulse.Discipline
import MuscleModel.Pulse.Quiet

/-!
# Exactness of the reported wake-up time for sweeps whose `GetPulseTime` callbacks only answer (and possibly change requests)

With quiet scripts the verdict of the sweep is always positive.  `min` is only ever lowered to the aggregate of a node that has
just been filed, and a filed node whose request stands keeps its aggregate for the rest of the sweep (`KeepsFiled`); so the reported
time is `never`, or the aggregate of a filed node below the root, hence the root's aggregate — which is attained by a stored time
because the parent relation has finite height.
-/

namespace Muscle.Pulse

variable {never d : Nat}

theorem gpt_quiet (now k : Nat) : GptKeeps never d now k fun w w' => GQuiet w → GQuiet w' ∧ SameParents w.f w'.f :=
  .of_steps ((SameParents.pre.comap World.f).guard GQuiet)
    (fun {w w' n} _ h hq => by
      obtain ⟨⟨t, e⟩, q⟩ := callG_quiet hq h
      exact ⟨q, fun z => e ▸ parent_scalars w.f n _ _ _ z⟩)
    (fun h hq => ⟨fun n => (gptFinish_frame h).2.1 ▸ hq n, fun z => (gptFinish_fields h z).parent⟩) k

theorem callGC_of_quiet {stk : List Nat} {w w' : World} {n now : Nat} (hq : GQuiet w)
    (h : callG never d w n now = some w') : callGC never d stk w n now = some (w', true) := by
  rw [callGC_eq, h]
  have : ((w.gq n).headD []).all (actOK stk) = true :=
    List.all_eq_true.mpr fun a ha => by rw [actOK, all_head (hq n) a ha]
  simp only [Option.map_some, this]

theorem gptC_of_quiet : ∀ (k : Nat),
    (∀ {w w' : World} {n now mn m : Nat} (stk : List Nat), GQuiet w → gptAux never d k w n now mn = some (w', m) →
      gptAuxC never d k w n now mn stk = some (w', m, true)) ∧
    (∀ {w w' : World} {n now mn m : Nat} (stk : List Nat), GQuiet w → gptLoop never d k w n now mn = some (w', m) →
      gptLoopC never d k w n now mn stk = some (w', m, true))
  | 0 => ⟨fun _ _ h => by simp [gptAux] at h, fun _ _ h => by simp [gptLoop] at h⟩
  | k+1 => by
    have ih := gptC_of_quiet k
    refine ⟨fun {w w' n now mn m} stk hq h => ?_, fun {w w' n now mn m} stk hq h => ?_⟩
    · obtain ⟨w1, w2, m2, h1, h2, hr⟩ := gptAux_some.mp h
      have s1 : (if (w.f n).valid = true then some (w, true) else callGC never d (n :: stk) w n now) = some (w1, true) ∧
          GQuiet w1 := by
        by_cases hv : (w.f n).valid = true
        · rw [if_pos hv] at h1 ⊢; cases h1; exact ⟨rfl, hq⟩
        · rw [if_neg hv] at h1 ⊢; exact ⟨callGC_of_quiet hq h1, (callG_quiet hq h1).2⟩
      have q2 := ((gpt_quiet now k).loop h2 s1.2).1
      refine gptAuxC_some.mpr ⟨w1, true, w2, m2, true, true, s1.1, ih.2 (n :: stk) s1.2 h2, rfl, ?_⟩
      rcases hr with ⟨hv2, hf⟩ | ⟨hv2, w3, w4, m4, h3, h4, hf⟩
      · exact Or.inl ⟨hv2, hf, rfl⟩
      · exact Or.inr ⟨hv2, w3, true, w4, m4, true, callGC_of_quiet q2 h3, ih.2 (n :: stk) (callG_quiet q2 h3).2 h4, hf, rfl⟩
    · rcases gptLoop_some.mp h with ⟨he, rfl, rfl⟩ | ⟨c, t, w1, mn1, he, h1, h2⟩
      · exact gptLoopC_some.mpr (Or.inl ⟨he, rfl, rfl, rfl⟩)
      · exact gptLoopC_some.mpr (Or.inr ⟨c, t, w1, mn1, true, true, he, ih.1 stk hq h1,
          ih.2 stk ((gpt_quiet now k).aux h1 hq).1 h2, rfl⟩)

theorem managerGptC_of_quiet {k : Nat} {w w' : World} {root now m : Nat} (hq : GQuiet w)
    (h : managerGpt never d k w root now = some (w', m)) : managerGptC never d k w root now = some (w', m, true) :=
  (gptC_of_quiet k).1 [] hq h

/-- a filed node whose request stands keeps both, and its aggregate -/
def KeepsFiled (f f' : Forest) : Prop :=
  ∀ x, Filed f x → (f x).valid = true → Filed f' x ∧ (f' x).valid = true ∧ (f' x).agg = (f x).agg

theorem KeepsFiled.pre : ReflTrans KeepsFiled where
  refl _ _ h1 h2 := ⟨h1, h2, rfl⟩
  trans a b x h1 h2 := by
    obtain ⟨a1, a2, a3⟩ := a x h1 h2
    obtain ⟨b1, b2, b3⟩ := b x a1 a2
    exact ⟨b1, b2, b3.trans a3⟩

/-- the filing step keeps every filed node whose request stands as it is (a filed valid node that is finished again gets the
    aggregate it already has, by the invariant, and is not re-filed) -/
theorem gptFinish_keepsFiled {w w' : World} {n mn mn' : Nat} (h : gptFinish never d w n mn = some (w', mn'))
    (hi : Inv never w.f) : KeepsFiled w.f w'.f := by
  intro x hf hvx
  have o := gptFinish_fields h x
  by_cases hx : x = n
  · subst hx
    have hagg : newAgg never w.f x = (w.f x).agg := by
      rw [newAgg, hvx]; exact ((hi.aok x hf).eq_min hvx).symm
    refine ⟨(filed_congr o.parent ?_).mpr hf, o.valid.trans hvx, by rw [o.agg, if_pos rfl, hagg]⟩
    obtain ⟨f4, rfl, _, hcase⟩ := gptFinish_some h
    rcases hcase with ⟨_, rfl⟩ | ⟨p, _, hc, _⟩
    · simp
    · exact absurd hc (fun e => e.elim hf.cur_ne_recalc (fun e => e hagg))
  · exact ⟨(filed_congr o.parent (o.cur hx)).mpr hf, o.valid.trans hvx, by rw [o.agg, if_neg hx]⟩

theorem gptFinish_files {w w' : World} {n mn mn' p : Nat} (h : gptFinish never d w n mn = some (w', mn'))
    (hp : (w.f n).parent = some p) (hc : (w.f n).cur = some .recalc) : Filed w'.f n := by
  refine ⟨⟨p, (gptFinish_fields h n).parent.trans hp⟩, ?_⟩
  obtain ⟨f4, rfl, _, hcase⟩ := gptFinish_some h
  rcases hcase with ⟨hno, _⟩ | ⟨q, _, _, h4⟩
  · exact absurd (Or.inl hc) (hno.elim (fun e => by rw [hp] at e; cases e) id)
  · obtain ⟨ins, _, _, rfl⟩ := resched_file_some (by split <;> decide) (by simpa using hc) h4
    show (setL _ _ _ _ n).cur = _ ∨ (setL _ _ _ _ n).cur = _
    rw [cur_setL, half_cur, if_pos rfl]
    split <;> simp

/-- what a part of a quiet sweep from root `r` does to (state, `min` so far): parents stay, a filed node whose request stands
    stays as it is, and `min` is what it was or the aggregate of such a node below `r` -/
def QuietMin (r : Nat) (a b : World × Nat) : Prop :=
  GQuiet a.1 → GQuiet b.1 ∧ SameParents a.1.f b.1.f ∧ KeepsFiled a.1.f b.1.f ∧ (b.2 = a.2 ∨
    ∃ x, Desc b.1.f r x ∧ Filed b.1.f x ∧ (b.1.f x).valid = true ∧ (b.1.f x).agg = b.2)

/-- a source survives the next step because that step keeps filed nodes -/
theorem QuietMin.pre (r : Nat) : ReflTrans (QuietMin r) where
  refl _ hq := ⟨hq, fun _ => rfl, KeepsFiled.pre.refl _, Or.inl rfl⟩
  trans {a b c} h1 h2 hq := by
    obtain ⟨q1, p1, f1, j1⟩ := h1 hq
    obtain ⟨q2, p2, f2, j2⟩ := h2 q1
    refine ⟨q2, SameParents.pre.trans p1 p2, KeepsFiled.pre.trans f1 f2, ?_⟩
    rcases j2 with e2 | s2
    · rcases j1 with e1 | ⟨x, hx1, hx2, hx3, hx4⟩
      · exact Or.inl (e2.trans e1)
      · obtain ⟨g1, g2, g3⟩ := f2 x hx2 hx3
        exact Or.inr ⟨x, desc_congr p2 hx1, g1, g2, by rw [g3, hx4, e2]⟩
    · exact Or.inr s2

/-- the callback of a node without a standing request changes no filed node with a request -/
theorem callG_quietMin {r : Nat} {w w' : World} {n now mn : Nat} (hv : (w.f n).valid = false)
    (hg : callG never d w n now = some w') : QuietMin r (w, mn) (w', mn) := fun hq => by
  obtain ⟨⟨t, e⟩, q1⟩ := callG_quiet hq hg
  refine ⟨q1, fun z => e ▸ parent_scalars w.f n _ _ _ z, fun x hf hvx => ?_, Or.inl rfl⟩
  have hxn : x ≠ n := fun e => by rw [e, hv] at hvx; cases hvx
  show Filed w'.f x ∧ _
  rw [Filed, e, upd_ne _ _ hxn]; exact ⟨hf, hvx, rfl⟩

theorem gptFinish_quietMin {r : Nat} {w w' : World} {c p mn mn' : Nat} {stk : List Nat}
    (hF : Frames never w.f (c :: p :: stk)) (hl : (c :: p :: stk).getLast? = some r) (hv : (w.f c).valid = true)
    (hf : gptFinish never d w c mn = some (w', mn')) : QuietMin r (w, mn) (w', mn') ∧ Filed w'.f c := by
  have par : SameParents w.f w'.f := fun z => (gptFinish_fields hf z).parent
  have hfc : Filed w'.f c :=
    gptFinish_files hf hF.chain.1 (hF.inv.1.unfiled_child hF.chain.1 (hF.unfiled c (by simp)))
  exact ⟨fun hq => ⟨fun n => (gptFinish_frame hf).2.1 ▸ hq n, par, gptFinish_keepsFiled hf hF.inv,
    (gptFinish_min hf).2.2.imp id fun e =>
      ⟨c, desc_congr par (chain_desc hF.chain hl c (by simp)), hfc, (gptFinish_fields hf c).valid.trans hv, e.symm⟩⟩, hfc⟩

theorem gptC_quietMin {r now k : Nat} {w w' : World} {n mn m : Nat} {stk : List Nat}
    (h : gptAuxC never d k w n now mn stk = some (w', m, true)) (hF : Frames never w.f (n :: stk))
    (hl : (n :: stk).getLast? = some r) :
    ∃ w2 m2, QuietMin r (w, mn) (w2, m2) ∧ Frames never w2.f (n :: stk) ∧ (w2.f n).recalc = [] ∧ (w2.f n).valid = true ∧
      gptFinish never d w2 n m2 = some (w', m) :=
  ((gptC_sweep (QuietMin.pre r) r now (fun hv hg => callG_quietMin hv hg)
    (fun hF hl hv hf => (gptFinish_quietMin hF hl hv hf).1) k).1 h hF hl).filing

/-- the same without the root: what the termination proof needs of a child's sweep -/
theorem gptC_quiet_child {now k : Nat} {w w' : World} {c p mn m : Nat} {stk : List Nat}
    (h : gptAuxC never d k w c now mn (p :: stk) = some (w', m, true)) (hF : Frames never w.f (c :: p :: stk)) (hq : GQuiet w) :
    GQuiet w' ∧ SameParents w.f w'.f ∧ KeepsFiled w.f w'.f ∧ Filed w'.f c := by
  have hl := List.getLast?_eq_some_getLast (l := c :: p :: stk) (by simp)
  obtain ⟨w2, m2, hQ, F2, _, hv2, hf⟩ := gptC_quietMin h hF hl
  obtain ⟨hQ2, hfc⟩ := gptFinish_quietMin F2 hl hv2 hf
  obtain ⟨q1, par1, fs1, _⟩ := (QuietMin.pre _).trans hQ hQ2 hq
  exact ⟨q1, par1, fs1, hfc⟩

theorem agg_attained {f : Forest} {root : Nat} (hi : Inv never f) (ht : Nat → Nat)
    (hht : ∀ c p, (f c).parent = some p → ht c < ht p)
    (hex : ∀ y, Desc f root y → (f y).agg = min (f y).myTime (firstSchedAgg never f y)) :
    ∀ (h x : Nat), ht x = h → Desc f root x → (f x).agg = never ∨ ∃ y, Desc f x y ∧ (f y).myTime = (f x).agg := by
  intro h
  induction h using Nat.strongRecOn with
  | _ h ih =>
    intro x hx hd
    have he := hex x hd
    by_cases hle : (f x).myTime ≤ firstSchedAgg never f x
    · exact Or.inr ⟨x, Desc.refl, by rw [he]; exact (Nat.min_eq_left hle).symm⟩
    · have he2 : (f x).agg = firstSchedAgg never f x := by rw [he]; exact Nat.min_eq_right (by omega)
      cases hs : (f x).sched with
      | nil => exact Or.inl (he2.trans (firstSchedAgg_nil hs))
      | cons c t =>
        rw [firstSchedAgg_cons hs] at he2
        have hpc : (f c).parent = some x := (hi.sound x c .sched (by rw [list_sched, hs]; simp)).1
        rcases ih (ht c) (hx ▸ hht c x hpc) c rfl (Desc.step x c hd hpc) with e | ⟨y, hy1, hy2⟩
        · exact Or.inl (he2.trans e)
        · exact Or.inr ⟨y, desc_trans (Desc.step x c Desc.refl hpc) hy1, hy2.trans he2.symm⟩

/-- exactness of the reported wake-up time: a sweep from a root whose `GetPulseTime` callbacks only answer and change requests -/
theorem managerGpt_exact {k : Nat} {w w' : World} {root now m : Nat}
    (h : managerGpt never d k w root now = some (w', m)) (hi : Inv never w.f) (hV : V w.f) (hq : GQuiet w)
    (hroot : (w.f root).parent = none) (hfin : Height w.f) :
    (∀ n, Desc w'.f root n → m ≤ (w'.f n).myTime) ∧
    (m = never ∨ ∃ n, Desc w'.f root n ∧ (w'.f n).myTime = m) := by
  obtain ⟨ht, hht⟩ := hfin
  have hC := managerGptC_of_quiet hq h
  have A := managerGptC_root hC hi hroot
  have hS := A.settled
  have hmle := A.le
  have hall := (managerGptC_reasks hC hi hV hroot).2
  have par := ((gpt_quiet now k).manager h hq).2
  refine ⟨fun n hn => Nat.le_trans hmle (hS.root_le hn).2, ?_⟩
  -- the reported time is `never` or the root's aggregate
  have hmr : m = never ∨ m = (w'.f root).agg := by
    obtain ⟨w2, m2, hQ, F2, _, _, hf⟩ := gptC_quietMin hC (Frames.root hi hroot) rfl
    obtain ⟨_, _, _, j⟩ := hQ hq
    rcases (gptFinish_min hf).2.2 with e | e
    · rcases j with e2 | ⟨x, hx1, hx2, hx3, hx4⟩
      · exact Or.inl (e.trans e2)
      · -- `x` keeps its aggregate through the root's filing, and the root's aggregate is at or below it
        have g3 := (gptFinish_keepsFiled hf F2.inv x hx2 hx3).2.2
        have hx4 : (w2.f x).agg = m2 := hx4
        have := (hS.root_le (desc_congr (fun z => (gptFinish_fields hf z).parent) hx1)).1
        exact Or.inr (by omega)
    · exact Or.inr e
  rcases hmr with e | e
  · exact Or.inl e
  · -- every node below the root has `agg = min(own time, first scheduled child)`: its request stands and it is filed (or the root)
    have hex : ∀ y, Desc w'.f root y → (w'.f y).agg = min (w'.f y).myTime (firstSchedAgg never w'.f y) := by
      intro y hy
      rcases (clean_below A.inv A.empty hy).2 with rfl | hf
      · exact A.agg
      · exact (A.inv.aok y hf).eq_min (hall y hy)
    rcases agg_attained A.inv ht (fun c p hp => hht c p ((par c).symm.trans hp)) hex (ht root) root rfl Desc.refl with
      e2 | ⟨y, hy1, hy2⟩
    · exact Or.inl (e.trans e2)
    · exact Or.inr ⟨y, hy1, hy2.trans e.symm⟩

end Muscle.Pulse
