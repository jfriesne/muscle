import MuscleModel.Tunnel.Frag
import MuscleModel.Tunnel.Net

/-!
# Specification vocabulary of C12 (used by the statements in `Props/C12.lean`)
-/

namespace Muscle.Tunnel
open Muscle

/-- What was sent: for each source and each 32-bit message id, at most ONE payload.  That `sent` is a
    *function* is exactly the hypothesis "message ids are distinct per source among the packets that can
    still be delivered" (fewer than 2^32 Messages of one source between a packet's emission and its last
    possible delivery).  With unbounded delay no finite id can give safety; this is where it is stated. -/
abbrev SentMap := Nat → Nat → Option Bytes

/-- a fragment that a sender really produced for the Message `sent src f.id`: its total size is the
    Message's size and its data are the Message's bytes at `[off, off+chunk)` -/
def Genuine (sent : SentMap) (src : Nat) (f : Frag) : Prop :=
  ∃ m, sent src f.id = some m ∧ f.total = m.length ∧ f.off + f.chunk ≤ m.length ∧
       f.data = (m.drop f.off).take f.chunk

/-- the reassembly state of source `src` is consistent with what was sent: it names a sent Message, and
    unless nothing has been accepted yet (`off = 0`) the buffer has that Message's size and its first
    `off` bytes are that Message's first `off` bytes -/
def RSInv (sent : SentMap) (src : Nat) (rs : RS) : Prop :=
  ∃ m, sent src rs.id = some m ∧
       (rs.off = 0 ∨ (rs.buf.length = m.length ∧ rs.off ≤ m.length ∧ rs.buf.take rs.off = m.take rs.off))

def TableInv (sent : SentMap) (t : Table) : Prop := ∀ src rs, (src, rs) ∈ t → RSInv sent src rs

/-- every fragment that the receiver `c` accepts out of the datagrams `pkts` is genuine -/
def AllGenuine (hdr : Nat) (c : RxCfg) (sent : SentMap) (pkts : List Datagram) : Prop :=
  ∀ src p, (src, p) ∈ pkts → ∀ f, f ∈ accepted hdr c p → Genuine sent src f

/-- the ids a sender starting at `id0` gives to the payloads `ms` (32-bit counter, wrapping) -/
def sentBy (id0 : Nat) (ms : List Bytes) : Nat → Option Bytes :=
  fun id => ms[(id + W32 - id0 % W32) % W32]?

/-- what one source's fragments do to that source's receive state, with no table around -/
def srcRun : Option RS → List Frag → Option RS × List Bytes
  | o, [] => (o, [])
  | o, f :: fs =>
    let r := srcStep o f
    let r2 := srcRun r.1 fs
    (r2.1, match r.2 with | some b => b :: r2.2 | none => r2.2)

/-- the fragment of payload `m` at `[off, off+n)` as a sender with `(magic, sex)` and counter `id` writes it -/
def fragOf (magic sex id off n : Nat) (m : Bytes) : Frag :=
  { magic := magic, sex := sex, id := id, off := off, chunk := n, total := m.length, data := (m.drop off).take n }

/-- an in-order, gap-free fragment stream for the queue `q`, starting inside its head at offset `off` with
    id counter `id`: every Message is cut into consecutive non-empty pieces (one empty piece for an empty
    payload), ids advance by one (mod 2^32) per Message.  WHERE the cuts fall is left open: every packing a
    sender may choose (any MTU) is covered. -/
inductive Stream (magic sex : Nat) : Nat → Nat → List Bytes → List Frag → Prop
  | nil (id : Nat) : Stream magic sex id 0 [] []
  | last {id off n : Nat} {m : Bytes} {q : List Bytes} {fs : List Frag} (h : off + n = m.length) :
      Stream magic sex (nextId id) 0 q fs → Stream magic sex id off (m :: q) (fragOf magic sex id off n m :: fs)
  | part {id off n : Nat} {m : Bytes} {q : List Bytes} {fs : List Frag} (h : off + n < m.length) (hn : 0 < n) :
      Stream magic sex id (off + n) (m :: q) fs → Stream magic sex id off (m :: q) (fragOf magic sex id off n m :: fs)

end Muscle.Tunnel
