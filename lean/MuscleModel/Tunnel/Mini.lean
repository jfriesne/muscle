import MuscleModel.Tunnel.Frag

/-!
# The mini packet tunnel (`iogateway/MiniPacketTunnelIOGateway.cpp`)

No fragmentation: a packet is a 3-word packet header

    magic, source-exclusion id, (compression level << 24) | packet id

followed by chunks `uint32 size, size bytes`, one per Message; a Message that cannot fit a packet of its
own is dropped by the sender.  With a compression level the chunk area is deflated as one independent
zlib block, and sent deflated only when that is shorter.  zlib is a parameter (`Codec`) with one law,
`inflate (deflate x) = x` (`Codec.Lawful` below), assumed where it is used.

* sender   = `MiniPacketTunnelIOGateway::DoOutputImplementation` → `miniLoop`, `miniEncPacket`, `miniSendAll`
* receiver = `MiniPacketTunnelIOGateway::DoInputImplementation`  → `parseChunks`, `miniRx`
-/

namespace Muscle.Tunnel
open Muscle Muscle.Gen

/-- `ZLibCodec::Deflate(…, independent = true, …)` and `ZLibCodec::Inflate`; `none` = the call failed -/
structure Codec where
  deflate : Nat → Bytes → Option Bytes
  inflate : Bytes → Option Bytes

/-- the only fact about zlib that is used -/
def Codec.Lawful (cd : Codec) : Prop := ∀ lvl b z, cd.deflate lvl b = some z → cd.inflate z = some b

/-- a codec that never succeeds in compressing (the driver's instance: the harness prints compressed
    packets in their inflated, canonical form) -/
def Codec.none : Codec := { deflate := fun _ _ => Option.none, inflate := fun _ => Option.none }

structure MiniTx where
  mtu : Nat
  magic : Nat
  sex : Nat
  level : Nat      -- `SetZLibCompressionLevel`, 0..9
  deriving Repr

/-- `_maxTransferUnit(muscleMax(maxTransferUnit, PACKET_HEADER_SIZE+CHUNK_HEADER_SIZE+1))` -/
def miniEffMtu (ph ch mtu : Nat) : Nat := max mtu (ph + ch + 1)

/-- `_sendPacketIDCounter = (_sendPacketIDCounter+1) % 16777216` (a `bits`-bit counter below the level byte) -/
def nextMiniId (bits id : Nat) : Nat := (id + 1) % 2 ^ bits

def encChunks : List Bytes → Bytes
  | [] => []
  | c :: r => le32 c.length ++ (c ++ encChunks r)

/-- `flat.GetNumBytesWritten()` for a packet under construction holding the chunks `cur` -/
def miniWritten (ph : Nat) (cur : List Bytes) : Nat :=
  if cur = [] then 0 else ph + (encChunks cur).length

/-- the two nested loops of `DoOutputImplementation`, run until the queue is empty, as one recursion over
    the queue.  `cur` = chunks already in `_outputPacketBuffer`; `id` = `_sendPacketIDCounter`.
    Per Message: too large for any packet ⇒ dropped; fits the current packet ⇒ appended; otherwise the
    inner loop `break`s, "Step 2" sends the packet, the counter advances and the Message opens the next
    packet (it fits: the first test failed).  Returns the packets `(id, chunks)` and the final counter. -/
def miniLoop (ph ch bits mtu : Nat) : List Bytes → Nat → List Bytes → List (Nat × List Bytes) × Nat
  | cur, id, [] => if cur = [] then ([], id) else ([(id, cur)], nextMiniId bits id)
  | cur, id, m :: q =>
    if ph + ch + m.length > mtu then miniLoop ph ch bits mtu cur id q
    else if miniWritten ph cur + (if miniWritten ph cur = 0 then ph else 0) + ch + m.length ≤ mtu then
      miniLoop ph ch bits mtu (cur ++ [m]) id q
    else
      let r := miniLoop ph ch bits mtu [m] (nextMiniId bits id) q
      ((id, cur) :: r.1, r.2)

/-- the packet header with the level byte -/
def miniHeader (bits magic sex level id : Nat) : Bytes :=
  le32 magic ++ (le32 sex ++ le32 (id + level * 2 ^ bits))

/-- "Step 2": the bytes handed to `Write`: deflated chunk area if a level is set, deflate succeeded and the
    result is shorter; otherwise the plain packet with level 0 in the header -/
def miniEncPacket (cd : Codec) (bits : Nat) (tx : MiniTx) (id : Nat) (chunks : List Bytes) : Bytes :=
  let body := encChunks chunks
  let plain := miniHeader bits tx.magic tx.sex 0 id ++ body
  if tx.level > 0 then
    match cd.deflate tx.level body with
    | some z => if z.length < body.length then miniHeader bits tx.magic tx.sex tx.level id ++ z else plain
    | none => plain
  else plain

def miniSendAll (cd : Codec) (ph ch bits : Nat) (tx : MiniTx) (id : Nat) (q : List Bytes) : List Bytes × Nat :=
  let r := miniLoop ph ch bits (miniEffMtu ph ch tx.mtu) [] id q
  (r.1.map (fun p => miniEncPacket cd bits tx p.1 p.2), r.2)

structure MiniRx where
  mtu : Nat
  magic : Nat
  sex : Nat
  misc : Bool
  deriving Repr

/-- the chunk loop: `while(avail >= CHUNK_HEADER_SIZE) {size = ReadInt32(); if (size <= avail) deliver else break}` -/
def parseChunks : Nat → Bytes → List Bytes
  | 0, _ => []
  | fuel+1, b =>
    match rd32 b with
    | none => []
    | some (n, b) => if n ≤ b.length then b.take n :: parseChunks fuel (b.drop n) else []

/-- one datagram through `MiniPacketTunnelIOGateway::DoInputImplementation`; the receiver keeps no state -/
def miniRx (cd : Codec) (ph ch bits : Nat) (c : MiniRx) (pkt : Bytes) : List Bytes :=
  let b := pkt.take (miniEffMtu ph ch c.mtu)
  if b.length = 0 then []
  else if c.misc && (b.length < ph || firstWord b ≠ c.magic) then [b]
  else if b.length < ph then []
  else
    match rd32 b with
    | none => []
    | some (magic, b1) =>
    match rd32 b1 with
    | none => []
    | some (sex, b2) =>
    match rd32 b2 with
    | none => []
    | some (clid, rest) =>
      if magic = c.magic && (c.sex = 0 || c.sex ≠ sex) then
        let level := (clid / 2 ^ bits) % 256
        let body := if level > 0 then (match cd.inflate rest with | some x => x | none => []) else rest
        parseChunks (body.length + 1) body
      else []

def miniRxAll (cd : Codec) (ph ch bits : Nat) (c : MiniRx) : List (Nat × Bytes) → List (Nat × Bytes)
  | [] => []
  | (src, p) :: ps => (miniRx cd ph ch bits c p).map (fun b => (src, b)) ++ miniRxAll cd ph ch bits c ps

end Muscle.Tunnel
