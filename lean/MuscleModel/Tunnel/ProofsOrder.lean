import MuscleModel.Tunnel.ProofsRx

/-! Lemmas for C12: an in-order fragment stream is delivered exactly — every payload once, in order; with a size
limit, exactly the payloads within the limit (`stream_delivers_spaced`, under the hypothesis `Spaced` that two
consecutive payloads within the limit have different ids; without a limit: `stream_delivers`). -/

namespace Muscle.Tunnel
open Muscle

/-- receiver and stream agree on where they are -/
def Sync (o : Option RS) (id off : Nat) (q : List Bytes) : Prop :=
  (off = 0 ∧ (o = none ∨ ∃ rs, o = some rs ∧ rs.id ≠ id)) ∨
  (0 < off ∧ ∃ rs m q', q = m :: q' ∧ o = some rs ∧ rs.id = id ∧ rs.off = off ∧ rs.buf.length = m.length ∧
     rs.buf.take off = m.take off)

/-- the `rs` is the state created, restarted, or the one that is there -/
theorem srcStep_sync (o : Option RS) (magic sex id off n : Nat) (m : Bytes) (q : List Bytes)
    (hs : Sync o id off (m :: q)) :
    ∃ rs : RS, rs.id = id ∧ rs.off = off ∧ rs.buf.length = m.length ∧ rs.buf.take off = m.take off ∧
      srcStep o (fragOf magic sex id off n m) =
        (some (rsStep rs (fragOf magic sex id off n m)).1, (rsStep rs (fragOf magic sex id off n m)).2) := by
  rcases hs with ⟨h0, hnone | ⟨rs, hsome, hne⟩⟩ | ⟨_, rs, m', q', hq, ho, hid, hoff, hlen, hpre⟩
  · subst h0 hnone
    exact ⟨{ id := id, off := 0, buf := List.replicate m.length 0 }, rfl, rfl, List.length_replicate, rfl, rfl⟩
  · subst h0 hsome
    refine ⟨{ id := id, off := 0, buf := resize rs.buf m.length }, rfl, rfl, resize_length _ _, rfl, ?_⟩
    simp only [srcStep]
    rw [rsStep_restart rs _ rfl (fun h => hne h.symm)]
    rfl
  · cases hq
    subst ho
    exact ⟨rs, hid, hoff, hlen, hpre, rfl⟩

theorem srcStep_piece (o : Option RS) (magic sex id off n : Nat) (m : Bytes) (q : List Bytes)
    (hs : Sync o id off (m :: q)) (hfit : off + n ≤ m.length) (hW : m.length < W32) :
    (off + n = m.length → ∃ rs', srcStep o (fragOf magic sex id off n m) = (some rs', some m) ∧ rs'.id = id) ∧
    (off + n ≠ m.length → 0 < n → ∃ rs', srcStep o (fragOf magic sex id off n m) = (some rs', none) ∧
        Sync (some rs') id (off + n) (m :: q)) := by
  obtain ⟨rs, hid, hoff, hlen, hpre, hstep⟩ := srcStep_sync o magic sex id off n m q hs
  subst hid hoff
  obtain ⟨hl, ht, hm⟩ := writeAt_piece rs.buf m rs.off n hlen hpre hfit
  have ha : rs.accepts (fragOf magic sex rs.id rs.off n m) :=
    ⟨rfl, hlen.symm, rfl, Nat.lt_of_le_of_lt hfit hW, Nat.le_trans hfit (Nat.le_of_eq hlen.symm)⟩
  rw [hstep]
  constructor
  · intro h
    rw [rsStep_last rs _ (fun h => h.2 rfl) ha (h.trans hlen.symm), fragOf_off, fragOf_data, hm h]
    exact ⟨_, rfl, rfl⟩
  · intro h hn
    rw [rsStep_part rs _ (fun h => h.2 rfl) ha (fun e => h (e.trans hlen))]
    exact ⟨_, rfl, Or.inr ⟨Nat.add_pos_right _ hn, _, m, q, rfl, rfl, rfl, rfl, hl, ht⟩⟩

/-! With a size limit the receiver never sees the pieces of an oversize payload, so its state keeps the id of the last
payload it did see.  What in-order delivery needs is that this id is not the id of the NEXT payload within the limit. -/

/-- `rid` is not the id of the first payload of the queue (ids counted from `id`) that is within the limit -/
def Ahead (maxIn rid : Nat) : Nat → List Bytes → Prop
  | _, [] => True
  | id, m :: q => if m.length ≤ maxIn then rid ≠ id else Ahead maxIn rid (nextId id) q

/-- no payload within the limit shares its id with the next one within the limit.  Sufficient, not necessary: fewer than
    2^32−1 oversize payloads between two that fit (the ids collide only when that number is ≡ 2^32−1 mod 2^32) -/
def Spaced (maxIn : Nat) : Nat → List Bytes → Prop
  | _, [] => True
  | id, m :: q => (m.length ≤ maxIn → Ahead maxIn id (nextId id) q) ∧ Spaced maxIn (nextId id) q

def Clear (maxIn : Nat) (o : Option RS) (id : Nat) (q : List Bytes) : Prop :=
  o = none ∨ ∃ rs, o = some rs ∧ Ahead maxIn rs.id id q

/-- `Sync` for a receiver with a size limit: `Clear` between payloads, and inside one of which no piece reaches the state -/
def SyncLim (maxIn : Nat) (o : Option RS) (id off : Nat) : List Bytes → Prop
  | [] => True
  | m :: q => if m.length ≤ maxIn ∧ 0 < off then Sync o id off (m :: q) else Clear maxIn o id (m :: q)

theorem syncLim_of_clear (maxIn : Nat) (o : Option RS) (id : Nat) (q : List Bytes) (h : Clear maxIn o id q) :
    SyncLim maxIn o id 0 q := by
  cases q with
  | nil => trivial
  | cons m q => simp only [SyncLim, Nat.lt_irrefl, and_false, if_false]; exact h

theorem clear_cons_fit {maxIn : Nat} {m : Bytes} (h : m.length ≤ maxIn) (o : Option RS) (id : Nat) (q : List Bytes) :
    Clear maxIn o id (m :: q) ↔ (o = none ∨ ∃ rs, o = some rs ∧ rs.id ≠ id) := by
  simp only [Clear, Ahead, h, if_true]

theorem clear_cons_over {maxIn : Nat} {m : Bytes} (h : ¬ m.length ≤ maxIn) (o : Option RS) (id : Nat) (q : List Bytes) :
    Clear maxIn o id (m :: q) ↔ Clear maxIn o (nextId id) q := by
  simp only [Clear, Ahead, h, if_false]

theorem syncLim_cons_in {maxIn : Nat} {m : Bytes} {off : Nat} (h : m.length ≤ maxIn) (hoff : 0 < off) (o : Option RS) (id : Nat)
    (q : List Bytes) : SyncLim maxIn o id off (m :: q) ↔ Sync o id off (m :: q) := by
  simp only [SyncLim, h, hoff, and_self, if_true]

theorem syncLim_cons_over {maxIn : Nat} {m : Bytes} (h : ¬ m.length ≤ maxIn) (o : Option RS) (id off : Nat) (q : List Bytes) :
    SyncLim maxIn o id off (m :: q) ↔ Clear maxIn o id (m :: q) := by
  simp only [SyncLim, h, false_and, if_false]

theorem sync_of_syncLim (maxIn : Nat) (o : Option RS) (id off : Nat) (m : Bytes) (q : List Bytes)
    (hfit : m.length ≤ maxIn) (h : SyncLim maxIn o id off (m :: q)) : Sync o id off (m :: q) := by
  simp only [SyncLim, hfit, true_and] at h
  split at h
  · exact h
  · exact Or.inl ⟨by omega, (clear_cons_fit hfit o id q).mp h⟩

theorem syncLim_of_sync (maxIn : Nat) (o : Option RS) (id off : Nat) (q : List Bytes) (hfit : ∀ m, m ∈ q → m.length ≤ maxIn)
    (h : Sync o id off q) : SyncLim maxIn o id off q := by
  cases q with
  | nil => trivial
  | cons m q =>
    have hm := hfit m List.mem_cons_self
    simp only [SyncLim, hm, true_and]
    split
    · exact h
    · rcases h with ⟨_, h⟩ | ⟨hpos, _⟩
      · exact (clear_cons_fit hm o id q).mpr h
      · contradiction

/-- **In-order delivery.**  An in-order fragment stream (any packing), seen through a receiver's size limit, hands over
    exactly the payloads within the limit, each once, in order. -/
theorem stream_delivers_spaced (magic sex maxIn : Nat) : ∀ {id off : Nat} {q : List Bytes} {fs : List Frag},
    Stream magic sex id off q fs → ∀ (o : Option RS), (∀ m, m ∈ q → m.length < W32) → Spaced maxIn id q →
    SyncLim maxIn o id off q →
    (srcRun o (fs.filter (fun f => decide (f.total ≤ maxIn)))).2 = q.filter (fun m => decide (m.length ≤ maxIn)) := by
  intro id off q fs hst
  induction hst with
  | nil id => intro o _ _ _; rfl
  | @last id off n m q fs h hrest ih =>
    intro o hW hsp hs
    have hW' : ∀ x, x ∈ q → x.length < W32 := fun x hx => hW x (List.mem_cons_of_mem _ hx)
    by_cases hfit : m.length ≤ maxIn
    · obtain ⟨rs', hstep, hrid⟩ := (srcStep_piece o magic sex id off n m q (sync_of_syncLim maxIn o id off m q hfit hs)
        (Nat.le_of_eq h) (hW m List.mem_cons_self)).1 h
      rw [filter_le_cons_pos Frag.total maxIn _ fs hfit, filter_le_cons_pos List.length maxIn m q hfit]
      simp only [srcRun, hstep]
      -- the state now carries `id`; `Spaced` says the next payload within the limit has another
      rw [ih (some rs') hW' hsp.2 (syncLim_of_clear maxIn _ _ _ (Or.inr ⟨rs', rfl, hrid ▸ hsp.1 hfit⟩))]
    · rw [filter_le_cons_neg Frag.total maxIn _ fs hfit, filter_le_cons_neg List.length maxIn m q hfit]
      exact ih o hW' hsp.2 (syncLim_of_clear maxIn _ _ _
        ((clear_cons_over hfit o id q).mp ((syncLim_cons_over hfit o id off q).mp hs)))
  | @part id off n m q fs h hn hrest ih =>
    intro o hW hsp hs
    by_cases hfit : m.length ≤ maxIn
    · obtain ⟨rs', hstep, hsync'⟩ := (srcStep_piece o magic sex id off n m q (sync_of_syncLim maxIn o id off m q hfit hs)
        (Nat.le_of_lt h) (hW m List.mem_cons_self)).2 (Nat.ne_of_lt h) hn
      rw [filter_le_cons_pos Frag.total maxIn _ fs hfit]
      simp only [srcRun, hstep]
      exact ih (some rs') hW hsp ((syncLim_cons_in hfit (Nat.add_pos_right off hn) _ id q).mpr hsync')
    · rw [filter_le_cons_neg Frag.total maxIn _ fs hfit]
      exact ih o hW hsp ((syncLim_cons_over hfit o id _ q).mpr ((syncLim_cons_over hfit o id off q).mp hs))

theorem ahead_of_far (maxIn rid : Nat) : ∀ (q : List Bytes) (id : Nat), id < W32 →
    (∀ k, k < q.length → rid ≠ (id + k) % W32) → Ahead maxIn rid id q
  | [], _, _, _ => trivial
  | m :: q, id, hid, h => by
    simp only [Ahead]
    split
    · simpa only [Nat.add_zero, Nat.mod_eq_of_lt hid] using h 0 (Nat.zero_lt_succ _)
    · refine ahead_of_far maxIn rid q (nextId id) (nextId_lt id) (fun k hk => ?_)
      have := h (k + 1) (Nat.succ_lt_succ hk)
      rwa [nextId, Nat.mod_add_mod, Nat.add_assoc, Nat.add_comm 1 k]

theorem spaced_of_length (maxIn : Nat) : ∀ (q : List Bytes) (id : Nat), id < W32 → q.length ≤ W32 → Spaced maxIn id q
  | [], _, _, _ => trivial
  | m :: q, id, hid, hlen => by
    -- none of the fewer than 2^32 payloads after `m` has `m`'s id
    refine ⟨fun _ => ahead_of_far maxIn id q (nextId id) (nextId_lt id) (fun k hk => ?_),
      spaced_of_length maxIn q (nextId id) (nextId_lt id) (Nat.le_of_succ_le hlen)⟩
    simp only [nextId, W32, List.length_cons] at *
    omega

theorem spaced_of_fit (maxIn : Nat) : ∀ (q : List Bytes) (id : Nat), id < W32 → (∀ m, m ∈ q → m.length ≤ maxIn) →
    Spaced maxIn id q
  | [], _, _, _ => trivial
  | m :: q, id, hid, hfit => by
    refine ⟨fun _ => ?_, spaced_of_fit maxIn q (nextId id) (nextId_lt id) (fun x hx => hfit x (List.mem_cons_of_mem _ hx))⟩
    cases q with
    | nil => trivial
    | cons m' q' =>
      simp only [Ahead, hfit m' (List.mem_cons_of_mem _ List.mem_cons_self), if_true]
      exact fun h => nextId_ne id hid h.symm

theorem stream_mem {magic sex : Nat} : ∀ {id off : Nat} {q : List Bytes} {fs : List Frag},
    Stream magic sex id off q fs → id < W32 → ∀ f, f ∈ fs →
    ∃ k m o n, q[k]? = some m ∧ o + n ≤ m.length ∧ f = fragOf magic sex ((id + k) % W32) o n m := by
  intro id off q fs hst
  induction hst with
  | nil id => intro _ f hf; cases hf
  | @last id off n m q fs h _ ih =>
    intro hid f hf
    rcases List.mem_cons.mp hf with rfl | hf
    · exact ⟨0, m, off, n, rfl, Nat.le_of_eq h, by rw [Nat.add_zero, Nat.mod_eq_of_lt hid]⟩
    · obtain ⟨k, m', o, n', hk, hfit, rfl⟩ := ih (nextId_lt id) f hf
      exact ⟨k + 1, m', o, n', hk, hfit, by rw [nextId, Nat.mod_add_mod, Nat.add_assoc, Nat.add_comm 1 k]⟩
  | @part id off n m q fs h hn _ ih =>
    intro hid f hf
    rcases List.mem_cons.mp hf with rfl | hf
    · exact ⟨0, m, off, n, rfl, Nat.le_of_lt h, by rw [Nat.add_zero, Nat.mod_eq_of_lt hid]⟩
    · exact ih hid f hf

/-! Without a size limit every payload is delivered: the case `maxIn = 2^32` of `stream_delivers_spaced`, where the limit
excludes nothing and `Spaced` holds because consecutive ids differ. -/

theorem stream_delivers (magic sex : Nat) : ∀ {id off : Nat} {q : List Bytes} {fs : List Frag},
    Stream magic sex id off q fs → ∀ (o : Option RS), id < W32 → (∀ m, m ∈ q → m.length < W32) →
    Sync o id off q → (srcRun o fs).2 = q := by
  intro id off q fs hst o hid hW hs
  have hfit : ∀ m, m ∈ q → m.length ≤ W32 := fun m hm => Nat.le_of_lt (hW m hm)
  have hfs : fs.filter (fun f => decide (f.total ≤ W32)) = fs := List.filter_eq_self.mpr (fun f hf => by
    obtain ⟨k, m, _, _, hk, _, rfl⟩ := stream_mem hst hid f hf
    exact decide_eq_true (hfit m (List.mem_of_getElem? hk)))
  have := stream_delivers_spaced magic sex W32 hst o hW (spaced_of_fit W32 q id hid hfit)
    (syncLim_of_sync W32 o id off q hfit hs)
  rwa [hfs, List.filter_eq_self.mpr (fun m hm => decide_eq_true (hfit m hm))] at this

end Muscle.Tunnel
