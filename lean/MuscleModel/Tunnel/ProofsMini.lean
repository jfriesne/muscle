import MuscleModel.Tunnel.Mini

/-! Lemmas for C12, mini tunnel: the chunk parser reads back the chunks; `miniLoop` keeps every payload
that fits a packet, in order, in packets within the MTU.  `miniHeader` writes three words and `encChunks` one length word per chunk whatever the parameters `ph`, `ch` say, so the
lemmas take `ph = 12` (`miniRx_header`, `miniRx_enc`) or `ch = 4` (`miniLoop_spec`) as a hypothesis; `Props.C12.mini_layout`
discharges it for the measured `miniPacketHeaderSize`, `miniChunkHeaderSize`. -/

namespace Muscle.Tunnel
open Muscle

theorem encChunks_length_ge : ∀ (cs : List Bytes), cs.length ≤ (encChunks cs).length
  | [] => Nat.le_refl _
  | c :: r => by
    have := encChunks_length_ge r
    simp only [encChunks, List.length_cons, List.length_append, le32_length]; omega

theorem parseChunks_enc : ∀ (cs : List Bytes) (fuel : Nat), (∀ c, c ∈ cs → c.length < W32) → cs.length < fuel →
    parseChunks fuel (encChunks cs) = cs
  | [], fuel, _, hf => by
    cases fuel with
    | zero => omega
    | succ k => simp [parseChunks, encChunks, rd32, rdN, takeN]
  | c :: r, fuel, hW, hf => by
    cases fuel with
    | zero => omega
    | succ k =>
      have hc := hW c List.mem_cons_self
      simp only [W32] at hc
      have ih := parseChunks_enc r k (fun x hx => hW x (List.mem_cons_of_mem _ hx)) (by simp only [List.length_cons] at hf; omega)
      have hle : c.length ≤ (c ++ encChunks r).length := by simp only [List.length_append]; omega
      simp only [parseChunks, encChunks, rd32_le32 _ _ hc, hle, if_true, List.take_left' rfl, List.drop_left' rfl, ih]

theorem miniRx_header (cd : Codec) (ph ch bits : Nat) (hph : ph = 12) (hbits : bits ≤ 24) (c : MiniRx) (magic sex lvl id : Nat) (area : Bytes)
    (h1 : magic < W32) (h2 : sex < W32) (hlv : lvl < 256) (hid : id < 2 ^ bits) (hmisc : c.misc = false)
    (hfit : ph + area.length ≤ miniEffMtu ph ch c.mtu) :
    miniRx cd ph ch bits c (miniHeader bits magic sex lvl id ++ area) =
      if magic = c.magic && (c.sex = 0 || c.sex ≠ sex) then
        parseChunks ((if lvl > 0 then (match cd.inflate area with | some x => x | none => []) else area).length + 1)
          (if lvl > 0 then (match cd.inflate area with | some x => x | none => []) else area)
      else [] := by
  subst hph
  have hP0 : 0 < 2 ^ bits := Nat.pos_of_ne_zero (by simp)
  have h3 : id + lvl * 2 ^ bits < 4294967296 := by
    have hP : (2:Nat) ^ bits ≤ 2 ^ 24 := Nat.pow_le_pow_right (by decide) hbits
    have hmul : lvl * 2 ^ bits ≤ 255 * 2 ^ bits := Nat.mul_le_mul_right _ (Nat.le_of_lt_succ hlv)
    omega
  have hlevel : (id + lvl * 2 ^ bits) / 2 ^ bits % 256 = lvl := by
    rw [Nat.add_mul_div_right _ _ hP0, Nat.div_eq_of_lt hid, Nat.zero_add, Nat.mod_eq_of_lt hlv]
  have hlen : (le32 magic ++ (le32 sex ++ (le32 (id + lvl * 2 ^ bits) ++ area))).length = 12 + area.length := by
    simp only [List.length_append, le32_length]; omega
  have hne : ¬ (12 + area.length = 0) := Nat.ne_of_gt (Nat.lt_of_lt_of_le (by decide) (Nat.le_add_right 12 _))
  have hge : ¬ (12 + area.length < 12) := Nat.not_lt.mpr (Nat.le_add_right 12 _)
  rw [miniHeader, List.append_assoc, List.append_assoc, miniRx, List.take_of_length_le (hlen ▸ hfit)]
  simp only [hlen, hne, hge, hmisc, Bool.false_and, Bool.false_eq_true, if_false,
    rd32_le32 _ _ h1, rd32_le32 _ _ h2, rd32_le32 _ _ h3, hlevel]
  rfl

theorem miniEncPacket_eq (cd : Codec) (bits : Nat) (tx : MiniTx) (id : Nat) (cs : List Bytes) :
    miniEncPacket cd bits tx id cs = miniHeader bits tx.magic tx.sex 0 id ++ encChunks cs ∨
    ∃ z, 0 < tx.level ∧ cd.deflate tx.level (encChunks cs) = some z ∧ z.length < (encChunks cs).length ∧
      miniEncPacket cd bits tx id cs = miniHeader bits tx.magic tx.sex tx.level id ++ z := by
  unfold miniEncPacket
  by_cases hl : tx.level > 0
  · cases hz : cd.deflate tx.level (encChunks cs) with
    | none => exact Or.inl (by simp only [hl, hz, if_true])
    | some z =>
      by_cases hs : z.length < (encChunks cs).length
      · exact Or.inr ⟨z, hl, rfl, hs, by simp only [hl, hz, hs, if_true]⟩
      · exact Or.inl (by simp only [hl, hz, hs, if_true, if_false])
  · exact Or.inl (by simp only [hl, if_false])

theorem miniRx_enc (cd : Codec) (hcd : cd.Lawful) (ph ch bits : Nat) (hph : ph = 12) (hbits : bits ≤ 24) (tx : MiniTx) (c : MiniRx) (id : Nat)
    (cs : List Bytes) (hmg : tx.magic < W32) (hsx : tx.sex < W32) (hlv : tx.level < 256) (hid : id < 2 ^ bits)
    (hW : ∀ x, x ∈ cs → x.length < W32) (hmisc : c.misc = false)
    (hfit : ph + (encChunks cs).length ≤ miniEffMtu ph ch c.mtu) :
    miniRx cd ph ch bits c (miniEncPacket cd bits tx id cs) =
      if tx.magic = c.magic && (c.sex = 0 || c.sex ≠ tx.sex) then cs else [] := by
  have hparse : parseChunks ((encChunks cs).length + 1) (encChunks cs) = cs :=
    parseChunks_enc cs _ hW (Nat.lt_succ_of_le (encChunks_length_ge cs))
  rcases miniEncPacket_eq cd bits tx id cs with h | ⟨z, hl, hz, hs, h⟩
  · rw [h, miniRx_header cd ph ch bits hph hbits c tx.magic tx.sex 0 id _ hmg hsx (by decide) hid hmisc hfit]
    simp only [Nat.lt_irrefl, if_false, hparse]
  · rw [h, miniRx_header cd ph ch bits hph hbits c tx.magic tx.sex tx.level id z hmg hsx hlv hid hmisc
      (Nat.le_trans (Nat.add_le_add_left (Nat.le_of_lt hs) ph) hfit)]
    simp only [gt_iff_lt, hl, if_true, hcd _ _ _ hz, hparse]

/-- `PACKET_HEADER_SIZE+CHUNK_HEADER_SIZE+sbSize <= MTU` -/
def miniFits (ph ch mtu : Nat) (m : Bytes) : Bool := decide (ph + ch + m.length ≤ mtu)

theorem encChunks_append (a b : List Bytes) : encChunks (a ++ b) = encChunks a ++ encChunks b := by
  induction a with
  | nil => rfl
  | cons x r ih => simp [encChunks, ih, List.append_assoc]

/-- the left side of the "does it fit the current packet" test -/
theorem miniWritten_fit (ph : Nat) (cur : List Bytes) :
    miniWritten ph cur + (if miniWritten ph cur = 0 then ph else 0) = ph + (encChunks cur).length := by
  cases cur with
  | nil => simp [miniWritten, encChunks]
  | cons a b =>
    have : ¬ (ph + (encChunks (a :: b)).length = 0) := by
      simp only [encChunks, List.length_append, le32_length]; omega
    simp only [miniWritten, List.cons_ne_nil, if_false, this, Nat.add_zero]

theorem miniLoop_spec (ph ch bits mtu : Nat) (hch : ch = 4) : ∀ (q cur : List Bytes) (id : Nat),
    (cur ≠ [] → ph + (encChunks cur).length ≤ mtu) → id < 2 ^ bits →
    ((miniLoop ph ch bits mtu cur id q).1.map (·.2)).flatten = cur ++ q.filter (miniFits ph ch mtu) ∧
    ∀ p, p ∈ (miniLoop ph ch bits mtu cur id q).1 → p.1 < 2 ^ bits ∧ ph + (encChunks p.2).length ≤ mtu
  | [], cur, id, hcur, hid => by
    rw [miniLoop]
    by_cases h : cur = []
    · subst h; exact ⟨rfl, fun p hp => by cases hp⟩
    · rw [if_neg h]
      exact ⟨by simp, fun p hp => by cases List.mem_singleton.mp hp; exact ⟨hid, hcur h⟩⟩
  | m :: q, cur, id, hcur, hid => by
    rw [miniLoop, miniWritten_fit]
    by_cases hbig : ph + ch + m.length > mtu
    · rw [if_pos hbig, List.filter_cons_of_neg (p := miniFits ph ch mtu) (by simpa [miniFits] using hbig)]
      exact miniLoop_spec ph ch bits mtu hch q cur id hcur hid
    · rw [if_neg hbig, List.filter_cons_of_pos (p := miniFits ph ch mtu) (by simpa [miniFits] using hbig)]
      by_cases hroom : ph + (encChunks cur).length + ch + m.length ≤ mtu
      · rw [if_pos hroom]
        have ih := miniLoop_spec ph ch bits mtu hch q (cur ++ [m]) id
          (fun _ => by simp only [encChunks_append, encChunks, List.length_append, le32_length, List.length_nil]; omega) hid
        exact ⟨by rw [ih.1, List.append_assoc]; rfl, ih.2⟩
      · rw [if_neg hroom]
        have ih := miniLoop_spec ph ch bits mtu hch q [m] (nextMiniId bits id)
          (fun _ => by simp only [encChunks, List.length_append, le32_length, List.length_nil]; omega)
          (Nat.mod_lt _ (Nat.pos_of_ne_zero (by simp)))
        -- a packet that cannot take `m` although `m` fits a packet of its own holds something
        have hcne : cur ≠ [] := fun h => hroom (by subst h; exact Nat.le_of_not_gt hbig)
        refine ⟨by rw [List.map_cons, List.flatten_cons, ih.1]; simp, fun p hp => ?_⟩
        rcases List.mem_cons.mp hp with rfl | h
        · exact ⟨hid, hcur hcne⟩
        · exact ih.2 p h

theorem mem_miniRxAll {cd : Codec} {ph ch bits : Nat} {c : MiniRx} {src : Nat} {b : Bytes} :
    ∀ {ps : List (Nat × Bytes)}, (src, b) ∈ miniRxAll cd ph ch bits c ps →
      ∃ p, (src, p) ∈ ps ∧ b ∈ miniRx cd ph ch bits c p
  | (s, p) :: ps, h => by
    rcases List.mem_append.mp h with h | h
    · obtain ⟨b', hb', heq⟩ := List.mem_map.mp h
      cases heq
      exact ⟨p, List.mem_cons_self, hb'⟩
    · obtain ⟨p', hp', hb'⟩ := mem_miniRxAll h
      exact ⟨p', List.mem_cons_of_mem _ hp', hb'⟩

theorem miniRxAll_tagged (cd : Codec) (ph ch bits : Nat) (c : MiniRx) (src : Nat) : ∀ (ps : List Bytes),
    miniRxAll cd ph ch bits c (ps.map (fun p => (src, p))) =
      ((ps.map (miniRx cd ph ch bits c)).flatten).map (fun b => (src, b))
  | [] => rfl
  | p :: ps => by
    rw [List.map_cons, miniRxAll, miniRxAll_tagged cd ph ch bits c src ps, List.map_cons, List.flatten_cons, List.map_append]

end Muscle.Tunnel
