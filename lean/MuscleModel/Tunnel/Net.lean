import MuscleModel.Base.Bytes

/-! The datagram transport may lose, duplicate, reorder and delay packets: what it delivers is some list over the
packets that were sent, and nothing else is assumed — not the order, not the multiplicity, not that anything arrives
(`Deliverable`; the statements of `Props/C12` spell this hypothesis out themselves, `hnet`, and do not use the predicate).
A datagram is `(source, bytes)`; the source is what `PacketDataIO::GetSourceOfLastReadPacket()` reports. -/

namespace Muscle.Tunnel
open Muscle

abbrev Datagram := Nat × Bytes

def Deliverable (sent delivered : List Datagram) : Prop := ∀ p ∈ delivered, p ∈ sent

theorem Deliverable.nil (sent : List Datagram) : Deliverable sent [] := by
  intro p hp; cases hp

theorem Deliverable.refl (sent : List Datagram) : Deliverable sent sent := fun _ h => h

theorem Deliverable.trans {a b c : List Datagram} (h1 : Deliverable a b) (h2 : Deliverable b c) : Deliverable a c :=
  fun p hp => h1 p (h2 p hp)

end Muscle.Tunnel
