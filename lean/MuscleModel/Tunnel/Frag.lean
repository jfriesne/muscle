import MuscleModel.Base.Bytes
import MuscleModel.Generated.Constants

/-!
# The packet tunnel (`iogateway/PacketTunnelIOGateway.cpp`)

The tunnelled payload is an opaque byte string (in the C++ code: the flattened Message, or whatever
the slave gateway wrote).  A *fragment* is the 6-word header of the source comment

    magic, source-exclusion id, message id, sub-chunk offset, sub-chunk size, message total size

followed by `chunk` payload bytes; a packet is a concatenation of fragments, at most MTU bytes.
All header words are little-endian `uint32` (`DefaultEndianConverter`).

* sender   = `PacketTunnelIOGateway::DoOutputImplementation`  → `fillPacket`, `sendAll`
* receiver = `PacketTunnelIOGateway::DoInputImplementation`   → `parseFrags`, `rsStep`, `srcStep`,
  `rxFrag`, `rxPacket`, `rxAll`

Tunables (`maxStates` = `MAX_NUM_RECEIVE_STATES`, MTU, magic, ids, maximum incoming size) are
parameters.  Not modelled: allocation failure (`GetByteBufferFromPool`/`SetNumBytes` returning an
error), time slicing (it only splits the same loop over several calls).  A transport that accepts only part of a
packet (`Write` returning 0 or a short count) is in `Backpressure.lean`.
-/

namespace Muscle.Tunnel
open Muscle Muscle.Gen

/-- 2^32: the id counter `_sendMessageIDCounter` and every header word are `uint32` -/
def W32 : Nat := 4294967296

structure Frag where
  magic : Nat
  sex : Nat
  id : Nat
  off : Nat
  chunk : Nat
  total : Nat
  data : Bytes
  deriving Repr, DecidableEq

/-- the six `flat.WriteInt32` calls and the `flat.WriteBytes` of `DoOutputImplementation` -/
def encFrag (f : Frag) : Bytes :=
  le32 f.magic ++ (le32 f.sex ++ (le32 f.id ++ (le32 f.off ++ (le32 f.chunk ++ (le32 f.total ++ f.data)))))

def encPacket : List Frag → Bytes
  | [] => []
  | f :: r => encFrag f ++ encPacket r

/-! ## Sender -/

/-- configuration of a sending gateway: constructor arguments and `SetSourceExclusionID` -/
structure TxCfg where
  mtu : Nat      -- as given to the constructor
  magic : Nat
  sex : Nat
  deriving Repr

/-- `_maxTransferUnit(muscleMax(maxTransferUnit, FRAGMENT_HEADER_SIZE+1))` -/
def effMtu (hdr mtu : Nat) : Nat := max mtu (hdr + 1)

/-- `_sendMessageIDCounter++` on a `uint32` -/
def nextId (id : Nat) : Nat := (id + 1) % W32

/-- "Step 1" of `DoOutputImplementation` (the inner `while`): add fragments to the output packet
    while `_outputPacketSize+FRAGMENT_HEADER_SIZE < _maxTransferUnit` and there is data.
    `used` = `_outputPacketSize`, `id` = `_sendMessageIDCounter`, `off` = `_currentOutputBufferOffset`,
    the list = `_currentOutputBuffers` followed by what `GenerateOutgoingByteBuffers` will produce.
    Returns the fragments added and the new `(id, off, queue)`.
    When a Message is not finished by a fragment, `dataBytesToSend` was the whole remaining room, so the
    packet is full and the C++ loop test fails on the next evaluation: the model returns directly. -/
def fillPacket (hdr mtu magic sex : Nat) (used id off : Nat) : List Bytes → List Frag × Nat × Nat × List Bytes
  | [] => ([], id, off, [])
  | m :: q =>
    if used + hdr < mtu then
      let n := min (mtu - (used + hdr)) (m.length - off)        -- dataBytesToSend
      let f : Frag := { magic := magic, sex := sex, id := id, off := off, chunk := n, total := m.length,
                        data := (m.drop off).take n }
      if off + n = m.length then
        let r := fillPacket hdr mtu magic sex (used + hdr + n) (nextId id) 0 q
        (f :: r.1, r.2)
      else ([f], id, off + n, m :: q)
    else ([], id, off, m :: q)

/-- remaining work of the sender: bytes still to send plus Messages still to finish -/
def txMeasure (off : Nat) (q : List Bytes) : Nat := (q.map (fun m => m.length + 1)).sum - off

/-- the outer loop of `DoOutputImplementation` run until nothing is left ("Step 2": a non-empty packet is
    written, then the loop continues; an empty one ends it).  Returns the packets as fragment lists and
    the final id counter.  `fuel` bounds the number of packets; `txMeasure off q + 1` always suffices
    (the hypothesis of `sendLoop_stream`). -/
def sendLoop (hdr mtu magic sex : Nat) : Nat → Nat → Nat → List Bytes → List (List Frag) × Nat
  | 0, id, _, _ => ([], id)
  | fuel+1, id, off, q =>
    let r := fillPacket hdr mtu magic sex 0 id off q
    if r.1 = [] then ([], r.2.1)
    else
      let rest := sendLoop hdr mtu magic sex fuel r.2.1 r.2.2.1 r.2.2.2
      (r.1 :: rest.1, rest.2)

/-- everything a sender with id counter `id` writes for the queued payloads `q` -/
def sendAll (hdr : Nat) (c : TxCfg) (id : Nat) (q : List Bytes) : List (List Frag) × Nat :=
  sendLoop hdr (effMtu hdr c.mtu) c.magic c.sex (txMeasure 0 q + 1) id 0 q

/-- the same as byte strings (what `Write` is called with) -/
def sendAllBytes (hdr : Nat) (c : TxCfg) (id : Nat) (q : List Bytes) : List Bytes × Nat :=
  let r := sendAll hdr c id q
  (r.1.map encPacket, r.2)

/-! ## Receiver -/

structure RxCfg where
  mtu : Nat          -- as given to the constructor
  magic : Nat
  sex : Nat          -- `SetSourceExclusionID`
  maxIn : Nat        -- `SetMaxIncomingMessageSize`, default `MUSCLE_NO_LIMIT`
  misc : Bool        -- `SetAllowMiscIncomingData`
  maxStates : Nat    -- `MAX_NUM_RECEIVE_STATES`
  deriving Repr

/-- the part of the header test of `DoInputImplementation` that decides whether the receiver listens to this
    fragment at all: magic and source-exclusion id.  ("Enough bytes" is evaluated by `parseFrags` against
    the packet, the size limit separately: see below.) -/
def hdrOk (c : RxCfg) (magic sex : Nat) : Bool :=
  magic = c.magic && (c.sex = 0 || c.sex ≠ sex)

/-- the inner `while(unflat.GetNumBytesAvailable() >= FRAGMENT_HEADER_SIZE)` loop: the fragments of one
    packet that reach the reassembly code, in order.  The loop `break`s at the first header with a wrong
    magic, an excluded source id, or more chunk bytes announced than present.  A fragment that passes
    these tests but belongs to a Message over the size limit (`totalSize > _maxIncomingMessageSize`) is
    *skipped* (`SeekRelative(chunkSize); continue;` — fix 79d1d2b) and the loop goes on with what follows
    it in the packet.  One unit of fuel per fragment; `rxPacket` supplies `length + 1`. -/
def parseFrags (c : RxCfg) : Nat → Bytes → List Frag
  | 0, _ => []
  | fuel+1, b =>
    match rd32 b with
    | none => []
    | some (magic, b) =>
    match rd32 b with
    | none => []
    | some (sex, b) =>
    match rd32 b with
    | none => []
    | some (id, b) =>
    match rd32 b with
    | none => []
    | some (off, b) =>
    match rd32 b with
    | none => []
    | some (chunk, b) =>
    match rd32 b with
    | none => []
    | some (total, b) =>
      if hdrOk c magic sex && chunk ≤ b.length then
        if total > c.maxIn then parseFrags c fuel (b.drop chunk)
        else
          { magic := magic, sex := sex, id := id, off := off, chunk := chunk, total := total, data := b.take chunk }
            :: parseFrags c fuel (b.drop chunk)
      else []

/-- `ReceiveState`: message id, next expected offset, reassembly buffer -/
structure RS where
  id : Nat
  off : Nat
  buf : Bytes
  deriving Repr, DecidableEq

/-- `ByteBuffer::SetNumBytes(n, false)`: keeps the common prefix; what the new tail holds is unspecified
    in C++ (it is never read before it is overwritten) and is zero here -/
def resize (b : Bytes) (n : Nat) : Bytes := b.take n ++ List.replicate (n - b.length) 0

/-- `memcpy(buf+off, data, data.length)` -/
def writeAt (b : Bytes) (off : Nat) (d : Bytes) : Bytes := b.take off ++ (d ++ b.drop (off + d.length))

/-- the `if (rs) {…}` block of `DoInputImplementation` (lines 98-127) for an existing receive state:
    restart on a fragment with offset 0 and another id, the in-order acceptance test, copy, hand the
    buffer over when complete, reset (`_offset = 0`, `Clear()`) on completion and on any mismatch.
    Returns the new state and the completed buffer, if any. -/
def rsStep (rs : RS) (f : Frag) : RS × Option Bytes :=
  let rs1 : RS := if f.off = 0 ∧ f.id ≠ rs.id then { id := f.id, off := 0, buf := resize rs.buf f.total } else rs
  let sz := rs1.buf.length
  if f.id = rs1.id ∧ f.total = sz ∧ f.off = rs1.off ∧ f.off + f.chunk < W32 ∧ f.off + f.chunk ≤ sz then
    let buf := writeAt rs1.buf f.off f.data
    if rs1.off + f.chunk = sz then ({ id := rs1.id, off := 0, buf := [] }, some buf)
    else ({ id := rs1.id, off := rs1.off + f.chunk, buf := buf }, none)
  else ({ id := rs1.id, off := 0, buf := [] }, none)

/-- one fragment against the receive state of its source (`none` = no entry in `_receiveStates`):
    an unknown source gets a state only from a fragment with offset 0 (lines 81-97) -/
def srcStep (o : Option RS) (f : Frag) : Option RS × Option Bytes :=
  match o with
  | some rs => let r := rsStep rs f; (some r.1, r.2)
  | none =>
    if f.off = 0 then
      let r := rsStep { id := f.id, off := 0, buf := List.replicate f.total 0 } f
      (some r.1, r.2)
    else (none, none)

/-- `_receiveStates`: a `Hashtable` keeps insertion order; `GetAndMoveToBack` makes it an LRU list
    (front = least recently heard from).  Sources are numbers here (`IPAddressAndPort` in C++). -/
abbrev Table := List (Nat × RS)

def tget : Table → Nat → Option RS
  | [], _ => none
  | (k, v) :: r, s => if k = s then some v else tget r s

def tdel : Table → Nat → Table
  | [], _ => []
  | (k, v) :: r, s => if k = s then tdel r s else (k, v) :: tdel r s

/-- `while(_receiveStates.GetNumItems() > MAX_NUM_RECEIVE_STATES) RemoveFirst()` -/
def trim (maxStates : Nat) (t : Table) : Table := t.drop (t.length - maxStates)

/-- one accepted fragment from source `src` against the whole table -/
def rxFrag (c : RxCfg) (t : Table) (src : Nat) (f : Frag) : Table × Option Bytes :=
  let o := tget t src
  let r := srcStep o f
  let t1 := match o with
    | some _ => tdel t src               -- found: moved to the back below
    | none => trim c.maxStates t         -- not found: cap the table first
  (match r.1 with
   | some rs => t1 ++ [(src, rs)]
   | none => t1, r.2)

def rxFrags (c : RxCfg) (src : Nat) : Table → List Frag → Table × List Bytes
  | t, [] => (t, [])
  | t, f :: fs =>
    let r := rxFrag c t src f
    let r2 := rxFrags c src r.1 fs
    (r2.1, match r.2 with | some b => b :: r2.2 | none => r2.2)

/-- first header word as `DefaultEndianConverter::Import<uint32>` reads it -/
def firstWord (b : Bytes) : Nat := leVal (b.take 4)

/-- one datagram through `DoInputImplementation`: `Read` truncates it to the receiver's MTU-sized
    buffer; with `_allowMiscData` a packet that is too short or has another magic is handed on verbatim;
    otherwise the fragment loop runs.  Returns the buffers given to `HandleIncomingByteBuffer`. -/
def rxPacket (hdr : Nat) (c : RxCfg) (t : Table) (src : Nat) (pkt : Bytes) : Table × List Bytes :=
  let b := pkt.take (effMtu hdr c.mtu)
  if b.length = 0 then (t, [])            -- `Read` returned 0 bytes: the loop ends
  else if c.misc && (b.length < hdr || firstWord b ≠ c.magic) then (t, [b])
  else rxFrags c src t (parseFrags c (b.length + 1) b)

/-- the fragments of a datagram that reach the reassembly code of a receiver configured as `c` -/
def accepted (hdr : Nat) (c : RxCfg) (pkt : Bytes) : List Frag :=
  parseFrags c ((pkt.take (effMtu hdr c.mtu)).length + 1) (pkt.take (effMtu hdr c.mtu))

/-- a list of datagrams `(source, bytes)`, each delivered tagged with its source -/
def rxAll (hdr : Nat) (c : RxCfg) : Table → List (Nat × Bytes) → Table × List (Nat × Bytes)
  | t, [] => (t, [])
  | t, (src, p) :: ps =>
    let r := rxPacket hdr c t src p
    let r2 := rxAll hdr c r.1 ps
    (r2.1, r.2.map (fun b => (src, b)) ++ r2.2)

end Muscle.Tunnel
