import MuscleModel.Tunnel.ProofsRx

/-! Lemmas for C12: sources do not interact.  As long as the receive-state table is not pushed over its cap, what
the receiver hands on for one source is the same whether or not datagrams of other sources (with any content) are
interleaved; and one source's datagrams act on its receive state as the run `srcRun` of their accepted fragments, with no
table around (`rxAll_source`). -/

namespace Muscle.Tunnel
open Muscle

theorem rxFrag_own (c : RxCfg) (t : Table) (src : Nat) (f : Frag) :
    tget (rxFrag c t src f).1 src = (srcStep (tget t src) f).1 ∧
    (rxFrag c t src f).2 = (srcStep (tget t src) f).2 := by
  refine ⟨?_, rfl⟩
  simp only [rxFrag]
  cases ho : tget t src with
  | some rs =>
    simp only [srcStep, tget_append, tget_tdel_self, tget_single, if_true]
  | none =>
    have hn : tget (trim c.maxStates t) src = none := tget_drop_none t _ src ho
    simp only
    split
    · rename_i rs' hrs'
      simp only [tget_append, hn, tget_single, if_true, hrs']
    · rename_i hnone
      rw [hn, hnone]

/-- without `hroom` (table over its cap, the fragment's source new) the least recently heard-from sources are
    dropped: the documented memory bound -/
theorem rxFrag_other (c : RxCfg) (t : Table) (src s : Nat) (f : Frag) (hs : s ≠ src)
    (hroom : tget t src ≠ none ∨ t.length ≤ c.maxStates) :
    tget (rxFrag c t src f).1 s = tget t s := by
  simp only [rxFrag]
  have hne : ¬ src = s := fun h => hs h.symm
  cases ho : tget t src with
  | some rs =>
    simp only [srcStep, tget_append, tget_tdel_other t src s hs, tget_single, if_neg hne]
    cases tget t s <;> rfl
  | none =>
    have hl : t.length ≤ c.maxStates := hroom.resolve_left (fun h => h ho)
    simp only [trim_of_le _ _ hl]
    split
    · simp only [tget_append, tget_single, if_neg hne]
      cases tget t s <;> rfl
    · rfl

theorem rxFrag_room (c : RxCfg) (t : Table) (src : Nat) (f : Frag)
    (hroom : tget t src ≠ none ∨ t.length ≤ c.maxStates) :
    tget (rxFrag c t src f).1 src ≠ none ∨ (rxFrag c t src f).1.length ≤ c.maxStates := by
  cases ho : tget t src with
  | some rs =>
    left
    rw [(rxFrag_own c t src f).1, ho]
    simp [srcStep]
  | none =>
    have hl : t.length ≤ c.maxStates := hroom.resolve_left (fun h => h ho)
    cases hr : (srcStep (tget t src) f).1 with
    | some rs' => left; rw [(rxFrag_own c t src f).1, hr]; simp
    | none =>
      right
      simp only [rxFrag, ho] at hr ⊢
      rw [hr]
      simp only [trim_of_le _ _ hl]
      exact hl

theorem rxFrags_own (c : RxCfg) (src : Nat) : ∀ (fs : List Frag) (t : Table),
    tget (rxFrags c src t fs).1 src = (srcRun (tget t src) fs).1 ∧
    (rxFrags c src t fs).2 = (srcRun (tget t src) fs).2
  | [], t => ⟨rfl, rfl⟩
  | f :: fs, t => by
    have h1 := rxFrag_own c t src f
    have h2 := rxFrags_own c src fs (rxFrag c t src f).1
    simp only [rxFrags, srcRun]
    rw [h1.1] at h2
    rw [h2.1, h2.2, h1.2]
    exact ⟨rfl, rfl⟩

theorem rxFrags_other (c : RxCfg) (src s : Nat) (hs : s ≠ src) : ∀ (fs : List Frag) (t : Table),
    (tget t src ≠ none ∨ t.length ≤ c.maxStates) → tget (rxFrags c src t fs).1 s = tget t s
  | [], t, _ => rfl
  | f :: fs, t, hroom => by
    simp only [rxFrags]
    rw [rxFrags_other c src s hs fs _ (rxFrag_room c t src f hroom), rxFrag_other c t src s f hs hroom]

theorem srcRun_append : ∀ (a b : List Frag) (o : Option RS),
    srcRun o (a ++ b) = ((srcRun (srcRun o a).1 b).1, (srcRun o a).2 ++ (srcRun (srcRun o a).1 b).2)
  | [], b, o => by simp [srcRun]
  | f :: a, b, o => by
    simp only [List.cons_append, srcRun]
    rw [srcRun_append a b]
    cases (srcStep o f).2 <;> simp

/-- the table's length once `src` has its entry: fragments of `src` never raise it (`rxFrag_need`), which is why a
    datagram adds at most one entry (`rxPacket_length`) -/
def need (t : Table) (src : Nat) : Nat := match tget t src with | none => t.length + 1 | some _ => t.length

theorem need_bounds (t : Table) (src : Nat) : t.length ≤ need t src ∧ need t src ≤ t.length + 1 := by
  simp only [need]; split <;> omega

theorem rxFrag_need (c : RxCfg) (t : Table) (src : Nat) (f : Frag) : need (rxFrag c t src f).1 src ≤ need t src := by
  have hown := (rxFrag_own c t src f).1
  cases ho : tget t src with
  | some rs =>
    have hlt := tdel_length_lt t src rs ho
    have hsome : tget (rxFrag c t src f).1 src = some (rsStep rs f).1 := by rw [hown, ho]; rfl
    simp only [need, hsome, ho]
    simp only [rxFrag, ho, srcStep, List.length_append, List.length_cons, List.length_nil]
    omega
  | none =>
    have htrim : (trim c.maxStates t).length ≤ t.length := by simp only [trim, List.length_drop]; omega
    cases hr : (srcStep none f).1 with
    | some rs' =>
      have hsome : tget (rxFrag c t src f).1 src = some rs' := by rw [hown, ho, hr]
      simp only [need, hsome, ho]
      simp only [rxFrag, ho, hr, List.length_append, List.length_cons, List.length_nil]
      omega
    | none =>
      have hnone : tget (rxFrag c t src f).1 src = none := by rw [hown, ho, hr]
      simp only [need, hnone, ho]
      simp only [rxFrag, ho, hr]
      omega

theorem rxFrags_need (c : RxCfg) (src : Nat) : ∀ (fs : List Frag) (t : Table), need (rxFrags c src t fs).1 src ≤ need t src
  | [], t => Nat.le_refl _
  | f :: fs, t => by
    simp only [rxFrags]
    exact Nat.le_trans (rxFrags_need c src fs _) (rxFrag_need c t src f)

theorem rxPacket_own (hdr : Nat) (c : RxCfg) (t1 t2 : Table) (src : Nat) (pkt : Bytes)
    (h : tget t1 src = tget t2 src) :
    tget (rxPacket hdr c t1 src pkt).1 src = tget (rxPacket hdr c t2 src pkt).1 src ∧
    (rxPacket hdr c t1 src pkt).2 = (rxPacket hdr c t2 src pkt).2 := by
  simp only [rxPacket_nf, rxFrags_own, h, and_self]

theorem rxPacket_other (hdr : Nat) (c : RxCfg) (t : Table) (src s : Nat) (pkt : Bytes) (hs : s ≠ src)
    (hroom : tget t src ≠ none ∨ t.length ≤ c.maxStates) :
    tget (rxPacket hdr c t src pkt).1 s = tget t s := by
  rw [rxPacket_nf]; exact rxFrags_other c src s hs _ t hroom

theorem rxPacket_length (hdr : Nat) (c : RxCfg) (t : Table) (src : Nat) (pkt : Bytes) :
    (rxPacket hdr c t src pkt).1.length ≤ t.length + 1 := by
  rw [rxPacket_nf]
  exact Nat.le_trans (need_bounds _ src).1 (Nat.le_trans (rxFrags_need c src _ t) (need_bounds t src).2)

theorem rxAll_other (hdr : Nat) (c : RxCfg) (s : Nat) : ∀ (ps : List Datagram) (t : Table),
    (∀ p, p ∈ ps → p.1 ≠ s) → t.length + ps.length ≤ c.maxStates →
    tget (rxAll hdr c t ps).1 s = tget t s
  | [], t, _, _ => rfl
  | (src, p) :: ps, t, hne, hcap => by
    simp only [List.length_cons] at hcap
    simp only [rxAll]
    have hl := rxPacket_length hdr c t src p
    rw [rxAll_other hdr c s ps _ (fun q hq => hne q (List.mem_cons_of_mem _ hq)) (by omega)]
    exact rxPacket_other hdr c t src s p (fun h => hne (src, p) List.mem_cons_self h.symm) (Or.inr (by omega))

theorem rxAll_interleaved (hdr : Nat) (c : RxCfg) (s : Nat) : ∀ (ps : List Datagram) (t1 t2 : Table),
    tget t1 s = tget t2 s → t1.length + ps.length ≤ c.maxStates →
    (rxAll hdr c t1 ps).2.filter (fun d => decide (d.1 = s)) =
      (rxAll hdr c t2 (ps.filter (fun d => decide (d.1 = s)))).2
  | [], t1, t2, _, _ => rfl
  | (src, p) :: ps, t1, t2, hag, hcap => by
    have hcap' : (rxPacket hdr c t1 src p).1.length + ps.length ≤ c.maxStates :=
      Nat.le_trans (Nat.add_le_add_right (rxPacket_length hdr c t1 src p) _)
        (by rw [List.length_cons] at hcap; omega)
    by_cases hsrc : src = s
    · subst hsrc
      have h := rxPacket_own hdr c t1 t2 src p hag
      rw [List.filter_cons_of_pos (by exact decide_eq_true rfl)]
      simp only [rxAll, List.filter_append]
      rw [rxAll_interleaved hdr c src ps _ (rxPacket hdr c t2 src p).1 h.1 hcap', filter_tagged_self, h.2]
    · rw [List.filter_cons_of_neg (by simpa using hsrc)]
      simp only [rxAll, List.filter_append]
      rw [filter_tagged_other src s hsrc, List.nil_append]
      exact rxAll_interleaved hdr c s ps _ t2
        (by rw [rxPacket_other hdr c t1 src s p (fun h => hsrc h.symm) (Or.inr (by rw [List.length_cons] at hcap; omega)), hag])
        hcap'

theorem rxAll_source (hdr : Nat) (c : RxCfg) (hmisc : c.misc = false) (src : Nat) : ∀ (ds : List Bytes) (t : Table),
    (rxAll hdr c t (ds.map (fun d => (src, d)))).2 =
      (srcRun (tget t src) (ds.flatMap (accepted hdr c))).2.map (fun b => (src, b))
  | [], _ => rfl
  | d :: ds, t => by
    simp only [List.map_cons, rxAll, List.flatMap_cons]
    rw [rxAll_source hdr c hmisc src ds, rxPacket_eq hdr c hmisc, (rxFrags_own c src _ t).1, (rxFrags_own c src _ t).2,
      srcRun_append, List.map_append]

end Muscle.Tunnel
