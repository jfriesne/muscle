import MuscleModel.Tunnel.ProofsRx

/-! Lemmas for C12: what the sender writes is an in-order stream (`Stream`) of well-formed fragments, in packets of
at most MTU bytes. -/

namespace Muscle.Tunnel
open Muscle

def OffOK (off : Nat) : List Bytes → Prop
  | [] => off = 0
  | m :: _ => off ≤ m.length

theorem offOK_zero (q : List Bytes) : OffOK 0 q := by
  cases q <;> simp [OffOK]

theorem txMeasure_cons (off : Nat) (m : Bytes) (q : List Bytes) :
    txMeasure off (m :: q) = (m.length + 1 + txMeasure 0 q) - off := by
  simp [txMeasure]

/-- six header words: the `24` of this file is `tunnelFragmentHeaderSize` (`Props.C12.header_is_six_words`) -/
theorem encFrag_length (f : Frag) : (encFrag f).length = 24 + f.data.length := by
  simp only [encFrag, List.length_append, le32_length]; omega

theorem fillPacket_cons (hdr mtu magic sex used id off : Nat) (m : Bytes) (q : List Bytes) :
    fillPacket hdr mtu magic sex used id off (m :: q) =
    if used + hdr < mtu then
      if off + min (mtu - (used + hdr)) (m.length - off) = m.length then
        (fragOf magic sex id off (min (mtu - (used + hdr)) (m.length - off)) m ::
          (fillPacket hdr mtu magic sex (used + hdr + min (mtu - (used + hdr)) (m.length - off)) (nextId id) 0 q).1,
         (fillPacket hdr mtu magic sex (used + hdr + min (mtu - (used + hdr)) (m.length - off)) (nextId id) 0 q).2)
      else ([fragOf magic sex id off (min (mtu - (used + hdr)) (m.length - off)) m], id,
            off + min (mtu - (used + hdr)) (m.length - off), m :: q)
    else ([], id, off, m :: q) := rfl

/-- The loop's measure falls by at least the number of fragments, so a non-empty packet is progress.  The MTU bound is
    under `hdr = 24` because `encFrag` writes six words whatever `hdr` says. -/
theorem fill_spec (hdr mtu magic sex : Nat) (q : List Bytes) :
    ∀ (used id off : Nat) (fs : List Frag) (id' off' : Nat) (q' : List Bytes),
    fillPacket hdr mtu magic sex used id off q = (fs, id', off', q') → OffOK off q →
    (∀ rest, Stream magic sex id' off' q' rest → Stream magic sex id off q (fs ++ rest)) ∧
    OffOK off' q' ∧ txMeasure off' q' + fs.length ≤ txMeasure off q ∧
    (hdr = 24 → used ≤ mtu → used + (encPacket fs).length ≤ mtu) := by
  induction q with
  | nil =>
    intro used id off fs id' off' q' h hoff
    cases h
    exact ⟨fun rest h => h, hoff, Nat.le_refl _, fun _ h => h⟩
  | cons m q ih =>
    intro used id off fs id' off' q' h hoff
    have hoff' : off ≤ m.length := hoff
    rw [fillPacket_cons] at h
    -- of `dataBytesToSend` only `hn1`, `hn2` (and `0 < n` for a piece that is not the last) are used
    generalize hn : min (mtu - (used + hdr)) (m.length - off) = n at h
    have hn1 : off + n ≤ m.length := Nat.add_le_of_le_sub' hoff' (hn ▸ Nat.min_le_right _ _)
    have hd : ((m.drop off).take n).length = n := length_take_drop m off n hn1
    by_cases hroom : used + hdr < mtu
    · rw [if_pos hroom] at h
      have hn2 : used + hdr + n ≤ mtu := Nat.add_le_of_le_sub' (Nat.le_of_lt hroom) (hn ▸ Nat.min_le_left _ _)
      by_cases hlast : off + n = m.length
      · rw [if_pos hlast] at h
        clear hn
        rcases hr : fillPacket hdr mtu magic sex (used + hdr + n) (nextId id) 0 q with ⟨fs1, id1, off1, q1⟩
        simp only [hr, Prod.mk.injEq] at h
        obtain ⟨rfl, rfl, rfl, rfl⟩ := h
        obtain ⟨ih1, ih2, ih3, ih5⟩ := ih _ _ _ _ _ _ _ hr (offOK_zero q)
        refine ⟨fun rest h => Stream.last hlast (ih1 rest h), ih2, ?_, fun h24 hu => ?_⟩
        · rw [txMeasure_cons, List.length_cons]
          omega
        · have := ih5 h24 hn2
          rw [encPacket, List.length_append, encFrag_length, fragOf_data, hd]
          omega
      · rw [if_neg hlast] at h
        cases h
        have hpos : 0 < n := by omega
        clear hn
        refine ⟨fun rest h => Stream.part (Nat.lt_of_le_of_ne hn1 hlast) hpos h, hn1, ?_, fun h24 hu => ?_⟩
        · rw [txMeasure_cons, txMeasure_cons, List.length_singleton]
          omega
        · rw [encPacket, encPacket, List.length_append, encFrag_length, fragOf_data, hd, List.length_nil]
          omega
    · rw [if_neg hroom] at h
      cases h
      exact ⟨fun rest h => h, hoff, Nat.le_refl _, fun _ h => h⟩

theorem fill_nonempty (hdr mtu magic sex id off : Nat) (m : Bytes) (q : List Bytes) (h : hdr < mtu) :
    (fillPacket hdr mtu magic sex 0 id off (m :: q)).1 ≠ [] := by
  simp only [fillPacket, Nat.zero_add, h, if_true]
  split <;> simp

theorem sendLoop_stream (hdr mtu magic sex : Nat) (hm : hdr < mtu) : ∀ (fuel id off : Nat) (q : List Bytes),
    txMeasure off q < fuel → OffOK off q →
    Stream magic sex id off q (sendLoop hdr mtu magic sex fuel id off q).1.flatten ∧
    (hdr = 24 → ∀ p, p ∈ (sendLoop hdr mtu magic sex fuel id off q).1 → (encPacket p).length ≤ mtu)
  | 0, _, _, _, h, _ => absurd h (Nat.not_lt_zero _)
  | fuel+1, id, off, q, hfuel, hoff => by
    rcases hr : fillPacket hdr mtu magic sex 0 id off q with ⟨fs, id', off', q'⟩
    obtain ⟨h1, h2, h3, h5⟩ := fill_spec hdr mtu magic sex q 0 id off fs id' off' q' hr hoff
    simp only [sendLoop, hr]
    split
    · rename_i hempty
      cases q with
      | nil =>
        have : off = 0 := hoff
        subst this
        exact ⟨Stream.nil id, fun _ p hp => by cases hp⟩
      | cons m q =>
        have := fill_nonempty hdr mtu magic sex id off m q hm
        rw [hr] at this
        exact absurd hempty this
    · rename_i hne
      have hlen : 0 < fs.length := List.length_pos_iff.mpr hne
      have ih := sendLoop_stream hdr mtu magic sex hm fuel id' off' q'
        (Nat.lt_of_lt_of_le (Nat.lt_of_lt_of_le (Nat.lt_add_of_pos_right hlen) h3) (Nat.le_of_lt_succ hfuel)) h2
      rw [List.flatten_cons]
      refine ⟨h1 _ ih.1, fun h24 p hp => ?_⟩
      rcases List.mem_cons.mp hp with h | h
      · subst h
        simpa only [Nat.zero_add] using h5 h24 (Nat.zero_le _)
      · exact ih.2 h24 p h

theorem effMtu_gt (hdr mtu : Nat) : hdr < effMtu hdr mtu :=
  Nat.lt_of_lt_of_le (Nat.lt_succ_self hdr) (Nat.le_max_right _ _)

theorem sendAll_stream (hdr : Nat) (tx : TxCfg) (id0 : Nat) (ms : List Bytes) :
    Stream tx.magic tx.sex id0 0 ms (sendAll hdr tx id0 ms).1.flatten ∧
    (hdr = 24 → ∀ p, p ∈ (sendAll hdr tx id0 ms).1 → (encPacket p).length ≤ effMtu hdr tx.mtu) :=
  sendLoop_stream hdr (effMtu hdr tx.mtu) tx.magic tx.sex (effMtu_gt _ _) (txMeasure 0 ms + 1) id0 0 ms
    (Nat.lt_succ_self _) (offOK_zero _)

end Muscle.Tunnel
