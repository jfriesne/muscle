import MuscleModel.Tunnel.Spec
import MuscleModel.Base.Lists

/-! Lemmas for C12: the table of receive states as an association list (`tget`, `tdel`, `trim`) and the header test
`hdrTest_true`; the equations of one receive state (`rsStep`), the receiver's invariant — it keeps `TableInv`
and delivers only sent payloads —, and a datagram as the fragments that reach the table (`rxPacket_nf`). -/

namespace Muscle.Tunnel
open Muscle

theorem nextId_ne (id : Nat) (h : id < W32) : nextId id ≠ id := by
  have h' : id < 4294967296 := h
  simp only [nextId, W32]; omega

theorem nextId_lt (id : Nat) : nextId id < W32 := by
  simp only [nextId, W32]; omega

theorem resize_length (b : Bytes) (n : Nat) : (resize b n).length = n := by
  simp only [resize, List.length_append, List.length_take, List.length_replicate]; omega

theorem writeAt_piece (b m : Bytes) (off n : Nat) (hlen : b.length = m.length) (hpre : b.take off = m.take off)
    (hfit : off + n ≤ m.length) :
    (writeAt b off ((m.drop off).take n)).length = m.length ∧
    (writeAt b off ((m.drop off).take n)).take (off + n) = m.take (off + n) ∧
    (off + n = m.length → writeAt b off ((m.drop off).take n) = m) := by
  have hd := length_take_drop m off n hfit
  have ho : (b.take off).length = off := List.length_take_of_le (by omega)
  have hl : (writeAt b off ((m.drop off).take n)).length = m.length := by
    rw [writeAt, List.length_append, List.length_append, ho, hd, List.length_drop]; omega
  have ht : (writeAt b off ((m.drop off).take n)).take (off + n) = m.take (off + n) := by
    rw [writeAt, ← List.append_assoc, List.take_left' (by rw [List.length_append, ho, hd]), hpre, List.take_add]
  refine ⟨hl, ht, fun hfull => ?_⟩
  rw [hfull, ← hl, List.take_length, hl, List.take_length] at ht
  exact ht

@[simp] theorem fragOf_id (magic sex id off n : Nat) (m : Bytes) : (fragOf magic sex id off n m).id = id := rfl
@[simp] theorem fragOf_off (magic sex id off n : Nat) (m : Bytes) : (fragOf magic sex id off n m).off = off := rfl
@[simp] theorem fragOf_chunk (magic sex id off n : Nat) (m : Bytes) : (fragOf magic sex id off n m).chunk = n := rfl
@[simp] theorem fragOf_total (magic sex id off n : Nat) (m : Bytes) : (fragOf magic sex id off n m).total = m.length := rfl
@[simp] theorem fragOf_data (magic sex id off n : Nat) (m : Bytes) :
    (fragOf magic sex id off n m).data = (m.drop off).take n := rfl

/-! the receive-state table as an association list -/

theorem tget_mem : ∀ (t : Table) (s : Nat) (rs : RS), tget t s = some rs → (s, rs) ∈ t
  | [], _, _, h => by cases h
  | (k, v) :: r, s, rs, h => by
    simp only [tget] at h
    split at h
    · cases h; subst ‹k = s›; exact List.mem_cons_self
    · exact List.mem_cons_of_mem _ (tget_mem r s rs h)

theorem tdel_mem : ∀ (t : Table) (s : Nat) (x : Nat × RS), x ∈ tdel t s → x ∈ t
  | [], _, _, h => by cases h
  | (k, v) :: r, s, x, h => by
    simp only [tdel] at h
    split at h
    · exact List.mem_cons_of_mem _ (tdel_mem r s x h)
    · rcases List.mem_cons.mp h with h | h
      · rw [h]; exact List.mem_cons_self
      · exact List.mem_cons_of_mem _ (tdel_mem r s x h)

theorem trim_mem (n : Nat) (t : Table) (x : Nat × RS) (h : x ∈ trim n t) : x ∈ t :=
  List.mem_of_mem_drop h

theorem tget_append : ∀ (a b : Table) (s : Nat),
    tget (a ++ b) s = match tget a s with | some v => some v | none => tget b s
  | [], b, s => by simp [tget]
  | (k, v) :: r, b, s => by
    simp only [List.cons_append, tget]
    split
    · rfl
    · exact tget_append r b s

theorem tget_tdel_self : ∀ (t : Table) (s : Nat), tget (tdel t s) s = none
  | [], _ => rfl
  | (k, v) :: r, s => by
    simp only [tdel]
    split
    · exact tget_tdel_self r s
    · simp only [tget]; rw [if_neg ‹_›]; exact tget_tdel_self r s

theorem tget_tdel_other : ∀ (t : Table) (s s' : Nat), s' ≠ s → tget (tdel t s) s' = tget t s'
  | [], _, _, _ => rfl
  | (k, v) :: r, s, s', h => by
    simp only [tdel]
    split
    · rename_i hk
      simp only [tget]
      have : ¬ k = s' := fun e => h (e.symm.trans hk)
      rw [if_neg this]; exact tget_tdel_other r s s' h
    · simp only [tget]
      split
      · rfl
      · exact tget_tdel_other r s s' h

theorem tget_drop_none : ∀ (t : Table) (k s : Nat), tget t s = none → tget (t.drop k) s = none
  | [], k, s, _ => by simp [tget]
  | x :: r, 0, s, h => by simpa using h
  | (a, v) :: r, k+1, s, h => by
    simp only [tget] at h
    split at h
    · cases h
    · simp only [List.drop_succ_cons]; exact tget_drop_none r k s h

theorem trim_of_le (n : Nat) (t : Table) (h : t.length ≤ n) : trim n t = t := by
  have : t.length - n = 0 := Nat.sub_eq_zero_of_le h
  simp [trim, this]

theorem tget_single (s s' : Nat) (rs : RS) : tget [(s, rs)] s' = if s = s' then some rs else none := by
  simp [tget]

theorem tdel_length_le : ∀ (t : Table) (s : Nat), (tdel t s).length ≤ t.length
  | [], _ => Nat.le_refl _
  | (k, v) :: r, s => by
    have := tdel_length_le r s
    simp only [tdel]
    split <;> simp only [List.length_cons] <;> omega

theorem tdel_length_lt : ∀ (t : Table) (s : Nat) (rs : RS), tget t s = some rs → (tdel t s).length < t.length
  | [], _, _, h => by cases h
  | (k, v) :: r, s, rs, h => by
    simp only [tget] at h
    simp only [tdel]
    split
    · have := tdel_length_le r s
      simp only [List.length_cons]; omega
    · rename_i hk
      rw [if_neg hk] at h
      have := tdel_length_lt r s rs h
      simp only [List.length_cons]; omega

/-- the header test both tunnels apply -/
theorem hdrTest_true (magic sex cmagic csex : Nat) (hmagic : magic = cmagic) (hsex : csex = 0 ∨ csex ≠ sex) :
    (decide (magic = cmagic) && (decide (csex = 0) || decide (csex ≠ sex))) = true := by
  rw [decide_eq_true hmagic, Bool.true_and, Bool.or_eq_true]
  exact hsex.imp decide_eq_true decide_eq_true

theorem hdrOk_of_listens (c : RxCfg) (magic sex : Nat) (hmagic : magic = c.magic) (hsex : c.sex = 0 ∨ c.sex ≠ sex) :
    hdrOk c magic sex = true :=
  hdrTest_true magic sex c.magic c.sex hmagic hsex

/-- the in-order acceptance test of `rsStep` -/
abbrev RS.accepts (rs : RS) (f : Frag) : Prop :=
  f.id = rs.id ∧ f.total = rs.buf.length ∧ f.off = rs.off ∧ f.off + f.chunk < W32 ∧ f.off + f.chunk ≤ rs.buf.length

theorem rsStep_restart (rs : RS) (f : Frag) (h0 : f.off = 0) (hne : f.id ≠ rs.id) :
    rsStep rs f = rsStep { id := f.id, off := 0, buf := resize rs.buf f.total } f := by
  simp only [rsStep, h0, hne, ne_eq, not_false_eq_true, and_self, if_true, not_true_eq_false, and_false, if_false]

theorem rsStep_last (rs : RS) (f : Frag) (h : ¬ (f.off = 0 ∧ f.id ≠ rs.id)) (ha : rs.accepts f)
    (hd : rs.off + f.chunk = rs.buf.length) :
    rsStep rs f = ({ id := rs.id, off := 0, buf := [] }, some (writeAt rs.buf f.off f.data)) := by
  simp only [rsStep, h, if_false, if_pos ha, if_pos hd]

theorem rsStep_part (rs : RS) (f : Frag) (h : ¬ (f.off = 0 ∧ f.id ≠ rs.id)) (ha : rs.accepts f)
    (hd : rs.off + f.chunk ≠ rs.buf.length) :
    rsStep rs f = ({ id := rs.id, off := rs.off + f.chunk, buf := writeAt rs.buf f.off f.data }, none) := by
  simp only [rsStep, h, if_false, if_pos ha, if_neg hd]

theorem rsStep_reject (rs : RS) (f : Frag) (h : ¬ (f.off = 0 ∧ f.id ≠ rs.id)) (ha : ¬ rs.accepts f) :
    rsStep rs f = ({ id := rs.id, off := 0, buf := [] }, none) := by
  simp only [rsStep, h, if_false, if_neg ha]

theorem rsStep_inv_same (sent : SentMap) (src : Nat) (rs : RS) (f : Frag) (hr : ¬ (f.off = 0 ∧ f.id ≠ rs.id))
    (hi : RSInv sent src rs) (hg : Genuine sent src f) :
    RSInv sent src (rsStep rs f).1 ∧ ∀ b, (rsStep rs f).2 = some b → ∃ id, sent src id = some b := by
  obtain ⟨m1, hm1, hpre⟩ := hi
  have hreset : RSInv sent src { id := rs.id, off := 0, buf := [] } := ⟨m1, hm1, Or.inl rfl⟩
  by_cases ha : rs.accepts f
  · obtain ⟨m, hm, htot, hle, hdata⟩ := hg
    have ⟨hid, hsz, hoff, _, hfit⟩ := ha
    -- same id, and `sent` is a function: the state's Message is the fragment's Message
    have hmm : m1 = m := by rw [hid, hm1] at hm; exact Option.some.inj hm
    subst hmm
    have hp : rs.buf.take rs.off = m1.take rs.off := by
      rcases hpre with h0 | ⟨_, _, h⟩
      · rw [h0]; rfl
      · exact h
    have hlen : rs.buf.length = m1.length := hsz.symm.trans htot
    have hfit' : rs.off + f.chunk ≤ m1.length := hoff ▸ hle
    obtain ⟨hwl, hwt, hwm⟩ := writeAt_piece rs.buf m1 rs.off f.chunk hlen hp hfit'
    by_cases hd : rs.off + f.chunk = rs.buf.length
    · rw [rsStep_last rs f hr ha hd, hdata, hoff]
      refine ⟨hreset, fun b hb => ⟨rs.id, ?_⟩⟩
      rw [hm1, ← Option.some.inj hb, hwm (hd.trans hlen)]
    · rw [rsStep_part rs f hr ha hd, hdata, hoff]
      exact ⟨⟨m1, hm1, Or.inr ⟨hwl, hfit', hwt⟩⟩, fun b hb => by cases hb⟩
  · rw [rsStep_reject rs f hr ha]
    exact ⟨hreset, fun b hb => by cases hb⟩

theorem rsStep_inv (sent : SentMap) (src : Nat) (rs : RS) (f : Frag)
    (hi : RSInv sent src rs) (hg : Genuine sent src f) :
    RSInv sent src (rsStep rs f).1 ∧ ∀ b, (rsStep rs f).2 = some b → ∃ id, sent src id = some b := by
  by_cases hr : f.off = 0 ∧ f.id ≠ rs.id
  · have ⟨m, hm, _⟩ := hg
    rw [rsStep_restart rs f hr.1 hr.2]
    exact rsStep_inv_same sent src _ f (fun h => h.2 rfl) ⟨m, hm, Or.inl rfl⟩ hg
  · exact rsStep_inv_same sent src rs f hr hi hg

theorem srcStep_inv (sent : SentMap) (src : Nat) (o : Option RS) (f : Frag)
    (hi : ∀ rs, o = some rs → RSInv sent src rs) (hg : Genuine sent src f) :
    (∀ rs, (srcStep o f).1 = some rs → RSInv sent src rs) ∧
    ∀ b, (srcStep o f).2 = some b → ∃ id, sent src id = some b := by
  cases o with
  | some rs =>
    have := rsStep_inv sent src rs f (hi rs rfl) hg
    simp only [srcStep]
    exact ⟨fun rs' h => by cases h; exact this.1, this.2⟩
  | none =>
    simp only [srcStep]
    split
    · obtain ⟨m, hm, _⟩ := hg
      have := rsStep_inv sent src { id := f.id, off := 0, buf := List.replicate f.total 0 } f
        ⟨m, hm, Or.inl rfl⟩ ⟨m, hm, ‹_›⟩
      exact ⟨fun rs' h => by cases h; exact this.1, this.2⟩
    · exact ⟨fun rs' h => (by cases h), fun b h => (by cases h)⟩

theorem tableInv_nil (sent : SentMap) : TableInv sent [] := fun _ _ h => nomatch h

theorem rxFrag_inv (sent : SentMap) (c : RxCfg) (t : Table) (src : Nat) (f : Frag)
    (hi : TableInv sent t) (hg : Genuine sent src f) :
    TableInv sent (rxFrag c t src f).1 ∧ ∀ b, (rxFrag c t src f).2 = some b → ∃ id, sent src id = some b := by
  have hs := srcStep_inv sent src (tget t src) f (fun rs h => hi src rs (tget_mem t src rs h)) hg
  refine ⟨?_, hs.2⟩
  have ht1 : ∀ x, x ∈ (match tget t src with | some _ => tdel t src | none => trim c.maxStates t) → x ∈ t := by
    intro x hx
    split at hx
    · exact tdel_mem t src x hx
    · exact trim_mem _ t x hx
  intro s rs hmem
  simp only [rxFrag] at hmem
  split at hmem
  · rename_i rs' hrs'
    rcases List.mem_append.mp hmem with h | h
    · exact hi s rs (ht1 _ h)
    · simp only [List.mem_singleton, Prod.mk.injEq] at h
      obtain ⟨h1, h2⟩ := h
      subst h1; subst h2
      exact hs.1 _ hrs'
  · exact hi s rs (ht1 _ hmem)

theorem rxFrags_inv (sent : SentMap) (c : RxCfg) (src : Nat) : ∀ (fs : List Frag) (t : Table),
    TableInv sent t → (∀ f, f ∈ fs → Genuine sent src f) →
    TableInv sent (rxFrags c src t fs).1 ∧ ∀ b, b ∈ (rxFrags c src t fs).2 → ∃ id, sent src id = some b
  | [], t, hi, _ => ⟨hi, fun b hb => (by cases hb)⟩
  | f :: fs, t, hi, hg => by
    have h1 := rxFrag_inv sent c t src f hi (hg f List.mem_cons_self)
    have h2 := rxFrags_inv sent c src fs (rxFrag c t src f).1 h1.1 (fun g hgm => hg g (List.mem_cons_of_mem _ hgm))
    simp only [rxFrags]
    refine ⟨h2.1, ?_⟩
    intro b hb
    split at hb
    · rename_i b0 hb0
      rcases List.mem_cons.mp hb with h | h
      · subst h; exact h1.2 _ hb0
      · exact h2.2 b h
    · exact h2.2 b hb

/-- is the datagram handed on verbatim (`_allowMiscData`: too short for a header, or another magic)? -/
def pktBypass (hdr : Nat) (c : RxCfg) (p : Bytes) : Bool :=
  c.misc && (decide ((p.take (effMtu hdr c.mtu)).length < hdr) || decide (firstWord (p.take (effMtu hdr c.mtu)) ≠ c.magic))

def pktFrags (hdr : Nat) (c : RxCfg) (p : Bytes) : List Frag :=
  if pktBypass hdr c p = true then [] else accepted hdr c p

def pktMisc (hdr : Nat) (c : RxCfg) (p : Bytes) : List Bytes :=
  if (p.take (effMtu hdr c.mtu)).length ≠ 0 ∧ pktBypass hdr c p = true then [p.take (effMtu hdr c.mtu)] else []

/-- the three branches of `rxPacket` as one equation: whatever `misc` says, the table sees `rxFrags` of `pktFrags` -/
theorem rxPacket_nf (hdr : Nat) (c : RxCfg) (t : Table) (src : Nat) (p : Bytes) :
    rxPacket hdr c t src p =
      ((rxFrags c src t (pktFrags hdr c p)).1, pktMisc hdr c p ++ (rxFrags c src t (pktFrags hdr c p)).2) := by
  unfold rxPacket pktFrags pktMisc pktBypass accepted
  by_cases h0 : (p.take (effMtu hdr c.mtu)).length = 0
  · -- an empty read: no header word can be read, so nothing is parsed
    have : parseFrags c (0 + 1) (p.take (effMtu hdr c.mtu)) = [] := by
      simp [List.length_eq_zero_iff.mp h0, parseFrags, rd32, rdN, takeN]
    simp only [h0, this, if_true, rxFrags, ne_eq, not_true_eq_false, false_and, if_false, ite_self, List.append_nil]
  · by_cases h1 : (c.misc && (decide ((p.take (effMtu hdr c.mtu)).length < hdr) ||
        decide (firstWord (p.take (effMtu hdr c.mtu)) ≠ c.magic))) = true
    · simp only [h0, h1, if_true, if_false, ne_eq, not_false_eq_true, and_self, rxFrags, List.append_nil]
    · simp only [h0, h1, Bool.false_eq_true, if_false, and_false, List.nil_append]

theorem rxPacket_eq (hdr : Nat) (c : RxCfg) (hmisc : c.misc = false) (t : Table) (src : Nat) (p : Bytes) :
    rxPacket hdr c t src p = rxFrags c src t (accepted hdr c p) := by
  simp [rxPacket_nf, pktFrags, pktMisc, pktBypass, hmisc]

theorem rxAll_inv (sent : SentMap) (hdr : Nat) (c : RxCfg) (hmisc : c.misc = false) : ∀ (ps : List Datagram) (t : Table),
    TableInv sent t → AllGenuine hdr c sent ps →
    TableInv sent (rxAll hdr c t ps).1 ∧ ∀ src b, (src, b) ∈ (rxAll hdr c t ps).2 → ∃ id, sent src id = some b
  | [], t, hi, _ => ⟨hi, fun s b hb => (by cases hb)⟩
  | (src, p) :: ps, t, hi, hg => by
    have h1 := rxFrags_inv sent c src (accepted hdr c p) t hi (hg src p List.mem_cons_self)
    rw [← rxPacket_eq hdr c hmisc] at h1
    have h2 := rxAll_inv sent hdr c hmisc ps (rxPacket hdr c t src p).1 h1.1
      (fun s q hq => hg s q (List.mem_cons_of_mem _ hq))
    simp only [rxAll]
    refine ⟨h2.1, ?_⟩
    intro s b hb
    rcases List.mem_append.mp hb with h | h
    · obtain ⟨b', hb', heq⟩ := List.mem_map.mp h
      cases heq
      exact h1.2 _ hb'
    · exact h2.2 s b h

end Muscle.Tunnel
