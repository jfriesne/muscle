import MuscleModel.Tunnel.ProofsTx
import MuscleModel.Tunnel.ProofsOrder

/-! Lemmas for C12: the receiver's fragment loop against what a sender wrote (`FragWF0`: fragments that `encFrag` writes and
`parseFrags` reads back word for word; a sender's stream consists of them, `stream_wf`).  It reads a whole
packet back exactly (minus the Messages over its size limit); of any prefix of a packet (its own MTU may be
smaller, the transport may cut) it reads a prefix of that; and a sender's fragments are genuine for the id
assignment `sentBy`. -/

namespace Muscle.Tunnel
open Muscle

/-- a fragment that `encFrag` writes and `parseFrags` reads back word for word (`0`: no receiver involved yet) -/
def FragWF0 (f : Frag) : Prop :=
  f.magic < W32 ∧ f.sex < W32 ∧ f.id < W32 ∧ f.off < W32 ∧ f.chunk < W32 ∧ f.total < W32 ∧ f.data.length = f.chunk

def FragWF (c : RxCfg) (f : Frag) : Prop := FragWF0 f ∧ hdrOk c f.magic f.sex = true

theorem fragOf_wf0 (magic sex id off n : Nat) (m : Bytes) (hmg : magic < W32) (hsx : sex < W32) (hid : id < W32)
    (hm : m.length < W32) (hfit : off + n ≤ m.length) : FragWF0 (fragOf magic sex id off n m) :=
  ⟨hmg, hsx, hid, Nat.lt_of_le_of_lt (Nat.le_trans (Nat.le_add_right off n) hfit) hm,
    Nat.lt_of_le_of_lt (Nat.le_trans (Nat.le_add_left n off) hfit) hm, hm, length_take_drop m off n hfit⟩

theorem stream_wf0 (magic sex : Nat) (hmg : magic < W32) (hsx : sex < W32) {id off : Nat} {q : List Bytes}
    {fs : List Frag} (hst : Stream magic sex id off q fs) (hid : id < W32) (hq : ∀ m, m ∈ q → m.length < W32) :
    ∀ f, f ∈ fs → FragWF0 f := by
  intro f hf
  obtain ⟨k, m, o, n, hk, hfit, rfl⟩ := stream_mem hst hid f hf
  exact fragOf_wf0 magic sex _ o n m hmg hsx (Nat.mod_lt _ (by decide)) (hq m (List.mem_of_getElem? hk)) hfit

theorem stream_wf (c : RxCfg) (magic sex : Nat) (hmg : magic < W32) (hsx : sex < W32)
    (hmagic : c.magic = magic) (hsex : c.sex = 0 ∨ c.sex ≠ sex) {id off : Nat} {q : List Bytes} {fs : List Frag}
    (hst : Stream magic sex id off q fs) (hid : id < W32) (hq : ∀ m, m ∈ q → m.length < W32) :
    ∀ f, f ∈ fs → FragWF c f := by
  intro f hf
  refine ⟨stream_wf0 magic sex hmg hsx hst hid hq f hf, ?_⟩
  obtain ⟨k, m, o, n, _, _, rfl⟩ := stream_mem hst hid f hf
  exact hdrOk_of_listens c magic sex hmagic.symm hsex

theorem parseFrags_encFrag (c : RxCfg) (fuel : Nat) (f : Frag) (rest : Bytes) (hf : FragWF0 f) :
    parseFrags c (fuel + 1) (encFrag f ++ rest) =
      if hdrOk c f.magic f.sex = true then
        if f.total > c.maxIn then parseFrags c fuel rest else f :: parseFrags c fuel rest
      else [] := by
  obtain ⟨h1, h2, h3, h4, h5, h6, h7⟩ := hf
  have hle : f.chunk ≤ (f.data ++ rest).length := by rw [List.length_append, h7]; exact Nat.le_add_right _ _
  simp only [parseFrags, encFrag, List.append_assoc, rd32_le32 _ _ h1, rd32_le32 _ _ h2, rd32_le32 _ _ h3,
    rd32_le32 _ _ h4, rd32_le32 _ _ h5, rd32_le32 _ _ h6, hle, decide_true, Bool.and_true, List.take_left' h7,
    List.drop_left' h7]

theorem parseFrags_prefix (c : RxCfg) (t : Bytes) : ∀ (fuel : Nat) (x : Bytes),
    parseFrags c fuel x <+: parseFrags c fuel (x ++ t)
  | 0, _ => List.prefix_refl _
  | fuel+1, x => by
    simp only [parseFrags]
    -- a header word read from `x` is read from `x ++ t` as well; where `x` ends, so does its parse
    cases h1 : rd32 x with
    | none => exact List.nil_prefix
    | some p1 =>
    rw [rd32_append t h1]; dsimp only
    cases h2 : rd32 p1.2 with
    | none => exact List.nil_prefix
    | some p2 =>
    rw [rd32_append t h2]; dsimp only
    cases h3 : rd32 p2.2 with
    | none => exact List.nil_prefix
    | some p3 =>
    rw [rd32_append t h3]; dsimp only
    cases h4 : rd32 p3.2 with
    | none => exact List.nil_prefix
    | some p4 =>
    rw [rd32_append t h4]; dsimp only
    cases h5 : rd32 p4.2 with
    | none => exact List.nil_prefix
    | some p5 =>
    rw [rd32_append t h5]; dsimp only
    cases h6 : rd32 p5.2 with
    | none => exact List.nil_prefix
    | some p6 =>
    rw [rd32_append t h6]; dsimp only
    by_cases hc : (hdrOk c p1.1 p2.1 && decide (p5.1 ≤ p6.2.length)) = true
    · obtain ⟨hok, hle⟩ : hdrOk c p1.1 p2.1 = true ∧ p5.1 ≤ p6.2.length := by
        simpa only [Bool.and_eq_true, decide_eq_true_eq] using hc
      have hc' : (hdrOk c p1.1 p2.1 && decide (p5.1 ≤ (p6.2 ++ t).length)) = true := by
        rw [hok, Bool.true_and, decide_eq_true_eq, List.length_append]
        exact Nat.le_trans hle (Nat.le_add_right _ _)
      rw [if_pos hc, if_pos hc', List.take_append_of_le_length hle, List.drop_append_of_le_length hle]
      have ih := parseFrags_prefix c t fuel (p6.2.drop p5.1)
      split
      · exact ih
      · exact List.cons_prefix_cons.mpr ⟨rfl, ih⟩
    · rw [if_neg hc]; exact List.nil_prefix

theorem encPacket_length_ge : ∀ (fs : List Frag), fs.length ≤ (encPacket fs).length
  | [] => Nat.le_refl _
  | f :: r => by
    have := encPacket_length_ge r
    rw [encPacket, List.length_append, encFrag_length, List.length_cons]
    omega

theorem parse_enc (c : RxCfg) : ∀ (fs : List Frag) (fuel : Nat), (∀ f, f ∈ fs → FragWF c f) → fs.length < fuel →
    parseFrags c fuel (encPacket fs) = fs.filter (fun f => decide (f.total ≤ c.maxIn))
  | _, 0, _, hf => absurd hf (Nat.not_lt_zero _)
  | [], k+1, _, _ => by simp [parseFrags, encPacket, rd32, rdN, takeN]
  | f :: r, k+1, hwf, hf => by
    obtain ⟨h0, hok⟩ := hwf f List.mem_cons_self
    rw [encPacket, parseFrags_encFrag c k f _ h0, if_pos hok,
      parse_enc c r k (fun g hg => hwf g (List.mem_cons_of_mem _ hg)) (Nat.lt_of_succ_lt_succ hf)]
    by_cases hfit : f.total ≤ c.maxIn
    · rw [if_neg (Nat.not_lt.mpr hfit), filter_le_cons_pos Frag.total c.maxIn f r hfit]
    · rw [if_pos (Nat.lt_of_not_le hfit), filter_le_cons_neg Frag.total c.maxIn f r hfit]

theorem accepted_enc (hdr : Nat) (c : RxCfg) (fs : List Frag) (hwf : ∀ f, f ∈ fs → FragWF c f)
    (hfit : (encPacket fs).length ≤ effMtu hdr c.mtu) :
    accepted hdr c (encPacket fs) = fs.filter (fun f => decide (f.total ≤ c.maxIn)) := by
  rw [accepted, List.take_of_length_le hfit]
  exact parse_enc c fs _ hwf (Nat.lt_succ_of_le (encPacket_length_ge fs))

theorem parse_sublist (c : RxCfg) : ∀ (fs : List Frag) (fuel : Nat), (∀ f, f ∈ fs → FragWF0 f) →
    (parseFrags c fuel (encPacket fs)).Sublist fs
  | _, 0, _ => List.nil_sublist _
  | [], k+1, _ => by simp [parseFrags, encPacket, rd32, rdN, takeN]
  | f :: r, k+1, hwf => by
    have ih := parse_sublist c r k (fun g hg => hwf g (List.mem_cons_of_mem _ hg))
    rw [encPacket, parseFrags_encFrag c k f _ (hwf f List.mem_cons_self)]
    split
    · split
      · exact ih.cons f
      · exact ih.cons_cons f
    · exact List.nil_sublist _

theorem accepted_sub (hdr : Nat) (c : RxCfg) (fs : List Frag) (hwf : ∀ f, f ∈ fs → FragWF0 f) (d t : Bytes)
    (hd : d ++ t = encPacket fs) : ∀ g, g ∈ accepted hdr c d → g ∈ fs := by
  have hpre := parseFrags_prefix c (d.drop (effMtu hdr c.mtu) ++ t) ((d.take (effMtu hdr c.mtu)).length + 1)
    (d.take (effMtu hdr c.mtu))
  rw [← List.append_assoc, List.take_append_drop, hd] at hpre
  exact fun g hg => (hpre.sublist.trans (parse_sublist c fs _ hwf)).subset hg

theorem sentBy_at (id0 : Nat) (ms : List Bytes) (k : Nat) (hk : k < ms.length) (hlen : ms.length ≤ W32) :
    sentBy id0 ms ((id0 + k) % W32) = ms[k]? := by
  simp only [sentBy, W32] at *
  congr 1
  omega

theorem stream_genuine (magic sex id0 : Nat) (ms : List Bytes) (hid : id0 < W32) (hlen : ms.length ≤ W32)
    (src : Nat) (sent : SentMap) (hsent : sent src = sentBy id0 ms) {fs : List Frag}
    (hst : Stream magic sex id0 0 ms fs) : ∀ f, f ∈ fs → Genuine sent src f := by
  intro f hf
  obtain ⟨k, m, o, n, hk, hfit, rfl⟩ := stream_mem hst hid f hf
  exact ⟨m, by rw [hsent, fragOf_id, sentBy_at id0 ms k (List.getElem?_eq_some_iff.mp hk).1 hlen, hk], rfl, hfit, rfl⟩

theorem sent_prefix_genuine (hdr : Nat) (c : RxCfg) (tx : TxCfg) (id0 : Nat) (ms : List Bytes)
    (hmg : tx.magic < W32) (hsx : tx.sex < W32) (hid : id0 < W32) (hlen : ms.length ≤ W32)
    (hW : ∀ m, m ∈ ms → m.length < W32) (src : Nat) (sent : SentMap) (hsent : sent src = sentBy id0 ms)
    (d t : Bytes) (hd : d ++ t ∈ (sendAllBytes hdr tx id0 ms).1) :
    ∀ f, f ∈ accepted hdr c d → Genuine sent src f := by
  intro f hf
  obtain ⟨fr, hfr, henc⟩ := List.mem_map.mp hd
  have hst := (sendAll_stream hdr tx id0 ms).1
  have hin : ∀ g, g ∈ fr → g ∈ (sendAll hdr tx id0 ms).1.flatten := fun g hg => List.mem_flatten.mpr ⟨fr, hfr, hg⟩
  have hmem : f ∈ fr :=
    accepted_sub hdr c fr (fun g hg => stream_wf0 tx.magic tx.sex hmg hsx hst hid hW g (hin g hg)) d t henc.symm f hf
  exact stream_genuine tx.magic tx.sex id0 ms hid hlen src sent hsent hst f (hin f hmem)

theorem sentBy_mem (id0 : Nat) (ms : List Bytes) (id : Nat) (b : Bytes) (h : sentBy id0 ms id = some b) : b ∈ ms :=
  List.mem_of_getElem? h

end Muscle.Tunnel
