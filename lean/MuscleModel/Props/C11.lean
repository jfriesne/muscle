import MuscleModel.Conc.ProofsTQFifo
import MuscleModel.Conc.ProofsTQLive
import MuscleModel.Conc.ProofsTQRank

/-!
# C11 — Thread-to-owner Messages arrive exactly once, in order, and always wake the peer

The lemmas are in `MuscleModel/Conc/ProofsTQ*.lean`.  The model is
`MuscleModel/Conc/ThreadQueue.lean`: one `muscle::Thread`, its owner (user thread 0), any number of extra sender threads
and the internal thread(s).  Every theorem quantifies over **both** signalling mechanisms (`mode : sock | cond`), **all**
programs of the owner (start, send, poll / blocking / timed receive, shutdown with and without join, join, restart, in
any order and number), **any number** of sender threads with any programs of sends, and **every** schedule of thread
steps and time-out events: `Reachable mode progs c` = "`c` is reachable from the initial configuration by some sequence
of enabled events".  `OwnerOnly progs` is the usage rule of the class: only the owner starts, receives replies, shuts
down and joins; other threads only send.
-/

namespace Muscle.Props.C11
open Muscle.Conc Muscle.Conc.TQ

/-- reachable from the initial configuration of `progs` (user thread `i` runs `progs[i]`) under some schedule -/
def Reachable (mode : Mode) (progs : List (List Op)) (c : Cfg) : Prop := machine.Reach (Cfg.init mode progs) c

/-- every result of running a schedule (SKIP rule) and then the TAIL rule — what `mdriver thr` prints — is reachable -/
theorem driver_runs_are_reachable (mode : Mode) (progs : List (List Op)) (evs : List Ev) (n fuel : Nat) :
    Reachable mode progs (machine.runTail n fuel (machine.runSched (Cfg.init mode progs) evs).1).1 :=
  machine.reach_driver _ evs n fuel

/-- **Exactly once, in order** (both directions, no hypothesis on the programs): at every instant, what the receiver has
taken out of a queue, followed by what is still queued, is exactly what was put in, in the order of the critical
sections that put it in. -/
theorem fifo_exactly_once {mode progs c} (h : Reachable mode progs c) (d : Dir) :
    (c.sh.ch d).recvd ++ (c.sh.ch d).queue = (c.sh.ch d).sent := by
  cases d
  · exact (reach_fifo h).1
  · exact (reach_fifo h).2

/-- consequences: the received sequence is a prefix of the sent sequence, and nothing is received twice unless it was
sent twice -/
theorem received_is_prefix {mode progs c} (h : Reachable mode progs c) (d : Dir) : (c.sh.ch d).recvd <+: (c.sh.ch d).sent :=
  ⟨_, fifo_exactly_once h d⟩

theorem received_once {mode progs c} (h : Reachable mode progs c) (d : Dir) (hs : (c.sh.ch d).sent.Nodup) :
    ((c.sh.ch d).recvd ++ (c.sh.ch d).queue).Nodup := by
  rw [fifo_exactly_once h d]; exact hs

/-- non-vacuity: a Message and its reply really travel (socket mode, the TAIL schedule) -/
example : ∃ c, Reachable .sock [[.start, .send ⟨1, 1⟩, .recv, .shutdown true]] c ∧
    c.sh.ci.recvd = [some ⟨1, 1⟩, none] ∧ c.sh.co.recvd = [some ⟨11, 0⟩] ∧ (c.th 0).pc = .done ∧ c.ipc = .exited :=
  machine.witnessTail 4 40 (by decide)

/-- **No lost wake-up, owner → internal thread.**  Whenever the internal thread is blocked in the wait of
`WaitForNextMessageFromOwner()` while a Message is queued for it, a wake-up signal is pending (a byte in the socket
pair / a counted notification), or some thread stands between the unlock of `SendMessageAux()` with
`sendNotification = true` (resp. the spawn in `StartInternalThread()` with `needsInitialSignal = true`) and its signal. -/
theorem no_lost_wakeup {mode progs c} (hw : OwnerOnly progs) (h : Reachable mode progs c)
    (hb : c.ipc = .recvWait) (hq : c.sh.ci.queue ≠ []) :
    c.sh.ci.sig > 0 ∨ ∃ t, t < c.n ∧ ((∃ tj, (c.th t).pc = .sendSig tj) ∨ (c.th t).pc = .startSig) := by
  have hi := reach_inv hw h
  rcases hi.wakeI hb hq with hs | ⟨t, ht⟩
  · exact Or.inl hs
  · refine Or.inr ⟨t, hi.lt_n fun h => (by rw [h] at ht; cases ht), ?_⟩
    cases hp : (c.th t).pc <;> simp_all [isSigPc]

/-- **No lost wake-up, internal thread → owner.**  Whenever the owner is blocked in the wait of
`GetNextReplyFromInternalThread()` while a reply is queued, a signal is pending, or (socket mode) the internal thread has
closed its socket so that the owner's `select()` returns, or the internal thread stands between an unlock of the reply
queue and `SignalOwner()`. -/
theorem no_lost_wakeup_reply {mode progs c} (hw : OwnerOnly progs) (h : Reachable mode progs c) (w : Wk)
    (hb : (c.th 0).pc = .recvWait w) (hq : c.sh.co.queue ≠ []) :
    c.sh.co.sig > 0 ∨ (c.sh.mode = .sock ∧ c.sh.closedO = true) ∨ c.ipc = .entrySig ∨ ∃ id j k, c.ipc = .replySig id j k :=
  (reach_inv hw h).wakeO w hb hq

/-- in both cases "pending" means the blocked receiver (or the signaller) can take a step: the wake-up is not only
promised but enabled -/
theorem wakeup_is_enabled {mode progs c} (hw : OwnerOnly progs) (h : Reachable mode progs c) :
    (c.ipc = .recvWait → c.sh.ci.queue ≠ [] → ¬ Quiescent c) ∧
    (∀ w, (c.th 0).pc = .recvWait w → c.sh.co.queue ≠ [] → ¬ Quiescent c) := by
  have hi := reach_inv hw h
  constructor
  · intro hb hq hqu
    have := ((quiescent_shape hi hqu).1 (by simp [hb])).2
    exact hq this
  · intro w hb hq hqu
    rcases (quiescent_shape hi hqu).2 0 (by simp [hb]) with ⟨_, ⟨w', _, he⟩ | ⟨b, hj, _⟩⟩
    · exact hq he
    · simp [hb] at hj

/-- non-vacuity of `no_lost_wakeup`: the window "enqueued, not yet signalled, receiver already blocked" is reachable
(wait-condition mode; thread 1 is the internal thread) -/
example : ∃ c, Reachable .cond [[.start, .send ⟨1, 0⟩]] c ∧ c.ipc = .recvWait ∧ c.sh.ci.queue ≠ [] ∧ c.sh.ci.sig = 0 ∧
    (c.th 0).pc = .sendSig false :=
  machine.witness [.run 0, .run 1, .run 1, .run 1, .run 0] (by decide)

/-- **No deadlock** other than waiting for Messages that nobody sends: in a reachable configuration where no event is
enabled, the internal thread (if it is alive) waits on an EMPTY queue, and every unfinished user thread is the owner,
who either waits for a reply on an EMPTY reply queue or joins an internal thread that waits on an empty queue (i.e. one
that was never asked to exit).  No thread is ever stuck at a lock, at a signal, or at a wait with a Message queued. -/
theorem deadlock_free {mode progs c} (hw : OwnerOnly progs) (h : Reachable mode progs c) (hq : Quiescent c) :
    (c.ipc ≠ .exited → c.ipc = .recvWait ∧ c.sh.ci.queue = []) ∧
    (∀ t, (c.th t).pc ≠ .done → t = 0 ∧
      ((∃ w, (c.th 0).pc = .recvWait w ∧ c.sh.co.queue = []) ∨
       (∃ b, (c.th 0).pc = .join b ∧ c.ipc = .recvWait ∧ c.sh.ci.queue = []))) :=
  quiescent_shape (reach_inv hw h) hq

/-- non-vacuity: the justified blocking does occur (the owner waits for a reply that was never requested) -/
example : ∃ c, Reachable .sock [[.start, .recv]] c ∧ Quiescent c ∧ (c.th 0).pc = .recvWait .block ∧ c.ipc = .recvWait :=
  machine.witnessTail 4 40 ⟨(quiescent_iff _).mpr ⟨by decide, by decide⟩, by decide, by decide⟩

/-- **Messages queued before the thread was started are delivered once it starts.**
(1) `StartInternalThread()` on a non-empty queue spawns the thread and leaves the owner in front of the initial
signal — the pending signaller that `no_lost_wakeup` counts.
(2) In every reachable configuration where nothing can run and the internal thread is alive, *everything* ever queued
for it — before or after the start, by any thread — has been received, in order. -/
theorem prestart_delivered {mode progs c} (hw : OwnerOnly progs) (h : Reachable mode progs c) :
    (∀ rest, 0 < c.n → (c.th 0).pc = .idle → (c.th 0).prog = .start :: rest → c.sh.running = false → c.sh.ci.queue ≠ [] →
      ∃ c', step c (.run 0) = some (c', .quiet) ∧ (c'.th 0).pc = .startSig ∧ c'.ipc = .start ∧ c'.sh.ci.queue = c.sh.ci.queue) ∧
    (Quiescent c → c.ipc ≠ .exited → c.sh.ci.recvd = c.sh.ci.sent) := by
  constructor
  · intro rest hn hpc hprog hr hq
    exact start_step hn hpc hprog hr hq
  · intro hq hlive
    have he := ((quiescent_shape (reach_inv hw h) hq).1 hlive).2
    have hf := (reach_fifo h).1
    simp only [Chan.Fifo, he, List.append_nil] at hf
    exact hf

/-- non-vacuity: two Messages queued before the start are received after it (both modes) -/
example : ∀ mode, ∃ c, Reachable mode [[.send ⟨1, 0⟩, .send ⟨2, 0⟩, .start, .shutdown true]] c ∧
    c.sh.ci.recvd = [some ⟨1, 0⟩, some ⟨2, 0⟩, none] ∧ (c.th 0).pc = .done := by
  intro mode
  refine machine.witnessTail 4 40 ?_
  cases mode <;> decide

/-- **Shutdown completes.**
(1) *Never stuck*: while the owner is inside `ShutdownInternalThread(true)` with the NULL Message enqueued (in front of
its signal, or in the join), some event is enabled — whatever else is queued, whatever the other threads do.
(2) *Every execution is finite*: `rank` strictly decreases with every step of every thread from every reachable
configuration under every schedule (`no_infinite_run` below is the well-foundedness form), so at most `rank c` more
steps can happen.  Hence every maximal execution (a fortiori every fair one) from such a configuration leaves it, and
the only way out is the join step (3), after which the thread is not running.
Fairness is not needed beyond "enabled events keep being scheduled", because (2) holds for every schedule. -/
theorem shutdown_completes {mode progs c} (hw : OwnerOnly progs) (h : Reachable mode progs c)
    (hp : (c.th 0).pc = .sendSig true ∨ (c.th 0).pc = .join true) :
    (¬ Quiescent c) ∧
    (∀ c1 e c2 o, Reachable mode progs c1 → step c1 e = some (c2, o) → rank c2 < rank c1) ∧
    (∀ c' o, (c.th 0).pc = .join true → step c (.run 0) = some (c', o) → c'.sh.running = false ∧ (c'.th 0).pc ≠ .join true) :=
  ⟨shutdown_not_quiescent (reach_inv hw h) hp, fun _ _ _ _ hr hs => step_decreases (reach_inv hw hr) hs,
   fun _ _ hj hs => join_step (reach_inv hw h) hj hs⟩

/-- the well-foundedness form of (2): there is no infinite execution, under any schedule -/
theorem no_infinite_run {mode progs} (hw : OwnerOnly progs) :
    WellFounded (fun c' c : Cfg => Reachable mode progs c ∧ ∃ e o, step c e = some (c', o)) :=
  Subrelation.wf (r := fun c' c => rank c' < rank c) (fun ⟨hr, _, _, hs⟩ => step_decreases (reach_inv hw hr) hs) (measure rank).wf

/-- non-vacuity: shutdown with two Messages still queued completes; the internal thread handles them first -/
example : ∃ c, Reachable .cond [[.start, .send ⟨1, 2⟩, .send ⟨2, 0⟩, .shutdown true]] c ∧
    c.sh.ci.recvd = [some ⟨1, 2⟩, some ⟨2, 0⟩, none] ∧ c.sh.running = false ∧ (c.th 0).pc = .done ∧ c.sh.co.queue.length = 2 :=
  machine.witnessTail 4 60 (by decide)

end Muscle.Props.C11
