import MuscleModel.Containers.StrBufProofs

/-!
# C17 — String behaves as an ideal byte string across its small-buffer boundary

Property theorems only (lemmas: `Containers/StrBufProofs.lean`, `StrSpecProofs.lean`).  `StrBuf` mirrors the representation of
`muscle::String` (`util/String.{h,cpp}`): storage mode, cached length, buffer bytes, `EnsureBufferSize` /
`GetNextBufferSize`, and every operation that edits the buffer in place, with operands that may be the
String itself (`Arg.self`) or point into its own buffer (`Ptr.own off`).  `StrSpec` is the ideal NUL-free
byte string.  `small` (= `String::GetMaxShortStringLength()`, regenerated into `Muscle.Gen.strSmallLen`)
is a parameter: every theorem holds for every value of it.  The tie to the C++ code is the
correspondence run of engine `str`.

`Inv small b`: `len < cap`, `bytes[len] = 0`, no NUL before `len`, `inl → cap = small+1`,
`¬inl → small+1 < cap`.  `Op.WF s op` (side conditions): character arguments are not NUL, separate String
operands are NUL-free, pointers into the String lie in `[Cstr(), Cstr()+Length()]`, an `operator[]` index is
below `Length()`, lengths fit `uint32`.  `const` methods that edit a copy (`WithInsert`, `WithReplacements`,
`ToLowerCase`, …) are `String(const String &)` followed by one of these operations, and `run_refines`
covers every composition of them.
Not modelled: allocation failure and the `B_RESOURCE_LIMIT` checks for lengths ≥ 2^31 − 2.
-/

namespace Muscle.Props.C17
open Muscle Muscle.Containers Muscle.Containers.StrBuf

/-- A default-constructed String satisfies the invariant and is empty. -/
theorem init_inv (small : Nat) : Inv small (empty small) ∧ abs (empty small) = [] :=
  ⟨(empty_holds small).inv, (empty_holds small).abs_eq⟩

/-- The invariant is preserved by every in-place operation (24 operations: clear, flush, shrink, prealloc,
    truncate ×2, SetCstr, SetFromString, += ×3, insert ×2, -= ×3, Replace ×2, Reverse, the three case
    conversions, `operator[]` store, Unflatten; all operands incl. aliases). -/
theorem buf_inv_preserved (small : Nat) (b : Buf) (h : Inv small b) (op : Op) (hw : op.WF (abs b)) :
    Inv small (step small b op).1 :=
  (step_holds h.holds op hw).1.inv

/-- Refinement: an in-place operation on the representation yields the value and the return value that
    the same operation yields on the ideal byte string — whatever the storage mode is before or after,
    and with alias operands read from the live buffer exactly where the C++ code reads them. -/
theorem buf_refines (small : Nat) (b : Buf) (h : Inv small b) (op : Op) (hw : op.WF (abs b)) :
    abs (step small b op).1 = (specStep (abs b) op).1 ∧ (step small b op).2 = (specStep (abs b) op).2 :=
  ⟨(step_holds h.holds op hw).1.abs_eq, (step_holds h.holds op hw).2⟩

/-- Refinement for every operation sequence: all intermediate values and return values agree with the
    ideal byte string, and the invariant holds at the end. -/
theorem run_refines (small : Nat) (b : Buf) (h : Inv small b) (ops : List Op) (hw : RunWF (abs b) ops) :
    Inv small (run small b ops).1 ∧ abs (run small b ops).1 = (specRun (abs b) ops).1 ∧
    (run small b ops).2 = (specRun (abs b) ops).2 :=
  have r := run_holds ops h.holds hw
  ⟨r.1.inv, r.1.abs_eq, r.2⟩

/-- The result of an operation does not depend on whether the contents live in the small buffer or on
    the heap, nor on the capacity or on the bytes beyond the terminator. -/
theorem mode_irrelevant (small : Nat) (b1 b2 : Buf) (h1 : Inv small b1) (h2 : Inv small b2) (he : abs b1 = abs b2)
    (op : Op) (hw : op.WF (abs b1)) :
    abs (step small b1 op).1 = abs (step small b2 op).1 ∧ (step small b1 op).2 = (step small b2 op).2 := by
  have r1 := step_holds h1.holds op hw
  have r2 := step_holds (he ▸ h2.holds) op hw
  exact ⟨r1.1.abs_eq.trans r2.1.abs_eq.symm, r1.2.trans r2.2.symm⟩

/-- …and the same for every operation sequence: the whole observable trace is independent of the mode. -/
theorem mode_irrelevant_run (small : Nat) (b1 b2 : Buf) (h1 : Inv small b1) (h2 : Inv small b2) (he : abs b1 = abs b2)
    (ops : List Op) (hw : RunWF (abs b1) ops) :
    (run small b1 ops).2 = (run small b2 ops).2 ∧ abs (run small b1 ops).1 = abs (run small b2 ops).1 := by
  have r1 := run_holds ops h1.holds hw
  have r2 := run_holds ops (he ▸ h2.holds) hw
  exact ⟨r1.2.trans r2.2.symm, r1.1.abs_eq.trans r2.1.abs_eq.symm⟩

/-- An operation whose arguments alias the String (the String itself, or a pointer into its buffer) gives
    the same result as with a separate copy of what the argument denotes. -/
theorem alias_eq_copy (small : Nat) (b : Buf) (h : Inv small b) (op : Op) (hw : op.WF (abs b)) :
    abs (step small b op).1 = abs (step small b (op.dealias (abs b))).1 ∧
    (step small b op).2 = (step small b (op.dealias (abs b))).2 := by
  have r1 := step_holds h.holds op hw
  have r2 := step_holds h.holds (op.dealias (abs b)) (wf_dealias _ h.nf op hw)
  rw [specStep_dealias _ h.nf] at r2
  exact ⟨r1.1.abs_eq.trans r2.1.abs_eq.symm, r1.2.trans r2.2.symm⟩

set_option linter.unusedVariables false in
/-- The replacement scan of the ideal string (`replAux`, one byte at a time) computes exactly what the loop of
    `String::Replace(const String &, const String &, …)` computes with `strstr`: find the next hit from the
    read position, keep the gap, emit `withMe`, continue behind the hit, at most `mx` times.  (The read/write
    pointer arithmetic over the buffer itself is not modelled: `StrBuf.replaceStr` stores this result.)
    `F`, `F'` bound the rounds of the two loops: any bounds from `q.length` on give the same result (`h3` is not used). -/
theorem replace_scan_is_strstr_loop (rm wm q : Bytes) (hrm : rm ≠ []) (mx F F' : Nat) (h1 : q.length ≤ F)
    (h2 : q.length ≤ F') (h3 : 1 ≤ F') :
    StrSpec.replAux rm wm F q mx = StrSpec.scanStrstr rm wm F' q mx :=
  StrSpec.replAux_eq_scanStrstr rm wm hrm F q mx F' h1 h2

/-- The storage mode is selected by the capacity (part of the invariant). -/
theorem mode_by_capacity (small : Nat) (b : Buf) (h : Inv small b) : b.inl = true ↔ b.cap = small + 1 := by
  constructor
  · exact h.modeInl
  · intro hc
    cases hi : b.inl
    · have := h.modeHeap hi; omega
    · rfl

/-- `GetNextBufferSize(n) ≥ n`: the buffer `EnsureBufferSize` allocates has room for what was asked for. -/
theorem growth_sufficient (small req : Nat) : req ≤ nextBufferSize small req :=
  le_nextBufferSize small req

/-- `Flatten` writes `FlattenedSize() = Length()+1` bytes. -/
theorem flatten_eq (s : Bytes) : StrSpec.flatten s = s ++ [0] ∧ (StrSpec.flatten s).length = s.length + 1 := by
  simp [StrSpec.flatten]

/-- Parsing the serialised bytes (followed by anything) gives back the String and leaves the rest. -/
theorem flatten_unflatten (s r : Bytes) (hs : StrSpec.nulFree s) :
    StrSpec.unflatten (StrSpec.flatten s ++ r) = some (s, r) := by
  have : StrSpec.flatten s ++ r = s ++ 0 :: r := by simp [StrSpec.flatten]
  rw [this]
  simp only [StrSpec.unflatten, StrSpec.readCString_flat s r hs]

/-- The reader underneath does reject unterminated input: `ReadCString` returns NULL (and flags the
    unflattener) when the view holds no NUL. -/
theorem readCString_rejects (v : Bytes) (h : ∀ x ∈ v, x ≠ 0) : StrSpec.readCString v = none :=
  StrSpec.readCString_none v h

/-- Unterminated input is rejected: a view without a NUL byte — in particular the empty view — makes
    `String::Unflatten` fail (through `UnflattenFromBytes`, `ReadFlat`, `ReadFlatWithLengthPrefix` and the
    Message parser alike, which all return its status). -/
theorem unflatten_rejects (v : Bytes) (h : ∀ x ∈ v, x ≠ 0) : StrSpec.unflatten v = none := by
  simp only [StrSpec.unflatten, StrSpec.readCString_none v h]

/-! Non-vacuity: a 3-byte String in inline mode and the same value in heap mode (after `Prealloc(40)`) both satisfy the
invariant; a self-append and an insertion of a pointer into the String's own buffer satisfy the side
conditions, cross the small-buffer boundary and compute; a NUL-free byte string exists for the flatten
theorems and an unterminated input for the rejection clause. -/

def abc : Bytes := [97, 98, 99]
def bInline : Buf := ofBytes 15 abc
def bHeap : Buf := prealloc 15 bInline 40

example : bInline.inl = true ∧ bHeap.inl = false ∧ abs bInline = abs bHeap := by decide +kernel

example : Inv 15 bInline ∧ Inv 15 bHeap := by
  have h0 := setFromString_holds (empty_holds 15) (.ext abc) (by decide) 0 StrSpec.noLimit
  exact ⟨h0.inv, (ensure_retain h0 41).1.inv⟩

example : Op.WF (abs bInline) (.appendStr .self) ∧ Op.WF (abs bInline) (.insertChars 1 (.own 2) 5) ∧
    Op.WF (abs bInline) (.replaceStr .self (.ext [120]) 1 0) := by decide +kernel

/-- three self-appends cross the boundary: 3 → 6 → 12 → 24 bytes, inline → heap -/
example : (run 15 bInline [.appendStr .self, .appendStr .self, .appendStr .self]).1.inl = false ∧
    (abs (run 15 bInline [.appendStr .self, .appendStr .self, .appendStr .self]).1).length = 24 := by decide +kernel

example : abs (step 15 bInline (.insertChars 1 (.own 2) 5)).1 = [97, 99, 98, 99] := by decide +kernel

example : Op.WF (abs bInline) (.setChar 2 120) ∧ abs (step 15 bHeap (.setChar 2 120)).1 = [97, 98, 120] ∧
    (step 15 bInline (.unflatten [104, 105, 0, 9])).2 = 0 ∧ (step 15 bInline (.unflatten [104, 105])).2 = -1 := by decide +kernel

example : StrSpec.scanStrstr [97, 98] [120] 9 [97, 98, 99, 97, 98] 5 = ([120, 99, 120], 2) := by decide +kernel

example : StrSpec.nulFree abc := by decide +kernel
example : StrSpec.unflatten (StrSpec.flatten abc ++ [7, 0]) = some (abc, [7, 0]) := by decide +kernel
example : StrSpec.unflatten abc = none ∧ StrSpec.unflatten [] = none := by decide +kernel

end Muscle.Props.C17
