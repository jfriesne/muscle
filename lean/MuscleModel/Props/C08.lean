import MuscleModel.Props.C01
import MuscleModel.Wire.Frame
import MuscleModel.Spec.WireConstants
import MuscleModel.Generated.Dialects

/-!
# C08 — All Message implementations agree on one wire format, byte for byte

Property theorems only.  What is PROVED here is about the model `encode` (= `Message::Flatten`, tied to the C++ code
by the correspondence run of engine `msg`, which harness `xwire` drives on the common repertoire):

* `constants_as_documented` — every constant regenerated from /repo on this run (C++ headers, the C mini and micro
  codecs and their gateways, the Python codec and its transceiver) equals the hand-typed documented table
  `Spec/WireConstants.lean`; `documented_constants_are_fourcc` ties that table to the four-character codes;
* `header_layout`, `field_layout`, `payload_layout_*` — the bytes `encode` produces ARE the documented layout;
* `encode_injective` — two well-formed Messages with the same bytes have the same content (so "parse to the same
  content" is well defined: the bytes determine the content);
* `frame_roundtrip` — the 8-byte length/encoding frame.

NOT proved (partial by design, DESIGN.md C08): the internals of the C and Python codecs are not modelled; that they
read and write this layout is established by the direct oracle of harness `xwire`, not by a theorem.
Numbers ↔ item bytes: an item of a fixed-size type is its flattened bytes in the model; the little-endian conversion
(`leN`) sits in the op layer of engine `msg` and is tied to `DataFlattener::WritePrimitive` by the correspondence run.
-/


namespace Muscle.Props.C08
open Muscle Muscle.Wire

/-- Every wire constant of every implementation, as regenerated from /repo's current source, is the documented one. -/
theorem constants_as_documented :
    -- C++ (message/Message.h, support/MuscleSupport.h, iogateway/MessageIOGateway.h)
    (Gen.protocolVersion = Spec.protocolVersion ∧ Gen.oldestProtocolVersion = Spec.protocolVersion ∧
     [Gen.tcBool, Gen.tcDouble, Gen.tcFloat, Gen.tcInt64, Gen.tcInt32, Gen.tcInt16, Gen.tcInt8, Gen.tcMessage,
      Gen.tcPointer, Gen.tcPoint, Gen.tcRect, Gen.tcString, Gen.tcRaw, Gen.tcTag, Gen.tcAny]
     = [Spec.tcBool, Spec.tcDouble, Spec.tcFloat, Spec.tcInt64, Spec.tcInt32, Spec.tcInt16, Spec.tcInt8, Spec.tcMessage,
        Spec.tcPointer, Spec.tcPoint, Spec.tcRect, Spec.tcString, Spec.tcRaw, Spec.tcTag, Spec.tcAny] ∧
     [Gen.encodingDefault, Gen.encodingZlib1, Gen.encodingZlib2, Gen.encodingZlib3, Gen.encodingZlib4, Gen.encodingZlib5,
      Gen.encodingZlib6, Gen.encodingZlib7, Gen.encodingZlib8, Gen.encodingZlib9, Gen.encodingEndMarker]
     = (List.range 10).map Spec.encoding ++ [Spec.encodingEnd] ∧
     Gen.gatewayHeaderSize = Spec.frameHeaderSize ∧
     (∀ p ∈ Spec.itemSizes, Gen.wireItemSize p.1 = p.2) ∧ (∀ tc ∈ Spec.variableTypes, Gen.wireItemSize tc = 0)) ∧
    -- C mini codec (lang/c/minimessage/MiniMessage.c, MiniMessageGateway.c)
    (Gen.miniProtocolVersion = Spec.protocolVersion ∧ Gen.miniOldestProtocolVersion = Spec.protocolVersion ∧
     [Gen.miniTcBool, Gen.miniTcDouble, Gen.miniTcFloat, Gen.miniTcInt64, Gen.miniTcInt32, Gen.miniTcInt16, Gen.miniTcInt8,
      Gen.miniTcMessage, Gen.miniTcPointer, Gen.miniTcPoint, Gen.miniTcRect, Gen.miniTcString, Gen.miniTcRaw, Gen.miniTcTag, Gen.miniTcAny]
     = [Spec.tcBool, Spec.tcDouble, Spec.tcFloat, Spec.tcInt64, Spec.tcInt32, Spec.tcInt16, Spec.tcInt8, Spec.tcMessage,
        Spec.tcPointer, Spec.tcPoint, Spec.tcRect, Spec.tcString, Spec.tcRaw, Spec.tcTag, Spec.tcAny] ∧
     [Gen.miniSzBool, Gen.miniSzInt8, Gen.miniSzInt16, Gen.miniSzInt32, Gen.miniSzInt64, Gen.miniSzFloat, Gen.miniSzDouble, Gen.miniSzPoint, Gen.miniSzRect]
     = [Spec.szBool, Spec.szInt8, Spec.szInt16, Spec.szInt32, Spec.szInt64, Spec.szFloat, Spec.szDouble, Spec.szPoint, Spec.szRect] ∧
     Gen.miniHeaderSize = Spec.messageHeaderSize ∧ Gen.miniGwEncodingDefault = Spec.encoding 0 ∧ Gen.miniGwHeaderSize = Spec.frameHeaderSize) ∧
    -- C micro codec (lang/c/micromessage/MicroMessage.c, MicroMessageGateway.c)
    (Gen.microProtocolVersion = Spec.protocolVersion ∧ Gen.microOldestProtocolVersion = Spec.protocolVersion ∧
     [Gen.microTcBool, Gen.microTcDouble, Gen.microTcFloat, Gen.microTcInt64, Gen.microTcInt32, Gen.microTcInt16, Gen.microTcInt8,
      Gen.microTcMessage, Gen.microTcPointer, Gen.microTcPoint, Gen.microTcRect, Gen.microTcString, Gen.microTcRaw, Gen.microTcTag, Gen.microTcAny]
     = [Spec.tcBool, Spec.tcDouble, Spec.tcFloat, Spec.tcInt64, Spec.tcInt32, Spec.tcInt16, Spec.tcInt8, Spec.tcMessage,
        Spec.tcPointer, Spec.tcPoint, Spec.tcRect, Spec.tcString, Spec.tcRaw, Spec.tcTag, Spec.tcAny] ∧
     [Gen.microSzBool, Gen.microSzInt8, Gen.microSzInt16, Gen.microSzInt32, Gen.microSzInt64, Gen.microSzFloat, Gen.microSzDouble, Gen.microSzPoint, Gen.microSzRect]
     = [Spec.szBool, Spec.szInt8, Spec.szInt16, Spec.szInt32, Spec.szInt64, Spec.szFloat, Spec.szDouble, Spec.szPoint, Spec.szRect] ∧
     Gen.microHeaderSize = Spec.messageHeaderSize ∧ Gen.microGwMessageHeaderSize = Spec.messageHeaderSize ∧
     Gen.microGwEncodingDefault = Spec.encoding 0 ∧ Gen.microGwHeaderSize = Spec.frameHeaderSize) ∧
    -- Python codec (lang/python3/message.py, message_transceiver_thread.py); message.py has no tag type
    (Gen.pyProtocolVersion = Spec.protocolVersion ∧
     [Gen.pyTcBool, Gen.pyTcDouble, Gen.pyTcFloat, Gen.pyTcInt64, Gen.pyTcInt32, Gen.pyTcInt16, Gen.pyTcInt8,
      Gen.pyTcMessage, Gen.pyTcPointer, Gen.pyTcPoint, Gen.pyTcRect, Gen.pyTcString, Gen.pyTcRaw, Gen.pyTcAny]
     = [Spec.tcBool, Spec.tcDouble, Spec.tcFloat, Spec.tcInt64, Spec.tcInt32, Spec.tcInt16, Spec.tcInt8, Spec.tcMessage,
        Spec.tcPointer, Spec.tcPoint, Spec.tcRect, Spec.tcString, Spec.tcRaw, Spec.tcAny] ∧
     [Gen.pySzBool, Gen.pySzInt8, Gen.pySzInt16, Gen.pySzInt32, Gen.pySzInt64, Gen.pySzFloat, Gen.pySzDouble, Gen.pySzPoint, Gen.pySzRect]
     = [Spec.szBool, Spec.szInt8, Spec.szInt16, Spec.szInt32, Spec.szInt64, Spec.szFloat, Spec.szDouble, Spec.szPoint, Spec.szRect] ∧
     Gen.pyHeaderSize = Spec.messageHeaderSize ∧ Gen.pyGwEncodingDefault = Spec.encoding 0) := by
  decide

/-- The documented numbers are the four-character codes the documentation names. -/
theorem documented_constants_are_fourcc :
    Spec.protocolVersion = Spec.fourCC 'P' 'M' '0' '0' ∧
    Spec.tcBool = Spec.fourCC 'B' 'O' 'O' 'L' ∧ Spec.tcDouble = Spec.fourCC 'D' 'B' 'L' 'E' ∧
    Spec.tcFloat = Spec.fourCC 'F' 'L' 'O' 'T' ∧ Spec.tcInt64 = Spec.fourCC 'L' 'L' 'N' 'G' ∧
    Spec.tcInt32 = Spec.fourCC 'L' 'O' 'N' 'G' ∧ Spec.tcInt16 = Spec.fourCC 'S' 'H' 'R' 'T' ∧
    Spec.tcInt8 = Spec.fourCC 'B' 'Y' 'T' 'E' ∧ Spec.tcMessage = Spec.fourCC 'M' 'S' 'G' 'G' ∧
    Spec.tcPointer = Spec.fourCC 'P' 'N' 'T' 'R' ∧ Spec.tcPoint = Spec.fourCC 'B' 'P' 'N' 'T' ∧
    Spec.tcRect = Spec.fourCC 'R' 'E' 'C' 'T' ∧ Spec.tcString = Spec.fourCC 'C' 'S' 'T' 'R' ∧
    Spec.tcRaw = Spec.fourCC 'R' 'A' 'W' 'T' ∧ Spec.tcTag = Spec.fourCC 'M' 'T' 'A' 'G' ∧
    Spec.tcAny = Spec.fourCC 'A' 'N' 'Y' 'T' ∧
    Spec.encoding 0 = Spec.fourCC 'E' 'n' 'c' '0' ∧ Spec.encoding 9 = Spec.fourCC 'E' 'n' 'c' '9' ∧
    Spec.encodingEnd = Spec.encoding 9 + 1 := by
  decide

/-! ## layout of the bytes `encode` produces -/

/-- After the header come the fields, in order; nothing else. -/
theorem body_layout (m : Msg) :
    encode m = le32 Gen.protocolVersion ++ (le32 m.what ++ (le32 (countFlat m.fields) ++ encFields m.fields)) := by
  cases m with
  | mk w fs => simp [encode_eq, encMsg, Msg.what, Msg.fields]

/-- The first 12 bytes: little-endian protocol version, what-code, number of flattenable fields. -/
theorem header_layout (m : Msg) :
    (encode m).take 12 = le32 Gen.protocolVersion ++ (le32 m.what ++ le32 (countFlat m.fields)) := by
  have h : (le32 Gen.protocolVersion ++ (le32 m.what ++ le32 (countFlat m.fields))).length = 12 := by simp
  rw [body_layout, ← List.append_assoc (le32 m.what), ← List.append_assoc, ← h, List.take_left']
  rfl

/-- …and on the wire the version word is the four bytes `30 30 4D 50` ('PM00' little-endian). -/
theorem header_magic_bytes (m : Msg) : (encode m).take 4 = [0x30, 0x30, 0x4D, 0x50] := by
  have h : (le32 Gen.protocolVersion).length = 4 := by simp
  rw [body_layout, ← h, List.take_left']
  · decide
  · rfl

/-- Per flattenable field: le32 (name length + 1), the name, a NUL, le32 type code, le32 payload length, payload;
    then the remaining fields. -/
theorem field_layout (n : Bytes) (f : Field) (r : List (Bytes × Field)) (h : f.flattenable = true) :
    encFields ((n, f) :: r) =
      le32 (n.length + 1) ++ (n ++ ([0] ++ (le32 f.typeCode ++ (le32 (encPayload f).length ++ (encPayload f ++ encFields r))))) := by
  rw [encFields_cons, if_pos h]
  rfl

/-- Pointer and tag fields are never on the wire. -/
theorem field_layout_opaque (n : Bytes) (tc k : Nat) (r : List (Bytes × Field)) :
    encFields ((n, .opaque tc k) :: r) = encFields r := by
  simp [encFields]

/-- Fixed-size types (bool, int8…int64, float, double, point, rect): the items' bytes one after the other, no count,
    no padding.  (In a well-formed Message each item has exactly `wireItemSize tc` bytes, see `payload_length_fixed`.) -/
theorem payload_layout_fixed (tc : Nat) (rp : Rep) (xs : List Bytes) (h : rp = .inl → xs.length = 1) :
    encPayload (.fixed tc rp xs) = xs.flatten := by
  have : ∀ ys : List Bytes, encFixedArr ys = ys.flatten := by
    intro ys; induction ys with
    | nil => rfl
    | cons y r ih => simp [encFixedArr, ih]
  simp [encPayload, encFixed_eq_arr rp xs h, this]

/-- …so a fixed-size field of `k` items has `k × (documented item size)` payload bytes: bool 1, int8 1, int16 2,
    int32 4, int64 8, float 4, double 8, point 8, rect 16. -/
theorem payload_length_fixed (tc sz : Nat) (rp : Rep) (xs : List Bytes) (hp : (tc, sz) ∈ Spec.itemSizes)
    (h : rp = .inl → xs.length = 1) (hx : ∀ x ∈ xs, x.length = Gen.wireItemSize tc) :
    (encPayload (.fixed tc rp xs)).length = xs.length * sz := by
  have hs : Gen.wireItemSize tc = sz := (constants_as_documented.1.2.2.2.2.2.1) (tc, sz) hp
  simp only [encPayload, encFixed_eq_arr rp xs h]
  rw [← hs]
  exact encFixedArr_length _ xs hx

/-- Strings: item count, then per string le32 (length + 1), the bytes, a NUL. -/
theorem payload_layout_string (rp : Rep) (xs : List Bytes) (h : rp = .inl → xs.length = 1) :
    encPayload (.strs rp xs) = le32 xs.length ++ (xs.map (fun s => le32 (s.length + 1) ++ (s ++ [0]))).flatten := by
  have : ∀ ys : List Bytes, encStrItems ys = (ys.map (fun s => le32 (s.length + 1) ++ (s ++ [0]))).flatten := by
    intro ys; induction ys with
    | nil => rfl
    | cons y r ih => simp [encStrItems, ih]
  simp [encPayload, encStrs_eq_arr rp xs h, this]

/-- Raw data (any other type code): item count, then per item le32 length and the bytes. -/
theorem payload_layout_raw (tc : Nat) (rp : Rep) (xs : List Bytes) (h : rp = .inl → xs.length = 1) :
    encPayload (.raws tc rp xs) = le32 xs.length ++ (xs.map (fun b => le32 b.length ++ b)).flatten := by
  have : ∀ ys : List Bytes, encRawItems ys = (ys.map (fun b => le32 b.length ++ b)).flatten := by
    intro ys; induction ys with
    | nil => rfl
    | cons y r ih => simp [encRawItems, ih]
  simp [encPayload, encRaws_eq_arr rp xs h, this]

/-- Sub-Messages: per item le32 length and the flattened Message — and NO item count (the historical special case). -/
theorem payload_layout_message (rp : Rep) (ms : List Msg) (h : rp = .inl → ms.length = 1) :
    encPayload (.msgs rp ms) = (ms.map (fun m => le32 (encode m).length ++ encode m)).flatten := by
  have : ∀ ys : List Msg, encMsgItems ys = (ys.map (fun m => le32 (encode m).length ++ encode m)).flatten := by
    intro ys; induction ys with
    | nil => simp [encMsgItems]
    | cons y r ih => simp [encMsgItems, ih, encode_eq]
  simp [encPayload, encMsgsF_eq_items rp ms h, this]

/-- The bytes determine the content: two well-formed Messages that flatten to the same bytes are equal up to
    what a round trip may change (non-flattenable fields, inline/array representation). -/
theorem encode_injective (m₁ m₂ : Msg) (h₁ : wfMsg m₁) (h₂ : wfMsg m₂) (h : encode m₁ = encode m₂) :
    tripMsg m₁ = tripMsg m₂ :=
  Muscle.Props.C01.encode_injective_c01 m₁ m₂ h₁ h₂ h

/-- The 8-byte frame: what the sender wraps, the receiver unwraps — for every encoding id and every body that fits. -/
theorem frame_roundtrip (enc : Nat) (body : Bytes) (he : validEncoding enc = true)
    (hl : Gen.gatewayHeaderSize + body.length < 4294967296) :
    unframe (frame enc body) = some (enc, body) := by
  have := unframeStream_frame enc body [] he hl
  simp only [List.append_nil] at this
  simp [unframe, this]

/-- …and in a stream the bytes behind a frame are left untouched. -/
theorem frame_roundtrip_stream (enc : Nat) (body rest : Bytes) (he : validEncoding enc = true)
    (hl : Gen.gatewayHeaderSize + body.length < 4294967296) :
    unframeStream (frame enc body ++ rest) = some (enc, body, rest) :=
  unframeStream_frame enc body rest he hl

/-- The frame header is exactly: le32 body length, le32 encoding. -/
theorem frame_layout (enc : Nat) (body : Bytes) :
    (frame enc body).take 8 = le32 body.length ++ le32 enc ∧ (frame enc body).drop 8 = body := by
  have h : (le32 body.length ++ le32 enc).length = 8 := by simp
  have e : frame enc body = (le32 body.length ++ le32 enc) ++ body := by simp [frame]
  constructor
  · rw [e, ← h, List.take_left']; rfl
  · rw [e, ← h, List.drop_left']; rfl

/-! Non-vacuity: the hypotheses are satisfiable and the statements compute on a concrete Message. -/

example : validEncoding (Spec.encoding 0) = true ∧ validEncoding (Spec.encoding 9) = true ∧ validEncoding Spec.encodingEnd = false := by decide
example : unframe (frame (Spec.encoding 0) [1, 2, 3]) = some (Spec.encoding 0, [1, 2, 3]) :=
  frame_roundtrip _ _ (by decide) (by decide)
example : frame (Spec.encoding 0) [7] = [1, 0, 0, 0, 0x30, 0x63, 0x6e, 0x45, 7] := by decide
example : (encode Muscle.Props.C01.sample).take 12 = [0x30, 0x30, 0x4D, 0x50, 42, 0, 0, 0, 3, 0, 0, 0] := by
  rw [header_layout]
  simp [Muscle.Props.C01.sample, Msg.what, Msg.fields, countFlat, le32, leN, Gen.protocolVersion]
example : wfMsg Muscle.Props.C01.sample → tripMsg Muscle.Props.C01.sample = tripMsg Muscle.Props.C01.sample :=
  fun h => encode_injective _ _ h h rfl

end Muscle.Props.C08
