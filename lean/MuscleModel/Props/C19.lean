import MuscleModel.Conc.ProofsTPLive
import MuscleModel.Conc.ProofsTPCover

/-!
# C19 — A thread pool handles each client's Messages once, in order, one at a time

The invariants behind the theorems are in `MuscleModel/Conc/ProofsTP*.lean`.  `Reachable maxT regs progs c` = "`c` is
reachable from the initial configuration (a fresh `ThreadPool(maxT)`, the clients `regs` registered, user thread `i`
about to run `progs[i]`) by some sequence of enabled steps of user threads and pool threads" — i.e. under EVERY
schedule, for any pool size, any number of clients, user threads and any finite programs.
-/

namespace Muscle.Props.C19
open Muscle.Conc Muscle.Conc.TP

def Reachable (maxT : Nat) (regs : List Client) (progs : List (List Op)) (c : Cfg) : Prop :=
  machine.Reach (Cfg.init maxT regs progs) c

/-- every result of running a schedule (SKIP rule) and then the TAIL rule is reachable.  (`mdriver tp` runs a line by its own copies of the two
rules, `TPEngine.runEvents`/`runTail`, which call the same `step`; no theorem relates the copies to `Machine.runSched`/`runTail`.) -/
theorem driver_runs_are_reachable (maxT : Nat) (regs : List Client) (progs : List (List Op)) (evs : List Ev) (n fuel : Nat) :
    Reachable maxT regs progs (machine.runTail n fuel (machine.runSched (Cfg.init maxT regs progs) evs).1).1 :=
  machine.reach_driver _ evs n fuel

/-- **Thread limit.**  The pool never owns more threads than `_maxThreadCount`; the two thread tables are duplicate-free
and disjoint, and a thread in the available table serves nobody.  (All programs, no discipline needed.) -/
theorem thread_limit {maxT regs progs c} (h : Reachable maxT regs progs c) :
    c.p.availR.length + c.p.active.length ≤ maxT ∧ c.p.availR.Nodup ∧ c.p.active.Nodup ∧
    (∀ T, T ∈ c.p.availR → T ∉ c.p.active ∧ ∀ k, ¬ serving c T k) := by
  have hi := (reach_invBase h).inv0
  have hm : c.p.maxT = maxT := reach_maxT h
  exact ⟨hm ▸ hi.limit, hi.ndA, hi.ndB, fun T hT => ⟨hi.disj T hT, hi.availNoServe hT⟩⟩

/-- **Parallelism (non-vacuity).**  With two pool threads, two different clients are inside their handlers at the same time. -/
theorem parallel_ok : ∃ c, Reachable 2 [0, 1] [[.sub 0 7, .sub 1 8]] c ∧
    (c.pth 0).pc = .handler ∧ (c.pth 0).cur = some 0 ∧ (c.pth 1).pc = .handler ∧ (c.pth 1).cur = some 1 :=
  machine.witness [.run 0, .run 0, .run 0, .run 0, .run 1, .run 2] (by decide)

/-- … and with ONE pool thread the second client has to wait (the limit binds): same program, same schedule -/
example : ∃ c, Reachable 1 [0, 1] [[.sub 0 7, .sub 1 8]] c ∧ (c.pth 0).cur = some 0 ∧ c.p.pend 1 = [8] ∧ c.p.idc = 1 :=
  machine.witness [.run 0, .run 0, .run 0, .run 0, .run 1, .run 2] (by decide)

/-! ## Theorems under the client discipline

`Disciplined progs` (defined in `Conc/ProofsTPLocal.lean`, with the other two hypotheses on the programs): a client that some program registers or unregisters is used by
that program only (`IThreadPoolClient` is not itself thread-safe — `_threadPool` is an unsynchronised member — so
`SetThreadPool` racing with another thread's call on the same client is outside the documented contract).  Clients
that are registered up front and only submitted to may be shared by all threads.  Without the discipline the theorems
below are FALSE in the model and in the code: see `undisciplined_two_handlers` at the end. -/

/-- **Exactly once, in order.**  For every client k: the Messages already handled, then the batch a pool thread holds
for k (head = the Message inside the handler right now), then k's pending queue, then its deferred queue are — as ONE
list — exactly the Messages accepted from k, in submission order.  So nothing is lost, duplicated or reordered.
Holds as long as nothing of k's was dropped (`c.dropped k = []`; dropping happens only in `Shutdown()`: see
`nothing_dropped_before_shutdown`). -/
theorem handled_once {maxT regs progs c} (hd : Disciplined progs) (h : Reachable maxT regs progs c) (k : Client)
    (hk : c.dropped k = []) :
    (∀ T, (c.pth T).cur = some k → c.handled k ++ (c.pth T).queue ++ c.p.pend k ++ c.p.defr k = c.submitted k) ∧
    ((∀ T, (c.pth T).cur ≠ some k) → c.handled k ++ c.p.pend k ++ c.p.defr k = c.submitted k) :=
  have hi := (reach_invAll hd h).invH
  ⟨fun T hT => hi.acctServed k T hk hT, fun hn => hi.acctUnserved k hk hn⟩

/-- until `Shutdown()` has begun no accepted Message is ever dropped (in particular `UnregisterClient` drops nothing) -/
theorem nothing_dropped_before_shutdown {maxT regs progs c} (hd : Disciplined progs) (h : Reachable maxT regs progs c)
    (hs : c.p.shut = false) (k : Client) : c.dropped k = [] :=
  (reach_invAll hd h).invH.noDrop hs k

/-- non-vacuity of `handled_once`: one Message handled, the next inside the handler, a third deferred behind it -/
example : ∃ c, Reachable 1 [0] [[.sub 0 1, .sub 0 2, .sub 0 3]] c ∧ c.handled 0 = [1] ∧ (c.pth 0).queue = [2] ∧ c.p.defr 0 = [3] :=
  machine.witness [.run 0, .run 0, .run 1, .run 0, .run 0, .run 1, .run 1, .run 0, .run 0] (by decide)

/-- **One at a time.**  At most one pool thread serves a client (owns its batch or is handing it back); until shutdown
such a client is marked "being handled", and a client marked so has nothing in the pending table (the `MASSERT` of
`DispatchPendingMessagesUnsafe` never fires): new Messages go to the deferred queue. -/
theorem one_at_a_time {maxT regs progs c} (hd : Disciplined progs) (h : Reachable maxT regs progs c) (k : Client) :
    (∀ T T', serving c T k → serving c T' k → T = T') ∧
    (c.p.shut = false → ∀ T, serving c T k → c.p.flag k = true) ∧
    (c.p.flag k = true → c.p.pend k = []) ∧ (c.p.flag k = false → c.p.defr k = []) :=
  have hi := reach_invAll hd h
  ⟨fun T T' => hi.inv1.oneServer T T' k, fun hs T => hi.inv1.servedFlag hs T k, hi.inv0.flagPend k, hi.inv1.defrFlag k⟩

/-- **Unregistering waits.**  When `UnregisterClient(k)` reaches its final clean-up (after which `SetThreadPool(NULL)`
returns in the same step) nothing is outstanding for k; and unless `Shutdown()` intervened no pool thread serves k any
more and every Message ever accepted from k has been handled, in order. -/
theorem unregister_waits {maxT regs progs c} (hd : Disciplined progs) (h : Reachable maxT regs progs c) (t : Tid) (k : Client)
    (hpc : (c.uth t).pc = .unregLock2 k) :
    c.p.flag k = false ∧ c.p.pend k = [] ∧ c.p.defr k = [] ∧
    (c.p.shut = false → (∀ T, ¬ serving c T k) ∧ c.handled k = c.submitted k) := by
  have hi := reach_invAll hd h
  have hq := (hi.inv1.user t).quietAt k (Or.inl hpc)
  refine ⟨hq.flag, hq.pend, hq.defr, fun hs => ?_⟩
  have hn : ∀ T, ¬ serving c T k := fun T hT => by
    have := hi.inv1.servedFlag hs T k hT
    rw [hq.flag] at this; cases this
  refine ⟨hn, ?_⟩
  have := hi.invH.acctUnserved k (hi.invH.noDrop hs k) (fun T hT => hn T (Or.inl hT))
  rw [hq.pend, hq.defr] at this
  simpa using this

/-- the wake-up of a thread blocked in `UnregisterClient(k)` is never early: a pending notification means k is quiet -/
theorem unregister_wakeup_not_early {maxT regs progs c} (hd : Disciplined progs) (h : Reachable maxT regs progs c) (t : Tid) (k : Client)
    (hpc : (c.uth t).pc = .unregWait k) (hn : (c.uth t).notif > 0) : c.p.flag k = false ∧ c.p.pend k = [] ∧ c.p.defr k = [] :=
  ((reach_invAll hd h).inv1.user t).quietAt k (Or.inr ⟨hpc, hn⟩)

/-- non-vacuity of `unregister_waits`: the unregistering thread really blocks while the handler runs … -/
example : ∃ c, Reachable 1 [0] [[.sub 0 1, .unreg 0]] c ∧ (c.uth 0).pc = .unregWait 0 ∧ (c.uth 0).notif = 0 ∧ (c.pth 0).pc = .handler :=
  machine.witness [.run 0, .run 0, .run 1, .run 0, .run 0] (by decide)

/-- … and is released once the handler has returned -/
example : ∃ c, Reachable 1 [0] [[.sub 0 1, .unreg 0]] c ∧ (c.uth 0).pc = .unregLock2 0 ∧ c.handled 0 = [1] :=
  machine.witness [.run 0, .run 0, .run 1, .run 0, .run 0, .run 1, .run 1, .run 0] (by decide)

/-! ## Progress: no deadlock, and `Shutdown()` terminates

Two more hypotheses on the programs (both are what the API allows: `Shutdown()` is private and runs from the
destructor / `FlushCachedObjects()`, after which the pool must not be used): `NoRegIfShutdown progs` — if some program
calls `Shutdown`, no program registers a client (registering with a pool that is shut down would strand the client:
nothing is dispatched any more, see `register_after_shutdown_strands`); and the pool has at least one thread
(`1 ≤ maxT`; with `ThreadPool(0)` nothing is ever dispatched, see `pool_of_size_zero_strands`). -/

/-- **Deadlock freedom.**  In every reachable configuration, as long as some user thread has not finished its program,
some thread (a user thread or a pool thread) can take a step.  In particular a thread blocked in `UnregisterClient`
or in the join of `Shutdown()` is never stranded: the wake-up it waits for is owed by a thread that can run. -/
theorem deadlock_free {maxT regs progs c} (hd : Disciplined progs) (hn : NoRegIfShutdown progs) (hm : 1 ≤ maxT)
    (h : Reachable maxT regs progs c) (hex : ∃ t, t < c.nU ∧ (c.uth t).pc ≠ .done) :
    ∃ e c' o, machine.step c e = some (c', o) := by
  obtain ⟨t, ht, hnd⟩ := hex
  obtain ⟨e, r, hr⟩ := live_progress (reach_invLive hd hn h) (by rw [reach_maxT h]; exact hm) t ht hnd
  exact ⟨e, r.1, r.2, hr⟩

/-- non-vacuity of `deadlock_free`: a blocked unregistering thread, and the pool thread that owes it the wake-up can step -/
example : ∃ c, Reachable 1 [0] [[.sub 0 1, .unreg 0]] c ∧ (c.uth 0).pc = .unregWait 0 ∧ (stepUser c 0).isNone ∧ (stepPool c 0).isSome :=
  machine.witness [.run 0, .run 0, .run 1, .run 0, .run 0] (by decide)

/-- the hypothesis `1 ≤ maxT` is necessary: with `ThreadPool(0)` the Message stays pending and the unregistering thread
waits for ever (user thread blocked, no pool thread exists) -/
theorem pool_of_size_zero_strands : ∃ c, Reachable 0 [0] [[.sub 0 1, .unreg 0]] c ∧
    (c.uth 0).pc = .unregWait 0 ∧ (stepUser c 0).isNone ∧ c.p.idc = 0 ∧ c.p.pend 0 = [1] :=
  machine.witness [.run 0, .run 0, .run 0, .run 0] (by decide)

/-- the hypothesis `NoRegIfShutdown` is necessary: a client registered after `Shutdown()` gets its Message accepted but
never handled, and its `SetThreadPool(NULL)` waits for ever (the only pool thread has ended) -/
theorem register_after_shutdown_strands : ∃ c, Reachable 1 [] [[.shutdown, .reg 0, .sub 0 1, .unreg 0]] c ∧
    (c.uth 0).pc = .unregWait 0 ∧ (stepUser c 0).isNone ∧ c.p.idc = 0 ∧ c.p.pend 0 = [1] ∧ c.p.shut = true :=
  machine.witnessTail 1 40 (by decide)

/-- **The shutdown phase has a ranking function.**  `rank` (defined in `Conc/ProofsTPRank.lean`: what is left of the user
programs and of the calls in progress — a `Shutdown` call counting 20 per pool thread still in the tables —, plus
4 per Message in a pool thread's inbox, 2 per Message of its batch, plus its program-counter weight) becomes
strictly smaller with EVERY step of EVERY thread once `_shuttingDown` is set; and `_shuttingDown` stays set. -/
theorem shutdown_rank_decreases {maxT regs progs c c' e o} (hd : Disciplined progs) (hn : NoRegIfShutdown progs)
    (h : Reachable maxT regs progs c) (hs : c.p.shut = true) (hst : machine.step c e = some (c', o)) :
    rank c' < rank c ∧ c'.p.shut = true :=
  rank_decreases (reach_invBase h).invP hs hst

/-- **`Shutdown()` terminates.**  From any reachable configuration in which `Shutdown()` has begun: (1) every run —
whatever the scheduler does — has at most `rank c` steps, so there is no infinite run; (2) a run can stop only in a
configuration where every user thread has finished its program — in particular the thread inside `Shutdown()` has
returned from it (no deadlock on the way). -/
theorem shutdown_terminates {maxT regs progs c} (hd : Disciplined progs) (hn : NoRegIfShutdown progs) (hm : 1 ≤ maxT)
    (h : Reachable maxT regs progs c) (hs : c.p.shut = true) {n : Nat} {c' : Cfg} (hrun : Steps n c c') :
    n ≤ rank c ∧ ((∀ e, step c' e = none) → ∀ t, t < c'.nU → (c'.uth t).pc = .done) := by
  have hl := reach_invLive hd hn h
  obtain ⟨b1, b2, b3, b4⟩ := steps_bounded hl hs hrun
  refine ⟨by omega, fun hstuck t ht => Classical.byContradiction fun hnd => ?_⟩
  obtain ⟨e, r, hr⟩ := live_progress b3 (by rw [b4, reach_maxT h]; exact hm) t ht hnd
  rw [hstuck e] at hr; cases hr

/-- the join in `Shutdown()` returns only for a pool thread that has ended -/
theorem shutdown_join_waits (c : Cfg) (t : Tid) {b nA tot n T rest r} (hpc : (c.uth t).pc = .sdJoin b nA tot n T rest)
    (hs : stepUser c t = some r) : (c.pth T).pc = .exited := by
  unfold stepUser at hs
  simp only [hpc] at hs
  split at hs
  · assumption
  · cases hs

/-- non-vacuity: a complete shutdown run with a handler in flight when `Shutdown()` starts; the pool thread finishes its
batch, gets the quit Message and ends, `Shutdown()` joins it and returns -/
theorem shutdown_example : ∃ c, Reachable 1 [0] [[.sub 0 1], [.shutdown]] c ∧
    (c.uth 0).pc = .done ∧ (c.uth 1).pc = .done ∧ (c.pth 0).pc = .exited ∧ c.handled 0 = [1] :=
  machine.witnessTail 3 40 (by decide)

/-- non-vacuity of the ranking: in the middle of that run (shutdown begun, handler running) the rank is positive and the run is inside `Shutdown`:
31 = 0 (thread 0 has finished) + 20·1 + 8 (thread 1 at `sdSwap false` with one pool thread in the tables) + 2·1 + 1 (the pool thread: one Message
of its batch, in the handler) -/
example : ∃ c, Reachable 1 [0] [[.sub 0 1], [.shutdown]] c ∧ c.p.shut = true ∧ (c.pth 0).pc = .handler ∧ rank c = 31 :=
  machine.witness [.run 0, .run 0, .run 2, .run 1, .run 1] (by decide)

/-- **`Shutdown()` returns with every pool thread ended.**  If `Shutdown` is called by one thread only
(`OneShutdownThread progs`; necessary: `two_shutdowns_overtake`), then whenever that thread is at the final section of
`Shutdown()` (the section that clears the tables, wakes the waiters and returns, all in one step) every pool thread
that was ever created has left its entry function.  Proof: the cover invariant "every pool thread has ended, or is
in one of the two tables, or is in the list `Shutdown` is joining" (`Conc/ProofsTPCover.lean`), carried through
`DispatchPendingMessagesUnsafe`, `ThreadFinishedProcessingClientMessages` and the swap/join phases of
`ShutdownThreadsInTableWithoutDeadlocking`. -/
theorem shutdown_returns_all_exited {maxT regs progs c} (hd : Disciplined progs) (hn : NoRegIfShutdown progs)
    (h1 : OneShutdownThread progs) (h : Reachable maxT regs progs c) (t : Tid) (tot : Nat)
    (hpc : (c.uth t).pc = .sdFinal tot) : ∀ T, T < c.p.idc → (c.pth T).pc = .exited :=
  (reach_cover h1 h).all_exited hpc

/-- the same invariant one phase earlier: while `Shutdown` joins the threads of a table, every pool thread that has not
ended is the one being joined, next in line, or (first table only) still in the active table -/
theorem shutdown_join_cover {maxT regs progs c} (hd : Disciplined progs) (hn : NoRegIfShutdown progs)
    (h1 : OneShutdownThread progs) (h : Reachable maxT regs progs c) {t b nA tot n T rest}
    (hpc : (c.uth t).pc = .sdJoin b nA tot n T rest) (T' : PTid) (hT' : T' < c.p.idc) :
    (c.pth T').pc = .exited ∨ T' = T ∨ T' ∈ rest ∨ (b = false ∧ T' ∈ c.p.active) := by
  obtain ⟨x1, x2, x3⟩ := (reach_cover h1 h).join_cover hpc
  rcases x1 T' hT' with a | a | a | a
  · exact Or.inl a
  · rw [x2] at a; simp at a
  · cases b with
    | false => exact Or.inr (Or.inr (Or.inr ⟨rfl, a⟩))
    | true => rw [x3 rfl] at a; simp at a
  · simp only [List.mem_cons] at a
    rcases a with a | a
    · exact Or.inr (Or.inl a)
    · exact Or.inr (Or.inr (Or.inl a))

/-- non-vacuity: the final section is reached with a pool thread that exists and has ended -/
example : ∃ c, Reachable 1 [0] [[.sub 0 1], [.shutdown]] c ∧ (c.uth 1).pc = .sdFinal 1 ∧ c.p.idc = 1 ∧ (c.pth 0).pc = .exited :=
  machine.witness [.run 0, .run 0, .run 2, .run 1, .run 1, .run 1, .run 1, .run 2, .run 2, .run 1, .run 1, .run 1] (by decide)

/-- `OneShutdownThread` is necessary: when two threads call `Shutdown()` at the same time, the second finds the tables
already emptied by the first and reaches its final section while the pool thread is still inside a handler -/
theorem two_shutdowns_overtake : ∃ c, Reachable 1 [0] [[.sub 0 1], [.shutdown], [.shutdown]] c ∧
    (c.uth 2).pc = .sdFinal 0 ∧ (c.pth 0).pc = .handler :=
  machine.witness [.run 0, .run 0, .run 3, .run 1, .run 1, .run 1, .run 1, .run 2, .run 2, .run 2, .run 2] (by decide)

/-! ## The `MASSERT`s of ThreadPool.cpp never fire

The model does not represent assertion failures (`MASSERT` → `MCRASH`); these theorems say that the asserted conditions
hold wherever the code evaluates them.  The dispatcher evaluates its assertion inside its loop, i.e. in intermediate
states of a critical section: `massert_dispatch_holds_in_loop` is therefore stated for every state that satisfies the
structural invariant `Inv0`, and `Conc/ProofsTPTables.lean` (`inv0_spawnIfNeeded`, `inv0_assign`, `inv0_dispatchLoop`) shows
that every iteration of the loop starts in such a state. -/

/-- ThreadPool.cpp:207 `MASSERT(*isBeingHandled == false, "Client that is being handled is in the _pendingMessages table")`,
evaluated in `DispatchPendingMessagesUnsafe` for a registered client whose pending queue has items — at step boundaries -/
theorem massert_dispatch_207 {maxT regs progs c} (h : Reachable maxT regs progs c) (k : Client)
    (hr : k ∈ c.p.regK) (hp : c.p.pend k ≠ []) : c.p.flag k = false := by
  exact (reach_invBase h).inv0.flag_of_pend hp

/-- … and in every iteration of the dispatcher's loop (any state satisfying the structural invariant) -/
theorem massert_dispatch_holds_in_loop {c : Cfg} (h : Inv0 c) (k : Client) (hp : c.p.pend k ≠ []) : c.p.flag k = false := by
  exact h.flag_of_pend hp

/-- ThreadPool.cpp:252 `MASSERT(*isClientBeingHandled, …)`, evaluated in `ThreadFinishedProcessingClientMessages(T, k)`
when the pool is not shutting down and client k is registered: the pool thread about to enter that critical section
finds the flag set -/
theorem massert_finished_252 {maxT regs progs c} (hd : Disciplined progs) (h : Reachable maxT regs progs c) (T : PTid) (k : Client)
    (hpc : (c.pth T).pc = .finLock k) (hs : c.p.shut = false) : c.p.flag k = true :=
  (reach_invAll hd h).inv1.servedFlag hs T k (Or.inr hpc)

/-- ThreadPool.cpp:261 `MASSERT(pendingMessages->IsEmpty(), …)`, evaluated in the same critical section when the
client's deferred queue has items: its pending queue is empty, so the swap promotes the deferred Messages into an
empty queue -/
theorem massert_finished_261 {maxT regs progs c} (hd : Disciplined progs) (h : Reachable maxT regs progs c) (T : PTid) (k : Client)
    (hpc : (c.pth T).pc = .finLock k) (hs : c.p.shut = false) : c.p.pend k = [] :=
  (reach_invBase h).inv0.flagPend k (massert_finished_252 hd h T k hpc hs)

/-- ThreadPool.cpp:144 `MASSERT(_currentClient == NULL, …)` in `SendMessagesToInternalThread`: a thread taken from the
available table has no current client (any state of the dispatcher's loop) -/
theorem massert_send_144 {c : Cfg} (h : Inv0 c) (T : PTid) (hT : T ∈ c.p.availR) : (c.pth T).cur = none :=
  (h.availIdle T hT).1

/-- ThreadPool.cpp:165 `MASSERT(_currentClient != NULL, …)` in `MessageReceivedFromOwner`: a pool thread that finds the
batch announcement in its inbox has a current client -/
theorem massert_received_165 {maxT regs progs c} (hd : Disciplined progs) (hn : NoRegIfShutdown progs) (h : Reachable maxT regs progs c)
    (T : PTid) (hb : Item.batch ∈ (c.pth T).inbox) : ∃ k, (c.pth T).cur = some k :=
  (((reach_invBase h).invP.tok T).batchCur hb).1

/-- non-vacuity of the assertion theorems: a pool thread at the lock of `ThreadFinishedProcessingClientMessages` with
Messages deferred behind it -/
example : ∃ c, Reachable 1 [0] [[.sub 0 1, .sub 0 2]] c ∧ (c.pth 0).pc = .finLock 0 ∧ c.p.shut = false ∧ c.p.defr 0 = [2] ∧ c.p.flag 0 = true :=
  machine.witness [.run 0, .run 0, .run 1, .run 0, .run 0, .run 1] (by decide)

/- NOT COVERED: the assertions `_internalQueue.IsEmpty()` (line 145) and `_internalQueue.HasItems()` (line 166)
   need "an available thread's batch queue is empty" and "a dispatched batch is non-empty", which are not among the
   invariants proved; the harness would see them as crashes.  The assertion in `~IThreadPoolClient` (line 12, `_threadPool == NULL`) is outside the
   model, which has no destructor. -/

/-- **No API step ever blocks on `_poolLock`**: a user thread that cannot step has finished, or is inside the `Wait` of
`UnregisterClient` without a notification, or inside the join of `Shutdown` with the joined pool thread still alive.
(All configurations; the case analysis behind `deadlock_free`.) -/
theorem lock_steps_never_block (c : Cfg) (t : Tid) (hn : stepUser c t = none) :
    (c.uth t).pc = .done ∨ ((c.uth t).pc = .opStart ∧ (c.uth t).prog = []) ∨
    (∃ k, (c.uth t).pc = .unregWait k ∧ (c.uth t).notif = 0) ∨
    (∃ b nA tot n T r, (c.uth t).pc = .sdJoin b nA tot n T r ∧ (c.pth T).pc ≠ .exited) :=
  stepUser_none c t hn

/-- **The discipline is necessary** (model-level witness of the race that the `IThreadPoolClient` documentation rules
out): if thread 1 submits to client 0 while thread 0 unregisters and re-registers it, two pool threads end up inside
client 0's handler at the same time.  The real code shows the same two overlapping handler calls on the line
`x 2 1 2 u0r0s0 s0 0 0 1 1 2 0 0 0 0 0 3` of engine `tp` (pool size, clients registered up front, number of user threads,
their programs, then the schedule as here: harness/tp.cpp) and later aborts in the `MASSERT` of
`ThreadFinishedProcessingClientMessages` (ThreadPool.cpp:252), which the model does not represent. -/
theorem undisciplined_two_handlers : ∃ c, Reachable 2 [0] [[.unreg 0, .reg 0, .sub 0 5], [.sub 0 9]] c ∧
    (c.pth 0).pc = .handler ∧ (c.pth 0).cur = some 0 ∧ (c.pth 1).pc = .handler ∧ (c.pth 1).cur = some 0 :=
  machine.witness [.run 0, .run 0, .run 1, .run 1, .run 2, .run 0, .run 0, .run 0, .run 0, .run 0, .run 3] (by decide)

end Muscle.Props.C19
