import MuscleModel.Reflector.EngineReach
import MuscleModel.Reflector.FullRuns
import MuscleModel.Reflector.SetDataExact

/-!
# C04 — A subscriber's mirror of the node tree converges to the server's tree

The property theorem is `converges` (section 14): a client that applies what the server delivers holds, at every point where
nothing is pending for it, exactly the nodes its current subscriptions match, with their current payloads.  What a run may
contain and what stays outside is listed under COVERAGE below.  That the model (`Reflector/Server.lean`, `Handlers.lean`,
`Engines/Srv.lean`) behaves like the real server is the business of the correspondence harness `harness/srv.cpp`.  The client's rule
(`Mirror`, `applyMsg` in `Reflector/Update.lean`: removals first, then sets, per Message) is part of what is trusted; no harness line compares it.

Where the parts are proved (sections of this file; lemmas in `Reflector/`):

 1. `marks_correct` (`TreeReads`, `SubsWF`, `Marks`, `MarksHandlers`, `MarksReach`): in every state the engine reaches (`MReach`:
    attach, detach, every command of `runCmd`, pushes, pumps, from the empty server; SUBSCRIBE paths must be `GoodPath` after
    normalisation) every node below the root carries, for every attached session, exactly the number of that session's
    subscription entries whose clauses match the node's path, and nothing for ids that are not attached.
 2. `notify_exact` (`ChangeEvents`): `NotifySubscribersThatNodeChanged` is the fold of `NodeChangedAux` (`feedSrv`) over an
    explicit list of (session id, event) pairs, at most one per session; a pair is in the list iff the session is attached,
    has a positive match count on the node's path, is not the caller (unless the caller reflects to itself) and the filter
    transition rule `changeEv` yields that event.
 3. `step_mirror_partial`: the filter transition rule keeps one mirror entry right.
 4. `marks_correct_engine` (`EngineReach`): the marking invariant over the engine's own op lines.
 5. `batching_invisible` (`UpdateProofs`; stated first in this file) and the structured twin of delivery (`PipeTwin`:
    `twin_text`, `feedSrv_is_feed`, `delivery_twin`): however the server cuts the stream of node events for one subscriber
    into PR_RESULT_DATAITEMS Messages — flush at `maxItems` names (any value), flush forced by a removal following a set of
    the same path, flushes at arbitrary further points (`PushSubscriptionMessages` flushes everybody) — a client that applies
    every Message in order, removals first and then sets, ends up with what applying the events one at a time gives.
 6. The specification `Matches` / `MirrorOK` (`MirrorSpec`) and one notified node change (`SyncSteps`): `step_mirror_overwrite`,
    `step_mirror_create`, `step_mirror_remove_leaf`, the whole-command forms `step_mirror_set_overwrite` / `step_mirror_set_create`,
    chaining (`step_chain`) and the replay between quiescent points (`converges_partial`).
 7. No node name contains `/` in a state reached with slash-free host names (`CReach`, `NoSlash`), so `Unamb` holds there
    (`names_unambiguous`); `SyncAll` for SETDATA in general (`step_mirror_set`, `SyncSet`), `setm`, REMOVEDATA
    (`step_mirror_rm`, `SyncRemove`), the departure of another session (`step_mirror_detach_other`, `OtherSessions`);
    `converges_steady`.
 8. The snapshot of `DoGetData` as structured Messages (`snapshot_replay`, `Snapshot`); the subscriber's own SUBSCRIBE of a new
    path (`step_mirror_subscribe_new`, `OwnSubscribe`; the visits of the snapshot traversal are its hypothesis `SnapVisits`,
    proved in section 12); quiet commands (`quiet_step`, `OtherSessions`), `Hist`, `converges_fixed_subs`.
 9. Arrival of another session (`step_mirror_attach_other`, `OtherSessions`); unsubscribe with the client's drop rule `applyUnsub`
    (`step_mirror_unsubscribe`, `OwnSubscribe`); `History`, `converges_fixed_subs_arrivals`.
10. The index commands (`step_mirror_ins_other`, `step_mirror_set_indexed_other`, `step_mirror_reorder_other`, `SyncSet`);
    `FreshSessNode` in every reachable state (`fresh_sess_node_reach`, invariant `HK`, `SessNodeNames`); `Story`,
    `converges_fixed_subs_story_thm` (`Runs`).
11. `converges_changing_subs` (`Runs`): own SUBSCRIBEs of new paths and unsubscribes interleaved with `Story` segments.
12. The traversal with `GetDataCallback` (`GetDataVisits`): `getdata_visits`, `snapVisits_plain_session`, `subNewOK_by_rule`;
    `SnapVisits` holds for every session except those with the indexing flag that do not reflect to themselves (whose
    snapshots contain their own nodes by design).
13. The subscriber's own max-items and default-route parameters (`own_param_step`, `FullRuns`), `Run2`,
    `converges_changing_subs_params`.
14. Re-subscription of a held path with another filter (`step_mirror_refilter`, `SubsWF`, `Refilter`), the reflect-to-self
    parameter (`own_self_step`), `Run3`, `converges` (`FullRuns`).

## COVERAGE OF THE FINAL THEOREM `converges` (section 14) — the one place to read what is proved and what is not

Statement.  Start: ANY state with the invariants `Inv2` (every state reached from the empty server with slash-free host
names and `GoodPath` SUBSCRIBEs: `creach_inv2`; `converges_reach` is the corollary for those) in which the subscriber `sid`
is attached with subscriptions enabled, NO subscription, nothing pending, and its client holds the EMPTY mirror.  Then any
`Run3 sid` (below).  Conclusion: `sid` is still attached, nothing is pending for it, the PR_RESULT_DATAITEMS lines appended
to its inbox are exactly the text of the Messages among the items its client consumed, and the client's fold (`applyMsg`:
removals first, then sets, per Message; `applyUnsub` at its own unsubscribes) satisfies `MirrorOK`: it holds a path with a
payload IFF some node below the root has that path, is visible to the subscriber (not one of its own, or it reflects to
itself), is matched by its CURRENT subscription set (clauses and filter) and carries that payload CURRENTLY.

COVERED — steps of a `Run3 sid`, in any order and number, each begun at a point where nothing is pending for `sid` (the
engine pushes after every command line, so every line boundary is such a point):
 * commands of ANY OTHER session: SETDATA with or without the index flag and `setm` (any mix of existing, created inner and
   created/overwritten last nodes; hypothesis `SetOK`: 2 + number of non-empty path clauses ≤ the depth fuel 110),
   REMOVEDATA (recursive, any keys), INSERTORDEREDDATA (`InsDepthOK`: the insert traversal stays within the depth fuel),
   REORDERDATA, SUBSCRIBE (`GoodPath`) / unsubscribe, every parameter command, GETPARAMETERS, PING, Message forwarding;
 * the subscriber's OWN SETDATA (both flags), REMOVEDATA, INSERTORDEREDDATA, REORDERDATA, GETPARAMETERS, PING, Messages;
 * `PushSubscriptionMessages` at any point; departure of any OTHER session; arrival of any session on a slash-free host;
 * the subscriber's own SUBSCRIBE of a path it does not hold (with or without filter): `SubNewOK` = `GoodPath` + "the
   session reflects to itself or does not carry the indexing flag" (`subNewOK_by_rule`);
 * the subscriber's own SUBSCRIBE of a path it HOLDS, with any other (or no, or the same) filter, followed by the engine's
   push: `RefilterOK` = the same rule for the session + "the path is held" (`refilterOK_by_rule`).  Nothing about own nodes:
   `ChangeQueryFilterCallback` skips the subscriber's own nodes by the rule of `GetDataCallback` (`refilter_visits`);
 * the subscriber's own unsubscribe of any path (client drop rule `applyUnsub`);
 * the subscriber's own max-items and default-route parameters, set or removed;
 * the subscriber's own reflect-to-self parameter while it holds NO subscription or reflects to itself already (`SelfOK`).
Session kinds: sessions that reflect to themselves and plain sessions without the indexing flag — everything above, with
no hypothesis about the session beyond those named.

OUTSIDE (not claimed; with the reason):
 (1) plain sessions that CARRY THE INDEXING FLAG (after their own INSERTORDEREDDATA / SETDATA with the index flag): their own
     SUBSCRIBE / re-filter.  `GetDataCallback` then includes the subscriber's own nodes in the snapshot (by design), which
     `MirrorOK` (own nodes invisible) does not allow; `SubNewOK` still holds whenever `SnapVisits` does.
 (2) the reflect-to-self parameter set WHILE subscriptions are held by a session not yet reflecting: the server sends no
     snapshot for it, own nodes become visible for NEW events only; `MirrorOK` for the new visibility rule fails at that
     moment for every own node already matched.  There is no command that clears the flag.
 (3) the subscriber's own departure (the mirror ends) and the harness pump that empties inboxes (the theorem speaks about
     what was APPENDED to the inbox) are not steps of a run.
 (4) SUBSCRIBE paths that are not `GoodPath` (empty clause — the SUBSCRIBE side of finding F11, which the repair of `SetDataNode()` leaves as it is — or clauses outside the two pattern laws of C05),
     SETDATA / INSERTORDEREDDATA beyond the depth fuel (the model's `setDataNode` has no depth check of its own), host names
     containing `/` (path strings then stop being injective).
 (5) the engine's subtree ops `clone` / `save` / `restore` / `trees` (C13) are not commands of `runCmd`; `LineOK` of
     section 4 excludes them from `marks_correct_engine`, and no run contains them.
 (6) a start with subscriptions already held (the client would need the matching mirror; `run3_quiescent` is the per-step form
     from ANY `Quiescent` point and covers it when `MirrorOK` is given).
Beside `converges`: `converges_changing_subs` and `converges_changing_subs_params` are `converges` for runs without re-filter
and parameter steps.  `converges_partial`, `converges_steady` and `converges_fixed_subs…` are not instances of it: they start
from any right mirror (`converges_partial`, `converges_steady`) or need only `Inv` (no `HK`) and take `SnapVisits` as a
hypothesis (`converges_fixed_subs…`); they rest on the replay between quiescent points (`converges_partial`).
-/

namespace Muscle.Props.C04
open Muscle Muscle.Reflector Muscle.Eng.SrvEngine

/-- Batching of update Messages is invisible to the subscriber, for every limit `maxItems`, every event
    sequence and every placement of additional flushes. -/
theorem batching_invisible (maxItems : Nat) (evs : List (Ev × Bool)) (m : Mirror) :
    applyMsgs m (delivered (run maxItems {} evs)) = (evs.map (·.1)).foldl applyEv m := by
  rw [applyMsgs_delivered, view_run]
  exact congrArg (List.foldl applyEv · (evs.map (·.1))) (applyMsg_empty m)

/-- One event: what `NodeChangedAux` adds to the pending Message changes the client's eventual view by
    exactly that event (the single-step form of the theorem above). -/
theorem feed_sound (maxItems : Nat) (s : Pipe) (m : Mirror) (e : Ev) :
    (feed maxItems s e).view m = applyEv (s.view m) e :=
  view_feed maxItems s m e

/-! Non-vacuity: a stream with a set, a removal of the same path (forcing a flush) and a re-creation,
cut at `maxItems = 1` and with an extra flush, yields four Messages whose in-order application equals the
event-by-event result. -/
example :
    let evs : List (Ev × Bool) := [(.set [1] (some 5), false), (.removed [1], true), (.set [1] (some 6), false), (.set [2] none, false)]
    (delivered (run 1 {} evs)).length = 4 := rfl

/-! ## 1. the subscriber tables count exactly the matching subscription entries

Hypotheses.  `MReach sv` (Reflector/MarksReach.lean): `sv` is reached from the empty server by `attach`, `detach`,
`runCmd` of ANY session with ANY command satisfying `CmdOK`, `pushAll`, and the pump that empties the inboxes
(`MReach.reach`: every such state is a `Reach` state of C13).  `CmdOK c`: for `c = .sub path f` the normalised path
`adjustPrefix path "*/*"` is a `GoodPath` — no empty clause (finding F11 on the SUBSCRIBE side: `a//b` is stored under clause count 3 but looked
up under `GetPathDepth` = 2, so in the model a second SUBSCRIBE of the same string marks every node twice while the
matcher holds ONE entry) and the two pattern-layer laws `UniqueLaw`/`UVListLaw` of C05 for every clause; every other command is
unrestricted (unsubscribe needs nothing: the entry it removes was put by an accepted SUBSCRIBE).  NOT needed: distinct
SUBSCRIBE spellings (F10 does not disturb the marks), any bound on the tree depth, anything about filters. -/

/-- Every state the engine reaches satisfies the marking invariant (`MKT` = tree invariant of C13, session ids
    pairwise distinct and below the id counter, every matcher well formed, `MarksOK`). -/
theorem invariant_reach {sv : Server} (h : MReach sv) : MKT sv := mkt_reach h

/-- In every reachable state, for every node `n` at a path `v` below the root: for every attached session `s`
    the node's subscriber table holds exactly `pmMatchCount s.subs v` = the number of subscription entries of `s`
    whose clauses match `v`; an id that is not attached has no count; the table has pairwise distinct ids and no zero
    entry (so "has an entry" = "positive count").  Session ids are pairwise distinct. -/
theorem marks_correct {sv : Server} (h : MReach sv) {v : List Bytes} {n : Node} (hv : v ≠ [])
    (hn : getNode sv v = some n) :
    (∀ s ∈ sv.sessions, subCount n.subs s.sid = pmMatchCount s.subs v) ∧
    (∀ sid, (∀ s ∈ sv.sessions, s.sid ≠ sid) → subCount n.subs sid = 0) ∧
    (n.subs.map (·.1)).Nodup ∧ (∀ p ∈ n.subs, 0 < p.2) ∧ (sv.sessions.map (·.sid)).Nodup := by
  obtain ⟨_, hs, hm⟩ := mkt_reach h
  obtain ⟨h1, h2⟩ := hm v n hv hn
  refine ⟨?_, ?_, h2.1, h2.2, hs.sids_nodup⟩
  · intro s hsm
    rw [h1]
    exact expCount_self (find_of_mem (key := (·.1)) hs.nodup (x := (s.sid, s.subs)) (List.mem_map.2 ⟨s, hsm, rfl⟩)) v
  · intro sid hno
    rw [h1]
    apply expCount_not_mem
    intro hm'
    obtain ⟨p, hp, hp1⟩ := List.mem_map.1 hm'
    obtain ⟨s, hsm, rfl⟩ := List.mem_map.1 hp
    exact hno s hsm hp1

/-- Departure clears the marks: after `detach sv sid` of a reachable state no node carries a count for `sid`
    (closes `departure_no_marks_partial` of C06 for reachable states: the coverage hypothesis there is a consequence of
    `marks_correct` and the traversal theorem of C05). -/
theorem marks_correct_detached {sv : Server} (h : MReach sv) (sid : Nat) {v : List Bytes} {n : Node} (hv : v ≠ [])
    (hn : getNode (detach sv sid) v = some n) : subCount n.subs sid = 0 := by
  have h' : MReach (detach sv sid) := .detach sid h
  by_cases hs : sv.sess? sid = none
  · -- nobody had that id
    have hd : detach sv sid = sv := by unfold detach; rw [hs]
    rw [hd] at hn
    apply (marks_correct h hv hn).2.1
    intro s hsm e
    have : sv.sessions.find? (fun t => t.sid = sid) = none := hs
    rw [List.find?_eq_none] at this
    exact this s hsm (by simpa using e)
  · apply (marks_correct h' hv hn).2.1
    intro s hsm
    rcases detach_sessions sv sid s hsm with h1 | h1
    · exact h1
    · exact absurd h1 hs

/-! Non-vacuity: the normalised form `*/*/a` of the SUBSCRIBE path `a` is a `GoodPath`; the state `exSv` (two sessions on
two hosts, session 1 sets `a` = 5, session 0 subscribes to `a`) is reachable, the node `/i/1/a` exists in it, carries
exactly one mark of session 0 (which holds one subscription entry) and none of session 1 (which holds none). -/

theorem goodPath_a : GoodPath (adjustPrefix [97] (some defaultPrefix)) := by
  have hs : splitSlash (adjustPrefix [97] (some defaultPrefix)) = [[42], [42], [97]] := by decide
  unfold GoodPath
  rw [hs]
  refine ⟨by decide, ?_⟩
  intro c hc
  simp only [List.mem_cons, List.not_mem_nil, or_false] at hc
  rcases hc with rfl | rfl | rfl
  · exact laws_star
  · exact laws_star
  · exact ⟨uniqueLaw_a, uvListLaw_a⟩

def exSv : Server :=
  runCmd (runCmd (attach (attach {} 0 [104]).1 1 [105]).1 1 (.set [97] 5 false)) 0 (.sub [97] none)

theorem exSv_reach : MReach exSv :=
  .cmd 0 _ goodPath_a (.cmd 1 _ trivial (.attach 1 [105] (.attach 0 [104] .init)))

example : (getNode exSv [[105], sidName 1, [97]]).map (·.subs) = some [(0, 1)] := by decide +kernel
example : exSv.sessions.map (fun s => (s.sid, pmNumEntries s.subs)) = [(0, 1), (1, 0)] := by decide +kernel

/-! ## 2. which node event reaches which subscriber

`changeEv s names new old removed` (Reflector/ChangeEvents.lean) is the filter transition rule of `NodeChanged` as a
function of the session's subscriptions only: subscriptions disabled → nothing; no filter in the matcher → the event as
it is; otherwise with `before` = "old payload matched" (`old = none`, a created node: "the path matches") and `now` =
"new payload matches": removal → removed iff `before`; change → set iff `now`, removed iff `before ∧ ¬now`, nothing
otherwise; creation → set iff `now`.  `feedSrv sv sid ev` = `NodeChangedAux` for that event; `changeEvents` = the list of
(session id, event) pairs in the order of the node's subscriber table, all decided on the state BEFORE the call. -/

/-- `NodeChanged` for one session is `NodeChangedAux` of the event `changeEv` selects (or nothing). -/
theorem nodeChanged_exact (sv : Server) (sid : Nat) (names : List Bytes) (newData : Option Nat)
    (oldData : Option (Option Nat)) (removed : Bool) :
    nodeChanged sv sid names newData oldData removed =
      match sv.sess? sid with
      | none => sv
      | some s =>
        match changeEv s names newData oldData removed with
        | none => sv
        | some ev => feedSrv sv sid ev :=
  nodeChanged_twin sv sid names newData oldData removed

/-- For every state satisfying the marking invariant (every reachable state: `invariant_reach`; the
    invariant is also kept by every primitive, so it holds at each call site inside a handler), every node `n` at a path
    `v` below the root and every caller `by_`:
    (1) `NotifySubscribersThatNodeChanged` is the fold of `NodeChangedAux` over `changeEvents`;
    (2) no session occurs twice in that list;
    (3) `(sid, ev)` is in the list iff `sid` is the id of an attached session `s` with a POSITIVE match count on `v`
        (i.e. a mark on the node), `s` is not the caller unless the caller reflects to itself, and the filter
        transition rule gives `ev`. -/
theorem notify_exact {sv : Server} (h : MKT sv) {v : List Bytes} {n : Node} (hv : v ≠ [])
    (hn : getNode sv v = some n) (by_ : Nat) (od : Option (Option Nat)) (removed : Bool) :
    notifyChanged sv by_ v n od removed =
        (changeEvents sv by_ v n od removed).foldl (fun sv (p : Nat × Ev) => feedSrv sv p.1 p.2) sv ∧
    ((changeEvents sv by_ v n od removed).map (·.1)).Nodup ∧
    ∀ sid ev, (sid, ev) ∈ changeEvents sv by_ v n od removed ↔
      ∃ s ∈ sv.sessions, s.sid = sid ∧ 0 < pmMatchCount s.subs v ∧ (sid ≠ by_ ∨ bySelfOf sv by_ = true) ∧
        changeEv s v n.data od removed = some ev := by
  have hk : MK sv := h.marks
  refine ⟨notifyChanged_twin sv by_ v n od removed, changeEvents_nodup sv by_ v n od removed (hk.counts v n hv hn).2.1, ?_⟩
  intro sid ev
  rw [mem_changeEvents]
  -- an entry in the node's subscriber table = a positive match count of the attached session
  have hany : ∀ {s : Sess}, sv.sess? sid = some s → ((∃ c, (sid, c) ∈ n.subs) ↔ 0 < pmMatchCount s.subs v) := by
    intro s hq
    rw [← decide_eq_true_iff (p := 0 < pmMatchCount s.subs v), ← marked_eq_matches hk hv hn hq, List.any_eq_true]
    exact ⟨fun ⟨c, hc⟩ => ⟨(sid, c), hc, by simp⟩,
      fun ⟨⟨k, c⟩, hm, hkc⟩ => ⟨c, by simp only [decide_eq_true_eq] at hkc; exact hkc ▸ hm⟩⟩
  constructor
  · rintro ⟨hc, hcond, hse⟩
    unfold sessEv at hse
    cases hq : sv.sess? sid with
    | none => rw [hq] at hse; cases hse
    | some s =>
      rw [hq] at hse
      exact ⟨s, List.mem_of_find?_eq_some hq, sid_of_sess? hq, (hany hq).1 hc, hcond, hse⟩
  · rintro ⟨s, hsm, rfl, hpos, hcond, hev⟩
    have hq : sv.sess? s.sid = some s := find_of_mem (key := Sess.sid) hk.sess.sids_nodup hsm
    exact ⟨(hany hq).2 hpos, hcond, (sessEv_of_sess? hq ..).trans hev⟩

/-- …in particular in every reachable state. -/
theorem notify_exact_reach {sv : Server} (h : MReach sv) {v : List Bytes} {n : Node} (hv : v ≠ [])
    (hn : getNode sv v = some n) (by_ : Nat) (od : Option (Option Nat)) (removed : Bool) :
    notifyChanged sv by_ v n od removed =
        (changeEvents sv by_ v n od removed).foldl (fun sv (p : Nat × Ev) => feedSrv sv p.1 p.2) sv ∧
    ((changeEvents sv by_ v n od removed).map (·.1)).Nodup ∧
    ∀ sid ev, (sid, ev) ∈ changeEvents sv by_ v n od removed ↔
      ∃ s ∈ sv.sessions, s.sid = sid ∧ 0 < pmMatchCount s.subs v ∧ (sid ≠ by_ ∨ bySelfOf sv by_ = true) ∧
        changeEv s v n.data od removed = some ev :=
  notify_exact (mkt_reach h) hv hn by_ od removed

/-- the marking invariant is kept by the tree primitives the handlers call between two notifications (so
    `notify_exact` applies at every call site of `notifyChanged` inside `SetDataNode`, `PutChild`, `RemoveChild`) -/
theorem invariant_primitives {sv : Server} (h : MKT sv) :
    (∀ path d, MK (setNode sv path (fun n => n.setData d))) ∧
    (∀ by_ parent nm d notify, MK (putChild sv by_ parent (Node.fresh nm d) notify)) ∧
    (∀ parent key notify, MK (removeIndexEntry sv parent key notify)) ∧
    (∀ by_ notify names, MKT (removeOne sv by_ notify names)) ∧
    (∀ by_ names node od removed, MK (notifyChanged sv by_ names node od removed)) :=
  ⟨fun path _ => h.marks.setField path _ (fun _ => rfl) (fun _ => rfl) (fun _ => rfl),
   fun by_ parent _ _ notify => h.marks.putChild by_ parent _ notify rfl,
   fun parent key notify =>
     h.marks.of_grow (removeIndexEntry_grow (sid := 0) (N := fun _ => True) sv key notify (List.nil_prefix (l := parent))),
   fun by_ notify names => h.removeOne by_ notify names,
   fun by_ names node od removed => h.marks.notifyChanged by_ names node od removed⟩

/-! Non-vacuity of `notify_exact`: in `exSv` a change of `/i/1/a` by its owner (session 1) produces exactly one event, for
session 0. -/
example : (changeEvents exSv 1 [[105], sidName 1, [97]]
    (.mk [97] (some 6) [] [] 0 [(0, 1)]) (some (some 5)) false).map (·.1) = [0] := by decide +kernel

/-! ## 3. one node, one subscriber: the filter transition rule keeps the mirror entry right  (`step_mirror_partial`)

`wants s v d` = `PathMatcher::MatchesPath(v, d)` on `s.subs` (some entry matches the path and its filter accepts the
payload); `entryFor s v x` = what the mirror of `s` must hold at the node's path (`x = none`: no such node; `some d`:
`some d` iff wanted); `applyOpt m e?` = the client applying the event, if one was sent.

The per-node, per-subscriber core of the step theorems of sections 6–14: for a
session with subscriptions enabled and a positive match count on `v` (by `notify_exact` exactly the sessions that are
notified; a session with match count 0 wants nothing at `v`: `wants_needs_mark`), if the mirror entry at the node's path is
right before an overwrite / creation / removal of the node, then after applying the event `changeEv` selects it is right
again, and no other path of the mirror is touched. -/

theorem wants_needs_mark {s : Sess} {v : List Bytes} {d : Option Nat} (h : wants s v d = true) :
    0 < pmMatchCount s.subs v := wants_pos h

theorem step_mirror_partial (s : Sess) (hen : s.subsEnabled = true) (v : List Bytes)
    (hpos : 0 < pmMatchCount s.subs v) (m : Mirror) :
    (∀ od d, m (pathString v) = entryFor s v (some od) →
      (applyOpt m (changeEv s v d (some od) false)) (pathString v) = entryFor s v (some d)) ∧
    (∀ d, m (pathString v) = entryFor s v none →
      (applyOpt m (changeEv s v d none false)) (pathString v) = entryFor s v (some d)) ∧
    (∀ od, m (pathString v) = entryFor s v (some od) →
      (applyOpt m (changeEv s v od (some od) true)) (pathString v) = entryFor s v none) ∧
    (∀ q, q ≠ pathString v → ∀ nd od r, (applyOpt m (changeEv s v nd od r)) q = m q) :=
  ⟨fun od d hm => changeEv_entry s hen v m (some od) d false (fun _ => hpos) hm,
   fun d hm => changeEv_entry s hen v m none d false (fun _ => hpos) hm,
   fun od hm => changeEv_entry s hen v m (some od) od true (fun h => by cases h) hm,
   fun q hq nd od r => changeEv_other s v nd od r m q hq⟩

/-! Non-vacuity: session 0 of `exSv` has subscriptions enabled and a positive match count on `/i/1/a`. -/
example : (exSv.sessions.map (fun s => (s.sid, s.subsEnabled))) = [(0, true), (1, true)] := by decide +kernel
example : ∀ n, getNode exSv [[105], sidName 1, [97]] = some n → ∀ s ∈ exSv.sessions, s.sid = 0 →
    0 < pmMatchCount s.subs [[105], sidName 1, [97]] := by
  intro n hn s hs h0
  have := (marks_correct exSv_reach (by decide) hn).1 s hs
  have h1 : (getNode exSv [[105], sidName 1, [97]]).map (·.subs) = some [(0, 1)] := by decide +kernel
  rw [hn] at h1
  simp only [Option.map_some, Option.some.injEq] at h1
  rw [← this, h0, h1]
  decide

/-! ## 4. the marking invariant over the engine's own op lines

`LineOK toks` (Reflector/EngineReach.lean): if the line parses to a command (`parseCmd`), the command is `CmdOK` — only
SUBSCRIBE lines are restricted (`GoodPath`) — and the line is none of the server-side subtree ops `clone` / `save` /
`restore` / `trees`.  `EInv st`: the engine's server state is `MReach` and every command waiting in
an open batch is `CmdOK`. -/

/-- every state of the engine `srv` on ANY op stream whose lines are `LineOK` (`case` resets, `pump`, `wping`, `attach`,
    `detach`, `find`, `setm`, batches, queued and direct commands, bad ops, poisoned cases) is `MReach`… -/
theorem reach_engine (lines : List (List String)) (hl : ∀ toks ∈ lines, LineOK toks) :
    MReach (lines.foldl (fun st toks => (step st toks).1) ({} : St)).sv :=
  (einv_engine lines hl).1

/-- …hence carries exactly the right subscriber tables. -/
theorem marks_correct_engine (lines : List (List String)) (hl : ∀ toks ∈ lines, LineOK toks) {v : List Bytes} {n : Node}
    (hv : v ≠ []) (hn : getNode (lines.foldl (fun st toks => (step st toks).1) ({} : St)).sv v = some n) :
    ∀ s ∈ (lines.foldl (fun st toks => (step st toks).1) ({} : St)).sv.sessions,
      subCount n.subs s.sid = pmMatchCount s.subs v :=
  (marks_correct (reach_engine lines hl) hv hn).1

/-- what `LineOK` asks, exactly: a line that parses to a SUBSCRIBE must carry a `GoodPath`, and the line is none of the
    server-side subtree ops `clone` / `save` / `restore` / `trees` (first token; they are not commands of `Cmd`) -/
theorem lineOK_iff (toks : List String) :
    LineOK toks ↔ (∀ p f, parseCmd toks = some (.sub p f) → GoodPath (adjustPrefix p (some defaultPrefix))) ∧
      isSubtreeOp toks = false := by
  unfold LineOK
  constructor
  · rintro ⟨h, h2⟩
    exact ⟨fun p f hp => h _ hp, by simpa using h2⟩
  · rintro ⟨h, h2⟩
    refine ⟨fun c hc => ?_, by simp [h2]⟩
    cases c <;> first | exact h _ _ hc | trivial

/-! Non-vacuity: a line that is no command is `LineOK` (a reachable state with an accepted SUBSCRIBE: `exSv_reach`); a
`clone` line is not. -/
example : LineOK ["pump"] := by
  have h : (parseCmd ["pump"]).isSome = false := by decide +kernel
  exact ⟨fun c hc => (by rw [hc] at h; cases h), by decide⟩
example : ¬ LineOK ["clone", "0", "0", "x", "x"] := fun h => h.2 (by decide)

/-! ## 5. the structured twin of delivery (one session)

`pend s` = the pending PR_RESULT_DATAITEMS Message of `s`; `dataLines s` = the PR_RESULT_DATAITEMS lines of its inbox
(`isData`: first character `D`; `dataText` produces such lines, `idxText`/`PONG`/`PARAMS`/`MSG` lines do not).
`auxSess s np d removed` (Reflector/PipeTwin.lean) = `NodeChangedAux` on the session record. -/

/-- For the session itself `NodeChangedAux` on the server IS `auxSess` on its record, and `auxSess` IS `feed
    s.maxItems` on the abstract pipe `⟨pend s, []⟩` of `Reflector/Update.lean`: same pending Message afterwards, the data
    lines appended to the inbox are exactly the text of the Messages `feed` sends, and nothing else of the session
    changes (`core`). -/
theorem twin_text {sv : Server} {sid : Nat} {s : Sess} (hs : sv.sess? sid = some s) (np : Bytes) (d : Option Nat)
    (removed : Bool) :
    (nodeChangedAux sv sid np d removed).sess? sid = some (auxSess s np d removed) ∧
    pend (auxSess s np d removed) = (feed s.maxItems { cur := pend s, sent := [] } (evOf np d removed)).cur ∧
    dataLines (auxSess s np d removed) =
      dataLines s ++ (feed s.maxItems { cur := pend s, sent := [] } (evOf np d removed)).sent.map dataText ∧
    (auxSess s np d removed).core = s.core :=
  ⟨(nodeChangedAux_sessions hs np d removed).1, auxSess_feed s np d removed⟩

/-- …and every OTHER session is untouched or flushed (`pushSess`: pending Message → inbox). -/
theorem twin_other {sv : Server} {sid t : Nat} {x : Sess} (hx : sv.sess? t = some x) (ht : t ≠ sid) (np : Bytes)
    (d : Option Nat) (removed : Bool) :
    (nodeChangedAux sv sid np d removed).sess? t = some x ∨
    (nodeChangedAux sv sid np d removed).sess? t = some (pushSess x) :=
  nodeChangedAux_other hx ht np d removed

/-- `PipeStep sid sv sv' evs`: `sid` keeps `vcore` (identity, subscriptions and flags, not max-items or the parameter list),
    receives structured Messages `sent` whose text is what was appended to its data lines, and the view of a client that applies everything sent and then the pending Message
    advances by exactly `evs` (this is `batching_invisible`'s invariant, `view_feed`, on the server state).
    `feedSrv` is one event for its session and an extra flush (or nothing) for the others; `pushAll` is an extra flush;
    `NotifySubscribersThatNodeChanged` feeds `sid` the events `changeEvents` holds for it. -/
theorem feedSrv_is_feed (sv : Server) (sid : Nat) (ev : Ev) :
    PipeStep sid sv (feedSrv sv sid ev) [ev] ∧
    (∀ t, t ≠ sid → PipeStep t sv (feedSrv sv sid ev) []) ∧
    (∀ t, PipeStep t sv (pushAll sv) []) :=
  ⟨pipeStep_feed_self sv sid ev, fun _ ht => pipeStep_feed_other sv ht ev, fun t => pipeStep_pushAll t sv⟩

theorem delivery_twin (sid : Nat) (sv : Server) (by_ : Nat) (names : List Bytes) (node : Node)
    (od : Option (Option Nat)) (removed : Bool) :
    PipeStep sid sv (notifyChanged sv by_ names node od removed)
      (evsFor sid (changeEvents sv by_ names node od removed)) :=
  pipeStep_notifyChanged sid sv by_ names node od removed

/-- what `PipeStep` says, spelled out (`Sess.vcore` = `core` without max-items, parameter list, indexing flag and default
    route: what the data view reads) -/
theorem pipeStep_def (sid : Nat) (sv sv' : Server) (evs : List Ev) :
    PipeStep sid sv sv' evs ↔
      ∀ s, sv.sess? sid = some s → ∃ s' sent, sv'.sess? sid = some s' ∧ s'.vcore = s.vcore ∧
        dataLines s' = dataLines s ++ sent.map dataText ∧
        ∀ m, applyMsg (applyMsgs m sent) (pend s') = evs.foldl applyEv (applyMsg m (pend s)) := Iff.rfl

/-! ## 6. the specification and the steady-state steps

`visible s v`: the node at `v` is not one of `s`'s own, or `s` reflects to itself.  `Matches sv s p d`: a node below the
root whose path string is `p`, visible to `s`, matched by an entry of `s.subs` whose filter accepts its payload, has payload
`d`.  `MirrorOK sv s m := ∀ p d, m p = some d ↔ Matches sv s p d` (nothing missing, stale or extra).
`Unamb sv v`: no other existing node has the path string of `v` (true when no node name contains `/`).
`Sync sid s sv sv' m evs := PipeStep sid sv sv' evs ∧ (MirrorOK sv s m → MirrorOK sv' s (evs.foldl applyEv m))`. -/

theorem sync_def (sid : Nat) (s : Sess) (sv sv' : Server) (m : Mirror) (evs : List Ev) :
    Sync sid s sv sv' m evs ↔
      (PipeStep sid sv sv' evs ∧ (MirrorOK sv s m → MirrorOK sv' s (evs.foldl applyEv m))) := Iff.rfl

/-- the caller test of `NotifySubscribersThatNodeChanged` is `visible` for every node of the caller's subtree
    (session-node names are injective in the id: `sidName_inj`) -/
theorem caller_test_is_visible {sv : Server} {a sid : Nat} {sa s : Sess} (hsa : sv.sess? a = some sa)
    (hs : sv.sess? sid = some s) (w : List Bytes) :
    (sid ≠ a ∨ bySelfOf sv a = true) ↔ visible s (sessNames sa ++ w) = true :=
  caller_visible hsa hs w

/-- `SetData(d)` on the existing node at `v`, then the notification with the old payload. -/
theorem step_mirror_overwrite {sv : Server} (hk : MK sv) {v : List Bytes} (hv : v ≠ []) {n0 : Node}
    (hn0 : getNode sv v = some n0) (d : Option Nat) (hu : Unamb sv v)
    {sid : Nat} {s : Sess} (hs : sv.sess? sid = some s) (hen : s.subsEnabled = true) (by_ : Nat)
    (hcaller : (sid ≠ by_ ∨ bySelfOf sv by_ = true) ↔ visible s v = true) (m : Mirror) :
    Sync sid s sv
      (notifyChanged (setNode sv v (fun n => n.setData d)) by_ v (n0.setData d) (some n0.data) false) m
      (evsFor sid (changeEvents (setNode sv v (fun n => n.setData d)) by_ v (n0.setData d) (some n0.data) false)) :=
  sync_overwrite hk hv hn0 d hu hs hen by_ hcaller m

/-- Creation of a leaf (what `PutChild` + the created-notification do; `parent.length < fuelDepth`: the model has no
    `MUSCLE_MAX_NODE_DEPTH` check, a node created at depth 111 would be notified but is invisible to `getNode`). -/
theorem step_mirror_create {sv : Server} (hk : MK sv) (parent : List Bytes) (child : Node) (hleaf : child.kids = [])
    {p : Node} (hp : getNode sv parent = some p) (hkid : findKid child.name p.kids = none)
    (hlen : parent.length < fuelDepth)
    (hu1 : Unamb (setNode sv parent (fun q => q.setKids (putKid (child.setSubs (marksForNewNode sv (parent ++ [child.name])))
      q.kids))) (parent ++ [child.name]))
    {sid : Nat} {s : Sess} (hs : sv.sess? sid = some s) (hen : s.subsEnabled = true) (by_ : Nat)
    (hcaller : (sid ≠ by_ ∨ bySelfOf sv by_ = true) ↔ visible s (parent ++ [child.name]) = true) (m : Mirror) :
    Sync sid s sv
      (notifyChanged (setNode sv parent (fun q => q.setKids (putKid
        (child.setSubs (marksForNewNode sv (parent ++ [child.name]))) q.kids))) by_ (parent ++ [child.name])
        (child.setSubs (marksForNewNode sv (parent ++ [child.name]))) none false) m
      (evsFor sid (changeEvents (setNode sv parent (fun q => q.setKids (putKid
        (child.setSubs (marksForNewNode sv (parent ++ [child.name]))) q.kids))) by_ (parent ++ [child.name])
        (child.setSubs (marksForNewNode sv (parent ++ [child.name]))) none false)) :=
  sync_create hk parent child hleaf hp hkid hlen hu1 hs hen by_ hcaller m

/-- Removal of a childless node: the notifying part of `RemoveChild` (`removeOneRest`: removed-notification first, then
    the node leaves the tree; `removeOne = removeOneRest ∘ removeIndexEntry`, C13 `log_replay_removeOne`). -/
theorem step_mirror_remove_leaf {sv : Server} (hti : TreeInv sv) (hk : MK sv) (parent : List Bytes) (key : Bytes)
    {c : Node} (hc : getNode sv (parent ++ [key]) = some c) (hleaf : c.kids = []) (hu : Unamb sv (parent ++ [key]))
    {sid : Nat} {s : Sess} (hs : sv.sess? sid = some s) (hen : s.subsEnabled = true) (by_ : Nat)
    (hcaller : (sid ≠ by_ ∨ bySelfOf sv by_ = true) ↔ visible s (parent ++ [key]) = true) (m : Mirror) :
    Sync sid s sv (removeOneRest sv by_ true parent key) m
      (evsFor sid (changeEvents sv by_ (parent ++ [key]) c (some c.data) true)) :=
  sync_removeRest hti hk parent key hc (noDesc_of_leaf hc hleaf) hu hs hen by_ hcaller m

/-- PR_COMMAND_SETDATA by session `a` on a path of its own subtree whose node exists (`pathClauses path` = the
    `/`-split of the path without empty clauses: `a//b` means `a/b`).  For EVERY attached
    session `sid` with subscriptions enabled (the sender included): its pipe is fed exactly the listed events and a
    mirror that was right before is right afterwards. -/
theorem step_mirror_set_overwrite {sv : Server} (h : MReach sv) {a : Nat} {sa : Sess} (hsa : sv.sess? a = some sa)
    (path : Bytes) (hpath : ∀ c r, path = c :: r → c ≠ cSlash) (hne : pathClauses path ≠ []) (x : Nat) {n0 : Node}
    (hn : getNode sv (sessNames sa ++ pathClauses path) = some n0)
    (hu : Unamb sv (sessNames sa ++ pathClauses path))
    {sid : Nat} {s : Sess} (hs : sv.sess? sid = some s) (hen : s.subsEnabled = true) (m : Mirror) :
    Sync sid s sv (runCmd sv a (.set path x false)) m
      (evsFor sid (changeEvents (setNode sv (sessNames sa ++ pathClauses path) (fun n => n.setData (some x))) a
        (sessNames sa ++ pathClauses path) (n0.setData (some x)) (some n0.data) false)) :=
  sync_set_overwrite h.marks hsa path hpath hne (some x) hn hu hs hen m

/-- PR_COMMAND_SETDATA by session `a` on a path whose parent node exists and whose last clause does not
    (the node is created with the payload; `PutChild` without notification, then the created-notification). -/
theorem step_mirror_set_create {sv : Server} (h : MReach sv) {a : Nat} {sa : Sess} (hsa : sv.sess? a = some sa)
    (cls : List Bytes) (cl : Bytes) (path : Bytes) (hpath : ∀ c r, path = c :: r → c ≠ cSlash)
    (hsp : pathClauses path = cls ++ [cl]) (x : Nat) {p : Node}
    (hp : getNode sv (sessNames sa ++ cls) = some p) (hkid : findKid cl p.kids = none)
    (hlen : (sessNames sa ++ cls).length < fuelDepth)
    (hu1 : Unamb (putChild sv a (sessNames sa ++ cls) (Node.fresh cl (some x)) false) (sessNames sa ++ cls ++ [cl]))
    {sid : Nat} {s : Sess} (hs : sv.sess? sid = some s) (hen : s.subsEnabled = true) (m : Mirror) :
    Sync sid s sv (runCmd sv a (.set path x false)) m
      (evsFor sid (changeEvents (putChild sv a (sessNames sa ++ cls) (Node.fresh cl (some x)) false) a
        (sessNames sa ++ cls ++ [cl])
        ((Node.fresh cl (some x)).setSubs (marksForNewNode sv (sessNames sa ++ cls ++ [cl]))) none false)) :=
  sync_set_create_last h.marks hsa cls cl path hpath hsp (some x) hp hkid hlen hu1 hs hen m

/-- steps chain, a push is an empty step -/
theorem step_chain {sid : Nat} {s : Sess} {a b c : Server} {m : Mirror} {e1 e2 : List Ev}
    (h1 : Sync sid s a b m e1) (h2 : Sync sid s b c (e1.foldl applyEv m) e2) :
    Sync sid s a c m (e1 ++ e2) ∧ Sync sid s c (pushAll c) ((e1 ++ e2).foldl applyEv m) [] :=
  ⟨h1.trans h2, (quiet_pushAll sid c).sync s _⟩

/-- The replay between two quiescent points: for ANY chain of `Sync` steps between them (nothing pending for
    `sid` before and after — e.g. after `pushAll`: `pend_after_pushAll`), what was appended to the PR_RESULT_DATAITEMS lines
    of the inbox is the text of structured Messages `sent`, and the client that applies them one Message at a time
    (removals first, then sets) turns a right mirror into a right mirror. -/
theorem converges_partial {sid : Nat} {s : Sess} {sv sv' : Server} {m : Mirror} {evs : List Ev}
    (h : Sync sid s sv sv' m evs) (hs : sv.sess? sid = some s) (hq : pend s = {})
    (hq' : ∀ s', sv'.sess? sid = some s' → pend s' = {}) :
    ∃ s' sent, sv'.sess? sid = some s' ∧ s'.vcore = s.vcore ∧ dataLines s' = dataLines s ++ sent.map dataText ∧
      applyMsgs m sent = evs.foldl applyEv m ∧ (MirrorOK sv s m → MirrorOK sv' s (applyMsgs m sent)) :=
  replay_of_sync h hs hq hq'

/-! Non-vacuity of `step_mirror_set_overwrite` on `exSv` (session 1 owns `/i/1/a` = 5, session 0 subscribes to `a`): every
hypothesis holds for the sender `a = 1`, the path `a`, and the subscriber `sid = 0`; `Unamb` because `exSv` is reached with
slash-free host names (`CReach`, section 7). -/
theorem exSv_creach : CReach exSv :=
  .cmd 0 _ goodPath_a (.cmd 1 _ trivial (.attach 1 [105] (by decide) (.attach 0 [104] (by decide) .init)))

theorem exSv_paths : (descendants fuelDepth exSv.root []).map (·.1) =
    [[[104]], [[104], [48]], [[105]], [[105], [49]], [[105], [49], [97]]] := by decide +kernel

theorem exSv_unamb : Unamb exSv [[105], [49], [97]] := by
  have h : (getNode exSv [[105], [49], [97]]).isSome = true := by decide +kernel
  obtain ⟨n, hn⟩ := Option.isSome_iff_exists.1 h
  exact exSv_creach.ns.unamb (exSv_creach.ns.names hn)

example : ∃ sa s n0, exSv.sess? 1 = some sa ∧ exSv.sess? 0 = some s ∧ s.subsEnabled = true ∧
    sessNames sa ++ pathClauses [97] = [[105], [49], [97]] ∧
    getNode exSv (sessNames sa ++ pathClauses [97]) = some n0 ∧ n0.data = some 5 := by
  -- one evaluation of `exSv` for all the facts
  have h : ((exSv.sess? 1).bind fun sa => (exSv.sess? 0).bind fun s =>
      (getNode exSv (sessNames sa ++ pathClauses [97])).map fun n0 =>
        (s.subsEnabled, sessNames sa ++ pathClauses [97], n0.data)) = some (true, [[105], [49], [97]], some 5) := by
    decide +kernel
  cases hsa : exSv.sess? 1 with
  | none => rw [hsa] at h; cases h
  | some sa =>
    cases hs : exSv.sess? 0 with
    | none => rw [hsa, hs] at h; cases h
    | some s =>
      rw [hsa, hs] at h
      cases hn : getNode exSv (sessNames sa ++ pathClauses [97]) with
      | none => simp only [Option.bind_some, hn] at h; cases h
      | some n0 =>
        simp only [Option.bind_some, hn, Option.map_some, Option.some.injEq, Prod.mk.injEq] at h
        exact ⟨sa, s, n0, rfl, rfl, h.1, h.2.1, hn, h.2.2⟩

/-! ## 7. steady-state commands in general; convergence over steady-state histories

`CReach sv` (Reflector/NoSlash.lean) = `MReach sv` with every `attach` host name free of `/`.  `NS sv`: no node name
contains `/` (path clauses are split at `/`, generated names are `I<n>`, session-node names are decimal).  `Inv sv` =
`TreeInv sv ∧ MK sv ∧ NS sv`.  `SetOK path`: 2 + number of non-empty clauses ≤ 110 (the model has no
`MUSCLE_MAX_NODE_DEPTH` check).  `SyncAll sv sv'`: for EVERY attached session with subscriptions enabled and every mirror
`m` there are events `evs` with `Sync` (its pipe is fed exactly `evs`; `MirrorOK` before ⇒ `MirrorOK` after applying them).
`SyncFor sid` is the same for the one subscriber `sid`. -/

theorem creach_inv {sv : Server} (h : CReach sv) : Inv sv := h.inv

/-- in a `CReach` state every existing node's path string belongs to no other existing node -/
theorem names_unambiguous {sv : Server} (h : CReach sv) {v : List Bytes} {n : Node} (hn : getNode sv v = some n) :
    Unamb sv v :=
  h.ns.unamb (h.ns.names hn)

theorem syncAll_def (sv sv' : Server) :
    SyncAll sv sv' ↔ ∀ sid s, sv.sess? sid = some s → s.subsEnabled = true → ∀ m, ∃ evs, Sync sid s sv sv' m evs := Iff.rfl

/-- PR_COMMAND_SETDATA without flags, ANY sender, ANY path within the depth bound (existing clauses are walked, missing
    inner nodes are created without payload, the last node is created or overwritten): every enabled subscriber stays
    right, and the invariants are kept. -/
theorem step_mirror_set {sv : Server} (h : Inv sv) (a : Nat) (path : Bytes) (hok : SetOK path) (x : Nat) :
    SyncAll sv (runCmd sv a (.set path x false)) ∧ Inv (runCmd sv a (.set path x false)) := by
  have k := syncKept_setDataNode h.good a path hok (some x) false
  exact ⟨k.sync, treeInv_runCmd a _ h.tree, k.inv⟩

/-- `setm`: several payloads set one after the other WITHOUT a push in between. -/
theorem step_mirror_setm {sv : Server} (h : Inv sv) (a : Nat) (path : Bytes) (hok : SetOK path) (vs : List Nat) :
    SyncAll sv (vs.foldl (fun sv v => runCmd sv a (.set path v false)) sv) :=
  (syncKept_setm h.good a path hok vs).sync

/-- PR_COMMAND_REMOVEDATA (wildcards, nested subtrees: `RemoveChild(recurse)` takes every matched subtree apart children
    first), ANY sender. -/
theorem step_mirror_rm {sv : Server} (h : Inv sv) (a : Nat) (keys : List Bytes) :
    SyncAll sv (runCmd sv a (.rm keys)) ∧ Inv (runCmd sv a (.rm keys)) :=
  have k := syncKept_removeData h a keys
  ⟨k.sync, k.inv⟩

/-- departure of ANOTHER session `t`: its subtree goes away with notifications, an emptied host node too. -/
theorem step_mirror_detach_other {sv : Server} (h : Inv sv) (t : Nat) {sid : Nat} (hne : sid ≠ t) :
    SyncFor sid sv (detach sv t) :=
  syncFor_detach h t hne

/-- `Steady sid`: histories made of SETDATA (no flags; `SetOK`), REMOVEDATA, pushes and departures of sessions other than
    `sid`, by any senders in any order (`setm` and BATCHes of these are such histories: `steady_setm`). -/
theorem steady_step {sid : Nat} {sv sv' : Server} (hst : Steady sid sv sv') (h : Inv sv) :
    SyncFor sid sv sv' ∧ Inv sv' :=
  steady_sync hst h

/-- Convergence in the steady state (`converges_partial` instantiated).  From a state with the invariants (every `CReach` state:
    `creach_inv`) in which subscriber `sid` has nothing pending and holds a right mirror `m`, through ANY steady history,
    to a state in which it has nothing pending again (e.g. after a push): what was appended to the PR_RESULT_DATAITEMS
    lines of its inbox is the text of structured Messages `sent`, and the client that applies them in order — removals
    first, then sets, per Message — holds a right mirror: no matching node missing, none stale, none extra.
    Not in THIS theorem (see `converges`, section 14, and the coverage list in the header): histories containing
    SUBSCRIBE / re-filter / unsubscribe of `sid` itself, arrivals, INSERTORDEREDDATA / SETDATA with the index flag, and the
    parameter commands of `sid`. -/
theorem converges_steady {sid : Nat} {sv sv' : Server} (hst : Steady sid sv sv') (h : Inv sv) {s : Sess}
    (hs : sv.sess? sid = some s) (hen : s.subsEnabled = true) (hq : pend s = {})
    (hq' : ∀ s', sv'.sess? sid = some s' → pend s' = {}) (m : Mirror) (hm : MirrorOK sv s m) :
    ∃ s' sent, sv'.sess? sid = some s' ∧ s'.vcore = s.vcore ∧ dataLines s' = dataLines s ++ sent.map dataText ∧
      MirrorOK sv' s' (applyMsgs m sent) :=
  (steady_sync hst h).1.replay hs hen hq hq' m hm

/-! Non-vacuity: `exSv` is `CReach` (`exSv_creach`, section 6); the path `a` is `SetOK`; "session 1 sets `a` to 6 and 7 (`setm`), removes `*`, then a
push, then session 1 departs" is a steady history for subscriber 0 starting in `exSv`. -/
theorem setOK_a : SetOK [97] := by
  unfold SetOK
  have : (pathClauses [97]).length = 1 := by decide
  rw [this]; decide

example : Steady 0 exSv (detach (pushAll (runCmd ([6, 7].foldl (fun sv v => runCmd sv 1 (.set [97] v false)) exSv) 1
    (.rm [[42]]))) 1) :=
  .trans (steady_setm 0 1 [97] setOK_a [6, 7] exSv) (.trans (.rm 1 [[42]]) (.trans .push (.detach 1 (by decide))))

/-! ## 8. the subscriber's own SUBSCRIBE; quiet commands; convergence for a fixed subscription set

`snapEvs C vs` = one `set` per visited node that exists, in visit order.  `subC sv sid path f` = the state `DoGetData` runs on
inside `subscribe` (entry put, reference counts adjusted, parameter recorded), `subSess s path f` = the subscriber's record
there.  `SnapVisits C sC fix f`: the snapshot traversal (callback `GetDataCallback`) visits exactly the existing nodes the
new entry matches — path AND filter — that are `visible` to the subscriber. -/

/-- `DoGetData` as structured Messages: whatever `maxItems` is, and with index Messages (no data lines) interleaved, the
    data lines appended to the inbox are the text of Messages `sent` whose in-order application is the fold of one `set`
    per visited node; the tree and the rest of the session are untouched (`SD`). -/
theorem snapshot_replay (C : Server) (sid : Nat) (sC : Sess) (hs : C.sess? sid = some sC)
    (keys : List (Bytes × Option Filt)) (m : Mirror) :
    ∃ sent, SD C sid sC (doGetData C sid keys) sent ∧
      applyMsgs m sent =
        (snapEvs C (travGlobal C (pmOfKeys keys (some defaultPrefix)) true (getDataCb sC))).foldl applyEv m :=
  doGetData_replay C sid sC hs keys m

/-- for a session that reflects to itself `GetDataCallback` is the continue-callback and C05's theorem gives the visits -/
theorem snapVisits_reflect_self {C : Server} (hti : TreeInv C) {sC : Sess} (hr : sC.reflectSelf = true) {fix : Bytes}
    (hgood : GoodPath fix) (f : Option Filt) : SnapVisits C sC fix f :=
  snapVisits_of hti (Or.inl hr) hgood f

/-- SUBSCRIBE of a NEW path by `sid` itself (any earlier subscriptions allowed, `pmFind … = none`: F10 excluded for this
    path): the data lines of its inbox grow by the text of Messages `sent`, its pending Message is untouched, and a mirror
    that is right for the OLD subscription set is, after applying `sent`, right for the NEW one. -/
theorem step_mirror_subscribe_new {sv : Server} (hinv : Inv sv) {sid : Nat} {s : Sess} (hs : sv.sess? sid = some s)
    (path : Bytes) (f : Option Filt) (hgood : GoodPath (adjustPrefix path (some defaultPrefix)))
    (hf : pmFind s.subs (adjustPrefix path (some defaultPrefix)) = none)
    (hV : SnapVisits (subC sv sid path f) (subSess s path f) (adjustPrefix path (some defaultPrefix)) f)
    (m : Mirror) (hm : MirrorOK sv s m) :
    ∃ sD sent, (runCmd sv sid (.sub path f)).sess? sid = some sD ∧ sD.core = (subSess s path f).core ∧
      sD.nextData = s.nextData ∧ dataLines sD = dataLines s ++ sent.map dataText ∧
      MirrorOK (runCmd sv sid (.sub path f)) sD (applyMsgs m sent) :=
  subscribe_new_replay hinv hs path f hgood hf hV m hm

/-- quiet commands: PING, GETPARAMETERS and client-to-client Messages of anybody (also `sid`'s own: the lines are no data
    lines), parameter / SUBSCRIBE / unsubscribe commands of OTHER sessions: the pipe of `sid` makes an empty step and no
    payload of the tree changes. -/
theorem quiet_step {sid a : Nat} (sv : Server) (c : Cmd) (h : QuietCmd sid a c) :
    PipeStep sid sv (runCmd sv a c) [] ∧
    ∀ w, (getNode (runCmd sv a c) w).map Node.data = (getNode sv w).map Node.data :=
  quiet_runCmd sv c h

/-- `Hist sid`: `Steady` histories and quiet commands, in any order. -/
theorem hist_step {sid : Nat} {sv sv' : Server} (hh : Hist sid sv sv') (h : Inv sv) : SyncFor sid sv sv' ∧ Inv sv' :=
  hist_sync hh h

/-- Convergence for a subscription set established by ONE SUBSCRIBE (`converges` for the common case).  `sv0` satisfies
    the invariants (every `CReach` state, i.e. anything reached from the empty server: `creach_inv`); session `sid` is attached
    with no subscription yet, subscriptions enabled, nothing pending, and its client holds the empty mirror.  It sends
    SUBSCRIBE `path` with filter `f` (`GoodPath`; `SnapVisits`: `snapVisits_reflect_self`), then ANY `Hist sid` history
    happens (SETDATA, `setm`, REMOVEDATA, pushes, departures of others, and the quiet commands, by any senders in any
    order).  At every later point with nothing pending for `sid`: the PR_RESULT_DATAITEMS lines appended to its inbox since
    `sv0` are the text of Messages `sent`, and the client that applied them in order — removals first, then sets — holds
    exactly the nodes matching its subscription, with their current payloads.
    Not in THIS theorem (see `converges`, section 14): arrivals, INSERTORDEREDDATA / index flag / REORDERDATA, further
    (un)subscribes and parameter commands of `sid` itself; `SnapVisits` is a hypothesis (section 12 proves it). -/
theorem converges_fixed_subs {sv0 sv' : Server} (h0 : Inv sv0) {sid : Nat} {s0 : Sess} (hs0 : sv0.sess? sid = some s0)
    (hnos : s0.subs = []) (hen : s0.subsEnabled = true) (hq0 : pend s0 = {}) (path : Bytes) (f : Option Filt)
    (hgood : GoodPath (adjustPrefix path (some defaultPrefix)))
    (hV : SnapVisits (subC sv0 sid path f) (subSess s0 path f) (adjustPrefix path (some defaultPrefix)) f)
    (hh : Hist sid (runCmd sv0 sid (.sub path f)) sv')
    (hq' : ∀ s', sv'.sess? sid = some s' → pend s' = {}) :
    ∃ s' sent, sv'.sess? sid = some s' ∧ dataLines s' = dataLines s0 ++ sent.map dataText ∧
      s'.subs = pmPut [] (adjustPrefix path (some defaultPrefix)) f ∧
      MirrorOK sv' s' (applyMsgs (fun _ => none) sent) :=
  converges_after_subscribe h0 hs0 hnos hen hq0 path f hgood hV (hist_sync hh (h0.runCmd sid _ hgood)).1 hq'

/-! Non-vacuity: in `exSv1` (two sessions, session 1 owns `a` = 5, session 0 has the reflect-to-self parameter and no
subscription) the hypotheses of `converges_fixed_subs` hold for `sid = 0`, the path `a` and the history "session 1 sets `a`
to 6, pings, push". -/
def exSv1 : Server :=
  runCmd (runCmd (attach (attach {} 0 [104]).1 1 [105]).1 1 (.set [97] 5 false)) 0 .paramSelf

theorem exSv1_creach : CReach exSv1 :=
  .cmd 0 _ trivial (.cmd 1 _ trivial (.attach 1 [105] (by decide) (.attach 0 [104] (by decide) .init)))

example : (exSv1.sess? 0).map (fun s => (s.subs.length, s.subsEnabled, s.reflectSelf, s.nextData.isNone)) =
    some (0, true, true, true) := by decide +kernel

example : Hist 0 (runCmd exSv1 0 (.sub [97] none))
    (pushAll (runCmd (runCmd (runCmd exSv1 0 (.sub [97] none)) 1 (.set [97] 6 false)) 1 (.ping 3))) :=
  .trans (.steady (.set 1 [97] 6 setOK_a)) (.trans (.quiet 1 (.ping 3) trivial trivial) (.steady .push))

/-! ## 9. arrivals; unsubscribe with the client's drop rule

`FreshSessNode sv host`: the host node, if it exists, has no child named like the id the arriving session gets (ids are
never reused, session-node names are injective in the id: true in every reachable state, `fresh_sess_node_reach`; a hypothesis of `step_mirror_attach_other`).
`namesOf p` = the names of a path string (inverse of `pathString` on slash-free names: `namesOf_pathString`).
`applyUnsub pm m` = the client's step after its own unsubscribe: keep a mirrored path `p` with payload `d` iff an entry of the
remaining matcher `pm` matches `namesOf p` and its filter accepts `d` (the server sends nothing on unsubscribe). -/

/-- ARRIVAL of another session, seen by a subscriber that is already attached: the created host node (if new) and session
    node are notified like any created node. -/
theorem step_mirror_attach_other {sv : Server} (h : Inv sv) (slot : Nat) (host : Bytes) (hh : cSlash ∉ host)
    (hfresh : FreshSessNode sv host) {sid : Nat} (hold : (sv.sess? sid).isSome) :
    SyncFor sid sv (attach sv slot host).1 ∧ Inv (attach sv slot host).1 :=
  ⟨syncFor_attach h slot host hh hfresh hold, h.attach slot host hh⟩

theorem applyUnsub_def (pm : PM) (m : Mirror) (p : Bytes) :
    applyUnsub pm m p = match m p with
      | some d => if pmMatchesPath pm (namesOf p) true d then some d else none
      | none => none := rfl

/-- UNSUBSCRIBE by `sid` itself (whatever the command does: entry removed and reference counts decremented, or nothing when
    the parameter / entry does not exist): nothing is sent, nothing pending changes, and the client that applies its drop
    rule with the REMAINING subscription set turns a right mirror for the old set into a right mirror for the new one. -/
theorem step_mirror_unsubscribe {sv : Server} (hinv : Inv sv) {sid : Nat} {s : Sess} (hs : sv.sess? sid = some s)
    (path : Bytes) (m : Mirror) (hm : MirrorOK sv s m) :
    ∃ s', (runCmd sv sid (.unsub path)).sess? sid = some s' ∧ s'.nextData = s.nextData ∧ s'.inbox = s.inbox ∧
      MirrorOK (runCmd sv sid (.unsub path)) s' (applyUnsub s'.subs m) := by
  obtain ⟨pm, ps, hs', hm'⟩ := unsubscribe_step hinv hs path m hm
  exact ⟨_, hs', rfl, rfl, hm'⟩

/-- `History sid` = `Hist sid` plus arrivals of other sessions. -/
theorem history_step {sid : Nat} {sv sv' : Server} (hh : History sid sv sv') (h : Inv sv) :
    SyncFor sid sv sv' ∧ Inv sv' :=
  history_sync hh h

/-- `converges_fixed_subs` with arrivals in the history. -/
theorem converges_fixed_subs_arrivals {sv0 sv' : Server} (h0 : Inv sv0) {sid : Nat} {s0 : Sess}
    (hs0 : sv0.sess? sid = some s0) (hnos : s0.subs = []) (hen : s0.subsEnabled = true) (hq0 : pend s0 = {})
    (path : Bytes) (f : Option Filt) (hgood : GoodPath (adjustPrefix path (some defaultPrefix)))
    (hV : SnapVisits (subC sv0 sid path f) (subSess s0 path f) (adjustPrefix path (some defaultPrefix)) f)
    (hh : History sid (runCmd sv0 sid (.sub path f)) sv')
    (hq' : ∀ s', sv'.sess? sid = some s' → pend s' = {}) :
    ∃ s' sent, sv'.sess? sid = some s' ∧ dataLines s' = dataLines s0 ++ sent.map dataText ∧
      s'.subs = pmPut [] (adjustPrefix path (some defaultPrefix)) f ∧
      MirrorOK sv' s' (applyMsgs (fun _ => none) sent) :=
  converges_after_subscribe h0 hs0 hnos hen hq0 path f hgood hV (history_sync hh (h0.runCmd sid _ hgood)).1 hq'

/-! Non-vacuity: `FreshSessNode` holds in `exSv1` for a new host and for the existing host `h`; `namesOf` inverts
`pathString` on `/i/1/a`. -/
example : FreshSessNode exSv1 [106] := by
  intro hn hg
  have : getNode exSv1 [[106]] = none := by decide +kernel
  rw [this] at hg; cases hg
example : (getNode exSv1 [[104]]).map (fun hn => (findKid (sidName exSv1.nextSid) hn.kids).isSome) = some false := by
  decide +kernel
example : namesOf (pathString [[105], [49], [97]]) = [[105], [49], [97]] := by decide

/-! ## 10. the index commands; arrivals without hypothesis; `Story`

`InsDepthOK sv a key`: the nodes the insert traversal of session `a` visits lie above depth 110 (the model has no
`MUSCLE_MAX_NODE_DEPTH` check).  `HK sv`: every node `[host, x]` has `x = sidName k` with `k < sv.nextSid`.
`Inv2 sv = Inv sv ∧ HK sv` (every `CReach` state: `creach_inv2`).  `StoryCmd sid sv a c`: SETDATA (with or without the index
flag) within the depth bound; REMOVEDATA; INSERTORDEREDDATA (`InsDepthOK`); REORDERDATA; otherwise a quiet command that is
`CmdOK` — the index commands may be the subscriber's own.  `Story sid`: such commands, pushes, departures of others, arrivals. -/

/-- PR_COMMAND_INSERTORDEREDDATA of ANY session (the subscriber's own included; the sender's indexing flag is not part of
    `vcore`): each inserted child is a notified creation (generated name `I<n>`);
    counter, index entry and `NodeIndexChanged` do not touch the data view (index Messages are no data lines). -/
theorem step_mirror_ins_other {sid a : Nat} {sv : Server} (h : Inv sv) (key before : Bytes) (vals : List Nat)
    (hd : InsDepthOK sv a key) :
    SyncFor sid sv (runCmd sv a (.ins key before vals)) :=
  (syncKept_insertOrdered h.good key before vals hd).sync.for sid

/-- SETDATA with SETDATANODE_FLAG_ADDTOINDEX of ANY session (inner nodes created plainly, the last clause by
    `InsertOrderedChild`, nothing when it exists). -/
theorem step_mirror_set_indexed_other {sid a : Nat} {sv : Server} (h : Inv sv) (path : Bytes)
    (hok : SetOK path) (x : Nat) : SyncFor sid sv (runCmd sv a (.set path x true)) :=
  (syncKept_setDataNode h.good a path hok (some x) true).sync.for sid

/-- PR_COMMAND_REORDERDATA of ANY session: an empty step of the data pipe, no payload changes. -/
theorem step_mirror_reorder_other (sid a : Nat) (sv : Server) (key before : Bytes) :
    PipeStep sid sv (runCmd sv a (.reorder key before)) [] ∧
    ∀ w, (getNode (runCmd sv a (.reorder key before)) w).map Node.data = (getNode sv w).map Node.data :=
  quiet_reorder sid a sv key before

theorem creach_inv2 {sv : Server} (h : CReach sv) : Inv2 sv := h.inv2

/-- in every reachable state an arriving session finds no child of its host node named like its id -/
theorem fresh_sess_node_reach {sv : Server} (h : CReach sv) (host : Bytes) : FreshSessNode sv host := h.fresh host

theorem story_step {sid : Nat} {sv sv' : Server} (hh : Story sid sv sv') (h : Inv2 sv) : SyncFor sid sv sv' ∧ Inv2 sv' :=
  story_sync hh h

/-- `converges_fixed_subs` over `Story`: after ONE SUBSCRIBE from the empty mirror, ANY interleaving of the commands of
    all sessions (every command class for the others; SETDATA, REMOVEDATA, PING, GETPARAMETERS and client-to-client
    Messages also for the subscriber itself), pushes, departures of others and arrivals keeps the replayed mirror right at
    every quiescent point.  Not in THIS theorem (see `converges`, section 14): further SUBSCRIBE / unsubscribe /
    parameter commands of the subscriber itself; `SnapVisits` is a hypothesis (section 12 proves it). -/
theorem converges_fixed_subs_story_thm {sv0 sv' : Server} (h0 : Inv2 sv0) {sid : Nat} {s0 : Sess}
    (hs0 : sv0.sess? sid = some s0) (hnos : s0.subs = []) (hen : s0.subsEnabled = true) (hq0 : pend s0 = {})
    (path : Bytes) (f : Option Filt) (hgood : GoodPath (adjustPrefix path (some defaultPrefix)))
    (hV : SnapVisits (subC sv0 sid path f) (subSess s0 path f) (adjustPrefix path (some defaultPrefix)) f)
    (hh : Story sid (runCmd sv0 sid (.sub path f)) sv')
    (hq' : ∀ s', sv'.sess? sid = some s' → pend s' = {}) :
    ∃ s' sent, sv'.sess? sid = some s' ∧ dataLines s' = dataLines s0 ++ sent.map dataText ∧
      s'.subs = pmPut [] (adjustPrefix path (some defaultPrefix)) f ∧
      MirrorOK sv' s' (applyMsgs (fun _ => none) sent) :=
  converges_after_subscribe h0.inv hs0 hnos hen hq0 path f hgood hV (story_sync hh (h0.runCmd sid _ hgood)).1 hq'

/-! Non-vacuity: a `Story` for subscriber 0 from `runCmd exSv1 0 (.sub a)`: session 1 reorders, a third session arrives on
a new host, session 1 pings, push. -/
example : Story 0 (runCmd exSv1 0 (.sub [97] none))
    (pushAll (runCmd (attach (runCmd (runCmd exSv1 0 (.sub [97] none)) 1 (.reorder [42] [])) 2 [106]).1 1 (.ping 1))) :=
  .trans (.cmd 1 (.reorder [42] []) trivial)
    (.trans (.attach 2 [106] (by decide) (by decide +kernel)) (.trans (.cmd 1 (.ping 1) ⟨trivial, trivial⟩) .push))

/-! ## 11. `converges` with a changing subscription set

`In` = what the client consumes: `.data u` (a PR_RESULT_DATAITEMS Message) or `.unsub pm` (its own unsubscribe, with the
subscription set that remains); `client m items` = its fold (`applyMsg` — removals first, then sets — resp. `applyUnsub`);
`msgsOf items` = the Messages among them.  `SubNewOK sid sv path f`: `GoodPath`, the subscriber has no entry under this
normalised spelling yet (`pmFind … = none`: F10 excluded), `SnapVisits` (`subNewOK_reflect_self`: for a subscriber that reflects
to itself only the first two).  `Run sid`: `Story` segments that end with nothing pending for `sid` (every engine command is
followed by a push), SUBSCRIBEs of new paths by `sid`, unsubscribes by `sid`, in any order. -/

theorem subNewOK_reflect_self {sid : Nat} {sv : Server} (hti : TreeInv sv) (path : Bytes) (f : Option Filt)
    (hgood : GoodPath (adjustPrefix path (some defaultPrefix)))
    (h : ∀ s, sv.sess? sid = some s → s.reflectSelf = true ∧ pmFind s.subs (adjustPrefix path (some defaultPrefix)) = none) :
    SubNewOK sid sv path f :=
  subNewOK_of_rule hti path f hgood (fun s hs => ⟨Or.inl (h s hs).1, (h s hs).2⟩)

theorem client_def (m : Mirror) (items : List In) :
    client m items = items.foldl (fun m i => match i with | .data u => applyMsg m u | .unsub pm => applyUnsub pm m) m := by
  unfold client
  have : clientStep = (fun m i => match i with | .data u => applyMsg m u | .unsub pm => applyUnsub pm m) := by
    funext m i
    cases i <;> rfl
  rw [this]

/-- Convergence with a changing subscription set.  `sv0` satisfies the invariants (every `CReach` state: `creach_inv2`, i.e.
    anything reached from the empty server); `sid` is attached with no subscription, subscriptions enabled, nothing pending,
    and its client holds the empty mirror.  After ANY `Run sid` — its own SUBSCRIBEs of new paths (with or without filters),
    its own unsubscribes, and in between any interleaving of every command class of the other sessions, its own
    SETDATA / REMOVEDATA / PING / GETPARAMETERS / Messages, pushes, departures and arrivals —: nothing is pending, the data
    lines appended to its inbox are the text of the Messages among `items`, and the client's fold over `items` holds exactly
    the nodes matching its CURRENT subscription set with their current payloads.
    Not in THIS theorem (see `converges`, section 14): re-subscription of a held path with another filter (re-filter) and
    the subscriber's own parameter commands. -/
theorem converges_changing_subs {sid : Nat} {sv0 sv' : Server} (h0 : Inv2 sv0) {s0 : Sess} (hs0 : sv0.sess? sid = some s0)
    (hnos : s0.subs = []) (hen : s0.subsEnabled = true) (hq0 : pend s0 = {}) (hr : Run sid sv0 sv') :
    ∃ s' items, sv'.sess? sid = some s' ∧ pend s' = {} ∧
      dataLines s' = dataLines s0 ++ (msgsOf items).map dataText ∧
      MirrorOK sv' s' (client (fun _ => none) items) :=
  QStep.converges (run_step hr) h0 hs0 hnos hen hq0

/-! Non-vacuity: a `Run` for subscriber 0 from `exSv1`: it subscribes to `a`, session 1 sets `a` to 6 and a push follows, it
unsubscribes `a`. -/
theorem exSv1_sess0 : (exSv1.sess? 0).map (fun s => (s.subs.length, s.reflectSelf)) = some (0, true) := by decide +kernel

example : Run 0 exSv1 (runCmd (pushAll (runCmd (runCmd exSv1 0 (.sub [97] none)) 1 (.set [97] 6 false))) 0 (.unsub [97])) := by
  refine .trans (.subNew [97] none ?_) (.trans (.seg (.trans (.cmd 1 (.set [97] 6 false) setOK_a) .push) ?_) (.unsub [97]))
  · apply subNewOK_reflect_self (creach_inv2 exSv1_creach).inv.tree [97] none goodPath_a
    intro s hs
    have h := exSv1_sess0
    rw [hs] at h
    simp only [Option.map_some, Option.some.injEq, Prod.mk.injEq] at h
    have hnil : s.subs = [] := List.eq_nil_of_length_eq_zero h.1
    exact ⟨h.2, by rw [hnil]; rfl⟩
  · intro s' hs'
    exact pend_after_pushAll (by decide +kernel) hs'

/-! ## 12. the snapshot traversal of plain sessions

`cbG own` = `GetDataCallback` of a session that neither reflects to itself nor carries the indexing flag and whose session
node is named `own`: `(false, 2)` on the nodes of its own subtree, `(true, depth)` elsewhere.  `ctxGg pm uf own` / `ctxCc pm uf`
= the traversal contexts from the global root with that callback / with the continue-callback. -/

set_option linter.unusedVariables false in
/-- From the global root, for every matcher, every tree and every fuel (the three hypotheses are not needed): the visits recorded with `GetDataCallback` are exactly the visits recorded with the continue-callback that
    do not lie in the own subtree (answering depth 2 on an own node at depth ≥ 4 unwinds to the session level, at depth 3
    it rules out the descent: nothing outside the own subtree is lost). -/
theorem getdata_visits (pm : PM) (uf : Bool) (own : Bytes) (hwf : pmWF pm = true) (hl : ClauseLaws pm) (fuel : Nat)
    (root : Node) (hk : kidsNodup fuel root = true) :
    ∀ v, v ∈ (travAux (ctxGg pm uf own) fuel root [] 0).1 ↔
      v ∈ (travAux (ctxCc pm uf) fuel root [] 0).1 ∧ ¬ ownerName v = some own :=
  travG_mem pm uf own fuel root

set_option linter.unusedVariables false in
/-- `SnapVisits` for a plain session. -/
theorem snapVisits_plain_session {C : Server} (hti : TreeInv C) {sC : Sess} (hr : sC.reflectSelf = false)
    (hi : sC.indexingPresent = false) {fix : Bytes} (hgood : GoodPath fix) (f : Option Filt) : SnapVisits C sC fix f :=
  snapVisits_of hti (Or.inr hi) hgood f

/-- the premises of a new SUBSCRIBE reduce to `GoodPath`, "not yet subscribed under this normalised spelling", and "the
    session reflects to itself or does not carry the indexing flag" -/
theorem subNewOK_by_rule {sid : Nat} {sv : Server} (hti : TreeInv sv) (path : Bytes) (f : Option Filt)
    (hgood : GoodPath (adjustPrefix path (some defaultPrefix)))
    (h : ∀ s, sv.sess? sid = some s → (s.reflectSelf = true ∨ s.indexingPresent = false) ∧
      pmFind s.subs (adjustPrefix path (some defaultPrefix)) = none) :
    SubNewOK sid sv path f :=
  subNewOK_of_rule hti path f hgood h

/-! Non-vacuity: in `exSv` (no reflect-to-self anywhere) session 1 — which OWNS `/i/1/a` — is a plain session without
subscription; its SUBSCRIBE of `a` satisfies `SubNewOK`. -/
theorem exSv_sess1 : (exSv.sess? 1).map (fun s => (s.subs.length, s.reflectSelf, s.indexingPresent)) =
    some (0, false, false) := by decide +kernel

example : SubNewOK 1 exSv [97] none := by
  apply subNewOK_by_rule (creach_inv2 exSv_creach).inv.tree [97] none goodPath_a
  intro s hs
  have h := exSv_sess1
  rw [hs] at h
  simp only [Option.map_some, Option.some.injEq, Prod.mk.injEq] at h
  have hnil : s.subs = [] := List.eq_nil_of_length_eq_zero h.1
  exact ⟨Or.inr h.2.2, by rw [hnil]; rfl⟩

/-! ## 13. the subscriber's own parameter commands

`OwnParamCmd c`: max-items-per-update and default-route parameters, set or removed (NOT the reflect-to-self parameter: it
changes which nodes are visible and the server sends no snapshot for it).  `Quiescent sid sv s m`: invariants, `sid` attached
as `s` with subscriptions enabled, nothing pending, `MirrorOK sv s m`.  `Run2` = `Run` plus these commands of `sid` itself. -/

/-- Sent by the subscriber itself at a quiescent point, such a command leaves tree, pending Message, inbox and the
    specification of its mirror untouched. -/
theorem own_param_step {sid : Nat} {sv : Server} {s : Sess} {m : Mirror} (q : Quiescent sid sv s m) (c : Cmd)
    (hc : OwnParamCmd c) :
    ∃ s', Quiescent sid (runCmd sv sid c) s' m ∧ dataLines s' = dataLines s ∧ s'.sid = s.sid ∧
      s'.reflectSelf = s.reflectSelf :=
  ownParam_quiescent q c hc

/-- `converges_changing_subs` with the subscriber's own parameter commands in the run. -/
theorem converges_changing_subs_params {sid : Nat} {sv0 sv' : Server} (h0 : Inv2 sv0) {s0 : Sess}
    (hs0 : sv0.sess? sid = some s0) (hnos : s0.subs = []) (hen : s0.subsEnabled = true) (hq0 : pend s0 = {})
    (hr : Run2 sid sv0 sv') :
    ∃ s' items, sv'.sess? sid = some s' ∧ pend s' = {} ∧
      dataLines s' = dataLines s0 ++ (msgsOf items).map dataText ∧
      MirrorOK sv' s' (client (fun _ => none) items) :=
  QStep.converges (run2_step hr) h0 hs0 hnos hen hq0

/-! Non-vacuity: session 0 of `exSv1` sets its max-items parameter to 1 before subscribing. -/
example : Run2 0 exSv1 (runCmd exSv1 0 (.paramMax 1)) := .ownParam (.paramMax 1) trivial

/-! ## 14. re-filter, the reflect-to-self parameter, and `converges`

`verdict g d`: the verdict of an entry's filter `g` on payload `d` (no filter: true).  `rfCond s fix e f v n`: the condition
under which `ChangeQueryFilterCallback` reports node `n` at `v` when the held entry `e` (normalised path `fix`) gets filter
`f`: the verdict changes and no OTHER entry of the session matches.  `RefilterOK sid sv path f`: the session reflects to
itself or does not carry the indexing flag, and it holds an entry under the normalised spelling of `path`.
`SelfOK sid sv`: the session holds no subscription or reflects to itself already.
`Run3` = `Run2` plus re-filter steps (with the engine's push) and the reflect-to-self parameter. -/

/-- At a quiescent point the subscriber sends SUBSCRIBE for a path it holds.  The server feeds the changes of
    the filter verdict into the pending Message (flushing at `maxItems`), replaces the filter, delivers the snapshot of the
    new filter's matches STRAIGHT to the inbox while the rest of those changes is still pending, and the push sends the
    rest.  The client that applies everything in the order of arrival again holds a right mirror, now for the new filter;
    nothing is pending. -/
theorem step_mirror_refilter {sid : Nat} {sv : Server} {s : Sess} {m : Mirror} (q : Quiescent sid sv s m) (path : Bytes)
    (f : Option Filt) (hok : RefilterOK sid sv path f) :
    ∃ s' items, Quiescent sid (pushAll (runCmd sv sid (.sub path f))) s' (client m items) ∧
      dataLines s' = dataLines s ++ (msgsOf items).map dataText ∧ s'.sid = s.sid ∧ s'.reflectSelf = s.reflectSelf :=
  refilter_quiescent q path f hok

/-- for a subscriber that reflects to itself `RefilterOK` is "the path is held" -/
theorem refilterOK_reflect_self {sid : Nat} {sv : Server} (path : Bytes) (f : Option Filt)
    (h : ∀ s, sv.sess? sid = some s → s.reflectSelf = true ∧
      (pmFind s.subs (adjustPrefix path (some defaultPrefix))).isSome = true) : RefilterOK sid sv path f :=
  fun s hs => ⟨Or.inl (h s hs).1, (h s hs).2⟩

/-- `RefilterOK` spelled out: the rule of section 12 and "the path is held" -/
theorem refilterOK_by_rule {sid : Nat} {sv : Server} (path : Bytes) (f : Option Filt)
    (h : ∀ s, sv.sess? sid = some s → (s.reflectSelf = true ∨ s.indexingPresent = false) ∧
      (pmFind s.subs (adjustPrefix path (some defaultPrefix))).isSome = true) : RefilterOK sid sv path f :=
  h

/-- the nodes `ChangeQueryFilterCallback` is run on: the existing nodes the path's clauses match that are VISIBLE to the
    session — its own nodes are skipped unless it reflects to itself (the rule of `GetDataCallback`; coupling
    `getdata_visits`) -/
theorem refilter_visits {sv : Server} (hti : TreeInv sv) {s : Sess} (h : s.reflectSelf = true ∨ s.indexingPresent = false)
    {fix : Bytes} (hgood : GoodPath fix) :
    ∀ w, w ∈ travGlobal sv (pmPut [] fix none) false (getDataCb s) ↔
      ∃ n, w ≠ [] ∧ getNode sv w = some n ∧ clausesMatch (splitSlash fix) w = true ∧ visible s w = true :=
  rfVisits_of hti h hgood

/-- what the re-filter reports over visits `V`, as events: for every visited node whose verdict changes and that no other
    entry matches, a removal if the old verdict was true, a set otherwise -/
theorem refilter_events {s : Sess} {fix : Bytes} {e : Entry} {f : Option Filt} {sv : Server} {V : List Visit} {ev : Ev} :
    ev ∈ rfEvs s fix e f sv V ↔ ∃ w ∈ V, ∃ n, getNode sv w = some n ∧ rfCond s fix e f w n = true ∧
      ev = evOf (pathString w) n.data (verdict e.filter n.data) :=
  mem_rfEvs

/-- The subscriber's own reflect-to-self parameter at a quiescent point, under `SelfOK`: tree, pending Message, inbox and
    the specification of its mirror are untouched; from then on it reflects to itself. -/
theorem own_self_step {sid : Nat} {sv : Server} {s : Sess} {m : Mirror} (q : Quiescent sid sv s m) (hok : SelfOK sid sv) :
    ∃ s', Quiescent sid (runCmd sv sid .paramSelf) s' m ∧ dataLines s' = dataLines s ∧ s'.sid = s.sid ∧
      s'.subs = s.subs ∧ s'.reflectSelf = true :=
  selfParam_quiescent q hok

/-- the per-step form: from ANY quiescent point with a right mirror, a `Run3` leads to a quiescent point with a right
    mirror -/
theorem run3_quiescent {sid : Nat} {sv sv' : Server} (hr : Run3 sid sv sv') {s : Sess} {m : Mirror}
    (q : Quiescent sid sv s m) :
    ∃ s' items, Quiescent sid sv' s' (client m items) ∧
      dataLines s' = dataLines s ++ (msgsOf items).map dataText ∧ s'.sid = s.sid :=
  run3_step hr q

/-- Convergence, final form.  See "COVERAGE OF THE FINAL THEOREM" in the header of this file for the exact list of what a
    `Run3` may contain and what remains outside.  From a state with the invariants in which `sid` is attached with
    subscriptions enabled, no subscription, nothing pending, and an empty client mirror, after ANY `Run3 sid`: `sid` is
    attached, nothing is pending, the data lines appended to its inbox are the text of the Messages among `items`, and the
    client's fold over `items` holds exactly the nodes that are visible to it and match its CURRENT subscription set, with
    their CURRENT payloads. -/
theorem converges {sid : Nat} {sv0 sv' : Server} (h0 : Inv2 sv0) {s0 : Sess} (hs0 : sv0.sess? sid = some s0)
    (hnos : s0.subs = []) (hen : s0.subsEnabled = true) (hq0 : pend s0 = {}) (hr : Run3 sid sv0 sv') :
    ∃ s' items, sv'.sess? sid = some s' ∧ pend s' = {} ∧
      dataLines s' = dataLines s0 ++ (msgsOf items).map dataText ∧
      MirrorOK sv' s' (client (fun _ => none) items) :=
  QStep.converges (run3_step hr) h0 hs0 hnos hen hq0

/-- the same from any state the engine reaches with slash-free host names -/
theorem converges_reach {sid : Nat} {sv0 sv' : Server} (h0 : CReach sv0) {s0 : Sess} (hs0 : sv0.sess? sid = some s0)
    (hnos : s0.subs = []) (hen : s0.subsEnabled = true) (hq0 : pend s0 = {}) (hr : Run3 sid sv0 sv') :
    ∃ s' items, sv'.sess? sid = some s' ∧ pend s' = {} ∧
      dataLines s' = dataLines s0 ++ (msgsOf items).map dataText ∧
      MirrorOK sv' s' (client (fun _ => none) items) :=
  QStep.converges (run3_step hr) h0.inv2 hs0 hnos hen hq0

/-! Non-vacuity.  (The examples that evaluate a filter use the path `*` — normalised `*/*/*` — because the kernel cannot
evaluate `globMatch` on a literal clause.) -/

def fGt (n : Nat) : Filt := { op := 2, val := n }

theorem goodPath_star : GoodPath (adjustPrefix [42] (some defaultPrefix)) := by
  have hs : splitSlash (adjustPrefix [42] (some defaultPrefix)) = [[42], [42], [42]] := by decide
  unfold GoodPath
  rw [hs]
  refine ⟨by decide, ?_⟩
  intro c hc
  simp only [List.mem_cons, List.not_mem_nil, or_false] at hc
  rcases hc with rfl | rfl | rfl <;> exact laws_star

/-- session 0 of `exSv1` (it reflects to itself) after its SUBSCRIBE of `*` -/
def exSv2 : Server := runCmd exSv1 0 (.sub [42] none)

theorem exSv2_sess0 : (exSv2.sess? 0).map (fun s => (s.reflectSelf,
    (pmFind s.subs (adjustPrefix [42] (some defaultPrefix))).isSome)) = some (true, true) := by decide +kernel

/-- a `Run3`: session 0 subscribes to `*`, then re-subscribes with the filter "> 5" -/
example : Run3 0 exSv1 (pushAll (runCmd exSv2 0 (.sub [42] (some (fGt 5))))) := by
  refine .trans (.run (.run (.subNew [42] none ?_))) (.refilter [42] (some (fGt 5)) ?_)
  · apply subNewOK_reflect_self (creach_inv2 exSv1_creach).inv.tree [42] none goodPath_star
    intro s hs
    have h := exSv1_sess0
    rw [hs] at h
    simp only [Option.map_some, Option.some.injEq, Prod.mk.injEq] at h
    have hnil : s.subs = [] := List.eq_nil_of_length_eq_zero h.1
    exact ⟨h.2, by rw [hnil]; rfl⟩
  · apply refilterOK_reflect_self
    intro s hs
    have h := exSv2_sess0
    rw [show exSv2.sess? 0 = some s from hs] at h
    simp only [Option.map_some, Option.some.injEq, Prod.mk.injEq] at h
    exact h

/-- what session 0 holds after that re-filter, before the push: one line in the inbox (the snapshot of its first SUBSCRIBE
    with `/i/1/a` = 5; the second snapshot is empty), and the removal of `/i/1/a` (5 > 5 fails) pending -/
example : ((runCmd exSv2 0 (.sub [42] (some (fGt 5)))).sess? 0).map (fun s => decide (s.inbox.length = 1 ∧
    (pend s).removed = [pathString [[105], sidName 1, [97]]] ∧ (pend s).sets = [])) = some true := by decide +kernel

/-- a plain session: session 0 of `exSv` holds `a`; re-subscribing it with a filter satisfies `RefilterOK` -/
theorem exSv_sess0 : (exSv.sess? 0).map (fun s => (s.reflectSelf, s.indexingPresent,
    (pmFind s.subs (adjustPrefix [97] (some defaultPrefix))).isSome)) = some (false, false, true) := by
  decide +kernel

example : RefilterOK 0 exSv [97] (some (fGt 5)) := by
  apply refilterOK_by_rule
  intro s hs
  have h := exSv_sess0
  rw [hs] at h
  simp only [Option.map_some, Option.some.injEq, Prod.mk.injEq] at h
  exact ⟨Or.inr h.2.1, h.2.2⟩

/-- the reflect-to-self parameter of a plain session without subscription (session 1 of `exSv`) -/
example : Run3 1 exSv (runCmd exSv 1 .paramSelf) := by
  refine .ownSelf ?_
  intro s hs
  have h := exSv_sess1
  rw [hs] at h
  simp only [Option.map_some, Option.some.injEq, Prod.mk.injEq] at h
  exact Or.inl (List.eq_nil_of_length_eq_zero h.1)

/-! Own nodes are not reported.  `exOwn`: session 1, plain, owns `/i/1/a` = 5 and holds `*` with the filter "> 7": its
inbox is empty, nothing is pending, the node is invisible to it.  It re-subscribes to `*` without filter (`RefilterOK`
holds): the verdict on its own node changes from false to true and no other entry matches it, but nothing is fed and the
snapshot is empty.  `refilterOld` = the re-filter fold over the visits of the continue-callback (the rule before the
repair of `ChangeQueryFilterCallback`): it put a `set` of the session's OWN node into its pending Message. -/
def exOwn : Server :=
  runCmd (runCmd (attach (attach {} 0 [104]).1 1 [105]).1 1 (.set [97] 5 false)) 1 (.sub [42] (some (fGt 7)))

theorem exOwn_sess1 : (exOwn.sess? 1).map (fun s => (s.reflectSelf, s.indexingPresent, s.inbox.length, s.nextData.isNone,
    visible s [[105], sidName 1, [97]], (pmFind s.subs (adjustPrefix [42] (some defaultPrefix))).isSome)) =
    some (false, false, 0, true, false, true) := by decide +kernel

example : RefilterOK 1 exOwn [42] none := by
  apply refilterOK_by_rule
  intro s hs
  have h := exOwn_sess1
  rw [hs] at h
  simp only [Option.map_some, Option.some.injEq, Prod.mk.injEq] at h
  exact ⟨Or.inr h.2.1, h.2.2.2.2.2⟩

example : ((runCmd exOwn 1 (.sub [42] none)).sess? 1).map (fun s => decide (s.inbox.length = 0 ∧
    (pend s).removed = [] ∧ (pend s).sets = [])) = some true := by
  decide +kernel

def refilterOld (sv : Server) (sid : Nat) (path : Bytes) (f : Option Filt) : Server :=
  match sv.sess? sid with
  | none => sv
  | some s =>
    match pmFind s.subs (adjustPrefix path (some defaultPrefix)) with
    | none => sv
    | some e =>
      (travGlobal sv (pmPut [] (adjustPrefix path (some defaultPrefix)) none) false cbContinue).foldl
        (rfStep s sid (adjustPrefix path (some defaultPrefix)) e f) sv

example : ((refilterOld exOwn 1 [42] none).sess? 1).map (fun s => decide (s.inbox.length = 0 ∧
    (pend s).removed = [] ∧ (pend s).sets = [(pathString [[105], sidName 1, [97]], [some 5])])) = some true := by
  decide +kernel

end Muscle.Props.C04
