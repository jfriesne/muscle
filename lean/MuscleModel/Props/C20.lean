import MuscleModel.Pulse.Complete
import MuscleModel.Pulse.Terminate

/-!
# C20 — Pulse callbacks fire for every due node and never before their time

The property theorems and their non-vacuity examples (lemmas: the other modules under `Pulse/`; the three definitions here —
`QuietOps` and two sample histories — belong to the statements).  The model (`Pulse/Tree.lean`, `Pulse/Ops.lean`)
mirrors `util/PulseNode.cpp`; the tie to the C++ code is the correspondence run of engine `pn`.  `Pulse/Disc.lean` is the recalculation
sweep of `Tree` with a verdict added; it is not run against the C++ but tied to `Tree` by `managerGptC_is_managerGpt`.
`never` = `MUSCLE_TIME_NEVER`, `d`/`k` = fuel (theorems hold for every value and speak about the runs that complete:
`… = some _`; where a statement says fuel `k+1` the lemma behind it holds for every fuel, and fuel 0 completes no run).  A node's
behaviour is a script: the time it answers next plus, per callback, a list of re-entrant actions
(invalidate, change request, detach, attach).

For EVERY history and EVERY script (attach/detach from inside callbacks included): `never_early`, `fires_with_asked_time`,
`fired_loses_request`, `sorted_insert`, the local firing / asking rules, finite height and finite
support of the parent relation (`finite_height_reachable`, `finite_support_reachable`), and preservation of the tree invariant
`Inv` and the flagging invariant `V` by every public operation (destroy included) and by the whole pulse sweep (`inv_preserved`,
`v_preserved`); in every state that satisfies `Inv`: `needsrecalc_reaches_root`.
Under stated disciplines, with necessity witnesses (`example`s at the end of the file; none for the termination claims):
* no `GetPulseTime` callback touches a node whose own `GetPulseTimeAux` is in progress: `inv_preserved_gpt_sweep`,
  `gpt_sweep_settles`, `wakeup_never_late`, `due_nodes_reachable`, `all_asked_after_sweep`, `reasked`;
* additionally `Pulse` callbacks only change requests: `fires_iff_due`;
* `GetPulseTime` callbacks only change requests: the reported wake-up time is the exact minimum (`wakeup_is_min_quiet` and its
  corollaries), and both sweeps terminate with explicit fuel (`pulse_sweep_terminates_quiet`, `gpt_sweep_terminates_quiet`,
  `sweeps_terminate_*`).
For histories whose `script` operations queue request-only actions nothing about the state is assumed: `inv_v_history_quiet`,
`wakeup_is_min_quiet_history`, `sweeps_terminate_quiet_history(_explicit)`, `fires_iff_due_quiet_history`.
Not proved: exactness of the wake-up time, and termination, for callbacks that invalidate, attach or detach.

`GetPulseTimeAux` makes a second pass when the node was invalidated during the first, and files a node that is invalid even
then with aggregate time 0 (commit `a6af854`, `corpus/C20/pn-regress-inprogress-invalidate.ops`); `lost_invalidate_reasked`,
`_bounded`, `_live` state that behaviour.
-/

namespace Muscle.Props.C20
open Muscle Muscle.Pulse


/-- `ReschedulePulseChild(child, SCHEDULED)` — empty list / tail shortcut guarded by `>=` the last / `O(N)` walk —
    keeps the list sorted by aggregate time and inserts exactly the child. -/
theorem sorted_insert (a : Nat → Nat) (c : Nat) (l : List Nat) (h : Sorted a l) :
    Sorted a (insertSched a c l) ∧ ∀ x, x ∈ insertSched a c l ↔ x = c ∨ x ∈ l :=
  ⟨insertSched_sorted a c l h, fun x => mem_insertSched a c x l⟩

/-- the walk is entered only below the last element and then never runs off the list (no NULL dereference in
    `while(p->_aggregatePulseTime < child->_aggregatePulseTime) p = p->_nextSibling`) -/
theorem walk_stays_inside (a : Nat → Nat) (c last : Nat) (l : List Nat)
    (hl : l.getLast? = some last) (hlt : a c < a last) : (insertBefore a c l).getLast? = some last :=
  insertBefore_not_last a c last l hl hlt

/-- the initial state (every node newly constructed) satisfies the invariant -/
theorem inv_init (never : Nat) : Inv never (World.init never).f := by
  refine ⟨⟨?_, ?_, ?_, ?_, ?_, ?_, ?_, ?_, ?_⟩, fun _ => by simp [World.init, Node.fresh, Sorted]⟩
  · intro q x l hx; cases l <;> simp [World.init, Node.fresh, Node.list] at hx
  · intro q l; cases l <;> simp [World.init, Node.fresh, Node.list]
  · intro x q l _ hp; simp [World.init, Node.fresh] at hp
  · intro x hx; exact hx.elim
  · intro x _; simp [World.init, Node.fresh]
  · intro x q hp; simp [World.init, Node.fresh] at hp
  · intro x q hp; simp [World.init, Node.fresh] at hp
  · intro x _ hf; obtain ⟨⟨q, hq⟩, _⟩ := hf; simp [World.init, Node.fresh] at hq
  · intro x; simp [World.init, Node.fresh]

example : AllSorted (World.init 100).f := fun _ => by simp [World.init, Node.fresh, Sorted]

/-- Every public operation and the whole pulse sweep preserve the tree invariant.
    `Inv never f` (`Pulse/Inv.lean`) = list membership ↔ (`_parent`, `_curList`) in both directions, no duplicates, roots are in
    no list and non-roots in exactly one, a non-root node with a child in NEEDSRECALC is itself in NEEDSRECALC (so the flag
    reaches the root: `needsrecalc_reaches_root`), every filed (SCHEDULED/UNSCHEDULED) node has `agg ≤ myTime`, `agg ≤` first
    scheduled child's aggregate, `agg = min(myTime, first scheduled child)` while its request stands, SCHEDULED ↔ `agg ≠ never`,
    all aggregates `≤ never`, all SCHEDULED lists sorted by aggregate.
    Preserved by attach, detach, destroy, invalidate, change of request, scripts, and by the WHOLE PULSE SWEEP with arbitrary
    re-entrant scripts (invalidate/attach/detach from inside `Pulse`).  For the `GetPulseTimeAux` sweep see
    `inv_preserved_gpt_sweep`.  Acyclicity of the parent pointers is not a component: the preservation of `Inv` and the results about
    one sweep's frames do not need it (the call stack of the sweep is a duplicate-free chain of parent pointers ending in a root,
    which is proved along the way); finite height is a separate hypothesis of `wakeup_is_min_quiet`/`_undisturbed` and of the
    `…_terminates_quiet`/`sweeps_terminate_finite_support` theorems, and follows from reachability in their corollaries. -/
theorem inv_preserved (never d k : Nat) (w w' : World) (r : Res) (o : Op)
    (hg : ∀ root now, o ≠ .gpt root now) (hi : Inv never w.f)
    (h : applyOp never d k w o = some (w', r)) : Inv never w'.f := by
  cases applyOp_step h with
  | same hf _ _ => rw [hf]; exact hi
  | api a _ h _ _ => exact (inv_opRel never).on_api h hi
  | destroy c h _ _ => exact destroy_inv h hi
  | gpt root now m ho _ _ => exact absurd ho (hg root now)
  | pulse root now h => exact (pulse_inv now k).manager h hi

/-- in every state that satisfies the invariant, a node flagged NEEDSRECALC is in its parent's NEEDSRECALC list and the
    parent, unless it is a root, is flagged too: the flag propagates all the way to the root, which is what makes the
    next `GetPulseTimeAux` sweep from the root reach the node -/
theorem needsrecalc_reaches_root (never : Nat) (f : Forest) (hi : Inv never f) (x q : Nat)
    (hp : (f x).parent = some q) (hc : (f x).cur = some .recalc) :
    x ∈ (f q).recalc ∧ ∀ g, (f q).parent = some g → (f q).cur = some .recalc := by
  have hm : x ∈ (f q).list .recalc := hi.complete x q .recalc hp hc
  refine ⟨hm, fun g hg => hi.marked q g hg ?_⟩
  intro he
  have : x ∈ (f q).recalc := hm
  rw [he] at this; cases this

/-- every operation keeps the log discipline (`Good` = `LogOK` log ∧ every standing request is the node's latest answer) -/
theorem good_preserved (never d k : Nat) (w w' : World) (r : Res) (o : Op) (g : Good none w)
    (h : applyOp never d k w o = some (w', r)) : Good none w' := by
  cases applyOp_step h with
  | same hf hl _ => exact good_of_mono g hl (hf ▸ Mono.refl _)
  | api a _ h hl _ => exact good_of_mono g hl ((mono_opRel never).on_api h)
  | destroy c h hl _ =>
    exact good_of_mono g hl ((mono_opRel never).on_destroy (fun f n _ => mono_upd f n _ (fun e => by cases e)) h)
  | gpt root now m _ _ h => exact (gpt_good now k).manager h g
  | pulse root now h => exact (pulse_good now k).manager h g

theorem good_init (never : Nat) : Good none (World.init never) :=
  ⟨LogOK.nil, fun m _ hv => by simp [World.init, Node.fresh] at hv⟩

theorem good_history (never d k : Nat) : ∀ (ops : List Op) (w w' : World), Good none w →
    runOps never d k w ops = some w' → Good none w' :=
  fun _ _ _ g h => runOps_lift (ReflTrans.imp (Good none)) (fun o _ w w' r h g => good_preserved never d k w w' r o g h) h g

/-- in EVERY history (any operations, any scripts, any clock values), every `Pulse` callback is made with exactly the time the
    node answered in its latest `GetPulseTime` call -/
theorem fires_with_asked_time (never d k : Nat) (ops : List Op) (w' : World)
    (h : runOps never d k (World.init never) ops = some w')
    (l1 l2 : List Event) (id now s : Nat) (hl : w'.log = l1 ++ [.P id now s] ++ l2) :
    lastAns l1 id = some s :=
  (logOK_P (good_history never d k ops _ w' (good_init never) h).1 l1 l2 id now s hl).1

/-- in EVERY history, no `Pulse` callback is made before the time the node asked for -/
theorem never_early (never d k : Nat) (ops : List Op) (w' : World)
    (h : runOps never d k (World.init never) ops = some w')
    (l1 l2 : List Event) (id now s : Nat) (hl : w'.log = l1 ++ [.P id now s] ++ l2) :
    s ≤ now :=
  (logOK_P (good_history never d k ops _ w' (good_init never) h).1 l1 l2 id now s hl).2

/-- a pulse sweep at `now` (on any state, with any scripts) makes `Pulse` callbacks only, each at `now` with a scheduled time
    `≤ now`; every node it fires has NO standing request at the end of the sweep (so it cannot fire again before it has been
    asked again), and the sweep neither creates nor alters any other node's standing request -/
theorem fired_loses_request (never d k : Nat) (w w' : World) (root now : Nat)
    (h : managerPulse never d k w root now = some w') :
    ∃ l, w'.log = w.log ++ l ∧
      (∀ e ∈ l, ∃ id s, e = .P id now s ∧ s ≤ now ∧ (w'.f id).valid = false) ∧
      (∀ i, (w'.f i).valid = true → (w.f i).valid = true ∧ (w'.f i).myTime = (w.f i).myTime) :=
  (pulse_step now k).manager h

/-- the firing rule of one node: `PulseAux` on a node whose request stands and is due (`valid ∧ myTime ≤ now`)
    makes its callback, first thing, with the time it asked for -/
theorem fires_self_if_due (never d k : Nat) (w w' : World) (n now : Nat)
    (hv : (w.f n).valid = true) (ht : (w.f n).myTime ≤ now)
    (h : pulseAux never d (k+1) w n now = some w') :
    ∃ l, w'.log = w.log ++ [.P n now (w.f n).myTime] ++ l := by
  obtain ⟨w1, w2, h1, h2, h3⟩ := pulseAux_some.mp h
  rw [if_pos ⟨hv, ht⟩] at h1
  obtain ⟨l2, e2, _⟩ := (pulse_step now k).loop h2
  exact ⟨l2, by rw [(pulseFinish_log_mono h3).1, e2, callP_log h1]⟩

/-- `PulseAux` on a node whose request does not stand or is not due goes straight to its due SCHEDULED children and the
    re-filing in NEEDSRECALC -/
theorem skips_self_if_not_due (never d k : Nat) (w w' : World) (n now : Nat)
    (hn : ¬ ((w.f n).valid = true ∧ (w.f n).myTime ≤ now))
    (h : pulseAux never d (k+1) w n now = some w') :
    ∃ w1, pulseLoop never d k w n now = some w1 ∧ pulseFinish never d w1 n = some w' := by
  obtain ⟨w1, w2, h1, h2, h3⟩ := pulseAux_some.mp h
  rw [if_neg hn] at h1; cases h1
  exact ⟨w2, h2, h3⟩

/-- dropping the verdict of `managerGptC` gives the model's `managerGpt` -/
theorem managerGptC_is_managerGpt (never d k : Nat) (w w' : World) (root now m : Nat) (b : Bool)
    (h : managerGptC never d k w root now = some (w', m, b)) : managerGpt never d k w root now = some (w', m) :=
  managerGptC_erase h

/-- The `GetPulseTimeAux` sweep preserves the tree invariant.  DISCIPLINE (the verdict `true` of `managerGptC`, `Pulse/Disc.lean`):
    no `GetPulseTime` callback of the sweep invalidates, detaches or (re-)attaches a node whose own `GetPulseTimeAux` is in progress
    at that moment — the asked node itself or a node further up the call stack.  Callbacks may invalidate, detach, attach and change
    the requests of every OTHER node, inside or outside the swept tree.  `managerGptC` is `managerGpt` plus that verdict
    (`managerGptC_is_managerGpt`), so the hypothesis is a decidable statement about the run.
    Outside the discipline: an invalidation of a node in progress is handled by the second pass (`lost_invalidate_*`), a
    re-attachment of a node in progress makes its frame re-enter below itself
    (`corpus/C20/pn-reattach-inprogress-ancestor.ops`: no timer lost or late on the real code, correspondence exact); neither is
    covered by this theorem. -/
theorem inv_preserved_gpt_sweep (never d k : Nat) (w w' : World) (root now m : Nat)
    (h : managerGptC never d (k+1) w root now = some (w', m, true)) (hi : Inv never w.f)
    (hroot : (w.f root).parent = none) : Inv never w'.f :=
  (managerGptC_root h hi hroot).inv

/-- after a disciplined sweep from a root the whole tree below the root is settled: every node's aggregate is at or below its own
    time and its first scheduled child's aggregate, SCHEDULED lists are sorted, every child is in SCHEDULED or, with aggregate
    `never`, in UNSCHEDULED (so, with `inv_preserved_gpt_sweep`, nobody waits in NEEDSRECALC) -/
theorem gpt_sweep_settles (never d k : Nat) (w w' : World) (root now m : Nat)
    (h : managerGptC never d (k+1) w root now = some (w', m, true)) (hi : Inv never w.f)
    (hroot : (w.f root).parent = none) : Settled never w'.f root :=
  (managerGptC_root h hi hroot).settled

/-- no timer is slept through: the wake-up time a disciplined sweep reports is at or before the time stored for EVERY node below
    the root -/
theorem wakeup_never_late (never d k : Nat) (w w' : World) (root now m : Nat)
    (h : managerGptC never d (k+1) w root now = some (w', m, true)) (hi : Inv never w.f)
    (hroot : (w.f root).parent = none) : ∀ n, Desc w'.f root n → m ≤ (w'.f n).myTime := by
  intro n hn
  have A := managerGptC_root h hi hroot
  exact Nat.le_trans A.le (A.settled.root_le hn).2

/-- For ANY run of the recalculation sweep: the reported time is `≤` the root's new aggregate, and `≤` every stored time below the
    root if the result is settled (after a disciplined sweep it is: `wakeup_never_late`; after an in-progress invalidation that
    survives the second pass the reported time is 0, `lost_invalidate_live`).  Exactness — the reported time IS the minimum — is
    `wakeup_is_min_quiet` and needs its discipline: for callbacks that invalidate an already recalculated node and raise its
    request within one sweep it is false (`min` is only ever lowered, so the superseded answer is reported: spurious early
    wake-up, corrected in the next cycle; witness at the end of the file).  The exact boundary (e.g. "callbacks only lower the
    requests of nodes already recalculated") is not formalised. -/
theorem wakeup_is_min_partial (never d k : Nat) (w w' : World) (root now m : Nat)
    (h : managerGpt never d (k+1) w root now = some (w', m)) :
    m ≤ (w'.f root).agg ∧
    (Settled never w'.f root → ∀ n, Desc w'.f root n → m ≤ (w'.f n).myTime) := by
  obtain ⟨w1, w2, m2, _, _, hr⟩ := gptAux_some.mp h
  have hm : m ≤ (w'.f root).agg := by
    rcases hr with ⟨_, hf⟩ | ⟨_, w3, w4, m4, _, _, hf⟩ <;> exact (gptFinish_min hf).2.1
  exact ⟨hm, fun hs n hn => Nat.le_trans hm (hs.root_le hn).2⟩

-- `hn` is not needed: it follows from `ha` and `han`
set_option linter.unusedVariables false in
/-- after a disciplined sweep every node below the root whose stored time is `≤ t` has only ancestors with aggregate `≤ t` — the
    loop condition of `CallPulseAux`/`PulseAux` holds all the way down to it -/
theorem due_nodes_reachable (never d k : Nat) (w w' : World) (root now m : Nat)
    (h : managerGptC never d (k+1) w root now = some (w', m, true)) (hi : Inv never w.f)
    (hroot : (w.f root).parent = none) (n t : Nat) (hn : Desc w'.f root n) (hdue : (w'.f n).myTime ≤ t) :
    ∀ a, Desc w'.f root a → Desc w'.f a n → (w'.f a).agg ≤ t :=
  fun a ha han => Nat.le_trans (((managerGptC_root h hi hroot).settled.sub ha).root_le han).2 hdue

-- `hn` is not needed either
set_option linter.unusedVariables false in
/-- in ANY settled tree every node whose stored time is `≤ t` is reachable for `PulseAux`: all its ancestors have an aggregate
    time `≤ t`, the loop condition of `PulseAux` and of `CallPulseAux` -/
theorem settled_due_reachable (never : Nat) (f : Forest) (root n t : Nat) (hs : Settled never f root)
    (hn : Desc f root n) (hdue : (f n).myTime ≤ t) :
    ∀ a, Desc f root a → Desc f a n → (f a).agg ≤ t :=
  fun a ha han => Nat.le_trans ((hs.sub ha).root_le han).2 hdue

/-- the asking rule of one node: `GetPulseTimeAux` asks every node it visits that has no standing request — first thing, passing
    the time the node requested before — and it returns from a node only when that node's NEEDSRECALC list is empty -/
theorem asks_when_visited (never d k : Nat) (w w' : World) (n now mn mn' : Nat)
    (h : gptAux never d (k+1) w n now mn = some (w', mn')) :
    ((w.f n).valid = false → ∃ ret l, w'.log = w.log ++ [.G n now (w.f n).myTime ret] ++ l) ∧
    (∀ w1 w2 m1 m2, gptLoop never d k w1 n now m1 = some (w2, m2) → (w2.f n).recalc = []) := by
  refine ⟨fun hv => ?_, fun w1 w2 m1 m2 hl => gptLoop_empties hl⟩
  obtain ⟨w1, w2, m2, h1, h2, hr⟩ := gptAux_some.mp h
  rw [if_neg (by simp [hv])] at h1
  obtain ⟨l, e⟩ := (gptAux_log_rest h2 hr).1
  exact ⟨_, l, by rw [e, callG_log h1]⟩

/-! ## Asked again

Invariant `V` (`Pulse/Flagged.lean`): a non-root node without a standing request is flagged NEEDSRECALC — at every step
boundary; inside a node's own `PulseAux`, between its `Pulse` callback and its return, the node itself is not (the proofs treat
that per node, `pulse_vrel`; the exception set of `VEx` is empty throughout). -/

theorem v_init (never : Nat) : V (World.init never).f :=
  fun x q _ hp _ => by simp [World.init, Node.fresh] at hp

/-- `V` is preserved by every public operation and by the whole pulse sweep with arbitrary scripts -/
theorem v_preserved (never d k : Nat) (w w' : World) (r : Res) (o : Op)
    (hg : ∀ root now, o ≠ .gpt root now) (hv : V w.f)
    (h : applyOp never d k w o = some (w', r)) : V w'.f := by
  cases applyOp_step h with
  | same hf _ _ => rw [hf]; exact hv
  | api a _ h _ _ => exact hv.step ((vrel_opRel never).on_api h)
  | destroy c h _ _ => exact hv.step (destroy_vrel h)
  | gpt root now m ho _ _ => exact absurd ho (hg root now)
  | pulse root now h => exact hv.step ((pulse_vrel now k).manager h)

/-- after a disciplined `GetPulseTimeAux` sweep from a root, EVERY node below the root has a standing request again, and `V`
    still holds.  (Discipline = verdict of `managerGptC`, see `inv_preserved_gpt_sweep`.  It is needed: a node that invalidates
    itself in both passes is left without a request — last example of the file; the sweep then reports wake-up time 0,
    `lost_invalidate_live`.) -/
theorem all_asked_after_sweep (never d k : Nat) (w w' : World) (root now m : Nat)
    (h : managerGptC never d (k+1) w root now = some (w', m, true)) (hi : Inv never w.f) (hv : V w.f)
    (hroot : (w.f root).parent = none) :
    V w'.f ∧ ∀ x, Desc w'.f root x → (w'.f x).valid = true :=
  managerGptC_reasks h hi hv hroot

/-- every node fired by a pulse sweep (arbitrary `Pulse` scripts) has no standing request afterwards (`fired_loses_request`)
    and — if it is still below the root — is ASKED by the next disciplined `GetPulseTimeAux` sweep from that root: a
    `GetPulseTime` entry for it appears in that sweep's part of the log -/
theorem reasked (never d k k2 : Nat) (w w1 w2 : World) (root t now m : Nat)
    (hi : Inv never w.f) (hv : V w.f)
    (hp : managerPulse never d k w root t = some w1) (hroot : (w1.f root).parent = none)
    (hg : managerGptC never d (k2+1) w1 root now = some (w2, m, true)) :
    ∃ l1 l2, w1.log = w.log ++ l1 ∧ w2.log = w1.log ++ l2 ∧
      ∀ id s, Event.P id t s ∈ l1 → Desc w2.f root id → ∃ n p r, Event.G id n p r ∈ l2 := by
  obtain ⟨l1, e1, hf, _⟩ := fired_loses_request never d k w w1 root t hp
  have i1 : Inv never w1.f := (pulse_inv t k).manager hp hi
  have v1 : V w1.f := hv.step ((pulse_vrel t k).manager hp)
  obtain ⟨_, hall⟩ := managerGptC_reasks hg i1 v1 hroot
  obtain ⟨l2, e2, ha⟩ := (gpt_asked now (k2+1)).manager (managerGptC_erase hg)
  refine ⟨l1, l2, e1, e2, fun id s hm hd => ?_⟩
  obtain ⟨id', s', he', _, hinv⟩ := hf _ hm
  cases he'
  exact ha id hinv (hall id hd)

/-- DISCIPLINE: the `Pulse` callbacks of the sweep only change requests (`PQuiet`: every queued `Pulse` script consists of
    `setReq` actions).  It is needed in some form: a `Pulse` callback that invalidates (or detaches, or cuts off an ancestor
    of) a node that is due in the same sweep before its turn legitimately prevents its firing — third pair of examples at the end
    of the file; the weakest sufficient discipline ("… does not touch a node that is due before its turn, nor one of its
    ancestors") is not formalised.
    After a disciplined `GetPulseTimeAux` sweep from a root (`managerGptC`, verdict `true`) the following `CallPulseAux(root, t)`,
    `t < never`, fires EXACTLY the due nodes: every node below the root whose request stands and is `≤ t` gets a `Pulse(t, ·)`
    entry (completeness), every entry of the sweep is such a `Pulse` of a node whose request stood and was due
    (`never_early`, `fires_with_asked_time`), and every node fired has no standing request afterwards, so none fires twice on one
    request (`fired_loses_request`). -/
theorem fires_iff_due (never d k k2 : Nat) (w w1 w2 : World) (root now t m : Nat) (ht : t < never)
    (hi : Inv never w.f) (hroot : (w.f root).parent = none)
    (hg : managerGptC never d (k+1) w root now = some (w1, m, true))
    (hq : PQuiet w1) (hp : managerPulse never d k2 w1 root t = some w2) :
    ∃ l, w2.log = w1.log ++ l ∧
      (∀ x, Desc w1.f root x → (w1.f x).valid = true → (w1.f x).myTime ≤ t → ∃ s, Event.P x t s ∈ l) ∧
      (∀ e ∈ l, ∃ id s, e = .P id t s ∧ s ≤ t ∧ (w2.f id).valid = false) := by
  have A := managerGptC_root hg hi hroot
  obtain ⟨l, e, comp⟩ := managerPulse_complete ht hp A.inv hq A.isRoot A.settled
  obtain ⟨l', e', snd, _⟩ := fired_loses_request never d k2 w1 w2 root t hp
  cases List.append_cancel_left (e'.symm.trans e)
  exact ⟨_, e, comp, snd⟩

/-- completeness of the pulse sweep for any settled tree, however it was reached -/
theorem fires_every_due_node (never d k : Nat) (w w' : World) (root t : Nat) (ht : t < never)
    (h : managerPulse never d k w root t = some w') (hi : Inv never w.f) (hq : PQuiet w)
    (hroot : (w.f root).parent = none) (hS : Settled never w.f root) :
    ∃ l, w'.log = w.log ++ l ∧
      ∀ x, Desc w.f root x → (w.f x).valid = true → (w.f x).myTime ≤ t → ∃ s, Event.P x t s ∈ l :=
  managerPulse_complete ht h hi hq hroot hS

/-! ## The second pass of `GetPulseTimeAux`

An `InvalidatePulseTime()` (or detach + re-attach) that reaches a node while its own `GetPulseTimeAux` is in progress clears
`_myScheduledTimeValid` under the feet of that call.  The call (commit `a6af854`) notices this after its first pass and makes
a second one.  Every `Pulse`
callback still needs a standing request, and a standing request is still the node's latest answer (`never_early`,
`fires_with_asked_time`). -/

/-- not lost: if the request does not stand after the first pass (own callback + needy children), the node is asked again
    in the same `GetPulseTimeAux` call, with its stored time as previous answer -/
theorem lost_invalidate_reasked (never d k : Nat) (w w' : World) (n now mn m : Nat)
    (h : gptAux never d (k+1) w n now mn = some (w', m)) (w1 w2 : World) (m2 : Nat)
    (h1 : (if (w.f n).valid then some w else callG never d w n now) = some w1)
    (h2 : gptLoop never d k w1 n now mn = some (w2, m2)) (hv : (w2.f n).valid = false) :
    ∃ ret l, w'.log = w2.log ++ [.G n now (w2.f n).myTime ret] ++ l := by
  obtain ⟨w1', w2', m2', h1', h2', hr⟩ := gptAux_some.mp h
  cases h1.symm.trans h1'
  cases h2.symm.trans h2'
  exact (gptAux_log_rest h2 hr).2 hv

/-- bounded: one `GetPulseTimeAux` call consists of one pass, or — exactly when the request does not stand after the first
    pass — two; a node that invalidates itself on every `GetPulseTime` call is asked twice per call, not for ever -/
theorem lost_invalidate_bounded (never d k : Nat) (w w' : World) (n now mn m : Nat)
    (h : gptAux never d (k+1) w n now mn = some (w', m)) :
    ∃ w1 w2 m2, (if (w.f n).valid then some w else callG never d w n now) = some w1 ∧
      gptLoop never d k w1 n now mn = some (w2, m2) ∧
      (((w2.f n).valid = true ∧ gptFinish never d w2 n m2 = some (w', m)) ∨
       ((w2.f n).valid = false ∧ ∃ w3 w4 m4, callG never d w2 n now = some w3 ∧
          gptLoop never d k w3 n now m2 = some (w4, m4) ∧ gptFinish never d w4 n m4 = some (w', m))) :=
  gptAux_some.mp h

/-- live: when `GetPulseTimeAux` returns, the node's request stands, or — it was invalidated again during the second pass —
    the node's aggregate time and the reported wake-up time are 0: the event loop does not wait (`0 ≤ now`), the next
    `CallPulseAux`/`PulseAux` reaches the node (`now ≥ 0` is the loop condition) without calling `Pulse` (`never_early`: the
    request does not stand), and `PulseAux` flags every node it visits NEEDSRECALC, so that the next sweep asks it
    (`reasked`) -/
theorem lost_invalidate_live (never d k : Nat) (w w' : World) (n now mn m : Nat)
    (h : gptAux never d (k+1) w n now mn = some (w', m)) :
    ((w'.f n).valid = true ∨ ((w'.f n).agg = 0 ∧ m = 0)) ∧
    (∀ (k2 : Nat) (v v' : World) (now2 q : Nat), pulseAux never d (k2+1) v n now2 = some v' →
        (v'.f n).parent = some q → (v'.f n).cur = some .recalc) := by
  refine ⟨?_, fun k2 v v' now2 q hp hq => pulseAux_marks hp hq⟩
  obtain ⟨w1, w2, m2, _, _, hr⟩ := gptAux_some.mp h
  have key : ∀ {v : World} {mv : Nat}, gptFinish never d v n mv = some (w', m) →
      (w'.f n).valid = true ∨ ((w'.f n).agg = 0 ∧ m = 0) := fun {v _} hf => by
    cases hv : (v.f n).valid with
    | true => exact Or.inl ((gptFinish_fields hf n).valid.trans hv)
    | false => exact Or.inr (gptFinish_live hf hv)
  rcases hr with ⟨_, hf⟩ | ⟨_, w3, w4, m4, _, _, hf⟩ <;> exact key hf

/-- The reported wake-up time is exact for sweeps whose `GetPulseTime` callbacks only answer and change requests.
    HYPOTHESES: `Inv` and `V`, `root` is a root, `GQuiet w` = every queued `GetPulseTime` script consists of `setReq` actions
    only (no invalidate / attach / detach), and the parent relation has finite height (`ht` decreases from parent to child; the
    invariant alone allows an infinite descending chain whose aggregate is attained nowhere).
    CONCLUSION: the reported wake-up time `m` is the minimum of the times stored for the nodes below the root after the sweep (all
    of which have a standing request, `all_asked_after_sweep`): it is `≤` each of them, and it is attained by one of them — or it is
    `never`, in which case (by the first part) every stored time is `never` too.  Validated on every undisturbed sweep of the
    correspondence run by the direct oracle. -/
theorem wakeup_is_min_quiet (never d k : Nat) (w w' : World) (root now m : Nat)
    (h : managerGpt never d (k+1) w root now = some (w', m)) (hi : Inv never w.f) (hV : V w.f) (hq : GQuiet w)
    (hroot : (w.f root).parent = none)
    (hfin : ∃ ht : Nat → Nat, ∀ c p, (w.f c).parent = some p → ht c < ht p) :
    (∀ n, Desc w'.f root n → m ≤ (w'.f n).myTime) ∧
    (m = never ∨ ∃ n, Desc w'.f root n ∧ (w'.f n).myTime = m) :=
  managerGpt_exact h hi hV hq hroot hfin

/-- the undisturbed sweep: no `GetPulseTime` scripts are queued at all (every callback just answers its stored request) -/
theorem wakeup_is_min_undisturbed (never d k : Nat) (w w' : World) (root now m : Nat)
    (h : managerGpt never d (k+1) w root now = some (w', m)) (hi : Inv never w.f) (hV : V w.f)
    (hnone : ∀ n, w.gq n = []) (hroot : (w.f root).parent = none)
    (hfin : ∃ ht : Nat → Nat, ∀ c p, (w.f c).parent = some p → ht c < ht p) :
    (∀ n, Desc w'.f root n → m ≤ (w'.f n).myTime) ∧
    (m = never ∨ ∃ n, Desc w'.f root n ∧ (w'.f n).myTime = m) :=
  managerGpt_exact h hi hV (fun n acts ha => by rw [hnone n] at ha; cases ha) hroot hfin

/-- non-vacuity: root 0 (request 500), child 1 (400), grandchild 2 (300), no scripts: the sweep reports 300, the request of the
    grandchild -/
example : ((runOps 1000 8 40 (World.init 1000)
      [.attach 1 0, .attach 2 1, .setReq 0 500, .setReq 1 400, .setReq 2 300]).bind
      fun w => managerGpt 1000 8 40 w 0 10).map
      (fun r => (r.2, (r.1.f 2).myTime, (r.1.f 2).parent, (r.1.f 1).parent, (r.1.f 0).myTime, (r.1.f 1).myTime)) =
    some (300, 300, some 1, some 0, 500, 400) := by decide +kernel

/-! ### every reachable state has a parent relation of finite height

`Height f` unfolds to the hypothesis `hfin` of `wakeup_is_min_quiet`: a function that decreases from parent to child; in particular
the parent relation is acyclic.  The only operation that adds a parent pointer is `attach` (`PutPulseChild`).  In the
model — at top level (`applyOp`) and inside callbacks (`runAct`) — it is guarded by `isAnc d f c p`, which walks up from `p` with fuel
`d` and answers `true` = "refuse" when it meets `c` OR RUNS OUT OF FUEL.  So the guard is sound for every depth
(`isAnc_sound : isAnc d f a n = false → ¬ Desc f a n`): a deep tree can only make it refuse an attachment that would have been
legal, never let a cycle in.  The C++ `PulseNode::PutPulseChild` itself has NO ancestor guard (only `MASSERT(child != this)`); closing a
cycle there makes `ReschedulePulseChild` / `GetCycleStartTime` recurse for ever, so "the caller never attaches a node below itself" is a
precondition of the API.  The harness enforces it with an unbounded walk over `GetPulseParent()` and prints `cycle`; the engine's
fuel (64) exceeds the number of nodes (16), so both agree on every generated input. -/

/-- the guard at work: attaching an ancestor below its own descendant is refused; with too little fuel (`d = 1`, chain of depth 2)
    a LEGAL attachment is refused too — the conservative direction — while enough fuel accepts it -/
example : ((runOps 1000 8 40 (World.init 1000) [.attach 1 0, .attach 2 1]).bind
      fun w => applyOp 1000 8 40 w (.attach 0 2)).map (·.2) = some .cycle := by decide +kernel

example : ((runOps 1000 8 40 (World.init 1000) [.attach 1 0, .attach 2 1]).bind
      fun w => applyOp 1000 1 40 w (.attach 3 2)).map (·.2) = some .cycle := by decide +kernel

example : ((runOps 1000 8 40 (World.init 1000) [.attach 1 0, .attach 2 1]).bind
      fun w => applyOp 1000 8 40 w (.attach 3 2)).map (·.2) = some .ok := by decide +kernel

/-- the initial state has a height function (there are no parent pointers) -/
theorem finite_height_init (never : Nat) : Height (World.init never).f :=
  ⟨fun _ => 0, fun c p h => by simp [World.init, Node.fresh] at h⟩

/-- EVERY operation — attach, detach, destroy, invalidate, change of request, scripts, and both sweeps with whatever their
    callback scripts do (attach / detach / invalidate from inside `GetPulseTime` and `Pulse`) — keeps the height finite -/
theorem finite_height_preserved (never d k : Nat) (w w' : World) (r : Res) (o : Op) (hH : Height w.f)
    (h : applyOp never d k w o = some (w', r)) : Height w'.f :=
  (height_parentProp.on_applyOp (opOK_true o) h ⟨hH, fun _ _ _ _ _ => trivial, fun _ _ _ _ _ => trivial⟩).1

theorem finite_height_history (never d k : Nat) : ∀ (ops : List Op) (w w' : World), Height w.f →
    runOps never d k w ops = some w' → Height w'.f :=
  fun _ _ _ hH h => runOps_lift (ReflTrans.imp fun w : World => Height w.f)
    (fun o _ w w' r h hH => finite_height_preserved never d k w w' r o hH h) h hH

/-- every state reachable from the initial state by ANY history of operations has a parent relation of finite height -/
theorem finite_height_reachable (never d k : Nat) (ops : List Op) (w : World)
    (h : runOps never d k (World.init never) ops = some w) :
    ∃ ht : Nat → Nat, ∀ c p, (w.f c).parent = some p → ht c < ht p :=
  finite_height_history never d k ops _ w (finite_height_init never) h

/-- `wakeup_is_min_quiet` in a reachable state: finite height follows from reachability.  `Inv` and `V` are hypotheses: a `gpt`
    operation of the history preserves them under the discipline verdict of `managerGptC` (`inv_preserved_gpt_sweep`,
    `all_asked_after_sweep`), which `applyOp` does not expose — `wakeup_is_min_first_sweep` and `wakeup_is_min_quiet_history` are
    the cases where they follow from the history too. -/
theorem wakeup_is_min_reachable (never d k k2 : Nat) (ops : List Op) (w w' : World) (root now m : Nat)
    (hreach : runOps never d k (World.init never) ops = some w)
    (h : managerGpt never d (k2+1) w root now = some (w', m)) (hi : Inv never w.f) (hV : V w.f) (hq : GQuiet w)
    (hroot : (w.f root).parent = none) :
    (∀ n, Desc w'.f root n → m ≤ (w'.f n).myTime) ∧
    (m = never ∨ ∃ n, Desc w'.f root n ∧ (w'.f n).myTime = m) :=
  wakeup_is_min_quiet never d k2 w w' root now m h hi hV hq hroot (finite_height_reachable never d k ops w hreach)

theorem inv_v_history_gptfree (never d k : Nat) : ∀ (ops : List Op) (w w' : World),
    (∀ o ∈ ops, ∀ root now, o ≠ .gpt root now) → Inv never w.f → V w.f →
    runOps never d k w ops = some w' → Inv never w'.f ∧ V w'.f :=
  fun _ _ _ hg hi hv h => runOps_lift (ReflTrans.imp fun w : World => Inv never w.f ∧ V w.f)
    (fun o ho w w' r h hq => ⟨inv_preserved never d k w w' r o (hg o ho) hq.1 h, v_preserved never d k w w' r o (hg o ho) hq.2 h⟩)
    h ⟨hi, hv⟩

/-- the FIRST recalculation sweep after any history of attach / detach / destroy / invalidate / change of request / script / pulse
    operations: nothing about the state is assumed — only that the queued `GetPulseTime` scripts change requests only and that the
    swept node is a root.  The reported wake-up time is the minimum of the requested times of the attached nodes (`never` if none). -/
theorem wakeup_is_min_first_sweep (never d k k2 : Nat) (ops : List Op) (w w' : World) (root now m : Nat)
    (hg : ∀ o ∈ ops, ∀ r n, o ≠ .gpt r n)
    (hreach : runOps never d k (World.init never) ops = some w)
    (h : managerGpt never d (k2+1) w root now = some (w', m)) (hq : GQuiet w)
    (hroot : (w.f root).parent = none) :
    (∀ n, Desc w'.f root n → m ≤ (w'.f n).myTime) ∧
    (m = never ∨ ∃ n, Desc w'.f root n ∧ (w'.f n).myTime = m) := by
  obtain ⟨hi, hv⟩ := inv_v_history_gptfree never d k ops _ w hg (inv_init never) (v_init never) hreach
  exact wakeup_is_min_reachable never d k k2 ops w w' root now m hreach h hi hv hq hroot

/-! ## Fuel

Two kinds of fuel: `d` for the recursion of `ReschedulePulseChild` up the parent chain, `k` for the two sweeps.
* The fuel is not part of the semantics (`fuel_irrelevant_partial`).
* Fuel `d` (`reschedule_terminates`): if the parent relation has a height function bounded by `B` (`HeightLe B ht f`) then EVERY
  `ReschedulePulseChild` call completes with any `d > B`, and so do `InvalidatePulseTime`, the last statements of `PulseAux` and of
  `GetPulseTimeAux` (`invalidate_terminates`, `pulseFinish_terminates`, `gptFinish_terminates` in `Pulse/Terminate.lean`); quiet
  callbacks always complete (`callP_quiet_some`, `callG_quiet_some`).
* Fuel `k`: with quiet scripts, a height bound `B < d` and child lists of length `≤ N` each sweep completes with fuel `B * (N + 2)`
  (`pulse_sweep_terminates_quiet`, `gpt_sweep_terminates_quiet`) — the measure is (height of the node, length of the list it walks).
* The bounds `B` and `N` exist in every forest with finite support (`sweeps_terminate_finite_support`), and finite support holds in
  every reachable state (`finite_support_reachable`, `M = opsBound ops`): `sweeps_terminate_reachable`, `sweeps_terminate_first_sweep`.
Not proved: termination for scripts that are not quiet (attach changes the height function), and `Inv` / `V` for histories with such
scripts that contain `gpt` operations (they need the discipline verdict). -/

/-- the fuel is not part of the semantics: a sweep that completes with fuel `k` completes with exactly the same result with every
    larger fuel -/
theorem fuel_irrelevant_partial (never d k k' : Nat) (hk : k ≤ k') :
    (∀ (w r : World) (n now : Nat), pulseAux never d k w n now = some r → pulseAux never d k' w n now = some r) ∧
    (∀ (w : World) (n now mn : Nat) (r : World × Nat),
      gptAux never d k w n now mn = some r → gptAux never d k' w n now mn = some r) :=
  ⟨fun _ _ _ _ h => pulse_fuel_mono hk h, fun _ _ _ _ _ h => gpt_fuel_mono hk h⟩

/-- fuel `d`: with a height function bounded by `B`, every `ReschedulePulseChild(child, whichList)` call on a node `p` completes with any
    fuel `d` such that `d + ht p > B`; in particular with any `d > B`, whatever the node -/
theorem reschedule_terminates (never B : Nat) (ht : Nat → Nat) (d : Nat) (f : Forest) (p c : Nat) (w : Option Which)
    (h : HeightLe B ht f) (hd : B + 1 ≤ d + ht p) : ∃ f', resched never d f p c w = some f' :=
  resched_terminates p c w h hd

/-- non-vacuity: in the initial state (no parent pointers: height function `0`, bound `B = 1`) fuel `d = 2` suffices -/
example : ∃ f', resched 1000 2 (World.init 1000).f 0 1 (some .recalc) = some f' :=
  reschedule_terminates 1000 1 (fun _ => 0) 2 (World.init 1000).f 0 1 (some .recalc)
    ⟨fun c p h => by simp [World.init, Node.fresh] at h, fun _ => Nat.zero_lt_one⟩ (Nat.le_refl 2)

/-- TERMINATION OF THE PULSE SWEEP with an explicit fuel.  HYPOTHESES: `Inv`; the queued `Pulse` scripts only change requests
    (`PQuiet`, in particular: no scripts); the parent relation has a height function bounded by `B` (`HeightLe B ht`; a height function
    exists in every reachable state, `finite_height_reachable`; the bound is a hypothesis) and `d > B`; every SCHEDULED list has at most `N`
    members (true with `N = opsBound ops` in reachable states, `finite_support_reachable`).  CONCLUSION: `CallPulseAux(root, t)` completes with fuel
    `B * (N + 2)` and with every larger fuel (and always with the same result, `fuel_irrelevant_partial`).  The measure: the height of
    the node (levels) and, within a node, the length of its SCHEDULED list, which every completed child sweep shortens (the child is
    flagged NEEDSRECALC and nothing enters a SCHEDULED list during a pulse sweep). -/
theorem pulse_sweep_terminates_quiet (never d B N : Nat) (ht : Nat → Nat) (w : World) (root t : Nat)
    (hi : Inv never w.f) (hq : PQuiet w) (hH : HeightLe B ht w.f) (hd : B < d)
    (hN : ∀ x, (w.f x).sched.length ≤ N) (k : Nat) (hk : B * (N + 2) ≤ k) :
    ∃ w', managerPulse never d k w root t = some w' :=
  managerPulse_terminates hd root t ⟨hi, hq, hH, hN⟩ hk

/-- non-vacuity: the 3-node chain 0 ← 1 ← 2 (height bound `B = 3`, lists of length `N = 1`), all three due: the sweep completes with
    fuel `B * (N + 2) = 9` and `d = 4`, and fires all three -/
example : ((runOps 1000 8 40 (World.init 1000)
      [.attach 1 0, .attach 2 1, .setReq 0 50, .setReq 1 40, .setReq 2 30, .gpt 0 10]).bind
      fun w => managerPulse 1000 4 9 w 0 60).map (·.log) =
    some [.G 0 10 1000 50, .G 1 10 1000 40, .G 2 10 1000 30, .P 0 60 50, .P 1 60 40, .P 2 60 30] := by decide +kernel

/-- TERMINATION OF THE RECALCULATION SWEEP with an explicit fuel.  HYPOTHESES: `Inv` and `V`; the queued `GetPulseTime` scripts only change
    requests (`GQuiet`, in particular: no scripts); a height function bounded by `B` and `d > B`; every NEEDSRECALC list has at most `N`
    members; `root` is a root.  CONCLUSION: `CallGetPulseTimeAux(root, now, min)` — both passes at every node — completes with fuel
    `B * (N + 2)` and with every larger fuel (and always with the same result).  The measure: the height of the node and, within a node,
    the length of its NEEDSRECALC list, which every completed child sweep shortens (the child is filed, and nothing is flagged
    NEEDSRECALC during a quiet recalculation sweep). -/
theorem gpt_sweep_terminates_quiet (never d B N : Nat) (ht : Nat → Nat) (w : World) (root now : Nat)
    (hi : Inv never w.f) (hV : V w.f) (hq : GQuiet w) (hH : HeightLe B ht w.f) (hd : B < d)
    (hN : ∀ x, (w.f x).recalc.length ≤ N) (hroot : (w.f root).parent = none) (k : Nat) (hk : B * (N + 2) ≤ k) :
    ∃ res, managerGpt never d k w root now = some res :=
  managerGpt_terminates hd now hi hV hq hH hN hroot hk

/-- non-vacuity: the 3-node chain 0 ← 1 ← 2 (`B = 3`, NEEDSRECALC lists of length `N = 1`), nobody asked yet: the sweep completes with fuel
    `B * (N + 2) = 9` and `d = 4`, asks all three and reports the minimum -/
example : ((runOps 1000 8 40 (World.init 1000)
      [.attach 1 0, .attach 2 1, .setReq 0 50, .setReq 1 40, .setReq 2 30]).bind
      fun w => managerGpt 1000 4 9 w 0 10).map (fun r => (r.2, r.1.log)) =
    some (30, [.G 0 10 1000 50, .G 1 10 1000 40, .G 2 10 1000 30]) := by decide +kernel

/-- THE BOUNDS EXIST IN EVERY FINITE FOREST.  `FSupp M f` = all parent pointers live among the node ids below `M` (finite support; every
    state reached by `runOps` from `World.init` has it with `M = opsBound ops`, `finite_support_reachable`).
    Then a bounded height function exists (`B`) and every child list has at most `M` members, so in a quiet state both sweeps complete:
    there is a `B` such that for every `d > B` there is a `k` such that for every `k' ≥ k` `CallPulseAux` (quiet `Pulse` scripts) and
    `CallGetPulseTimeAux` on a root (quiet `GetPulseTime` scripts) complete.  (`k = B * (M + 2)`.)  `Height` holds in every reachable state
    (`finite_height_reachable`); `Inv` and `V` as in `wakeup_is_min_reachable`. -/
theorem sweeps_terminate_finite_support (never M : Nat) (w : World) (hs : FSupp M w.f) (hi : Inv never w.f) (hV : V w.f)
    (hH : Height w.f) :
    ∃ B, ∀ d, B < d →
      (PQuiet w → ∀ root t, ∃ k, ∀ k', k ≤ k' → ∃ w', managerPulse never d k' w root t = some w') ∧
      (GQuiet w → ∀ root now, (w.f root).parent = none →
        ∃ k, ∀ k', k ≤ k' → ∃ res, managerGpt never d k' w root now = some res) :=
  ⟨M + 1, fun _ hd =>
    ⟨fun hq root t => ⟨(M + 1) * (M + 2), fun _ hk => (sweeps_terminate_explicit hs hi hV hH hd hk).1 hq root t⟩,
     fun hq root now hr => ⟨(M + 1) * (M + 2), fun _ hk => (sweeps_terminate_explicit hs hi hV hH hd hk).2 hq root now hr⟩⟩⟩

/-- non-vacuity: the hypotheses hold in the initial state (no parent pointers: `M = 0`) -/
example : ∃ B, ∀ d, B < d →
      (PQuiet (World.init 1000) → ∀ root t, ∃ k, ∀ k', k ≤ k' → ∃ w', managerPulse 1000 d k' (World.init 1000) root t = some w') ∧
      (GQuiet (World.init 1000) → ∀ root now, ((World.init 1000).f root).parent = none →
        ∃ k, ∀ k', k ≤ k' → ∃ res, managerGpt 1000 d k' (World.init 1000) root now = some res) :=
  sweeps_terminate_finite_support 1000 0 (World.init 1000)
    (fun c p h => by simp [World.init, Node.fresh] at h) (inv_init 1000) (v_init 1000) (finite_height_init 1000)

/-- FINITE SUPPORT OF REACHABLE STATES.  `opsBound ops` = 1 + the largest node id that an `attach` of the history mentions — at top level
    or inside a queued script (0 if there is none; only `attach` creates a parent pointer).  In every state reached from the initial
    state by ANY history — all operations, both sweeps, whatever the scripts do — all parent pointers live among the ids below it. -/
theorem finite_support_reachable (never d k : Nat) (ops : List Op) (w : World)
    (h : runOps never d k (World.init never) ops = some w) : FSupp (opsBound ops) w.f :=
  ((fsupp_parentProp _).on_runOps (fun _ ho => opOK_of_bound (le_foldr_max opBound ho)) h
    ((fsupp_parentProp _).init fun c p e => by simp [World.init, Node.fresh] at e)).1

/-- `sweeps_terminate_finite_support` in a reachable state: finite support and the height function follow from reachability.
    `Inv` and `V` are hypotheses for histories that contain `gpt` operations (see `wakeup_is_min_reachable`). -/
theorem sweeps_terminate_reachable (never d0 k0 : Nat) (ops : List Op) (w : World)
    (hreach : runOps never d0 k0 (World.init never) ops = some w) (hi : Inv never w.f) (hV : V w.f) :
    ∃ B, ∀ d, B < d →
      (PQuiet w → ∀ root t, ∃ k, ∀ k', k ≤ k' → ∃ w', managerPulse never d k' w root t = some w') ∧
      (GQuiet w → ∀ root now, (w.f root).parent = none →
        ∃ k, ∀ k', k ≤ k' → ∃ res, managerGpt never d k' w root now = some res) :=
  sweeps_terminate_finite_support never (opsBound ops) w (finite_support_reachable never d0 k0 ops w hreach) hi hV
    (finite_height_reachable never d0 k0 ops w hreach)

/-- after any `gpt`-free history (attach / detach / destroy / invalidate / change of request / scripts / pulse sweeps with arbitrary
    scripts) nothing about the state is assumed: there is a `B` such that for every `d > B` the next pulse sweep (if the queued
    `Pulse` scripts are quiet) and the next recalculation sweep from a root (if the queued `GetPulseTime` scripts are quiet) complete
    with all sufficiently large fuels `k`. -/
theorem sweeps_terminate_first_sweep (never d0 k0 : Nat) (ops : List Op) (w : World)
    (hg : ∀ o ∈ ops, ∀ r n, o ≠ .gpt r n)
    (hreach : runOps never d0 k0 (World.init never) ops = some w) :
    ∃ B, ∀ d, B < d →
      (PQuiet w → ∀ root t, ∃ k, ∀ k', k ≤ k' → ∃ w', managerPulse never d k' w root t = some w') ∧
      (GQuiet w → ∀ root now, (w.f root).parent = none →
        ∃ k, ∀ k', k ≤ k' → ∃ res, managerGpt never d k' w root now = some res) := by
  obtain ⟨hi, hv⟩ := inv_v_history_gptfree never d0 k0 ops _ w hg (inv_init never) (v_init never) hreach
  exact sweeps_terminate_reachable never d0 k0 ops w hreach hi hv

/-- non-vacuity: the bound of a small history with a scripted attach, and a concrete reachable state to which the theorems apply -/
example : opsBound [.attach 1 0, .attach 2 1, .script true 2 [.attach 5 1], .setReq 7 3] = 6 := by decide

example : (runOps 1000 8 40 (World.init 1000) [.attach 1 0, .attach 2 1, .setReq 0 50]).isSome = true := by decide +kernel

example (w : World) (h : runOps 1000 8 40 (World.init 1000) [.attach 1 0, .attach 2 1, .setReq 0 50] = some w) :
    FSupp 3 w.f := finite_support_reachable 1000 8 40 _ w h

/-! ## Quiet histories

`QuietOps ops` = every `script` operation of the history queues request-only actions (`setReq`).  Everything else is allowed, `gpt`
and `pulse` operations included (`applyOp` runs `managerGpt` / `managerPulse` only on a node that is a root at that moment and answers
`notroot` otherwise, so no rootness condition is needed).  After such a history nothing about the state has to be assumed. -/

def QuietOps (ops : List Op) : Prop :=
  ∀ o ∈ ops, ∀ g c acts, o = Op.script g c acts → ∀ a ∈ acts, Act.target a = none

/-- one operation of a quiet history keeps `Inv`, `V` and the quietness of both script queues -/
theorem quiet_step (never d k : Nat) (w w' : World) (r : Res) (o : Op)
    (hQ : Inv never w.f ∧ V w.f ∧ GQuiet w ∧ PQuiet w)
    (ho : ∀ g c acts, o = Op.script g c acts → ∀ a ∈ acts, Act.target a = none)
    (h : applyOp never d k w o = some (w', r)) : Inv never w'.f ∧ V w'.f ∧ GQuiet w' ∧ PQuiet w' := by
  obtain ⟨hi, hv, hg, hp⟩ := hQ
  suffices key : Inv never w'.f ∧ V w'.f from
    ⟨key.1, key.2, applyOp_all (A := fun a => Act.target a = none) ho h ⟨hg, hp⟩⟩
  cases applyOp_step h with
  | same hf _ _ => rw [hf]; exact And.intro hi hv
  | api a _ h _ _ => exact And.intro ((inv_opRel never).on_api h hi) (hv.step ((vrel_opRel never).on_api h))
  | destroy c h _ _ => exact And.intro (destroy_inv h hi) (hv.step (destroy_vrel h))
  | gpt root now m _ hroot hf =>
    -- quiet scripts ⇒ positive verdict ⇒ the disciplined sweep keeps `Inv` and `V`
    have hC := managerGptC_of_quiet hg hf
    exact And.intro (managerGptC_root hC hi hroot).inv (managerGptC_reasks hC hi hv hroot).1
  | pulse root now h =>
    exact And.intro ((pulse_inv now k).manager h hi)
      (hv.step ((pulse_vrel now k).manager h))

theorem inv_v_history_quiet_from (never d k : Nat) : ∀ (ops : List Op) (w w' : World), QuietOps ops →
    (Inv never w.f ∧ V w.f ∧ GQuiet w ∧ PQuiet w) → runOps never d k w ops = some w' →
    Inv never w'.f ∧ V w'.f ∧ GQuiet w' ∧ PQuiet w' :=
  fun _ _ _ hq hQ h => runOps_lift (ReflTrans.imp fun w : World => Inv never w.f ∧ V w.f ∧ GQuiet w ∧ PQuiet w)
    (fun o ho w w' r h hQ => quiet_step never d k w w' r o hQ (hq o ho) h) h hQ

/-- every state reached from the initial state by a quiet history — `gpt` and `pulse` operations INCLUDED — satisfies the tree invariant
    and the flagging invariant, and both script queues are quiet -/
theorem inv_v_history_quiet (never d k : Nat) (ops : List Op) (w : World) (hq : QuietOps ops)
    (h : runOps never d k (World.init never) ops = some w) :
    Inv never w.f ∧ V w.f ∧ GQuiet w ∧ PQuiet w :=
  inv_v_history_quiet_from never d k ops _ w hq
    ⟨inv_init never, v_init never, fun n acts ha => by simp [World.init] at ha, fun n acts ha => by simp [World.init] at ha⟩ h

/-- after ANY quiet history every recalculation sweep from a root reports the exact minimum of the requested times of the attached nodes
    (`never` if none) -/
theorem wakeup_is_min_quiet_history (never d k k2 : Nat) (ops : List Op) (w w' : World) (root now m : Nat)
    (hq : QuietOps ops) (hreach : runOps never d k (World.init never) ops = some w)
    (h : managerGpt never d (k2+1) w root now = some (w', m)) (hroot : (w.f root).parent = none) :
    (∀ n, Desc w'.f root n → m ≤ (w'.f n).myTime) ∧
    (m = never ∨ ∃ n, Desc w'.f root n ∧ (w'.f n).myTime = m) := by
  obtain ⟨hi, hv, hg, _⟩ := inv_v_history_quiet never d k ops w hq hreach
  exact wakeup_is_min_reachable never d k k2 ops w w' root now m hreach h hi hv hg hroot

/-- after ANY quiet history both sweeps terminate: there is a `B` such that for every `d > B` the pulse sweep on any node and the
    recalculation sweep from any root complete with all sufficiently large fuels `k` -/
theorem sweeps_terminate_quiet_history (never d0 k0 : Nat) (ops : List Op) (w : World)
    (hq : QuietOps ops) (hreach : runOps never d0 k0 (World.init never) ops = some w) :
    ∃ B, ∀ d, B < d →
      (∀ root t, ∃ k, ∀ k', k ≤ k' → ∃ w', managerPulse never d k' w root t = some w') ∧
      (∀ root now, (w.f root).parent = none →
        ∃ k, ∀ k', k ≤ k' → ∃ res, managerGpt never d k' w root now = some res) := by
  obtain ⟨hi, hv, hg, hp⟩ := inv_v_history_quiet never d0 k0 ops w hq hreach
  obtain ⟨B, hB⟩ := sweeps_terminate_reachable never d0 k0 ops w hreach hi hv
  exact ⟨B, fun d hd => ⟨(hB d hd).1 hp, (hB d hd).2 hg⟩⟩

/-- EXPLICIT FUEL after any quiet history.  With `M := opsBound ops` (1 + the largest id an `attach` of the history mentions) there is a
    height function with values `≤ M` (rank compression, `heightLe_explicit`: bound `B = M + 1`) and every child list has at most `M`
    members, so for EVERY `d > M + 1` and EVERY `k ≥ (M + 1) * (M + 2)` the pulse sweep on any node and the recalculation sweep from any
    root complete.  (The engine uses node ids `< 16`, so `M ≤ 16`: `d > 17` and `k ≥ 17 · 18 = 306` suffice, against the engine's
    `d = 64`, `k = 1000`.) -/
theorem sweeps_terminate_quiet_history_explicit (never d0 k0 d k : Nat) (ops : List Op) (w : World)
    (hq : QuietOps ops) (hreach : runOps never d0 k0 (World.init never) ops = some w)
    (hd : opsBound ops + 1 < d) (hk : (opsBound ops + 1) * (opsBound ops + 2) ≤ k) :
    (∀ root t, ∃ w', managerPulse never d k w root t = some w') ∧
    (∀ root now, (w.f root).parent = none → ∃ res, managerGpt never d k w root now = some res) := by
  obtain ⟨hi, hv, hg, hp⟩ := inv_v_history_quiet never d0 k0 ops w hq hreach
  have h := sweeps_terminate_explicit (finite_support_reachable never d0 k0 ops w hreach) hi hv
    (finite_height_reachable never d0 k0 ops w hreach) hd hk
  exact ⟨h.1 hp, h.2 hg⟩

/-- After ANY quiet history (`QuietOps`: `script` operations queue request-only actions; `gpt` and `pulse` operations included), a
    recalculation sweep from a root followed by a pulse sweep at `t < never` fires the due nodes: (1) every node below the root whose
    request stands and is `≤ t` after the recalculation gets a `Pulse(t, ·)` entry (completeness); (2) every entry of the pulse sweep
    is a `Pulse` at `t` with a scheduled time `≤ t`, of a node that has no standing request afterwards (never early; not twice on one
    request).  This is exactly the conjunction `fires_iff_due` gives; that the scheduled time of each entry is the node's latest
    answer is `fires_with_asked_time` (every history), and "exactly once" is (1) + "no standing request afterwards" (a second
    `Pulse` needs a standing request, `never_early`/`fired_loses_request`), not a separate counting statement. -/
theorem fires_iff_due_quiet_history (never d0 k0 d k k2 : Nat) (ops : List Op) (w w1 w2 : World) (root now t m : Nat)
    (hq : QuietOps ops) (hreach : runOps never d0 k0 (World.init never) ops = some w)
    (hroot : (w.f root).parent = none) (ht : t < never)
    (hg : managerGpt never d (k+1) w root now = some (w1, m))
    (hp : managerPulse never d k2 w1 root t = some w2) :
    ∃ l, w2.log = w1.log ++ l ∧
      (∀ x, Desc w1.f root x → (w1.f x).valid = true → (w1.f x).myTime ≤ t → ∃ s, Event.P x t s ∈ l) ∧
      (∀ e ∈ l, ∃ id s, e = .P id t s ∧ s ≤ t ∧ (w2.f id).valid = false) := by
  obtain ⟨hi, _, hgq, hpq⟩ := inv_v_history_quiet never d0 k0 ops w hq hreach
  have hC := managerGptC_of_quiet hgq hg
  have hpq1 : PQuiet w1 := ((gpt_all now (k+1)).aux hg ⟨hgq, hpq⟩).2
  exact fires_iff_due never d k k2 w w1 w2 root now t m ht hi hroot hC hpq1 hp

/-- non-vacuity: a quiet history with two `gpt` operations and a `pulse` in between; it is quiet, it reaches a state, and in that state
    the theorems above apply -/
def quietSample : List Op :=
  [.attach 1 0, .attach 2 1, .setReq 0 50, .setReq 1 40, .setReq 2 30, .script false 2 [.setReq 2 90],
   .gpt 0 10, .pulse 0 35, .gpt 0 35]

theorem quietSample_quiet : QuietOps quietSample := by
  intro o ho g c acts he a ha
  subst he
  simp [quietSample] at ho
  obtain ⟨_, _, rfl⟩ := ho
  simp at ha
  subst ha
  rfl

example : QuietOps quietSample := quietSample_quiet

example : (runOps 1000 8 40 (World.init 1000) quietSample).map (·.log) =
    some [.G 0 10 1000 50, .G 1 10 1000 40, .G 2 10 1000 30, .P 2 35 30, .G 2 35 30 90] := by decide +kernel

/-- non-vacuity: `opsBound quietSample = 3`, so `d = 5` and `k = 20` suffice in the state `quietSample` reaches -/
example : opsBound quietSample = 3 := by decide

example (w : World) (h : runOps 1000 8 40 (World.init 1000) quietSample = some w) :
    (∀ root t, ∃ w', managerPulse 1000 5 20 w root t = some w') ∧
    (∀ root now, (w.f root).parent = none → ∃ res, managerGpt 1000 5 20 w root now = some res) :=
  sweeps_terminate_quiet_history_explicit 1000 8 40 5 20 quietSample w quietSample_quiet h (by decide) (by decide)

/-- non-vacuity: after `quietSample` (which ends with `gpt 0 35`) node 2 requests 90; sweep again at 40, pulse at 95: exactly nodes 1 (40),
    0 (50) and 2 (90) fire -/
example : ((runOps 1000 8 40 (World.init 1000) quietSample).bind fun w =>
      (managerGpt 1000 8 40 w 0 40).bind fun r => managerPulse 1000 8 40 r.1 0 95).map (·.log.drop 5) =
    some [.P 0 95 50, .P 1 95 40, .P 2 95 90] := by decide +kernel

/-! ## Non-vacuity: a two-node history in which the child fires exactly on time -/

def sampleOps : List Op :=
  [.attach 1 0, .setReq 1 50, .gpt 0 10, .pulse 0 49, .pulse 0 50]

example : (runOps 1000 8 40 (World.init 1000) sampleOps).map (·.log) =
    some [.G 0 10 1000 1000, .G 1 10 1000 50, .P 1 50 50] := by decide +kernel

/-- non-vacuity of `lost_invalidate_*`: node 1 invalidates itself inside its own `GetPulseTime` and is asked again at once;
    invalidating itself twice, it is asked twice in the first sweep and once more in the next cycle -/
example : (runOps 1000 8 40 (World.init 1000)
      [.attach 1 0, .setReq 1 50, .script true 1 [.inval 1 false], .gpt 0 10]).map (·.log) =
    some [.G 0 10 1000 1000, .G 1 10 1000 50, .G 1 10 50 50] := by decide +kernel

example : (runOps 1000 8 40 (World.init 1000)
      [.attach 1 0, .setReq 1 50, .script true 1 [.inval 1 false], .script true 1 [.inval 1 false],
       .gpt 0 10, .pulse 0 10, .gpt 0 10]).map (fun w => (w.log, (w.f 1).valid)) =
    some ([.G 0 10 1000 1000, .G 1 10 1000 50, .G 1 10 50 50, .G 1 10 50 50], true) := by decide +kernel

/-- non-vacuity of the discipline: node 1's `GetPulseTime` invalidates the already recalculated node 2 and changes its request —
    verdict `true`, node 2 is asked again, the sweep reports the new minimum; node 1 invalidating ITSELF — verdict `false` -/
example : ((runOps 1000 8 40 (World.init 1000)
      [.attach 1 0, .attach 2 0, .setReq 1 50, .setReq 2 60, .script true 1 [.inval 2 false, .setReq 2 30]]).bind
      fun w => managerGptC 1000 8 40 w 0 10).map (fun r => (r.2.1, r.2.2, r.1.log)) =
    some (30, true, [.G 0 10 1000 1000, .G 2 10 1000 60, .G 1 10 1000 50, .G 2 10 60 30]) := by decide +kernel

example : ((runOps 1000 8 40 (World.init 1000) [.attach 1 0, .setReq 1 50, .script true 1 [.inval 1 false]]).bind
      fun w => managerGptC 1000 8 40 w 0 10).map (fun r => (r.2.1, r.2.2)) = some (50, false) := by decide +kernel

/-- `fires_iff_due` needs a discipline on `Pulse` callbacks: nodes 1 and 2 are both due at 50; undisturbed, both fire; when node 2's
    `Pulse` invalidates its due sibling 1 before 1's turn, node 1 legitimately does not fire in this sweep -/
example : (runOps 1000 8 40 (World.init 1000)
      [.attach 1 0, .attach 2 0, .setReq 1 50, .setReq 2 50, .gpt 0 10, .pulse 0 50]).map (·.log) =
    some [.G 0 10 1000 1000, .G 2 10 1000 50, .G 1 10 1000 50, .P 2 50 50, .P 1 50 50] := by decide +kernel

example : (runOps 1000 8 40 (World.init 1000)
      [.attach 1 0, .attach 2 0, .setReq 1 50, .setReq 2 50, .gpt 0 10, .script false 2 [.inval 1 false], .pulse 0 50]).map (·.log) =
    some [.G 0 10 1000 1000, .G 2 10 1000 50, .G 1 10 1000 50, .P 2 50 50] := by decide +kernel

/-- `wakeup_is_min` exactness needs more than the sweep discipline: node 2 answers 30; node 1's `GetPulseTime` then invalidates the
    already recalculated node 2 and raises its request to 60 (verdict `true`: node 2 is not in progress); the sweep ends settled with
    root aggregate 50 = the true minimum, but reports the superseded 30 -/
example : ((runOps 1000 8 40 (World.init 1000)
      [.attach 1 0, .attach 2 0, .setReq 1 50, .setReq 2 30, .script true 1 [.inval 2 false, .setReq 2 60]]).bind
      fun w => managerGptC 1000 8 40 w 0 10).map (fun r => (r.2.1, r.2.2, (r.1.f 0).agg, (r.1.f 1).myTime, (r.1.f 2).myTime)) =
    some (30, true, 50, 50, 60) := by decide +kernel

/-- `all_asked_after_sweep` needs its discipline: a node that invalidates itself in both passes ends the sweep without a standing
    request (verdict `false`; the sweep reports wake-up time 0 so that the event loop comes back at once) -/
example : ((runOps 1000 8 40 (World.init 1000)
      [.attach 1 0, .setReq 1 50, .script true 1 [.inval 1 false], .script true 1 [.inval 1 false]]).bind
      fun w => managerGptC 1000 8 40 w 0 10).map (fun r => (r.2.1, r.2.2, (r.1.f 1).valid)) =
    some (0, false, false) := by decide +kernel

end Muscle.Props.C20
