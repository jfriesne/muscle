import MuscleModel.Containers.QStep

/-!
# C16 — Queue behaves as an ideal double-ended sequence under every operation sequence

Property theorems only (lemmas: `Containers/QInvariant.lean`, `QEnds.lean`, `QInner.lean`, `QSearch.lean`, `QStep.lean`; model of the C++ class:
`Containers/QRing.lean`; ideal sequence: `Containers/QSpec.lean`).  `Ring` is the private state of `muscle::Queue`
(slot array, head, tail, count, which buffer is in use, the idle inline buffer); `Ring.abs` is what an observer sees
through `operator[]`; `Good` = the representation invariant `Inv` between public calls and, for owning item types,
`Clean`: every slot outside the window and the idle inline buffer hold the default item.  All theorems hold for
every item configuration `c` (default item, content of uninitialised memory, trivial/owning, inline capacity `sq`).
The model follows /repo at c9f3294, which has findings F22 and C16-D1..D6 repaired; the tie to the C++ code is the correspondence
run of engine `q`.

COVERAGE of the refinement theorems: all 66 op kinds of engine `q`.  `Op` (one Queue, 39 kinds) —
AddTail/AddHead (also the forms taking an item of the Queue), the no-argument AddTailAndGet/AddHeadAndGet (followed by a
write: `addTailRaw_write`; without one: `Op.addTailRaw/addHeadRaw`), RemoveHead/RemoveTail, GetItemAt and the head/tail
accessors, ReplaceItemAt, Clear(release), EnsureSize/ShrinkToFit on all paths, RemoveHeadMulti/RemoveTailMulti,
AddTailMulti/AddHeadMulti/InsertItemsAt from an array, from another Queue, from the Queue ITSELF and from a pointer into its
own array, operator=, CopyFrom, Swap, RemoveItemAt, InsertItemAt, Sort (as a stable sort), Normalize (all branches),
==/StartsWith/EndsWith/`<`, IndexOf, LastIndexOf, RemoveFirstInstanceOf/RemoveLastInstanceOf, RemoveAllInstancesOf,
InsertItemAtSortedPosition, RemoveSortedDuplicateItems, RemoveDuplicateItems, ReverseItemOrdering (the `…at` engine forms
pass an item of the Queue by value); `BOp` (several Queues, 6 kinds) — any of the above with another register as the Queue
argument, SwapContents (inline/inline, inline/heap via SwapContentsAux, heap/heap), move assignment (Plunder), move and
copy construction.

The ONE deliberate exclusion, explicit as the hypothesis `Op.specified` / `BOp.specified`: the no-argument
AddTailAndGet()/AddHeadAndGet() WITHOUT a following write on a TRIVIAL item type — the API documents the new item as
uninitialised, so there is no ideal result to refine (`raw_add_exposed` says what is known: the Queue is as after
`AddTail(x)` for the value `x` the slot happened to hold).  For owning item types the call is specified (a default item)
and covered.  Two modelling conventions: `Swap` with a bad index (an assertion failure in C++) is a refused call
(`err`, nothing changes); `Sort` is its functional result, a stable sort, and `Normalize`'s cycle-leader rotation a rotation.
The ideal results of the value-searching calls are in `QSpec.lean`: first/last matching index in the clipped range
(`findIdx?`), erase at the first/last occurrence, `filter (· ≠ x)`, insertion behind the last item that is not greater,
collapse of runs of equal adjacent items, reversal of the clipped sub-range.
-/

namespace Muscle.Props.C16
open Muscle.Containers

variable {α : Type} [DecidableEq α] (c : ItemCfg α)

/-- `InternalizeIndex` stays inside the array and is `(head+idx) mod size`. -/
theorem index_kernels (head idx size : Nat) (hi : idx < size) (hh : head < size) :
    internalizeIndex head size idx < size ∧ internalizeIndex head size idx = (head + idx) % size := by
  exact ⟨intern_lt (by omega), intern_eq_mod (by omega)⟩

/-- `NextIndex`/`PrevIndex` stay inside the array and walk the ring in step with the user index. -/
theorem step_kernels (head idx size : Nat) (hi : idx + 1 < size) (hh : head < size) :
    nextIndex size (internalizeIndex head size idx) = internalizeIndex head size (idx + 1) ∧
    prevIndex size (internalizeIndex head size (idx + 1)) = internalizeIndex head size idx ∧
    nextIndex size (internalizeIndex head size idx) < size ∧ prevIndex size (internalizeIndex head size idx) < size := by
  have hi' : internalizeIndex head size idx < size := intern_lt (by omega)
  refine ⟨next_intern hh hi, prev_intern hh (by omega), ?_, ?_⟩
  · rw [next_intern hh hi]; exact intern_lt (by omega)
  · rw [prevIndex_eq hi']; exact intern_lt (by omega)

/-- A default-constructed Queue satisfies the invariant and is the empty sequence. -/
theorem empty_ok : Inv c (Ring.empty c) ∧ (Ring.empty c).abs c = [] :=
  ⟨(rep_empty c).good.inv, (rep_empty c).shows⟩

/-- Every operation on one Queue, from every `Good` state, yields a `Good` state whose abstraction is the ideal sequence's
    result, and returns the ideal result.  All 39 single-Queue op kinds; `Op.specified` excludes only the no-argument
    AddTailAndGet/AddHeadAndGet without a write on a trivial item type (unspecified by the API). -/
theorem ring_refines (q : Ring α) (h : Good c q) (op : Op α) (hs : op.specified c) :
    Good c (q.step c op).1 ∧ (q.step c op).1.abs c = (Spec.step c.dflt c.junk (q.abs c) op).1 ∧
    (q.step c op).2 = (Spec.step c.dflt c.junk (q.abs c) op).2 :=
  have r := h.rep.step op hs
  ⟨r.1.good, r.1.shows, r.2⟩

/-- The same for calls that involve two Queues: another register as the Queue argument, SwapContents, move assignment,
    move and copy construction. -/
theorem bank_refines (b : Nat → Ring α) (h : ∀ i, Good c (b i)) (op : BOp α) (hs : op.specified c) :
    (∀ i, Good c ((bankStep c b op).1 i)) ∧
    (fun i => ((bankStep c b op).1 i).abs c) = (Spec.bankStep c.dflt c.junk (fun i => (b i).abs c) op).1 ∧
    (bankStep c b op).2 = (Spec.bankStep c.dflt c.junk (fun i => (b i).abs c) op).2 :=
  have r := rep_bankStep b _ (fun i => (h i).rep) op hs
  ⟨fun i => (r.1 i).1, funext fun i => (r.1 i).2, r.2⟩

/-- For every finite history of (specified) operations on any number of fresh Queues: the final contents and every result
    along the way are those of the ideal sequences, and every Queue ends `Good`. -/
theorem history_refines (ops : List (BOp α)) (hs : ∀ op, op ∈ ops → op.specified c) :
    (∀ i, Good c ((bankExec c (fun _ => Ring.empty c) ops).1 i)) ∧
    (fun i => ((bankExec c (fun _ => Ring.empty c) ops).1 i).abs c) = (Spec.bankExec c.dflt c.junk (fun _ => []) ops).1 ∧
    (bankExec c (fun _ => Ring.empty c) ops).2 = (Spec.bankExec c.dflt c.junk (fun _ => []) ops).2 := by
  have r := rep_bankExec (fun _ => Ring.empty c) (fun _ => []) (fun _ => rep_empty c) ops hs
  exact ⟨fun i => (r.1 i).1, funext fun i => (r.1 i).2, r.2⟩

set_option linter.unusedVariables false in
/-- Failure is reported exactly when the ideal operation is undefined (empty sequence, bad index, no such item), and a
    failing call changes nothing — not even the hidden state.  (`Good` is used for `Normalize`, whose "ok" is its
    post-condition, and for RemoveFirst/LastInstanceOf; every other case holds for arbitrary states.  `hs` is not needed: the two
    calls it excludes cannot fail either.) -/
theorem failure_exact (q : Ring α) (h : Good c q) (op : Op α) (hs : op.specified c) :
    ((q.step c op).2 = .err ↔ Spec.undefined (q.abs c) op) ∧ ((q.step c op).2 = .err → (q.step c op).1 = q) :=
  h.rep.step_failure op

/-- What an operation shows afterwards depends only on what was visible before: two Queues with the same visible content
    (whatever their capacity, head offset and hidden slots) stay indistinguishable. -/
theorem hidden_state_invisible (q q' : Ring α) (h : Good c q) (h' : Good c q') (e : q.abs c = q'.abs c) (op : Op α)
    (hs : op.specified c) :
    (q.step c op).1.abs c = (q'.step c op).1.abs c ∧ (q.step c op).2 = (q'.step c op).2 := by
  have a := h.rep.step op hs
  have b := h'.rep.step op hs
  rw [a.1.shows, a.2, b.1.shows, b.2, e]
  exact ⟨rfl, rfl⟩

/-- `EnsureSize(n, false, extra, allowShrink)` never changes the content and (without shrink) leaves room for `n` items. -/
theorem reserve_id (q : Ring α) (h : Good c q) (n extra : Nat) (shrink : Bool) :
    Good c (q.ensureSizeAux c n false extra shrink) ∧ (q.ensureSizeAux c n false extra shrink).abs c = q.abs c ∧
    (shrink = false → n ≤ (q.ensureSizeAux c n false extra shrink).size) := by
  have r := h.rep.reserve n extra shrink
  exact ⟨r.1.good, r.1.shows, r.2⟩

/-- `EnsureSize(n, true, extra, allowShrink)` on every path: the content becomes the old content cut to `n` items or padded
    with DEFAULT items — never with old ones (findings F22, C16-D1, C16-D2 cannot return). -/
theorem set_size_exact (q : Ring α) (h : Good c q) (n extra : Nat) (shrink : Bool) :
    Good c (q.ensureSizeAux c n true extra shrink) ∧
    (q.ensureSizeAux c n true extra shrink).abs c =
      (if n > q.count then q.abs c ++ List.replicate (n - q.count) c.dflt else (q.abs c).take n) := by
  obtain ⟨e1, e2⟩ := (h.rep.ensureSizeAux n true extra shrink).1
  refine ⟨e1, e2.trans ?_⟩
  rw [Spec.ensureSize, if_pos rfl, abs_length]

/-- `Normalize()` is the identity on the content, leaves the items contiguous and keeps the invariant — in every branch
    (already contiguous, copy into the free middle when `2*count ≤ size`, rotation otherwise). -/
theorem normalize_id (q : Ring α) (h : Good c q) :
    Good c (q.normalize c) ∧ (q.normalize c).abs c = q.abs c ∧ (q.normalize c).isNormalized = true :=
  have r := h.rep.normalize
  ⟨r.1.good, r.1.shows, r.2⟩

/-- `SwapContents(that)`: each Queue ends up with exactly the other one's items and both stay `Good` — for inline/inline,
    inline/heap (SwapContentsAux) and heap/heap pairs.  For owning item types `Good` includes that the inline slots handed
    over by SwapContentsAux hold the default item afterwards (finding C16-D3 cannot return). -/
theorem swap_contents_exact (a b : Ring α) (ha : Good c a) (hb : Good c b) :
    Good c (swapContents c a b).1 ∧ Good c (swapContents c a b).2 ∧
    (swapContents c a b).1.abs c = b.abs c ∧ (swapContents c a b).2.abs c = a.abs c :=
  have r := rep_swapContents ha.rep hb.rep
  ⟨r.1.good, r.2.good, r.1.shows, r.2.shows⟩

/-- Move construction / assignment (`Plunder`): the target has exactly the source's items, the source is empty, both `Good`. -/
theorem plunder_exact (me rhs : Ring α) (h : Good c me) (hr : Good c rhs) :
    Good c (plunder c me rhs).1 ∧ Good c (plunder c me rhs).2 ∧
    (plunder c me rhs).1.abs c = rhs.abs c ∧ (plunder c me rhs).2.abs c = [] :=
  have r := rep_plunder h.rep hr.rep
  ⟨r.1.good, r.2.good, r.1.shows, r.2.shows⟩

/-- The item handed out by the no-argument `AddTailAndGet()`: the Queue is exactly as after `AddTail(x)` for the value `x`
    the slot happened to hold; for owning item types `x` is the default item (no stale item can be handed out), for
    trivial item types it is unspecified (documented). -/
theorem raw_add_exposed (q : Ring α) (h : Good c q) :
    (∃ x, q.addTailRaw c = q.addTail c x ∧ (c.clear = true → x = c.dflt)) ∧
    (∃ x, q.addHeadRaw c = q.addHead c x ∧ (c.clear = true → x = c.dflt)) :=
  ⟨⟨_, addTailRaw_eq c q, fun hcl => addTailRaw_default hcl q h⟩, ⟨_, addHeadRaw_eq c q, fun hcl => addHeadRaw_default hcl q h⟩⟩

/-- Owning item types (`IsPerItemClearNecessary()`): no stale item survives outside the window or in the idle inline
    buffer, whatever operation is applied to whatever Queues — including the slots vacated by SwapContentsAux, Plunder and
    Clear(true).  (For an owning item type every operation is specified, so there is no side condition.  The first conjunct says
    that the Queues a bank starts from, default-constructed ones, meet the hypothesis.) -/
theorem no_stale (hcl : c.clear = true) (b : Nat → Ring α) (h : ∀ i, Inv c (b i) ∧ Clean c (b i)) (op : BOp α) :
    Clean c (Ring.empty c) ∧ ∀ i, Clean c ((bankStep c b op).1 i) := by
  have hs : op.specified c := by
    cases op with
    | on r o => cases o <;> first | exact hcl | exact trivial
    | fromQ r s f => intro xs; cases f xs <;> first | exact hcl | exact trivial
    | _ => exact trivial
  exact ⟨(rep_empty c).good.clean hcl,
    fun i => ((rep_bankStep b _ (fun j => Good.rep ⟨(h j).1, fun _ => (h j).2⟩) op hs).1 i).good.clean hcl⟩

/-! Non-vacuity: a concrete history drives a Queue with inline capacity 3 through a reallocation and a
wrapped window; the hypotheses of the theorems above are met by reachable states. -/

def cfgI : ItemCfg Nat := { dflt := 0, junk := 77, clear := false, moves := false, sq := 3 }
def cfgC : ItemCfg Nat := { dflt := 0, junk := 77, clear := true, moves := true, sq := 3 }
def hist : List (Op Nat) :=
  [.addTail 1, .addTail 2, .addHead 3, .addTail 4, .removeHead, .replaceItemAt 0 9, .removeTail, .addHead 5, .addHead 6, .getItemAt 7, .removeTail]
def hist2 : List (Op Nat) :=
  [.addTailMulti [1, 2, 3, 4, 5], .removeHeadMulti 2, .addHeadMulti [8, 9], .swap 0 4, .ensureSize 7 true 0 false,
   .ensureSize 2 true 0 true, .removeTailMulti 1, .copyFrom [4, 4], .swap 5 0]

example : ((Ring.empty cfgI).exec cfgI hist).1.abs cfgI = [6, 5, 9] := by decide
example : (Spec.exec 0 77 ([] : List Nat) hist).1 = [6, 5, 9] := by decide
example : ((Ring.empty cfgC).exec cfgC hist2).1.abs cfgC = [4, 4] ∧ (Spec.exec 0 77 ([] : List Nat) hist2).1 = [4, 4] ∧
    ((Ring.empty cfgC).exec cfgC (hist2.take 6)).1.abs cfgC = [5, 9] ∧ ((Ring.empty cfgC).exec cfgC hist2).2.getLast? = some Res.err := by decide
-- the window is wrapped (head > tail) and the queue is more than half full: the rotation branch of Normalize applies
example : let q := ((Ring.empty cfgI).exec cfgI (hist ++ [.addHead 7, .addHead 8, .addHead 10])).1
    q.isNormalized = false ∧ ¬ (q.count * 2 ≤ q.size) ∧ q.kind = .heap := by decide
-- a failing call exists (so `failure_exact` is not vacuous) …
example : ((Ring.empty cfgI).step cfgI .removeHead).2 = Res.err := by decide
-- … and a reachable clean state of an owning type with hidden slots, where growing in place is possible
example : let q := ((Ring.empty cfgC).exec cfgC [.addTail 1, .addTail 2, .removeTail]).1
    q.kind ≠ .null ∧ 3 ≤ q.size ∧ q.count < 3 ∧ (q.ensureSizeAux cfgC 3 true 0 false).abs cfgC = [1, 0, 0] := by decide

-- removal and insertion in the middle, the self-source adds, Sort and Normalize compute, on one Queue …
def hist3 : List (Op Nat) :=
  [.addTailMulti [1, 2, 3, 4, 5, 6], .removeHead, .removeHead, .addTail 7, .addTail 8, .removeItemAt 1, .insertItemAt 2 9,
   .insertItemsOwn 1 3 2, .addHeadSelf 0 2, .sort (fun a b => a < b) 1 100, .normalize, .removeItemAt 50]
example : ((Ring.empty cfgC).exec cfgC hist3).1.abs cfgC = (Spec.exec 0 77 ([] : List Nat) hist3).1 ∧
    ((Ring.empty cfgC).exec cfgC hist3).1.abs cfgC = [3, 3, 5, 6, 6, 6, 7, 7, 8, 9] ∧
    ((Ring.empty cfgC).exec cfgC hist3).2.getLast? = some Res.err := by decide
-- … and on several: an inline Queue swaps with a heap Queue (SwapContentsAux), then is moved from
def bhist : List (BOp Nat) :=
  [.on 0 (.addTailMulti [1, 2]), .on 1 (.addTailMulti [10, 11, 12, 13, 14]), .swapContents 0 1, .fromQ 2 0 (fun xs => .insertItemsAt 0 xs true),
   .move 1 2, .on 0 (.ensureSize 1 true 0 true), .on 0 (.ensureSize 3 true 0 false)]
example : let r := (bankExec cfgC (fun _ => Ring.empty cfgC) bhist).1
    (r 0).abs cfgC = [10, 0, 0] ∧ (r 1).abs cfgC = [10, 11, 12, 13, 14] ∧ (r 2).abs cfgC = [] := by decide

-- the value-searching and reordering calls compute and agree with their list specifications
def hist4 : List (Op Nat) :=
  [.addTailMulti [5, 3, 5, 1, 3, 3, 9, 5], .removeHead, .addTail 3, .indexOf 3 1 100, .lastIndexOf 5 100 0, .removeFirst 5,
   .removeLast 3, .reverse 1 5, .removeAll 9, .insertSortedPos (fun a b => a < b) 4, .removeDups (fun a b => a < b),
   .addTailRaw, .removeFirst 77]
example : ((Ring.empty cfgC).exec cfgC hist4).1.abs cfgC = (Spec.exec 0 77 ([] : List Nat) hist4).1 ∧
    ((Ring.empty cfgC).exec cfgC hist4).2 = (Spec.exec 0 77 ([] : List Nat) hist4).2 ∧
    ((Ring.empty cfgC).exec cfgC hist4).2.getLast? = some Res.err := by decide
-- the side condition is met by the no-argument add of an owning type, and only fails for a trivial one
example : (Op.addTailRaw : Op Nat).specified cfgC ∧ ¬ (Op.addTailRaw : Op Nat).specified cfgI := by
  constructor
  · show cfgC.clear = true; rfl
  · show ¬ cfgI.clear = true; decide

end Muscle.Props.C16
