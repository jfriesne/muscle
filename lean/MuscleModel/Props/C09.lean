import MuscleModel.Containers.TabSorted
import MuscleModel.Containers.TraversalProofs
import MuscleModel.Containers.HTWidth

/-!
# C09 — Hashtable behaves as an ordered map and its iterators survive any mutation

Property theorems only (lemmas: `Containers/OMapProofs.lean`, `TabInv.lean`, `TabOrder.lean`, `TabSorted.lean`,
`TraversalProofs.lean`; kernel: `Containers/HTWidth.lean`).

Model: `Tab K V` = the iteration order as an association list `m : OMap K V` (bucket chains abstracted to
find-by-key), the iterators registered in `_iterList` (`cur` = key under the cookie, `scratch` =
`_scratchKeyAndValue`, `back` = `HTIT_FLAG_BACKWARDS`) and the auto-sort flag; `Tab.apply lt? tb op` is one public
operation, `lt? = none` for `Hashtable`, `some lt` for the auto-sorting kinds (`lt a b` = `Compare(a,b) < 0`).
`Tab.Inv` = no duplicate keys and every registered iterator's cookie is NULL or a key of the table.
The tie to util/Hashtable.h is the correspondence run of engine `ht`, which executes the functions `Tab.apply` dispatches to
(`Tab.putAux`, `Tab.moveFrontAux`, …) through a dispatch of its own, not `Tab.apply` itself.
-/

namespace Muscle.Props.C09
open Muscle Muscle.Containers Muscle.Containers.Tab

variable {K V : Type} [DecidableEq K]

/-- `Get` after `Put` of the same key returns the value put. -/
theorem get_put_same (lt? : Option (K × V → K × V → Bool)) (tb : Tab K V) (h : tb.Inv) (k : K) (v : V) :
    get (tb.apply lt? (.put k v)).m k = some v :=
  (get_putAux lt? k v h.nodup k).trans (if_pos rfl)

/-- `Put` does not change what any other key maps to. -/
theorem get_put_other (lt? : Option (K × V → K × V → Bool)) (tb : Tab K V) (h : tb.Inv) (k k' : K) (v : V) (hne : k' ≠ k) :
    get (tb.apply lt? (.put k v)).m k' = get tb.m k' :=
  (get_putAux lt? k v h.nodup k').trans (if_neg (Ne.symm hne))

/-- `Remove` removes the key … -/
theorem get_remove_same (lt? : Option (K × V → K × V → Bool)) (tb : Tab K V) (k : K) :
    get (tb.apply lt? (.remove k)).m k = none := (m_removeKey tb k).symm ▸ get_erase_same _ _

/-- … and nothing else. -/
theorem get_remove_other (lt? : Option (K × V → K × V → Bool)) (tb : Tab K V) (k k' : K) (hne : k' ≠ k) :
    get (tb.apply lt? (.remove k)).m k' = get tb.m k' := (m_removeKey tb k).symm ▸ get_erase_other _ hne

/-- `GetNumItems` after `Put` / `Remove`. -/
theorem size_put (lt? : Option (K × V → K × V → Bool)) (tb : Tab K V) (k : K) (v : V) :
    (tb.apply lt? (.put k v)).m.length = if has tb.m k then tb.m.length else tb.m.length + 1 := length_putAux lt? k v

theorem size_remove (lt? : Option (K × V → K × V → Bool)) (tb : Tab K V) (h : tb.Inv) (k : K) :
    (tb.apply lt? (.remove k)).m.length = if has tb.m k then tb.m.length - 1 else tb.m.length := length_removeKey k h.nodup

/-- `ContainsKey` is membership in the key sequence, `Get` finds exactly the stored pairs. -/
theorem has_iff_mem (m : OMap K V) (k : K) : has m k = true ↔ k ∈ keys m := has_iff

theorem get_iff_mem (tb : Tab K V) (h : tb.Inv) (k : K) (v : V) : get tb.m k = some v ↔ (k, v) ∈ tb.m :=
  (mem_iff_get h.nodup).symm

/-- The move operations, `Reposition` and the sorts only permute the entries: every key keeps its value. -/
theorem reorder_keeps_content (lt? : Option (K × V → K × V → Bool)) (tb : Tab K V) (h : tb.Inv) (k f : K) (i : Nat)
    (lt : K × V → K × V → Bool) :
    (tb.apply lt? (.moveToFront k)).m.Perm tb.m ∧ (tb.apply lt? (.moveToBack k)).m.Perm tb.m ∧
    (tb.apply lt? (.moveToBefore k f)).m.Perm tb.m ∧ (tb.apply lt? (.moveToBehind k f)).m.Perm tb.m ∧
    (tb.apply lt? (.moveToPosition k i)).m.Perm tb.m ∧ (tb.apply lt? (.reposition k)).m.Perm tb.m ∧
    (tb.apply lt? (.sortBy lt)).m.Perm tb.m := by
  exact ⟨(moveFrontAux_inv_perm k h).2, (moveBackAux_inv_perm k h).2,
    ite_pred (P := fun t : Tab K V => t.m.Perm tb.m) (moveBeforeAux_inv_perm k f h).2 (List.Perm.refl _),
    ite_pred (P := fun t : Tab K V => t.m.Perm tb.m) (moveBehindAux_inv_perm k f h).2 (List.Perm.refl _),
    ite_pred (P := fun t : Tab K V => t.m.Perm tb.m) (movePosAux_inv_perm k i h).2 (List.Perm.refl _),
    reposition_perm lt? k, sortBy_perm lt tb.m⟩

/-- A permutation of the entries does not change any lookup. -/
theorem get_of_perm (m m' : OMap K V) (hp : m'.Perm m) (hn : (keys m).Nodup) (k : K) : get m' k = get m k :=
  get_perm hp.symm hn k

/-! Order laws: the iteration order is the one defined by the operations.  The laws that say where a key goes are for the plain
`Hashtable` (`lt? = none`); in an auto-sorting table the comparison says where it goes. -/

/-- `Put`: an existing key keeps its place, a new key goes to the end. -/
theorem order_put (tb : Tab K V) (k : K) (v : V) :
    keys (tb.apply none (.put k v)).m = if k ∈ keys tb.m then keys tb.m else keys tb.m ++ [k] := keys_putAux_plain tb k v

/-- `Remove` (all kinds): the other keys keep their relative order. -/
theorem order_remove (lt? : Option (K × V → K × V → Bool)) (tb : Tab K V) (k : K) :
    keys (tb.apply lt? (.remove k)).m = (keys tb.m).filter (fun x => x ≠ k) := (m_removeKey tb k).symm ▸ keys_erase _ _

/-- `MoveToFront` / `MoveToBack` (all kinds). -/
theorem order_moveToFront (lt? : Option (K × V → K × V → Bool)) (tb : Tab K V) (h : tb.Inv) (k : K) (hk : k ∈ keys tb.m) :
    keys (tb.apply lt? (.moveToFront k)).m = k :: (keys tb.m).filter (fun x => x ≠ k) := keys_moveFrontAux h.nodup hk

theorem order_moveToBack (lt? : Option (K × V → K × V → Bool)) (tb : Tab K V) (h : tb.Inv) (k : K) (hk : k ∈ keys tb.m) :
    keys (tb.apply lt? (.moveToBack k)).m = (keys tb.m).filter (fun x => x ≠ k) ++ [k] := keys_moveBackAux h.nodup hk

/-- `MoveToPosition(k, idx)` (all kinds): `k` ends at position `min idx (n-1)`, the rest keeps its order. -/
theorem order_moveToPosition (lt? : Option (K × V → K × V → Bool)) (tb : Tab K V) (h : tb.Inv) (k : K) (idx : Nat)
    (hk : k ∈ keys tb.m) :
    keys (tb.apply lt? (.moveToPosition k idx)).m =
      ((keys tb.m).filter (fun x => x ≠ k)).take (min idx (tb.m.length - 1)) ++
        k :: ((keys tb.m).filter (fun x => x ≠ k)).drop (min idx (tb.m.length - 1)) := by
  rw [take_drop_min (length_filter_keys_ne h.nodup hk)]
  simp only [Tab.apply, has_iff.mpr hk, if_true]
  exact keys_movePosAux idx h.nodup hk

/-- `MoveToBefore(k, f)` (all kinds): `k` sits immediately before `f`, the rest keeps its order. -/
theorem order_moveToBefore (lt? : Option (K × V → K × V → Bool)) (tb : Tab K V) (h : tb.Inv) (k f : K)
    (hk : k ∈ keys tb.m) (hf : f ∈ keys tb.m) (hne : k ≠ f) :
    ∃ a b, (keys tb.m).filter (fun x => x ≠ k) = a ++ f :: b ∧
      keys (tb.apply lt? (.moveToBefore k f)).m = a ++ k :: f :: b := by
  simp only [Tab.apply, has_iff.mpr hk, has_iff.mpr hf, hne, ne_eq, not_false_eq_true, and_self, if_true]
  exact keys_moveBeforeAux h.nodup hk hf hne

/-- `MoveToBehind(k, d)` (all kinds): `k` sits immediately behind `d`. -/
theorem order_moveToBehind (lt? : Option (K × V → K × V → Bool)) (tb : Tab K V) (h : tb.Inv) (k d : K)
    (hk : k ∈ keys tb.m) (hd : d ∈ keys tb.m) (hne : k ≠ d) :
    ∃ a b, (keys tb.m).filter (fun x => x ≠ k) = a ++ d :: b ∧
      keys (tb.apply lt? (.moveToBehind k d)).m = a ++ d :: k :: b := by
  simp only [Tab.apply, has_iff.mpr hk, has_iff.mpr hd, hne, ne_eq, not_false_eq_true, and_self, if_true]
  exact keys_moveBehindAux h.nodup hk hd hne

/-- The positional puts of the plain table (`Tab.keys_putAtFront` … `Tab.keys_putBehind` have them for every kind). -/
theorem order_putAtFront (tb : Tab K V) (h : tb.Inv) (k : K) (v : V) :
    keys (tb.apply none (.putAtFront k v)).m = k :: (keys tb.m).filter (fun x => x ≠ k) := keys_putAtFront none k v h.nodup

theorem order_putAtBack (tb : Tab K V) (h : tb.Inv) (k : K) (v : V) :
    keys (tb.apply none (.putAtBack k v)).m = (keys tb.m).filter (fun x => x ≠ k) ++ [k] := keys_putAtBack none k v h.nodup

theorem order_putAtPosition (tb : Tab K V) (h : tb.Inv) (k : K) (idx : Nat) (v : V) :
    keys (tb.apply none (.putAtPosition k idx v)).m =
      ((keys tb.m).filter (fun x => x ≠ k)).take (min idx ((tb.apply none (.put k v)).m.length - 1)) ++
        k :: ((keys tb.m).filter (fun x => x ≠ k)).drop (min idx ((tb.apply none (.put k v)).m.length - 1)) :=
  (keys_putAtPosition none k idx v h.nodup).trans (take_drop_min (length_filter_putAux none k v h.nodup) k idx).symm

theorem order_putBefore (tb : Tab K V) (h : tb.Inv) (k f : K) (v : V) (hf : f ∈ keys tb.m) (hne : k ≠ f) :
    ∃ a b, (keys tb.m).filter (fun x => x ≠ k) = a ++ f :: b ∧
      keys (tb.apply none (.putBefore k f v)).m = a ++ k :: f :: b := keys_putBefore none k f v h.nodup hf hne

theorem order_putBehind (tb : Tab K V) (h : tb.Inv) (k d : K) (v : V) (hd : d ∈ keys tb.m) (hne : k ≠ d) :
    ∃ a b, (keys tb.m).filter (fun x => x ≠ k) = a ++ d :: b ∧
      keys (tb.apply none (.putBehind k d v)).m = a ++ d :: k :: b := keys_putBehind none k d v h.nodup hd hne

/-- `PutBefore` with a missing position key (or the key itself) is a plain `Put`. -/
theorem order_putBefore_missing (lt? : Option (K × V → K × V → Bool)) (tb : Tab K V) (k f : K) (v : V)
    (h : f ∉ keys (tb.apply lt? (.put k v)).m ∨ k = f) :
    tb.apply lt? (.putBefore k f v) = tb.apply lt? (.put k v) := putBefore_eq_put lt? tb k f v h

/-- `SortByKey/SortByValue/Sort`: the result is sorted, holds the same entries, and is stable (two entries
    that are not out of order keep their relative position). -/
theorem order_sort (lt? : Option (K × V → K × V → Bool)) (tb : Tab K V) (lt : K × V → K × V → Bool) (sw : StrictWeak lt) :
    Sorted lt (tb.apply lt? (.sortBy lt)).m ∧ (tb.apply lt? (.sortBy lt)).m.Perm tb.m ∧
    ∀ a b, lt b a = false → [a, b].Sublist tb.m → [a, b].Sublist (tb.apply lt? (.sortBy lt)).m := by
  refine ⟨sorted_sortBy sw tb.m, sortBy_perm lt tb.m, fun a b hab hsub => ?_⟩
  exact List.pair_sublist_mergeSort (le := fun a b => !lt b a) sw.le_trans sw.le_total ((Bool.not_eq_true' _).mpr hab) hsub

/-- `Clear` empties the table; reallocation (`EnsureSize`, `ShrinkToFit`, growth) changes nothing observable. -/
theorem order_clear_realloc (lt? : Option (K × V → K × V → Bool)) (tb : Tab K V) :
    (tb.apply lt? .clear).m = [] ∧ tb.apply lt? .realloc = tb := ⟨rfl, rfl⟩

/-- For a comparison that is a strict weak order: every operation that is not documented as disturbing the
    order (`SortSafe`: puts, removals, clear, copy-from, built-in sort, reallocation, iterator traffic) keeps an
    auto-sorting table sorted, with its invariant. -/
theorem autosort_inv (lt : K × V → K × V → Bool) (sw : StrictWeak lt) (tb : Tab K V) (op : Op K V)
    (hs : SortSafe lt op) (h : SortedInv lt tb) : SortedInv lt (tb.apply (some lt) op) := sortedInv_apply sw op hs h

/-- … hence in every state reachable by such operations. -/
theorem autosort_reach (lt : K × V → K × V → Bool) (sw : StrictWeak lt) (ops : List (Op K V))
    (hs : ∀ op ∈ ops, SortSafe lt op) : SortedInv lt (ops.foldl (Tab.apply (some lt)) Tab.empty) := by
  have hemp : SortedInv lt (Tab.empty : Tab K V) := ⟨inv_empty, List.Pairwise.nil, rfl⟩
  generalize (Tab.empty : Tab K V) = tb at hemp
  induction ops generalizing tb with
  | nil => exact hemp
  | cons op r ih =>
    exact ih (fun o ho => hs o (List.mem_cons_of_mem _ ho)) _ (sortedInv_apply sw op (hs op List.mem_cons_self) hemp)

/-- `Reposition(k)` / the re-positioning inside `Put` restore the order when `k` is the only entry out of place. -/
theorem reposition_restores (lt : K × V → K × V → Bool) (sw : StrictWeak lt) (tb : Tab K V) (h : tb.Inv) (k : K)
    (hs : Sorted lt (erase tb.m k)) : Sorted lt (tb.apply (some lt) (.reposition k)).m := sorted_reposition sw k h.nodup hs

/-- With the hook that honours the flag (`respectFlag = true`: util/Hashtable.h:2144, `if (_autoSortEnabled) …`), a `Put` on an
    existing key of a table whose auto-sort is switched off leaves the iteration order alone, as `SetAutoSortEnabled`
    documents; with `Tab.respectFlag = false` (the hook without that test) the entry is re-positioned regardless.  No other
    theorem depends on the flag: the laws of sorted tables assume `autoSort = true`, where it drops out. -/
theorem put_existing_autosort_off (lt? : Option (K × V → K × V → Bool)) (tb : Tab K V) (hr : tb.respectFlag = true)
    (ha : tb.autoSort = false) (k : K) (v : V) (hk : k ∈ keys tb.m) :
    keys (tb.apply lt? (.put k v)).m = keys tb.m := by
  simp [Tab.apply, Tab.putAux_of_has lt? v (has_iff.mpr hk), Tab.valueChanged, hr, ha]

/-- The invariant is preserved by every operation of the public API (put variants, positional puts, removals,
    move operations, sorts, clear, copy-from, reallocation, iterator creation/advance/retreat/copy/destruction). -/
theorem inv_preserved (lt? : Option (K × V → K × V → Bool)) (tb : Tab K V) (op : Op K V) (h : tb.Inv) :
    (tb.apply lt? op).Inv := inv_apply lt? op h

/-- In every reachable state no key occurs twice and no registered iterator's cookie refers to an entry that
    is not in the table. -/
theorem iter_never_dangling (lt? : Option (K × V → K × V → Bool)) (tb : Tab K V) (h : Reach lt? tb) :
    (keys tb.m).Nodup ∧ ∀ it ∈ tb.its, it.cur = none ∨ ∃ k, it.cur = some k ∧ k ∈ keys tb.m := by
  have hi := inv_of_reach lt? h
  refine ⟨hi.nodup, ?_⟩
  intro it hit
  cases hc : it.cur with
  | none => exact Or.inl rfl
  | some k => exact Or.inr ⟨k, rfl, hi.iterOk hit k hc⟩

/-- What a registered iterator of a reachable table shows is its scratch copy (kept from the entry it stood on when that entry
    was removed or moved) or the current pair of an entry of the table; and once it has been advanced or retreated it has no
    scratch copy, so it shows a live entry or reports the end.  (The proof uses neither `h` nor `hit`: `Iter.peek_spec` says this of
    any iterator over any list.) -/
theorem iter_shows_live_entry (lt? : Option (K × V → K × V → Bool)) (tb : Tab K V) (h : Reach lt? tb) (it : Iter K V)
    (hit : it ∈ tb.its) (k : K) (v : V) :
    (it.peek tb.m = some (k, v) → it.scratch = some (k, v) ∨ get tb.m k = some v) ∧
    ((it.next tb.m).peek tb.m = some (k, v) → get tb.m k = some v) ∧
    ((it.prev tb.m).peek tb.m = some (k, v) → get tb.m k = some v) := by
  refine ⟨fun hp => ?_, fun hp => ?_, fun hp => ?_⟩
  · rcases Iter.peek_spec hp with h1 | h1
    · exact Or.inl h1
    · exact Or.inr h1.2.2
  · rcases Iter.peek_spec hp with h1 | h1
    · rw [Iter.scratch_next] at h1; cases h1
    · exact h1.2.2
  · rcases Iter.peek_spec hp with h1 | h1
    · rw [Iter.scratch_prev] at h1; cases h1
    · exact h1.2.2

/-- An iterator whose table is cleared or destroyed is detached: it keeps a copy of the pair it stood on and
    reports the end after its next step, whatever happens to the table afterwards. -/
theorem iter_after_clear (m m' : OMap K V) (it : Iter K V) :
    (Iter.onClear m it).cur = none ∧ ((Iter.onClear m it).next m').peek m' = none := by
  exact ⟨rfl, Iter.peek_next_of_cur_none m' rfl⟩

/-! ## A traversal under mutation (plain `Hashtable`, one registered iterator, forwards or backwards)

`TSt.start m back` = the table with order `m` right after `GetIterator(flags)`; a run is a list of events
`adv` (`iter++`), `put k v`, `remove k` — the mutations that do not reorder surviving entries; each event is the
corresponding table operation (`traversal_is_table_run`).  `visited` = the key in view at the start followed by
the key that comes into view at each `adv`. -/

theorem traversal_is_table_run (st : TSt K V) (ev : Ev K V) : (st.step ev).toTab = Tab.apply none st.toTab ev.toOp :=
  step_toTab st ev

/-- Completeness: once the iterator reports the end, every key that was in the table when the traversal began
    and was not removed during it has been visited — whatever was put or removed in between, in either
    direction. -/
theorem traversal_complete (m : OMap K V) (hn : (keys m).Nodup) (back : Bool) (evs : List (Ev K V)) (x : K)
    (hx : x ∈ keys m) (hkeep : ∀ e ∈ evs, ∀ k, e = Ev.remove k → k ≠ x)
    (hend : (runFinal (TSt.start m back) evs).shown = none) : x ∈ visited (TSt.start m back) evs :=
  have hv : x ∈ (TSt.start m back).shown.toList ++ (TSt.start m back).pending := by
    rw [start_view back hn]; exact mem_dirKeys.mpr hx
  (List.mem_append.mp hv).elim (List.mem_append_left _) fun hp =>
    List.mem_append_right _ (complete_aux evs _ x (wf_start back hn) hp hkeep hend)

/-- No duplicates: if no key is put again after having been removed, no key is visited twice. -/
theorem traversal_nodup (m : OMap K V) (hn : (keys m).Nodup) (back : Bool) (evs : List (Ev K V))
    (hnr : NoReinsert [] evs) : (visited (TSt.start m back) evs).Nodup := by
  have hv := start_view back hn
  have hd := nodup_dirKeys back hn
  rw [← hv] at hd
  obtain ⟨hn1, -, hdis⟩ := List.nodup_append.mp hd
  obtain ⟨i1, i2⟩ := visited_aux evs (TSt.start m back) [] (wf_start back hn) hnr
  refine List.nodup_append.mpr ⟨hn1, i1, fun s hs y hy e => ?_⟩
  subst e
  exact (i2 s hy).elim (fun hp => hdis s hs s hp rfl) fun h1 =>
    h1.1 (mem_dirKeys.mp (hv ▸ List.mem_append_left _ hs))

/-- An `adv` brings the next pending key into view, and that key is in the table at that moment. -/
theorem traversal_advance (st : TSt K V) (h : st.WF) :
    (st.pending = match (st.step .adv).shown with | none => [] | some s => s :: (st.step .adv).pending) ∧
    ∀ s, (st.step .adv).shown = some s → s ∈ keys st.m := by
  have hp := adv_pending h
  refine ⟨?_, fun s hs => pending_subset h s (by rw [hp, hs]; exact List.mem_cons_self)⟩
  cases hsh : (st.step .adv).shown with
  | none => rw [hp, hsh, pending_nil_of_shown_none (wf_step .adv h) hsh]; rfl
  | some s => rw [hp, hsh]; rfl

/-- Every slot index of a table with `n` slots fits the index type chosen for `n` and is different from that
    type's "no slot" sentinel. -/
theorem width_safe (n i : Nat) (hn : n < 2 ^ 32) (hi : i < n) :
    i < indexRange (Gen.htIndexType n) ∧ i ≠ indexSentinel (Gen.htIndexType n) := index_width_safe n i hn hi

def ltKeyNat : Nat × Nat → Nat × Nat → Bool := fun a b => decide (a.1 < b.1)
def ltValNat : Nat × Nat → Nat × Nat → Bool := fun a b => decide (a.2 < b.2)

example : StrictWeak ltKeyNat :=
  ⟨by intro a b h; simp [ltKeyNat] at h ⊢; omega, by intro a b c h; simp [ltKeyNat] at h ⊢; omega⟩
example : StrictWeak ltValNat :=
  ⟨by intro a b h; simp [ltValNat] at h ⊢; omega, by intro a b c h; simp [ltValNat] at h ⊢; omega⟩

def sampleTab : Tab Nat Nat :=
  { m := [(1, 10), (2, 20), (3, 30)], its := [⟨some 2, none, false⟩, ⟨some 3, none, true⟩], autoSort := true }

example : sampleTab.Inv := by
  refine ⟨by decide, ?_⟩
  intro it hit
  simp [sampleTab] at hit
  rcases hit with rfl | rfl <;> intro k hk <;> simp at hk <;> subst hk <;> decide

example : keys (sampleTab.apply none (.moveToFront 3)).m = [3, 1, 2] := by decide +kernel
example : keys (sampleTab.apply none (.moveToBefore 3 2)).m = [1, 3, 2] := by decide +kernel
example : keys (sampleTab.apply none (.putAtPosition 9 1 90)).m = [1, 9, 2, 3] := by decide +kernel
/- removing the entry a forward iterator stands on: the pair moves to the scratch copy, the cookie to the successor -/
example : ((sampleTab.apply none (.remove 2)).its.map (fun it => (it.cur, it.scratch))) = [(some 3, some (2, 20)), (some 3, none)] := by decide +kernel
/- an auto-sorting (by value) table re-positions a replaced entry -/
example : (sampleTab.apply (some ltValNat) (.put 1 25)).m = [(2, 20), (1, 25), (3, 30)] := by decide +kernel
example : SortedInv ltValNat ({ sampleTab with its := [] }) := by
  refine ⟨⟨by decide, by intro it h; cases h⟩, by simp [Sorted, sampleTab, ltValNat], rfl⟩
example : width_safe 255 254 (by omega) (by omega) = width_safe 255 254 (by omega) (by omega) := rfl
example : Gen.htIndexType 254 = 0 ∧ Gen.htIndexType 255 = 1 ∧ Gen.htIndexType 65534 = 1 ∧ Gen.htIndexType 65535 = 2 := by decide +kernel

/- a forward traversal of [1,2,3] during which 2 is removed while in view, 4 is appended and 1 is removed:
   visits 1, 2, 3, 4 and ends; the hypotheses of both theorems hold -/
def sampleRun : List (Ev Nat Nat) := [.adv, .remove 2, .put 4 40, .adv, .remove 1, .adv, .adv]
example : visited (TSt.start [(1, 10), (2, 20), (3, 30)] false) sampleRun = [1, 2, 3, 4] := by decide +kernel
example : (runFinal (TSt.start [(1, 10), (2, 20), (3, 30)] false) sampleRun).shown = none := by decide +kernel
example : NoReinsert ([] : List Nat) sampleRun := by simp [NoReinsert, sampleRun]
/- backwards, with the removal of the entry in view and of a pending one -/
example : visited (TSt.start [(1, 10), (2, 20), (3, 30)] true) [.remove 3, .adv, .remove 1, .adv] = [3, 2] := by decide +kernel

end Muscle.Props.C09
