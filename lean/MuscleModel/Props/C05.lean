import MuscleModel.Reflector.RouteProofs
import MuscleModel.Reflector.TravProofsSkip
import MuscleModel.Reflector.BroadcastProofs
import MuscleModel.Reflector.OrderProofs

/-!
# C05 — the wildcard traversal visits exactly the nodes a one-by-one path test selects, once each

First part: the traversal (lemmas: `Reflector/TravProofs.lean`, `TravProofsLevel.lean`, `TravProofsCands.lean`,
`TravProofsSkip.lean`; model of
`NodePathMatcher::DoTraversalAux` / `DoDirectChildLookup` / `CheckChildForTraversal`: `Reflector/Traverse.lean`).

Hypotheses (all defined in `Reflector/TravProofs*.lean`):
* `pmWF pm` (Bool): every entry sits in the group keyed by its clause count (`PutPathString` guarantees it);
* `kidsNodup fuel node` (Bool): sibling names pairwise distinct at every level the fuel reaches (a `Hashtable` of children);
* `ClauseLaws pm`: for every clause pattern `c` of `pm` two facts about the reflector's matcher (`Glob.lean`), assumed here and proved
  (`TravProofsLevel.lean`) for the patterns of the examples only,
  `UniqueLaw c := isUnique c → ∀ s, clauseMatch c s = (s == unescape c)` and
  `UVListLaw c := isUVList c → ∀ s, clauseMatch c s = ((splitCommas c).filter (¬ ·.isEmpty)).any (s == unescape ·)`;
  they are what makes the literal-lookup fast path agree with the child-iteration path.
NOT needed: distinct group keys, distinct entry paths inside a group, `clauses.length ≥ 1`.
Further theorems: `route_once_per_session_node` / `route_once_per_session` / `route_sessions_exact` for the
skip-to-next-session callback of `route`, hypothesis `pmMinClauses 2 pm` (the rule of `CheckChildForTraversal` is that of
fix `fa53600`, finding F27; the `…_min3` corollaries restate them under `pmMinClauses 3`, the hypothesis the rule before that fix
needs; the examples at the end run the F27 shape under both rules, the old one being `OldRule`).
The traversal and the brute-force oracle consume fuel in lock step (one unit per tree level), so the statement holds
for every `fuel` with the same value on both sides; `traversal_eq_bruteforce_any_fuel` removes the coupling for fuel
covering the tree (`fits`).
-/

namespace Muscle.Props.C05
open Muscle Muscle.Reflector

/-- MAIN: with the continue-callback the traversal records exactly the relative paths of the descendants that
    `PathMatcher::MatchesPath` accepts when tested one by one (with the node's data iff `useFilters`), and records
    none of them twice; for every tree, matcher, `useFilters`, root depth and fuel.  No order is claimed: the two lists are ordered
    differently (example below).  The second conjunct needs `hkids` only (`travAux_cont_nodup`).  For the tree of a server `hkids` follows
    from C13's invariant (`kidsNodup_of_allNodes`). -/
theorem traversal_eq_bruteforce (pm : PM) (useFilters : Bool) (rd : Nat) (node : Node) (fuel : Nat)
    (hwf : pmWF pm = true) (hlaws : ClauseLaws pm) (hkids : kidsNodup fuel node = true) :
    (∀ v, v ∈ doTraversal pm useFilters rd cbContinue node fuel ↔ v ∈ bruteForce pm useFilters node fuel) ∧
    (doTraversal pm useFilters rd cbContinue node fuel).Nodup := by
  constructor
  · intro v
    have h := travAux_mem { pm := pm, useFilters := useFilters, rootDepth := rd, cb := cbContinue } rfl hwf hlaws
      fuel node [] hkids (SingleInv_nil pm) v
    simp only [List.length_nil, Nat.add_zero] at h
    unfold doTraversal bruteForce
    rw [h]
    simp only [List.mem_map, List.mem_filter]
    constructor
    · rintro ⟨n, hd, hP⟩; exact ⟨(v, n), ⟨hd, hP⟩, rfl⟩
    · rintro ⟨⟨v', n⟩, ⟨hd, hP⟩, rfl⟩; exact ⟨n, hd, hP⟩
  · exact travAux_cont_nodup { pm := pm, useFilters := useFilters, rootDepth := rd, cb := cbContinue } rfl fuel node [] rd hkids

/-- the same with independent fuel on both sides, once the fuel covers the tree (`fits fuel₀ node`: the tree below
    `node` is at most `fuel₀` levels deep) -/
theorem traversal_eq_bruteforce_any_fuel (pm : PM) (useFilters : Bool) (rd : Nat) (node : Node) (fuel₀ fuel fuel' : Nat)
    (hfit : fits fuel₀ node = true) (hf : fuel₀ ≤ fuel) (hf' : fuel₀ ≤ fuel')
    (hwf : pmWF pm = true) (hlaws : ClauseLaws pm) (hkids : kidsNodup fuel node = true) :
    (∀ v, v ∈ doTraversal pm useFilters rd cbContinue node fuel ↔ v ∈ bruteForce pm useFilters node fuel') ∧
    (doTraversal pm useFilters rd cbContinue node fuel).Nodup := by
  obtain ⟨h1, h2⟩ := traversal_eq_bruteforce pm useFilters rd node fuel hwf hlaws hkids
  refine ⟨fun v => ?_, h2⟩
  rw [h1 v]
  unfold bruteForce
  obtain ⟨j, rfl⟩ := Nat.exists_eq_add_of_le hf
  obtain ⟨j', rfl⟩ := Nat.exists_eq_add_of_le hf'
  rw [descendants_stable fuel₀ node [] hfit j, descendants_stable fuel₀ node [] hfit j']

/-! ### non-vacuity: a tree and a two-group matcher (`a/*` with both code paths, and the comma list `a,b`) satisfying
    every hypothesis; level 0 takes the literal-lookup path, level 1 the child-iteration path, and
    `#eval doTraversal exPM true 0 cbContinue exTree 3` = `[[a,x],[a,y],[a],[b]]` (brute force: `[[a],[a,x],[a,y],[b]]`) -/

def exTree : Node :=
  .mk [] none [.mk [97] (some 1) [.mk [120] none [] [] 0 [], .mk [121] none [] [] 0 []] [] 0 [],
               .mk [98] none [] [] 0 [], .mk [99] none [] [] 0 []] [] 0 []

def exPM : PM :=
  [(2, [{ path := [97, 47, 42], clauses := [[97], [42]], filter := none }]),
   (1, [{ path := [97, 44, 98], clauses := [[97, 44, 98]], filter := none }])]

example : pmWF exPM = true ∧ kidsNodup 3 exTree = true ∧ fits 2 exTree = true := by decide

example : ClauseLaws exPM := by
  intro e he c hc
  simp [allEntries, exPM] at he
  rcases he with rfl | rfl
  · simp at hc
    rcases hc with rfl | rfl
    · exact ⟨uniqueLaw_a, uvListLaw_a⟩
    · exact laws_star
  · simp at hc; subst hc
    exact ⟨uniqueLaw_ab, uvListLaw_ab⟩


/-! ## routing: one delivery per session

`route` (Handlers.lean, `PassMessageCallbackAux`) runs the traversal from the global root (`rootDepth = 0`) with the
callback `fun _ _ _ => (true, 1)` (deliver, return `NODE_DEPTH_HOSTNAME` = skip to the next session). -/

/-- With the skip callback and every pattern at least 2 clauses deep (`pmMinClauses 2`: host/session…; every key
    of a client Message is, since relative keys get the `*/*` prefix and absolute ones name host and session), at
    most one visit is recorded per session node — the session node itself or one node below it: the (host, session)
    prefixes of the recorded paths are pairwise different, and each visit is a session node of the tree or lies
    below one.  No pattern law and no `pmWF` is needed.
    (With the rule of `CheckChildForTraversal` before fix `fa53600`, finding F27, this needs `pmMinClauses 3`.)
    A 1-clause pattern is excluded because it matches host nodes: such a visit `[h]` has no session
    (`ownerName [h] = none`, `route` skips it), so the second conjunct fails, and two matching hosts give the owner
    `none` twice; the callback's answer 1 at a host node (depth 1) neither aborts nor rules out the descent. -/
theorem route_once_per_session_node (pm : PM) (useFilters : Bool) (node : Node) (fuel : Nat)
    (hmin : pmMinClauses 2 pm = true) (hkids : kidsNodup fuel node = true) :
    ((doTraversal pm useFilters 0 (fun _ _ _ => (true, 1)) node fuel).map (List.take 2)).Nodup ∧
    ∀ v ∈ doTraversal pm useFilters 0 (fun _ _ _ => (true, 1)) node fuel,
      ∃ h ∈ node.kids, ∃ s ∈ h.kids, [h.name, s.name] <+: v :=
  skip_once_per_session_node pm useFilters hmin fuel node hkids

/-- … hence, when session names are unique across hosts (`SessUnique`: session ids are server-wide unique), the
    visits have pairwise different `ownerName`: `route` delivers at most once to each session. -/
theorem route_once_per_session (pm : PM) (useFilters : Bool) (node : Node) (fuel : Nat)
    (hmin : pmMinClauses 2 pm = true) (hkids : kidsNodup fuel node = true) (hsess : SessUnique node) :
    ((doTraversal pm useFilters 0 (fun _ _ _ => (true, 1)) node fuel).map ownerName).Nodup := by
  obtain ⟨h1, h2⟩ := route_once_per_session_node pm useFilters node fuel hmin hkids
  refine nodup_map_of_pairwise h1 ?_
  intro x hx y hy hxy
  obtain ⟨h, hh, s, hs, hp⟩ := h2 x hx
  obtain ⟨h', hh', s', hs', hp'⟩ := h2 y hy
  rw [take2_of_prefix hp, take2_of_prefix hp']
  obtain ⟨t, rfl⟩ := hp
  obtain ⟨t', rfl⟩ := hp'
  simp [ownerName] at hxy
  rw [hxy, hsess h hh h' hh' s hs s' hs' hxy]

/-- the same for the traversal `route` performs on a server state -/
theorem route_once_per_session_server (sv : Server) (pm : PM)
    (hmin : pmMinClauses 2 pm = true) (hkids : kidsNodup fuelDepth sv.root = true) (hsess : SessUnique sv.root) :
    ((travGlobal sv pm true (fun _ _ _ => (true, 1))).map ownerName).Nodup :=
  route_once_per_session pm true sv.root fuelDepth hmin hkids hsess

/-- Which sessions get the Message: with the skip callback (and every pattern ≥ 2 clauses deep) every recorded
    visit is a node the one-by-one test accepts, and every node the one-by-one test accepts has a recorded visit
    in the same session subtree (same (host, session) prefix).  Together with `route_once_per_session_node`:
    exactly one visit in each session that owns at least one matching node (the session node itself counts), none
    in any other. -/
theorem route_sessions_exact (pm : PM) (useFilters : Bool) (node : Node) (fuel : Nat)
    (hmin : pmMinClauses 2 pm = true) (hwf : pmWF pm = true) (hlaws : ClauseLaws pm)
    (hkids : kidsNodup fuel node = true) :
    (∀ v ∈ doTraversal pm useFilters 0 (fun _ _ _ => (true, 1)) node fuel, v ∈ bruteForce pm useFilters node fuel) ∧
    (∀ w ∈ bruteForce pm useFilters node fuel,
       ∃ v ∈ doTraversal pm useFilters 0 (fun _ _ _ => (true, 1)) node fuel, v.take 2 = w.take 2) := by
  obtain ⟨h1, h2⟩ := root_sameSess pm useFilters hmin fuel node
  have hb := (traversal_eq_bruteforce pm useFilters 0 node fuel hwf hlaws hkids).1
  constructor
  · intro v hv; exact (hb v).1 (h1 v hv)
  · intro w hw; exact h2 w ((hb w).2 hw)

/-! ### the same under the stronger hypothesis `pmMinClauses 3` (corollaries by `pmMinClauses_mono`) -/

theorem route_once_per_session_node_min3 (pm : PM) (useFilters : Bool) (node : Node) (fuel : Nat)
    (hmin : pmMinClauses 3 pm = true) (hkids : kidsNodup fuel node = true) :
    ((doTraversal pm useFilters 0 (fun _ _ _ => (true, 1)) node fuel).map (List.take 2)).Nodup ∧
    ∀ v ∈ doTraversal pm useFilters 0 (fun _ _ _ => (true, 1)) node fuel,
      ∃ h ∈ node.kids, ∃ s ∈ h.kids, [h.name, s.name] <+: v :=
  route_once_per_session_node pm useFilters node fuel (pmMinClauses_mono (by decide) hmin) hkids

theorem route_once_per_session_min3 (pm : PM) (useFilters : Bool) (node : Node) (fuel : Nat)
    (hmin : pmMinClauses 3 pm = true) (hkids : kidsNodup fuel node = true) (hsess : SessUnique node) :
    ((doTraversal pm useFilters 0 (fun _ _ _ => (true, 1)) node fuel).map ownerName).Nodup :=
  route_once_per_session pm useFilters node fuel (pmMinClauses_mono (by decide) hmin) hkids hsess

theorem route_once_per_session_server_min3 (sv : Server) (pm : PM)
    (hmin : pmMinClauses 3 pm = true) (hkids : kidsNodup fuelDepth sv.root = true) (hsess : SessUnique sv.root) :
    ((travGlobal sv pm true (fun _ _ _ => (true, 1))).map ownerName).Nodup :=
  route_once_per_session_server sv pm (pmMinClauses_mono (by decide) hmin) hkids hsess

theorem route_sessions_exact_min3 (pm : PM) (useFilters : Bool) (node : Node) (fuel : Nat)
    (hmin : pmMinClauses 3 pm = true) (hwf : pmWF pm = true) (hlaws : ClauseLaws pm)
    (hkids : kidsNodup fuel node = true) :
    (∀ v ∈ doTraversal pm useFilters 0 (fun _ _ _ => (true, 1)) node fuel, v ∈ bruteForce pm useFilters node fuel) ∧
    (∀ w ∈ bruteForce pm useFilters node fuel,
       ∃ v ∈ doTraversal pm useFilters 0 (fun _ _ _ => (true, 1)) node fuel, v.take 2 = w.take 2) :=
  route_sessions_exact pm useFilters node fuel (pmMinClauses_mono (by decide) hmin) hwf hlaws hkids

/-! ### non-vacuity -/

/-- one host `h` with the sessions `s` and `t`, each owning one node `x` -/
def exSrvTree : Node :=
  .mk [] none [.mk [104] none [.mk [115] none [.mk [120] none [] [] 0 []] [] 0 [],
                               .mk [116] none [.mk [120] none [] [] 0 []] [] 0 []] [] 0 []] [] 0 []

def exPM3 : PM := [(3, [{ path := [], clauses := [[42], [42], [42]], filter := none }])]
/-- `*/*/*` then `*/*` -/
def exPM2 : PM := [(3, [{ path := [], clauses := [[42], [42], [42]], filter := none }]),
                   (2, [{ path := [], clauses := [[42], [42]], filter := none }])]

example : pmMinClauses 3 exPM3 = true ∧ pmWF exPM3 = true ∧ kidsNodup 4 exSrvTree = true := by decide
example : pmMinClauses 2 exPM2 = true ∧ pmWF exPM2 = true := by decide
example : ClauseLaws exPM3 := laws_of_star_only (by simp [allEntries, exPM3])
example : ClauseLaws exPM2 := laws_of_star_only (by simp [allEntries, exPM2])
example : SessUnique exSrvTree := by
  intro h hh h' hh' _ _ _ _ _
  simp [exSrvTree, Node.kids] at hh hh'
  rw [hh, hh']

/-! ### finding F27: a session-level key together with a deeper one

The shape that fired F27: keys `/*/*` and `/*/*/?` (in this order in the matcher) on a tree with two sessions.
Each session is visited once (the session node; the callback's answer 1 rules out the descent).  `OldRule` is the
traversal with the entry loop of `CheckChildForTraversal` as the code has it before fix `fa53600` (only `checkEntries`
differs: no `recursed`/`matched` update from the returned depth); on the same shape it visits each session twice.
(`?` needs `matchToks`, defined by well-founded recursion, which `decide` cannot evaluate; the rule of the fix never
evaluates the third clause here, the old rule does, so the old-rule example uses `/*/*/*`, which the null matcher
evaluates; `#eval` gives the same four visits for `/*/*/?`.) -/

def exF27 : PM := [(2, [{ path := [42, 47, 42], clauses := [[42], [42]], filter := none }]),
                   (3, [{ path := [42, 47, 42, 47, 63], clauses := [[42], [42], [63]], filter := none }])]
def exF27star : PM := [(2, [{ path := [42, 47, 42], clauses := [[42], [42]], filter := none }]),
                       (3, [{ path := [42, 47, 42, 47, 42], clauses := [[42], [42], [42]], filter := none }])]

/-- repaired rule: each owner once, whichever of the two keys comes first -/
example : pmMinClauses 2 exF27 = true ∧ pmWF exF27 = true ∧ kidsNodup 4 exSrvTree = true ∧
    doTraversal exF27 true 0 (fun _ _ _ => (true, 1)) exSrvTree 4 = [[[104], [115]], [[104], [116]]] ∧
    (doTraversal exF27 true 0 (fun _ _ _ => (true, 1)) exSrvTree 4).map ownerName = [some [115], some [116]] ∧
    doTraversal exF27star true 0 (fun _ _ _ => (true, 1)) exSrvTree 4 = [[[104], [115]], [[104], [116]]] ∧
    doTraversal exPM2 true 0 (fun _ _ _ => (true, 1)) exSrvTree 4 = [[[104], [115], [120]], [[104], [116], [120]]] ∧
    (doTraversal exPM2 true 0 (fun _ _ _ => (true, 1)) exSrvTree 4).map ownerName = [some [115], some [116]] := by
  decide

namespace OldRule

def checkEntriesOld (ctx : TCtx) (rec : Rec) (child : Node) (cnames : Visit) (depth : Nat) (known : Option Nat) :
    List Entry → Nat → CState → CState
  | [], _, st => st
  | e :: es, idx, st =>
    if st.done || st.abort.isSome then st else
    let rel := depth - ctx.rootDepth
    let childDepth : Int := depth + 1
    let hit : Bool := (known = some idx) || (match e.clauses[rel]? with | some c => clauseMatch c child.name | none => false)
    let st' : CState :=
      if !hit then st
      else if depth + 1 = ctx.rootDepth + e.clauses.length then
        if st.matched then st else
        if (onlyOneEntry ctx.pm && (!ctx.useFilters || e.filter.isNone)) || matchesNode ctx.pm cnames ctx.useFilters child.data then
          let (rc, nd) := ctx.cb cnames (depth + 1) child
          let vs := if rc then st.visits ++ [cnames] else st.visits
          if nd < childDepth - 1 then { st with visits := vs, abort := some nd }
          else { st with visits := vs, matched := true, done := st.recursed }
        else st
      else
        if st.recursed then st else
        let (vs, nd) := rec child cnames (depth + 1)
        if nd < childDepth - 1 then { st with visits := st.visits ++ vs, abort := some nd }
        else { st with visits := st.visits ++ vs, recursed := true, done := st.matched }
    checkEntriesOld ctx rec child cnames depth known es (idx + 1) st'

def checkChildOld (ctx : TCtx) (rec : Rec) (child : Node) (names : Visit) (depth : Nat) (known : Option Nat) :
    List Visit × Option Int :=
  let st := checkEntriesOld ctx rec child (names ++ [child.name]) depth known
              (activeEntries ctx.pm (depth - ctx.rootDepth)) 0 {}
  (st.visits, st.abort)

def travKidsOld (ctx : TCtx) (rec : Rec) (names : Visit) (depth : Nat) : List Node → List Visit → List Visit × Int
  | [], acc => (acc, depth)
  | k :: r, acc =>
    match checkChildOld ctx rec k names depth none with
    | (vs, some d) => (acc ++ vs, d)
    | (vs, none) => travKidsOld ctx rec names depth r (acc ++ vs)

def lookupElemsOld (ctx : TCtx) (rec : Rec) (node : Node) (names : Visit) (depth : Nat) (idx : Nat) :
    List Bytes → List Bytes → List Visit → List Visit × List Bytes × Option Int
  | [], did, acc => (acc, did, none)
  | el :: els, did, acc =>
    let nm := unescape el
    match findKid nm node.kids with
    | none => lookupElemsOld ctx rec node names depth idx els did acc
    | some k =>
      if did.contains nm then lookupElemsOld ctx rec node names depth idx els did acc else
      match checkChildOld ctx rec k names depth (some idx) with
      | (vs, some d) => (acc ++ vs, did, some d)
      | (vs, none) => lookupElemsOld ctx rec node names depth idx els (nm :: did) (acc ++ vs)

def travLookupsOld (ctx : TCtx) (rec : Rec) (node : Node) (names : Visit) (depth : Nat) :
    List Entry → Nat → List Bytes → List Visit → List Visit × Int
  | [], _, _, acc => (acc, depth)
  | e :: es, idx, did, acc =>
    let key := (e.clauses[depth - ctx.rootDepth]?).getD []
    let elems : List Bytes := if isUVList key then (splitCommas key).filter (fun x => !x.isEmpty) else [key]
    match lookupElemsOld ctx rec node names depth idx elems did acc with
    | (acc', _, some d) => (acc', d)
    | (acc', did', none) => travLookupsOld ctx rec node names depth es (idx + 1) did' acc'

def travLevelOld (ctx : TCtx) (rec : Rec) (node : Node) (names : Visit) (depth : Nat) : List Visit × Int :=
  let rel := depth - ctx.rootDepth
  if parsersHaveWildcards ctx.pm rel then travKidsOld ctx rec names depth node.kids []
  else travLookupsOld ctx rec node names depth (activeEntries ctx.pm rel) 0 [] []

def travAuxOld (ctx : TCtx) : Nat → Node → Visit → Nat → List Visit × Int
  | 0, _, _, depth => ([], depth)
  | fuel+1, node, names, depth => travLevelOld ctx (travAuxOld ctx fuel) node names depth

def doTraversalOld (pm : PM) (useFilters : Bool) (rootDepth : Nat) (cb : Visit → Nat → Node → Bool × Int)
    (node : Node) (fuel : Nat) : List Visit :=
  (travAuxOld { pm := pm, useFilters := useFilters, rootDepth := rootDepth, cb := cb } fuel node [] rootDepth).1


end OldRule

/-- old rule: each owner twice (this was F27), for either order of the two keys -/
example :
    OldRule.doTraversalOld exF27star true 0 (fun _ _ _ => (true, 1)) exSrvTree 4
      = [[[104], [115]], [[104], [115], [120]], [[104], [116]], [[104], [116], [120]]] ∧
    (OldRule.doTraversalOld exF27star true 0 (fun _ _ _ => (true, 1)) exSrvTree 4).map ownerName
      = [some [115], some [115], some [116], some [116]] ∧
    OldRule.doTraversalOld exPM2 true 0 (fun _ _ _ => (true, 1)) exSrvTree 4
      = [[[104], [115], [120]], [[104], [115]], [[104], [116], [120]], [[104], [116]]] ∧
    ¬ ((OldRule.doTraversalOld exPM2 true 0 (fun _ _ _ => (true, 1)) exSrvTree 4).map ownerName).Nodup := by
  decide

/-- under the continue-callback the two rules agree on these inputs (the conditions the fix adds are never true when a
    non-aborting level returns its own depth) -/
example : OldRule.doTraversalOld exF27star true 0 cbContinue exSrvTree 4 = doTraversal exF27star true 0 cbContinue exSrvTree 4 := by
  decide

/-! ### a 1-clause pattern: host nodes are visited, they have no owner -/

def exTwoHosts : Node :=
  .mk [] none [.mk [104] none [.mk [115] none [] [] 0 []] [] 0 [], .mk [105] none [.mk [116] none [] [] 0 []] [] 0 []] [] 0 []
def exPM1 : PM := [(1, [{ path := [42], clauses := [[42]], filter := none }])]

example : pmMinClauses 1 exPM1 = true ∧ pmMinClauses 2 exPM1 = false ∧ kidsNodup 4 exTwoHosts = true ∧
    doTraversal exPM1 true 0 (fun _ _ _ => (true, 1)) exTwoHosts 4 = [[[104]], [[105]]] ∧
    (doTraversal exPM1 true 0 (fun _ _ _ => (true, 1)) exTwoHosts 4).map ownerName = [none, none] := by decide

end Muscle.Props.C05


/-!
# C05, second part — the compiled default route is coherent with the parameters it is compiled from

Lemmas: `Reflector/RouteProofs.lean`.  `Sess.route` (`_defaultMessageRoute`, what `sendMsg` routes with when
the Message names no keys) is a cache of `buildRoute s.routeKeys s.routeFilts`
(`PutPathsFromMessage(PR_NAME_KEYS, PR_NAME_FILTERS)` of `_defaultMessageRouteMessage`); the two parameters are set and
removed separately (`.paramRoute`, `.paramRouteF`, `.unparamRoute`, `.unparamRouteF`).
`RReach` (RouteProofs.lean): the states reachable from the empty server by attach, detach, ANY `runCmd` (no side
condition), `pushAll` and pump; `MReach` (Reflector/MarksReach.lean) is contained in it (`rt_of_mreach`).
`routePairs keys fl cur` = `keys.zip ((List.range keys.length).map (assignedFilt fl cur))`,
`assignedFilt fl cur i = fl.getD i (fl.getLast?.getD cur)`: item `i` of the filter field, else its last item (bleed-down).
-/

namespace Muscle.Props.C05
open Muscle Muscle.Reflector Muscle.Eng.SrvEngine

/-- **Cache coherence.**  In every reachable state every session's compiled route is the one its two parameters
    compile to; without the keys parameter there are no keys; `hasRouteKeys` (read by `sendMsg`) says whether
    `params` holds PR_NAME_KEYS (what the C++ reads), and the filter list is present iff `params` holds PR_NAME_FILTERS. -/
theorem route_cache_coherent (sv : Server) (h : RReach sv) (s : Sess) (hs : s ∈ sv.sessions) :
    s.route = buildRoute s.routeKeys s.routeFilts ∧
    (s.hasRouteKeys = false → s.routeKeys = []) ∧
    s.hasRouteKeys = s.params.contains keyName ∧
    s.routeFilts.isSome = s.params.contains filtName :=
  rt_reach_rc h s hs

/-- the invariant is inductive: every single command preserves it from ANY state that has it -/
theorem route_cache_coherent_step (sv : Server) (sid : Nat) (c : Cmd) (h : RC sv) : RC (runCmd sv sid c) :=
  rt_runCmd_rc sv sid c h

/-- every command other than the four route-parameter commands leaves the route, both parameters, `hasRouteKeys` and the
    presence of the two parameter names alone, in EVERY session (the acting one included); any state -/
theorem data_commands_keep_route (sv : Server) (sid : Nat) (c : Cmd)
    (hc : match c with
      | .paramRoute _ | .paramRouteF _ _ | .unparamRoute | .unparamRouteF => False
      | _ => True) :
    (runCmd sv sid c).sessions.map rk = sv.sessions.map rk :=
  rt_runCmd_data sv sid c hc

/-- A Message without keys from a session with a default route is routed with exactly the matcher its two parameters
    compile to. -/
theorem default_route_is_parameters (sv : Server) (h : RReach sv) (sid : Nat) (s : Sess) (hs : sv.sess? sid = some s)
    (hk : s.hasRouteKeys = true) (tag : Nat) :
    sendMsg sv sid tag [] =
      route sv sid (buildRoute s.routeKeys s.routeFilts) ("MSG 1234 from=" ++ toString sid ++ " tag=" ++ toString tag) := by
  have hc := (rt_reach_rc h s (mem_of_sess? hs)).1
  simp only [rk] at hc
  unfold sendMsg
  rw [hs]
  simp only [List.isEmpty_nil, Bool.not_true, Bool.false_eq_true, if_false, hk, if_true, hc]

/-- Removing the filter parameter rebuilds the route without filters: afterwards the session has the same keys, no
    filter list, the route `buildRoute keys none`, and not one entry of it carries a filter. -/
theorem unparam_filters_drops_filters (sv : Server) (h : RReach sv) (sid : Nat) (s : Sess) (hs : sv.sess? sid = some s) :
    ∃ s', (runCmd sv sid .unparamRouteF).sess? sid = some s' ∧ s'.routeKeys = s.routeKeys ∧ s'.routeFilts = none ∧
      s'.route = buildRoute s.routeKeys none ∧ pmNumFilters s'.route = 0 := by
  obtain ⟨h1, _, _, h4⟩ := rt_reach_rc h s (mem_of_sess? hs)
  simp only [rk] at h1 h4
  have hfind : (runCmd sv sid .unparamRouteF).sess? sid =
      some (if s.params.contains filtName then
        { s with routeFilts := none, route := buildRoute s.routeKeys none, params := s.params.filter (· ≠ filtName) } else s) :=
    sess?_updSess_same sv sid _ hs (by intro t; split <;> rfl)
  refine ⟨_, hfind, ?_⟩
  by_cases hp : s.params.contains filtName = true
  · rw [if_pos hp]
    exact ⟨rfl, rfl, rfl, rt_buildRoute_none _⟩
  · have hnone : s.routeFilts = none := by
      have : s.routeFilts.isSome = false := by rw [h4]; simpa using hp
      cases hf : s.routeFilts with
      | none => rfl
      | some x => rw [hf] at this; simp at this
    rw [if_neg hp]
    refine ⟨rfl, hnone, ?_, ?_⟩
    · rw [h1, hnone]
    · rw [h1, hnone]; exact rt_buildRoute_none _

/-- `PutPathsFromMessage` without recursion: the keys in order, key `i` paired with `assignedFilt` … `i` -/
theorem buildRoute_pairs (keys : List Bytes) (fs : Option (List (Option Filt))) :
    buildRoute keys fs = pmOfKeys (routePairs keys (fs.getD []) none) (some defaultPrefix) := by
  unfold buildRoute pmOfKeys
  exact rt_buildRouteAux_pairs keys _ _ _

/-- …and pair `i` carries filter item `i` when the filter field has one, its last item otherwise (bleed-down; no
    filter at all when the field is empty or absent) -/
theorem buildRoute_pairs_get (keys : List Bytes) (fl : List (Option Filt)) (i : Nat) (hi : i < keys.length) :
    (routePairs keys fl none).length = keys.length ∧
    (routePairs keys fl none)[i]? = some (keys[i], if h : i < fl.length then fl[i] else fl.getLast?.getD none) :=
  ⟨by simp [routePairs], rt_routePairs_get keys fl none i hi⟩

/-! ### examples: a small reachable state (one session; keys `x`, `y` with one filter that bleeds down; then the
    filter parameter removed) -/

def exRtSv1 : Server := (attach {} 0 [104]).1
def exRtSv2 : Server := runCmd exRtSv1 0 (.paramRouteF [[120], [121]] [some ⟨0, 1⟩])
def exRtSv3 : Server := runCmd exRtSv2 0 .unparamRouteF

example : RReach exRtSv2 := .cmd _ _ (.attach _ _ .init)
example : RReach exRtSv3 := .cmd _ _ (.cmd _ _ (.attach _ _ .init))
/-- the hypotheses of `default_route_is_parameters` hold in `exRtSv2`, and the route has two filtered entries -/
example : (exRtSv2.sess? 0).map (fun s => (s.hasRouteKeys, s.routeKeys, pmNumFilters s.route)) =
    some (true, [[120], [121]], 2) := by decide
example : routePairs [[120], [121], [122]] [none, some ⟨0, 1⟩] none =
    [([120], none), ([121], some ⟨0, 1⟩), ([122], some ⟨0, 1⟩)] := by decide
/-- what the seeded change ("removing only the filter parameter does not rebuild the compiled route") would leave
    behind differs observably from the coherent route -/
example : pmNumFilters (buildRoute [[120], [121]] (some [some ⟨0, 1⟩])) = 2 ∧
    pmNumFilters (buildRoute [[120], [121]] none) = 0 := by decide

end Muscle.Props.C05

/-!
# C05, third part — client-to-client Messages arrive in the order they were sent (FIFO per pair)

Lemmas: `Reflector/OrderProofs.lean`.  `msgText a tag` = the line a receiver sees for `send tag …` of session `a`;
`OdEv` / `odRunEvs`: histories of events `cmd sid c | push | attach slot host | detach sid`.  Any server state; no hypothesis on
the keys, the routes or the tree (once-per-receiver is NOT needed: inboxes are append-only, `inbox_append_only` of C07).
-/

namespace Muscle.Props.C05
open Muscle Muscle.Reflector Muscle.Eng.SrvEngine

/-- Everything a `send` appends to anybody's inbox is a copy of its own text. -/
theorem send_appends_only_its_text (sv : Server) (a tag : Nat) (keys : List Bytes) (b : Nat) (t : Sess)
    (ht : sv.sess? b = some t) :
    ∃ t' extra, (runCmd sv a (.send tag keys)).sess? b = some t' ∧ t'.inbox = t.inbox ++ extra ∧
      ∀ x ∈ extra, x = msgText a tag := by
  obtain ⟨t', h1, _, e, h3, h4⟩ := od_lookup (od_sendMsg_text sv a tag keys) b t ht
  exact ⟨t', e, h1, h3, h4⟩

/-- **FIFO per pair.**  Session `a` sends `send tag1 keys1`, then anything happens (commands of any sessions, pushes,
    attaches, departures of sessions other than `b`), then `a` sends `send tag2 keys2`.  If both sends put something into
    `b`'s inbox (`t1.inbox ≠ t0.inbox`, `t3.inbox ≠ t2.inbox`), then just before the second send `b`'s inbox was its original
    inbox followed by the first Message and more, and the second Message comes after ALL of that. -/
theorem fifo_per_pair (sv : Server) (a b tag1 tag2 : Nat) (keys1 keys2 : List Bytes) (mid : List OdEv)
    (hmid : ∀ e ∈ mid, e ≠ .detach b) (t0 t1 t2 t3 : Sess)
    (h0 : sv.sess? b = some t0)
    (h1 : (runCmd sv a (.send tag1 keys1)).sess? b = some t1)
    (h2 : (odRunEvs (runCmd sv a (.send tag1 keys1)) mid).sess? b = some t2)
    (h3 : (runCmd (odRunEvs (runCmd sv a (.send tag1 keys1)) mid) a (.send tag2 keys2)).sess? b = some t3)
    (hd1 : t1.inbox ≠ t0.inbox) (hd2 : t3.inbox ≠ t2.inbox) :
    ∃ q r, t2.inbox = t0.inbox ++ msgText a tag1 :: q ∧ t3.inbox = t2.inbox ++ msgText a tag2 :: r := by
  obtain ⟨t1', g1, _, e1, i1, p1⟩ := od_lookup (od_sendMsg_text sv a tag1 keys1) b t0 h0
  rw [h1] at g1; cases g1
  obtain ⟨t2', g2, _, e2, i2, _⟩ := od_lookup_evs mid b hmid _ t1 h1
  rw [h2] at g2; cases g2
  obtain ⟨t3', g3, _, e3, i3, p3⟩ := od_lookup (od_sendMsg_text _ a tag2 keys2) b t2 h2
  rw [h3] at g3; cases g3
  cases e1 with
  | nil => exact absurd (by simpa using i1) hd1
  | cons m1 e1' =>
    cases e3 with
    | nil => exact absurd (by simpa using i3) hd2
    | cons m3 e3' =>
      have hm1 : m1 = msgText a tag1 := p1 m1 (List.mem_cons_self ..)
      have hm3 : m3 = msgText a tag2 := p3 m3 (List.mem_cons_self ..)
      subst hm1; subst hm3
      refine ⟨e1' ++ e2, e3', ?_, i3⟩
      rw [i2, i1]; simp

/-- **FIFO, first occurrences.**  If moreover the second text was not in `b`'s inbox before it was sent (a fresh tag), the
    first occurrence of the first Message in `b`'s final inbox precedes the first occurrence of the second. -/
theorem fifo_first_occurrences (sv : Server) (a b tag1 tag2 : Nat) (keys1 keys2 : List Bytes) (mid : List OdEv)
    (hmid : ∀ e ∈ mid, e ≠ .detach b) (t0 t1 t2 t3 : Sess)
    (h0 : sv.sess? b = some t0)
    (h1 : (runCmd sv a (.send tag1 keys1)).sess? b = some t1)
    (h2 : (odRunEvs (runCmd sv a (.send tag1 keys1)) mid).sess? b = some t2)
    (h3 : (runCmd (odRunEvs (runCmd sv a (.send tag1 keys1)) mid) a (.send tag2 keys2)).sess? b = some t3)
    (hd1 : t1.inbox ≠ t0.inbox) (hd2 : t3.inbox ≠ t2.inbox) (hfresh : msgText a tag2 ∉ t2.inbox) :
    t3.inbox.idxOf (msgText a tag1) < t3.inbox.idxOf (msgText a tag2) ∧
    t3.inbox.idxOf (msgText a tag2) < t3.inbox.length := by
  obtain ⟨q, r, e2, e3⟩ := fifo_per_pair sv a b tag1 tag2 keys1 keys2 mid hmid t0 t1 t2 t3 h0 h1 h2 h3 hd1 hd2
  have hm1 : msgText a tag1 ∈ t2.inbox := by rw [e2]; simp
  constructor
  · rw [e3]; exact idxOf_append_lt hm1 hfresh
  · apply List.idxOf_lt_length_of_mem
    rw [e3]; simp

/-! ## the broadcast fallback: a Message without keys from a session without a default route

Lemmas: `Reflector/BroadcastProofs.lean`.  `sendMsg sv sid tag []` of a session with `hasRouteKeys = false` is the
third branch of `sendMsg`, `DumbReflectSession::BroadcastToAllSessions(msg, userData, reflect-to-self)`: a fold of `deliver t.sid text`
over the session table.  `deliver` addresses a session by id, so "once each" needs the ids of the table to be pairwise distinct
(`(sv.sessions.map (·.sid)).Nodup`; with two entries of one id the fold would append to the first of them twice).  The hypothesis holds
in every reachable state: `Props/C05Reach.lean` (`broadcast_exactly_once_reach`, for `RReach`; no write of a handler touches the id
counter, `Acts.nextSid` of `Reflector/EffectSteps.lean`).  `msgText sid tag` (EffectSteps.lean) is the exact text `sendMsg`
builds (`broadcast_text` below, by `rfl`). -/

theorem broadcast_text (sid tag : Nat) : msgText sid tag = "MSG 1234 from=" ++ toString sid ++ " tag=" ++ toString tag := rfl

/-- The whole session table after a broadcast: position by position the old session, with one copy of the text appended to its inbox
    iff it is selected (another id than the sender's, or the sender has reflect-to-self), and nothing else changed. -/
theorem broadcast_session_table (sv : Server) (hnd : (sv.sessions.map (·.sid)).Nodup) (sid tag : Nat) (s : Sess)
    (hs : sv.sess? sid = some s) (hk : s.hasRouteKeys = false) :
    (sendMsg sv sid tag []).sessions =
      sv.sessions.map (fun t => if t.sid ≠ sid ∨ s.reflectSelf = true then { t with inbox := t.inbox ++ [msgText sid tag] } else t) := by
  rw [bc_sendMsg sv sid tag s hs hk, bc_sessions _ _ _ sv hnd]
  apply List.map_congr_left
  intro t _
  unfold bcStep
  by_cases h : t.sid ≠ sid ∨ s.reflectSelf = true
  · rw [if_pos h, if_pos (by simpa using h)]
  · rw [if_neg h, if_neg (by simpa using h)]

/-- **Broadcast: exactly once to every selected session, nothing to the others, nothing else touched.**
    Session ids pairwise distinct, the sender `sid` present (`s`), no default route, no keys.  Then for every session `t` of the table
    the session found under `t`'s id afterwards is `t` with its inbox replaced by `t.inbox ++ [text]` if `t` is selected
    (`t.sid ≠ sid ∨ s.reflectSelf`) and by `t.inbox` itself otherwise — every other field of the session as before; the table has the
    same ids in the same order; the node tree and every other field of the server are unchanged. -/
theorem broadcast_exactly_once (sv : Server) (hnd : (sv.sessions.map (·.sid)).Nodup) (sid tag : Nat) (s : Sess)
    (hs : sv.sess? sid = some s) (hk : s.hasRouteKeys = false) :
    (∀ t ∈ sv.sessions, ∃ t', (sendMsg sv sid tag []).sess? t.sid = some t' ∧
        t'.inbox = (if t.sid ≠ sid ∨ s.reflectSelf = true then t.inbox ++ [msgText sid tag] else t.inbox) ∧
        { t' with inbox := t.inbox } = t) ∧
    (sendMsg sv sid tag []).sessions.map (·.sid) = sv.sessions.map (·.sid) ∧
    (sendMsg sv sid tag []).root = sv.root ∧
    (sendMsg sv sid tag []).live = sv.live ∧
    (sendMsg sv sid tag []).nextSid = sv.nextSid ∧
    (sendMsg sv sid tag []).subsDirty = sv.subsDirty ∧
    (sendMsg sv sid tag []).maxItemsDefault = sv.maxItemsDefault := by
  have htab := broadcast_session_table sv hnd sid tag s hs hk
  refine ⟨?_, ?_, ?_⟩
  · intro t ht
    have hg : ∀ u : Sess, (if u.sid ≠ sid ∨ s.reflectSelf = true then { u with inbox := u.inbox ++ [msgText sid tag] } else u).sid
        = u.sid := by
      intro u; split <;> rfl
    refine ⟨(if t.sid ≠ sid ∨ s.reflectSelf = true then { t with inbox := t.inbox ++ [msgText sid tag] } else t), ?_, ?_, ?_⟩
    · unfold Server.sess?
      rw [htab, find?_map_pred _ _ (fun u => by simp only [hg]), find_of_mem (key := Sess.sid) hnd ht]
      rfl
    · by_cases h : t.sid ≠ sid ∨ s.reflectSelf = true
      · rw [if_pos h, if_pos h]
      · rw [if_neg h, if_neg h]
    · by_cases h : t.sid ≠ sid ∨ s.reflectSelf = true
      · rw [if_pos h]
      · rw [if_neg h]
  · rw [htab, List.map_map]
    apply List.map_congr_left
    intro u _
    simp only [Function.comp]
    split <;> rfl
  · rw [bc_sendMsg sv sid tag s hs hk]
    exact deliverAll_frame _ sv

/-- **The sender is excluded unless it asked for reflect-to-self**: its own inbox gets one copy of the text iff `reflectSelf`, and is
    untouched otherwise. -/
theorem broadcast_sender_excluded_unless_reflect (sv : Server) (hnd : (sv.sessions.map (·.sid)).Nodup) (sid tag : Nat) (s : Sess)
    (hs : sv.sess? sid = some s) (hk : s.hasRouteKeys = false) :
    ∃ s', (sendMsg sv sid tag []).sess? sid = some s' ∧
      s'.inbox = (if s.reflectSelf = true then s.inbox ++ [msgText sid tag] else s.inbox) ∧
      { s' with inbox := s.inbox } = s := by
  have hsid : s.sid = sid := by
    have := List.find?_some hs
    simpa using this
  obtain ⟨s', h1, h2, h3⟩ := (broadcast_exactly_once sv hnd sid tag s hs hk).1 s (mem_of_sess? hs)
  rw [hsid] at h1
  refine ⟨s', h1, ?_, h3⟩
  rw [h2]
  simp only [hsid, ne_eq, not_true_eq_false, false_or]

/-- every other session gets exactly one copy, whatever the sender's reflect-to-self setting -/
theorem broadcast_others_once (sv : Server) (hnd : (sv.sessions.map (·.sid)).Nodup) (sid tag : Nat) (s : Sess)
    (hs : sv.sess? sid = some s) (hk : s.hasRouteKeys = false) (t : Sess) (ht : t ∈ sv.sessions) (hne : t.sid ≠ sid) :
    ∃ t', (sendMsg sv sid tag []).sess? t.sid = some t' ∧ t'.inbox = t.inbox ++ [msgText sid tag] ∧
      { t' with inbox := t.inbox } = t := by
  obtain ⟨t', h1, h2, h3⟩ := (broadcast_exactly_once sv hnd sid tag s hs hk).1 t ht
  refine ⟨t', h1, ?_, h3⟩
  rw [h2, if_pos (Or.inl hne)]

/-! Non-vacuity: three sessions on two hosts.  Session 0 (no default route, no reflect-to-self) broadcasts tag 7: sessions 1 and 2 get
    one copy each, session 0 none.  After `param self` of session 0 the broadcast of tag 8 also comes back to session 0, once. -/
def exBcSv : Server := (attach (attach (attach {} 0 [104]).1 1 [104]).1 2 [105]).1
def exBcSvSelf : Server := runCmd exBcSv 0 .paramSelf

example : RReach exBcSv := .attach _ _ (.attach _ _ (.attach _ _ .init))
example : RReach exBcSvSelf := .cmd _ _ (.attach _ _ (.attach _ _ (.attach _ _ .init)))
/-- the hypotheses of `broadcast_exactly_once` hold in both states for the sender 0 -/
example : (exBcSv.sessions.map (·.sid)).Nodup ∧ (exBcSvSelf.sessions.map (·.sid)).Nodup ∧
    (exBcSv.sess? 0).map (fun s => (s.hasRouteKeys, s.reflectSelf)) = some (false, false) ∧
    (exBcSvSelf.sess? 0).map (fun s => (s.hasRouteKeys, s.reflectSelf)) = some (false, true) := by decide
example : exBcSv.sessions.map (fun t => (t.sid, t.inbox)) = [(0, []), (1, []), (2, [])] ∧
    (sendMsg exBcSv 0 7 []).sessions.map (fun t => (t.sid, t.inbox)) = [(0, []), (1, [msgText 0 7]), (2, [msgText 0 7])] ∧
    (sendMsg exBcSvSelf 0 8 []).sessions.map (fun t => (t.sid, t.inbox)) =
      [(0, [msgText 0 8]), (1, [msgText 0 8]), (2, [msgText 0 8])] ∧
    (sendMsg exBcSv 1 9 []).sessions.map (fun t => (t.sid, t.inbox)) = [(0, [msgText 1 9]), (1, []), (2, [msgText 1 9])] := by decide
example : (sendMsg exBcSv 0 7 []).root = exBcSv.root := (sendMsg_delivers exBcSv 0 7 []).notif.notifyOnly.1

/-! Non-vacuity: two sessions; session 0 broadcasts tag 7, session 1 pings, pending updates are pushed, session 0 broadcasts
    tag 8.  Both broadcasts reach session 1 (its inbox changes each time), tag 8 is fresh, and the order is as sent. -/
def exFifoSv0 : Server := (attach (attach {} 0 [104]).1 1 [104]).1
def exFifoMid : List OdEv := [.cmd 1 (.ping 3), .push]
def exFifoSv1 : Server := runCmd exFifoSv0 0 (.send 7 [])
def exFifoSv2 : Server := odRunEvs exFifoSv1 exFifoMid
def exFifoSv3 : Server := runCmd exFifoSv2 0 (.send 8 [])

example : ∀ e ∈ exFifoMid, e ≠ OdEv.detach 1 := by
  intro e he
  simp only [exFifoMid, List.mem_cons, List.not_mem_nil, or_false] at he
  rcases he with rfl | rfl <;> exact fun h => OdEv.noConfusion h
example : (exFifoSv0.sess? 1).map (·.inbox) = some [] ∧
    (exFifoSv1.sess? 1).map (·.inbox) = some [msgText 0 7] ∧
    (exFifoSv2.sess? 1).map (·.inbox) = some [msgText 0 7, "PONG 3"] ∧
    (exFifoSv3.sess? 1).map (·.inbox) = some [msgText 0 7, "PONG 3", msgText 0 8] := by decide
example : msgText 0 8 ∉ [msgText 0 7, "PONG 3"] := by decide

end Muscle.Props.C05
