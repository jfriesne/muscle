import MuscleModel.Conc.ProofsRWTable

/-!
# C18 — The reader/writer mutex excludes correctly and never strands a compliant thread

The invariants and their proofs are in `MuscleModel/Conc/ProofsRW*.lean`.  Every theorem quantifies over **all**
thread programs (any number of threads, any finite sequences of lock-read / lock-write / try / timed / unlock,
including recursion and read→write upgrade), **both** writer-preference settings and **every** schedule of thread
steps and time-out events: `Reachable prefW progs c` = "`c` is reachable from the initial configuration by some
sequence of enabled events".  The model has no clock: a time-out is an event that may fire whenever a timed wait has
nothing pending; "by its deadline" is rendered as "after the time-out event, no further blocking step".
-/

namespace Muscle.Props.C18
open Muscle.Conc Muscle.Conc.RW

/-- reachable from the initial configuration of `progs` (thread `i` runs `progs[i]`) under some schedule -/
def Reachable (prefW : Bool) (progs : List (List Op)) (c : Cfg) : Prop := machine.Reach (Cfg.init prefW progs) c

/-- every result of running a schedule (SKIP rule) and then the TAIL rule — what `mdriver rw` prints — is reachable -/
theorem driver_runs_are_reachable (prefW : Bool) (progs : List (List Op)) (evs : List Ev) (n fuel : Nat) :
    Reachable prefW progs (machine.runTail n fuel (machine.runSched (Cfg.init prefW progs) evs).1).1 :=
  machine.reach_driver _ evs n fuel

/-- **Exclusion.**  At no instant does a thread hold the lock for writing while any other thread holds it in any
mode: a thread with a write count is the only entry of the executing-threads table, and every thread that holds
anything is in that table. -/
theorem exclusion {prefW progs c} (h : Reachable prefW progs c) (t u : Tid)
    (hw : c.mx.rw t > 0) (hu : c.mx.ro u + c.mx.rw u > 0) : u = t ∧ c.mx.exec = [t] := by
  have hi := (reach_inv h).mx
  have he := hi.excl t hw
  have := (hi.mem u).2 hu
  rw [he] at this
  exact ⟨by simpa using this, he⟩

/-- non-vacuity of `exclusion`, and readers do share the lock: a reachable configuration in which two threads hold read locks at
once (a witness for two; nothing here speaks of `n` readers) -/
theorem readers_share : ∃ c, Reachable true [[.lockR .block], [.lockR .block]] c ∧ c.mx.ro 0 = 1 ∧ c.mx.ro 1 = 1 ∧ c.mx.exec = [0, 1] :=
  machine.witness [.run 0, .run 1] (by decide)

example : ∃ c, Reachable true [[.lockW .block]] c ∧ c.mx.rw 0 > 0 :=
  machine.witness [.run 0] (by decide)

/-- `_totalReadWriteRecurseCount` is the sum of the write counts of the executing-threads table -/
theorem total_is_sum {prefW progs c} (h : Reachable prefW progs c) : c.mx.total = sumRw c.mx :=
  (reach_inv h).mx.total_eq_sum

/-- the table is a set of threads, each with a non-zero count, and threads outside it hold nothing -/
theorem table_consistent {prefW progs c} (h : Reachable prefW progs c) :
    c.mx.exec.Nodup ∧ ∀ t, t ∈ c.mx.exec ↔ c.mx.ro t + c.mx.rw t > 0 :=
  have hi := (reach_inv h).mx
  ⟨hi.nodup, hi.mem⟩

/-- **Each release undoes exactly one acquire; recursion and upgrade keep exact counts.**  In every reachable
configuration, for every thread that is not inside the upgrade path of `LockReadWriteAux` — in particular between calls
and when finished — the table counts are exactly (successful read acquisitions − successful read releases, successful
write acquisitions − successful write releases).  (Inside the upgrade path the counts are the intermediate ones of its
drop / lock / re-take stages: `CountsOk` in `Conc/ProofsRWCounts.lean`.) -/
theorem counts_exact {prefW progs c} (h : Reachable prefW progs c) (t : Tid) (hctx : (c.th t).ctx = []) :
    c.mx.ro t = (c.th t).hr ∧ c.mx.rw t = (c.th t).hw :=
  (reach_inv h).count.counts_plain t hctx

/-- non-vacuity of `counts_exact` through recursion and a completed upgrade: thread 0 did R, R, W (upgrade: drops two read
locks, takes the write lock, re-takes two read locks) and now holds 2 read + 1 write, outside the upgrade path -/
example : ∃ c, Reachable true [[.lockR .block, .lockR .block, .lockW .block], [.lockR .block, .unlockR]] c ∧
    (c.th 0).ctx = [] ∧ (c.th 0).pc = .done ∧ c.mx.ro 0 = 2 ∧ c.mx.rw 0 = 1 ∧ (c.th 0).hr = 2 ∧ (c.th 0).hw = 1 :=
  machine.witness [.run 0, .run 0, .run 1, .run 0, .run 0, .run 0, .run 1, .run 0, .run 0, .run 0, .run 0] (by decide)

/-- the per-critical-section form of exact counting, for every reachable state: a successful unlock takes exactly one
lock of its mode from the caller (and one off the total for a write lock) and touches nobody else's counts; a failed
`UnlockReadOnly()` changes nothing (for `UnlockReadWrite()` that is `unlockW_failed`, not repeated here); an acquisition that
succeeds at once adds exactly one -/
theorem counts_per_section {prefW progs c} (h : Reachable prefW progs c) (t : Tid) :
    ((unlockR c.mx t).2 = .ok → c.mx.ro t > 0 ∧ (unlockR c.mx t).1.ro t = c.mx.ro t - 1 ∧ (unlockR c.mx t).1.rw = c.mx.rw ∧
        (unlockR c.mx t).1.total = c.mx.total ∧ ∀ u, u ≠ t → (unlockR c.mx t).1.ro u = c.mx.ro u) ∧
    ((unlockR c.mx t).2 ≠ .ok → (unlockR c.mx t).1 = c.mx) ∧
    ((unlockW c.mx t).2 = .ok → c.mx.rw t > 0 ∧ (unlockW c.mx t).1.rw t = c.mx.rw t - 1 ∧ (unlockW c.mx t).1.ro = c.mx.ro ∧
        (unlockW c.mx t).1.total = c.mx.total - 1 ∧ ∀ u, u ≠ t → (unlockW c.mx t).1.rw u = c.mx.rw u) ∧
    (∀ m, (lockRStart c.mx t m).2 = .done .ok → (lockRStart c.mx t m).1.ro t = c.mx.ro t + 1 ∧ (lockRStart c.mx t m).1.rw = c.mx.rw ∧
        (lockRStart c.mx t m).1.total = c.mx.total ∧ ∀ u, u ≠ t → (lockRStart c.mx t m).1.ro u = c.mx.ro u) ∧
    (∀ m, (lockWStart c.mx t m).2 = .done .ok → (lockWStart c.mx t m).1.rw t = c.mx.rw t + 1 ∧ (lockWStart c.mx t m).1.ro = c.mx.ro ∧
        (lockWStart c.mx t m).1.total = c.mx.total + 1 ∧ ∀ u, u ≠ t → (lockWStart c.mx t m).1.rw u = c.mx.rw u) :=
 by
  have hi := (reach_inv h).mx
  refine ⟨fun hok => ?_, unlockR_failed, fun hok => ?_, fun m hok => ?_, fun m hok => ?_⟩
  · have := (unlockR_counted c.mx t).ok (congrArg _ hok)
    simp [Op.counts] at this
    simp +contextual [this, ((unlockR_ok_iff _ _).1 hok).2]
  · have := (unlockW_counted c.mx t).ok (congrArg _ hok)
    simp [Op.counts] at this
    simp +contextual [this, ((unlockW_ok_iff _ _).1 hok).2]
  · have := (lockRStart_counted hi t m).ok hok
    simp [Op.counts] at this
    simp +contextual [this]
  · have := (lockWStart_counted hi t m).ok hok
    simp [Op.counts] at this
    simp +contextual [this]

/-- **Failed try leaves the lock state unchanged**: a `TryLockReadOnly()` / `TryLockReadWrite()` that returns
`B_TIMED_OUT` — from any state, including the read→write upgrade situation — changes nothing at all in the shared state. -/
theorem try_unchanged {c c' : Cfg} {t : Tid} (hpc : (c.th t).pc = .rStart .try_ ∨ (c.th t).pc = .wStart .try_)
    (hctx : (c.th t).ctx = []) (h : machine.step c (.run t) = some (c', some .timedOut)) : c'.mx = c.mx := by
  obtain ⟨c'', st, h', hs⟩ := try_step hpc hctx
  cases h'.symm.trans h
  exact hs (by decide)

/-- a try acquisition is a single step: it never waits — including `TryLockReadWrite()` issued by a read-lock holder
(read→write upgrade), which fails before any read lock is dropped (the code as of /repo commit d881489) -/
theorem try_returns_at_once {c : Cfg} {t : Tid} (hpc : (c.th t).pc = .rStart .try_ ∨ (c.th t).pc = .wStart .try_)
    (hctx : (c.th t).ctx = []) : ∃ c' st, machine.step c (.run t) = some (c', some st) :=
  let ⟨c', st, h, _⟩ := try_step hpc hctx
  ⟨c', st, h⟩

/-- the fixed half of finding F13, as a positive statement: a `TryLockReadWrite()` by a thread that holds the lock
read-only while other readers execute (the upgrade situation) is ONE non-blocking step that returns `B_TIMED_OUT` and
leaves the whole shared state — in particular the caller's read locks — untouched -/
theorem try_upgrade_never_blocks {c : Cfg} {t : Tid} (hpc : (c.th t).pc = .wStart .try_) (hctx : (c.th t).ctx = [])
    (hin : t ∈ c.mx.exec) (hrw : c.mx.rw t = 0) (hothers : c.mx.exec.length ≠ 1) :
    ∃ c', machine.step c (.run t) = some (c', some .timedOut) ∧ c'.mx = c.mx := by
  have hres : lockWStart c.mx t .try_ = (c.mx, .done .timedOut) := by simp [lockWStart, hin, hrw, hothers]
  refine ⟨(applyRes c t c.mx (.done .timedOut) (.wWait .try_) .try_).1, ?_, by simp⟩
  show stepRun c t = _
  unfold stepRun
  simp only [hpc, hres]
  exact congrArg some (applyRes_done_eq _ _ _ _ _ _ hctx)

/-- non-vacuity: the upgrade situation is reachable (thread 0 and thread 1 both hold read locks, thread 0 is about to try) -/
example : ∃ c, Reachable true [[.lockR .block, .lockW .try_], [.lockR .block]] c ∧ (c.th 0).pc = .wStart .try_ ∧
    (c.th 0).ctx = [] ∧ 0 ∈ c.mx.exec ∧ c.mx.rw 0 = 0 ∧ c.mx.exec.length ≠ 1 :=
  machine.witness [.run 0, .run 1] (by decide)

/-- **Failed timed acquisition leaves the lock state unchanged**: the step that returns `B_TIMED_OUT` from a timed wait
removes exactly the caller's waiting entry (added when the call started to wait) and touches no count. -/
theorem timed_fail_unchanged {c c' : Cfg} {t : Tid} {o : Option St} {m : Mode}
    (hpc : (c.th t).pc = .rWoke m false ∨ (c.th t).pc = .wWoke m false) (h : machine.step c (.run t) = some (c', o)) :
    c'.mx.exec = c.mx.exec ∧ c'.mx.ro = c.mx.ro ∧ c'.mx.rw = c.mx.rw ∧ c'.mx.total = c.mx.total ∧
    ((c.th t).pc = .rWoke m false → c'.mx.waitR = c.mx.waitR.erase t ∧ c'.mx.waitW = c.mx.waitW) ∧
    ((c.th t).pc = .wWoke m false → c'.mx.waitW = c.mx.waitW.erase t ∧ c'.mx.waitR = c.mx.waitR) := by
  rw [show c' = (c', o).1 from rfl, stepRun_eq h]
  rcases hpc with hpc | hpc <;> simp only [hpc, applyRes_mx]
  · obtain ⟨_, _, _, e⟩ | ⟨⟨hb, _⟩, _⟩ | ⟨⟨hb, _⟩, _⟩ := lockRWoke_cases c.mx t false <;> simp_all
  · obtain ⟨_, _, _, e⟩ | ⟨⟨hb, _⟩, _⟩ | ⟨⟨hb, _⟩, _⟩ := lockWWoke_cases c.mx t false <;> simp_all

/-- a thread between calls (or finished) is in neither waiting table, and a waiting thread is not executing -/
theorem waiting_tables_exact {prefW progs c} (h : Reachable prefW progs c) (t : Tid) :
    (t ∈ c.mx.waitR ↔ ∃ m, (c.th t).pc = .rWait m ∨ ∃ b, (c.th t).pc = .rWoke m b) ∧
    (t ∈ c.mx.waitW ↔ ∃ m, (c.th t).pc = .wWait m ∨ ∃ b, (c.th t).pc = .wWoke m b) ∧
    ((t ∈ c.mx.waitR ∨ t ∈ c.mx.waitW) → t ∉ c.mx.exec) :=
  (reach_inv h).ctl.waiting t

/-- **No lost wake-up.**  In every reachable configuration in which nobody executes, the threads that the hand-off rule
favours are *signalled* — they have a pending notification or are between wake-up and re-check: the first waiting
writer (if writers are preferred or no reader waits), respectively every waiting reader (if readers are preferred or no
writer waits). -/
theorem no_lost_wakeup {prefW progs c} (h : Reachable prefW progs c) (he : c.mx.exec = []) :
    (∀ w rest, c.mx.waitW = w :: rest → (c.mx.prefW = true ∨ c.mx.waitR = []) → Signalled c w) ∧
    (∀ r, r ∈ c.mx.waitR → (c.mx.prefW = false ∨ c.mx.waitW = []) → Signalled c r) :=
  have hl := (reach_inv h).live.wake he
  ⟨fun w _ hw hc => hl w (.firstWriter hw hc), fun r hr hc => hl r (.reader hr hc)⟩

/-- the hand-off step behind `no_lost_wakeup`, for every state: after `NotifySomeWaitingThreads()` the favoured waiters
have a pending notification -/
theorem handoff_notifies (s : Mx) :
    (∀ w rest, s.waitW = w :: rest → (s.prefW = true ∨ s.waitR = []) → (notifySome s).pend w > 0) ∧
    (∀ r, r ∈ s.waitR → (s.prefW = false ∨ s.waitW = []) → (notifySome s).pend r > 0) :=
  ⟨fun w _ hw hc => notifySome_wakes s w (.firstWriter hw hc), fun r hr hc => notifySome_wakes s r (.reader hr hc)⟩

/-- **No deadlock among threads that use only this lock.**  In every reachable configuration in which some thread is
unfinished and no finished thread still holds the lock ("every holder eventually releases"), some event is enabled. -/
theorem deadlock_free {prefW progs c} (h : Reachable prefW progs c) (t : Tid) (hunf : (c.th t).pc ≠ .done)
    (hcompliant : ∀ u, (c.th u).pc = .done → c.mx.ro u + c.mx.rw u = 0) :
    ∃ e c' o, machine.step c e = some (c', o) :=
  have hi := reach_inv h
  no_deadlock hi.mx hi.ctl hi.live t hunf hcompliant

/-- non-vacuity of the compliance hypothesis: a thread that finishes while holding does strand a writer -/
example : ∃ c, Reachable true [[.lockR .block], [.lockW .block]] c ∧ (c.th 1).pc = .wWait .block ∧ c.mx.pend 1 = 0 ∧ (c.th 0).pc = .done :=
  machine.witness [.run 0, .run 1] (by decide)

/-- **Writer preference.**  With `preferWriters`, a thread that is not already executing is admitted as a reader only
in a state where no writer is waiting: readers arriving after a waiting writer cannot overtake it. -/
theorem writer_pref {c c' : Cfg} {t : Tid} {o : Option St} (hp : c.mx.prefW = true) (ht : t ∉ c.mx.exec)
    (h : machine.step c (.run t) = some (c', o)) (hin : t ∈ c'.mx.exec) (hr : c'.mx.rw t = 0) : c.mx.waitW = [] := by
  simpa [hp] using ((okReaders_iff _).1 (reader_admitted (x := (c', o)) ht h hin hr)).2

/-- non-vacuity of `writer_pref`: without writer preference the late reader does overtake -/
example : ∃ c, Reachable false [[.lockR .block], [.lockW .block], [.lockR .block]] c ∧ c.mx.waitW = [1] ∧ c.mx.exec = [0, 2] :=
  machine.witness [.run 0, .run 1, .run 2] (by decide)

/-- **Timed acquisitions return by their deadline** (plain acquisitions): the time-out event moves a timed wait to the
wake-up point, and the thread's next step is enabled unconditionally and returns `B_TIMED_OUT`. -/
theorem timed_returns {c c1 : Cfg} {t : Tid} {o : Option St} (hctx : (c.th t).ctx = [])
    (h : machine.step c (.timeout t) = some (c1, o)) :
    ∃ c2, machine.step c1 (.run t) = some (c2, some .timedOut) := by
  obtain ⟨_, _, _, hcase⟩ := stepTimeout_spec h
  show ∃ c2, stepRun c1 t = some (c2, some .timedOut)
  unfold stepRun
  rcases hcase with ⟨_, hth⟩ | ⟨_, hth⟩ <;>
    exact ⟨_, by
      simp only [hth, upd_same, lockRWoke_timeout, lockWWoke_timeout]
      exact congrArg some (applyRes_done_eq _ _ _ _ _ _ (by simpa [hth] using hctx))⟩

/-! ### Which try/timed calls are bounded, and which one is not (finding F13, timed variant — open)

The model has no clock, so "returns by its deadline" is rendered as: *the calling thread never depends on another thread
to get out of the call* — in every reachable configuration it has an enabled event of its own (a step, or the time-out of
its timed wait), and after the time-out event a plain call returns in its next step (`timed_returns`).  The three
theorems below say exactly which calls have this property and that the single exception is real. -/

/-- **Bounded calls.**  In every reachable configuration, a thread inside `TryLockReadOnly/ReadWrite()` or a timed
`LockReadOnly/ReadWrite()` — including a timed read→write upgrade while it drops its read locks, while it waits for the
write lock, and while it re-takes its read locks after the upgrade was GRANTED — has an enabled event of its own, unless
it is in the re-take stage of an upgrade whose write-lock attempt FAILED. -/
theorem try_timed_calls_bounded {prefW progs c} (h : Reachable prefW progs c) (t : Tid) (hunf : (c.th t).pc ≠ .done)
    (hcall : NonBlockingCall (c.th t)) (hnot : ¬ InFailedRetake (c.th t)) :
    (∃ c' o, machine.step c (.run t) = some (c', o)) ∨ (∃ c' o, machine.step c (.timeout t) = some (c', o)) :=
  have hi := reach_inv h
  nonblocking_call_proceeds hi.mx hi.ctl hi.count hi.mode hunf hcall hnot

/-- **The only unbounded call.**  If, in a reachable configuration, a thread inside a try/timed acquisition has NO enabled
event of its own, then the call is a *timed* `LockReadWrite()` issued as a read→write upgrade, its write-lock attempt
failed (`ret ≠ ok`), and the thread is parked with nothing pending in the UNTIMED `Wait()` of the `LockReadOnly()` that
re-takes its read locks (`LockReadWriteAux`, the loop after `lrwRet`). -/
theorem only_failed_timed_upgrade_is_unbounded {prefW progs c} (h : Reachable prefW progs c) (t : Tid)
    (hunf : (c.th t).pc ≠ .done) (hcall : NonBlockingCall (c.th t))
    (hstuck : machine.step c (.run t) = none ∧ machine.step c (.timeout t) = none) :
    ∃ u k ret, (c.th t).ctx = [u] ∧ u.stage = .retake k ret ∧ ret ≠ .ok ∧ u.m = .timed ∧
      (c.th t).cur = .lockW .timed ∧ (c.th t).pc = .rWait .block ∧ c.mx.pend t = 0 :=
  have hi := reach_inv h
  stuck_call_is_failed_timed_upgrade hi.mx hi.ctl hi.count hi.mode hunf hcall hstuck

/-- Finding **F13** (open, TIMED variant): the exception is real.  Witness schedule `0 1 0 0 2 0 T0 0 0` for the programs
`R q u | R u | W v` (op letters of `harness/rw.cpp`: `R`/`W` untimed `LockReadOnly()`/`LockReadWrite()`, `q` timed
`LockReadWrite()`, `u`/`v` `UnlockReadOnly()`/`UnlockReadWrite()`; `T0` = time-out event of thread 0) with writer preference: thread 0 (a reader) asks for a timed upgrade while reader 1 executes, drops
its read lock, queues behind writer 2, its time-out fires, `LockReadWriteAux` returns `B_TIMED_OUT` internally, and the
untimed `LockReadOnly()` that must restore the read lock parks behind the waiting writer: thread 0 is inside a timed call,
its time-out is spent (`retake 1 timedOut`), and it has NO enabled event — when it returns depends only on how long
threads 1 and 2 keep the lock.  Reproduced on the real code by `corpus/C18/rw-known-F13.ops`.  A repair has to keep the
read locks while waiting for the upgrade (a different upgrade protocol); see entry F13 of `known_findings.json`. -/
theorem f13_timed_upgrade_blocks :
    ∃ c, Reachable true [[.lockR .block, .lockW .timed, .unlockR], [.lockR .block, .unlockR], [.lockW .block, .unlockW]] c ∧
      (c.th 0).cur = .lockW .timed ∧ (c.th 0).pc = .rWait .block ∧ c.mx.pend 0 = 0 ∧
      (c.th 0).ctx = [{ n := 1, m := .timed, stage := .retake 1 .timedOut }] ∧
      (machine.step c (.run 0)).isNone = true ∧ (machine.step c (.timeout 0)).isNone = true ∧
      c.mx.ro 0 = 0 ∧ (c.th 0).hr = 1 :=
  machine.witness [.run 0, .run 1, .run 0, .run 0, .run 2, .run 0, .timeout 0, .run 0, .run 0] (by decide)

/-- non-vacuity of `try_timed_calls_bounded` inside an upgrade: the same programs, stopped before the time-out fires (three events earlier) — thread 0 waits (timed)
for the write lock inside its upgrade, nothing pending: its time-out is enabled -/
example : ∃ c, Reachable true [[.lockR .block, .lockW .timed, .unlockR], [.lockR .block, .unlockR], [.lockW .block, .unlockW]] c ∧
    (c.th 0).pc = .wWait .timed ∧ (c.th 0).ctx = [{ n := 1, m := .timed, stage := .lock }] ∧
    (machine.step c (.timeout 0)).isSome = true :=
  machine.witness [.run 0, .run 1, .run 0, .run 0, .run 2, .run 0] (by decide)

end Muscle.Props.C18
