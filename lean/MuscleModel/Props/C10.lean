import MuscleModel.Conc.ProofsRCInv

/-!
# C10 — Reference-counted and pooled objects are released exactly once, never early

The lemmas are in `MuscleModel/Conc/ProofsRC*.lean` and `ProofsPool*.lean`.  Every theorem quantifies over **all** thread
programs (any number of threads, any finite sequences of new-heap / obtain-from-pool / copy / `SetRef` / `Reset` /
swap / hand-off / payload write / const-cast round trip / setting, clearing and following an object's own `next`
reference (linked lists, with the cascading release of a chain) / non-counting `Ref`s made, promoted, demoted and
neutralized), **all** pool parameters (`N` = objects per slab ≥ 1,
`maxPool`), any numbers `L`, `G` of private and global slots, and **every** schedule: `Reachable … c` = "`c` is
reachable from the initial configuration by some sequence of enabled events", where one event is one atomic step of
one thread (one `AtomicCounter` operation, one critical section of the pool's `_mutex`, one plain local action).
The model is sequentially consistent; `std::atomic` and `std::recursive_mutex` are in the trusted base.
-/

namespace Muscle.Props.C10
open Muscle.Conc Muscle.Conc.Pool Muscle.Conc.RC

/-- reachable from the initial configuration of `progs` (thread `i` runs `progs[i]`) under some schedule -/
def Reachable (N maxPool L G : Nat) (progs : List (List Op)) (c : Cfg) : Prop := machine.Reach (Cfg.init N maxPool L G progs) c

/-- every result of running a schedule (SKIP rule) and then the TAIL rule — what `mdriver rc` prints — is reachable -/
theorem driver_runs_are_reachable (N maxPool L G : Nat) (progs : List (List Op)) (evs : List Ev) (n fuel : Nat) :
    Reachable N maxPool L G progs (machine.runTail n fuel (machine.runSched (Cfg.init N maxPool L G progs) evs).1).1 :=
  machine.reach_driver _ evs n fuel

/-- **The count is the number of references.**  In every reachable configuration the reference count of every object
equals the number of reference-counting `Ref`s that point to it: private slots of all threads + global slots +
references whose decrement is still pending + `next` members of other objects (`refs`; by `links_are_between_live_objects`
the holders of those `next` members are exactly alive objects).  Non-counting `Ref`s do not count. -/
theorem count_is_refs {N maxPool L G progs c} (hN : 0 < N) (h : Reachable N maxPool L G progs c) (o : Oid) :
    (c.obj o).count = refs c o :=
  (reach_inv hN h).cnt o

/-- **Never early.**  While any reference to an object exists — in a slot of any thread, in a global slot, as a
pending decrement, or in the `next` member of another object — the object is alive (neither destroyed nor reset/returned to its pool). -/
theorem never_early {N maxPool L G progs c} (hN : 0 < N) (h : Reachable N maxPool L G progs c) (o : Oid)
    (hheld : 0 < refs c o) : (c.obj o).alive = true :=
  (reach_inv hN h).alive o hheld

/-- `never_early`, spelled out for a reference-counting `Ref` slot of a thread -/
theorem never_early_slot {N maxPool L G progs c} (hN : 0 < N) (h : Reachable N maxPool L G progs c) (t : Tid) (th : Th) (a : Nat)
    (o : Oid) (ht : c.ths[t]? = some th) (hs : slotOf th a = some (o, true)) : (c.obj o).alive = true ∧ 0 < (c.obj o).count :=
  (reach_inv hN h).slot_alive ht hs

/-- `never_early` for the reference an object holds itself: every `next` member belongs to an alive object and
references an alive object (so "count = slots + globals + pending decrements + `next` members of ALIVE objects"), and
an object holds at most one. -/
theorem links_are_between_live_objects {N maxPool L G progs c} (hN : 0 < N) (h : Reachable N maxPool L G progs c) :
    (∀ x n, (x, n) ∈ c.links → (c.obj x).alive = true ∧ (c.obj n).alive = true ∧ 0 < (c.obj n).count) ∧
    (c.links.map (·.1)).Nodup := by
  have hi := reach_inv hN h
  refine ⟨fun x n hm => ?_, hi.linksND⟩
  have hp : 0 < refs c n := by have := cntL_pos hm; have := cntL_le_refs c n; omega
  exact ⟨hi.linkAlive x n hm, hi.alive n hp, by rw [hi.cnt n]; exact hp⟩

/-- a released object references nothing any more (its `next` member was given up when it was reset / destroyed) -/
theorem released_holds_nothing {N maxPool L G progs c} (hN : 0 < N) (h : Reachable N maxPool L G progs c) (x : Oid)
    (hd : (c.obj x).alive = false) : nextOf c.links x = none := by
  cases hn : nextOf c.links x with
  | none => rfl
  | some n => have := (reach_inv hN h).linkAlive x n (nextOf_mem hn); rw [hd] at this; cases this

/-- **Released exactly once.**  For every object, releases (destructions / returns to the pool) never outnumber
hand-outs, an object that is alive has exactly one release outstanding, a heap object is released at most once ever,
and once it has been released (not alive) nobody holds a reference to it and its count is 0. -/
theorem released_once {N maxPool L G progs c} (hN : 0 < N) (h : Reachable N maxPool L G progs c) (o : Oid) :
    (c.obj o).acq = (c.obj o).rel + (if (c.obj o).alive then 1 else 0) ∧
    (∀ k, o = .heap k → (c.obj o).rel ≤ 1) ∧
    ((c.obj o).alive = false → refs c o = 0 ∧ (c.obj o).count = 0) := by
  have hi := reach_inv hN h
  refine ⟨by have := hi.acq o; simpa [b2n] using this, ?_, ?_⟩
  · intro k hk; subst hk
    have h1 := hi.acq (.heap k); have h2 := hi.heapAcq k; omega
  · intro hd
    have hc := hi.count_zero_of_dead hd
    exact ⟨by rw [← hi.cnt o]; exact hc, hc⟩

/-- **Pool bookkeeping is consistent.**  Every listed slab has `N` nodes; its free list (the `_nextIndex` chain from
`_firstFreeNodeIndex`) is acyclic (a duplicate-free list) and consists of exactly the nodes that are not handed out;
free-list length + `_numNodesInUse` = `N`; `_numNodesInUse` is the number of handed-out nodes; slab identities are
distinct; `_curPoolSize` is the number of free nodes of the listed slabs. -/
theorem pool_inv {N maxPool L G progs c} (hN : 0 < N) (h : Reachable N maxPool L G progs c) :
    (∀ s ∈ c.pool.slabs, s.nodes.length = c.pool.N ∧ s.inUse = outCount s.nodes ∧
        ∃ fl : List Nat, Chain s.nodes s.first fl ∧ fl.Nodup ∧ (∀ i, i ∈ fl ↔ ∃ nd, s.nodes[i]? = some nd ∧ nd.out = false) ∧
          fl.length + s.inUse = c.pool.N) ∧
    (c.pool.slabs.map (·.id)).Nodup ∧ c.pool.cur = freeCount c.pool.N c.pool.slabs := by
  have hp := (reach_inv hN h).pool
  exact ⟨fun s hs => ⟨(hp.slabs s hs).len, (hp.slabs s hs).cnt, (hp.slabs s hs).fl⟩, hp.ids, hp.cur⟩

/-- the ghost bit of the pool agrees with the objects: a pool node is alive or awaits its `ReleaseObjectAux` (exactly one
of the two, never twice) iff it is marked handed-out in a listed slab -/
theorem pool_matches_objects {N maxPool L G progs c} (hN : 0 < N) (h : Reachable N maxPool L G progs c) (s i : Nat) :
    b2n (c.obj (.node s i)).alive + pendRel c (.node s i) = b2n (outBit c.pool s i) :=
  (reach_inv hN h).handedOut (.node s i)

/-- **One owner at a time.**  `ObtainObjectAux` never returns a node that is in use: the node it is about to hand out is
free in its slab, not alive, referenced by nobody, not awaiting release — and an object that has just been handed out
(the raw pointer of thread `t`) is alive, has count 0, and is nobody else's raw pointer. -/
theorem one_owner {N maxPool L G progs c} (hN : 0 < N) (h : Reachable N maxPool L G progs c) :
    (let g := (obtain c.pool).2
     outBit c.pool g.sid g.idx = false ∧ (c.obj (.node g.sid g.idx)).alive = false ∧ refs c (.node g.sid g.idx) = 0 ∧
       pendRel c (.node g.sid g.idx) = 0) ∧
    (∀ (t : Tid) (th : Th) (o : Oid), c.ths[t]? = some th → th.raw = some o → (c.obj o).alive = true ∧ refs c o = 0 ∧
       ∀ (u : Tid) (tu : Th), c.ths[u]? = some tu → tu.raw = some o → u = t) := by
  have hi := reach_inv hN h
  constructor
  · have hb := (obtain_spec hi.pool).wasFree
    have ⟨hd, hp⟩ := hi.dead_of_outBit_false hb
    exact ⟨hb, hd, by rw [← hi.cnt]; exact hi.count_zero_of_dead hd, hp⟩
  · intro t th o ht hr
    have ⟨ha, hc⟩ := hi.rawAlive ht hr
    exact ⟨ha, by rw [← hi.cnt]; exact hc, fun u tu hu hru => hi.rawUnique hu ht hru hr⟩

/-- **Fresh state.**  A pool node that is not handed out is in the default state (payload 0, no manager, count 0) — in
particular the node `ObtainObjectAux` hands out next is indistinguishable from a freshly constructed object. -/
theorem fresh_state {N maxPool L G progs c} (hN : 0 < N) (h : Reachable N maxPool L G progs c) :
    (∀ s i, (c.obj (.node s i)).alive = false → (c.obj (.node s i)).val = 0 ∧ (c.obj (.node s i)).mgr = false ∧ (c.obj (.node s i)).count = 0) ∧
    (let g := (obtain c.pool).2
     (c.obj (.node g.sid g.idx)).val = 0 ∧ (c.obj (.node g.sid g.idx)).mgr = false ∧ (c.obj (.node g.sid g.idx)).count = 0) := by
  have hi := reach_inv hN h
  have h1 : ∀ s i, (c.obj (.node s i)).alive = false → (c.obj (.node s i)).val = 0 ∧ (c.obj (.node s i)).mgr = false ∧ (c.obj (.node s i)).count = 0 :=
    fun s i hd => ⟨(hi.deadNode_default s i hd).1, (hi.deadNode_default s i hd).2, hi.count_zero_of_dead hd⟩
  exact ⟨h1, h1 _ _ (hi.dead_of_outBit_false (obtain_spec hi.pool).wasFree).1⟩

/-- **Slab deletion is safe.**  A slab that a thread is about to `delete` (outside the lock) has no node in use, is not
on the slab list (and never will be again), and none of its objects is alive or referenced by anybody. -/
theorem slab_delete_safe {N maxPool L G progs c} (hN : 0 < N) (h : Reachable N maxPool L G progs c) (t : Tid) (th : Th) (s : Slab)
    (ht : c.ths[t]? = some th) (hs : Act.delSlab s ∈ th.todo) :
    s.inUse = 0 ∧ (∀ x ∈ c.pool.slabs, x.id ≠ s.id) ∧ s.id < c.pool.nextSlab ∧
    ∀ i, (c.obj (.node s.id i)).alive = false ∧ refs c (.node s.id i) = 0 := by
  have hi := reach_inv hN h
  have ⟨h1, hu⟩ := hi.delSlab ht hs
  refine ⟨h1, hu.absent, hu.old, ?_⟩
  intro i
  have hb := hu.outBit_false i
  have hd := (hi.dead_of_outBit_false hb).1
  exact ⟨hd, by rw [← hi.cnt]; exact hi.count_zero_of_dead hd⟩

/-- heap objects never enter the pool: they carry no manager and no release into the pool is ever pending for them -/
theorem heap_never_pooled {N maxPool L G progs c} (hN : 0 < N) (h : Reachable N maxPool L G progs c) (k : Nat) :
    (c.obj (.heap k)).mgr = false ∧ pendRel c (.heap k) = 0 := by
  have hi := reach_inv hN h
  have := hi.handedOut (.heap k)
  exact ⟨hi.heapMgr k, by simpa [aliveN, outBitO] using this⟩

/-- **Assigning a `Ref` from a reference held inside the object it points to** (`a = a->next`, /repo commit 3dba531).
At the step that increments the successor's count, the successor `n` is alive (the old head `o`, still referenced by
slot `a`, holds it); after the step `n` is alive with one more reference, slot `a` counts `n`, and the release of the
old head is queued *behind* the increment.  So the object formerly in `a->next` is alive after `a := a->next` iff it was
before — and by `never_early_slot` it stays alive as long as slot `a` holds it. -/
theorem assign_from_owned_ref_safe {N maxPool L G progs c} (hN : 0 < N) (h : Reachable N maxPool L G progs c) (t : Tid) (th : Th)
    (a : Nat) (o n : Oid) (more : List Act) (ht : c.ths[t]? = some th) (htodo : th.todo = .incPop a :: more)
    (hsa : slotOf th a = some (o, true)) (hn : nextOf c.links o = some n) :
    (c.obj n).alive = true ∧
    ∃ c', machine.step c (.run t) = some (c', []) ∧ (c'.obj n).alive = true ∧ (c'.obj n).count = (c.obj n).count + 1 ∧
      c'.ths[t]? = some { th with slots := th.slots.set a (some (n, true)), todo := .dec o :: more } := by
  have hal := (links_are_between_live_objects hN h).1 o n (nextOf_mem hn)
  have htl : t < c.ths.length := by rcases List.getElem?_eq_some_iff.mp ht with ⟨hl, _⟩; exact hl
  refine ⟨hal.2.1, { c with obj := bump c n, ths := c.ths.set t { th with slots := th.slots.set a (some (n, true)), todo := .dec o :: more } },
    by simp [machine, step, ht, htodo, doAct, hsa, hn], ?_, ?_, ?_⟩
  · simp [bump, hal.2.1]
  · simp [bump]
  · simp [htl]

/-- the configuration a schedule of `run` events leads to, with 3 private and 2 global slots -/
def run (N maxPool : Nat) (progs : List (List Op)) (evs : List Nat) : Cfg :=
  (machine.runSched (Cfg.init N maxPool 3 2 progs) (evs.map Ev.run)).1

theorem run_reach (N maxPool : Nat) (progs : List (List Op)) (evs : List Nat) : Reachable N maxPool 3 2 progs (run N maxPool progs evs) :=
  machine.reach_runSched Machine.Reach.init _

/-! In the examples `.node 0 1` is the first object the pool hands out when `N = 2`: the free list of a fresh slab is
`N-1 → … → 0`. -/

/-- two threads share one pooled object (count 2, alive), handed over through a global slot -/
example : ∃ c, Reachable 2 0 3 2 [[.newPool 0, .copy 1 0, .xchg 1 0], [.xchg 0 0]] c ∧
    (c.obj (.node 0 1)).count = 2 ∧ (c.obj (.node 0 1)).alive = true ∧ refs c (.node 0 1) = 2 :=
  machine.witness ([0, 0, 0, 0, 0, 0, 1].map Ev.run) (by decide)

/-- an object is released (once) after its last reference went away, and then handed out again in the default state -/
example : ∃ c, Reachable 2 0 3 2 [[.newPool 0, .write 0, .reset 0, .newPool 1]] c ∧
    (c.obj (.node 0 1)).rel = 1 ∧ (c.obj (.node 0 1)).acq = 2 ∧ (c.obj (.node 0 1)).alive = true ∧ (c.obj (.node 0 1)).val = 0 :=
  machine.witness ([0, 0, 0, 0, 0, 0, 0, 0, 0, 0].map Ev.run) (by decide)

/-- a slab deletion is pending (outside the lock) in a reachable configuration -/
example : ∃ c, Reachable 1 0 3 2 [[.newPool 0, .newPool 1, .reset 0, .reset 1]] c ∧
    (c.ths[0]?.map fun th => th.todo.any fun a => match a with | .delSlab _ => true | _ => false) = some true :=
  machine.witness ([0, 0, 0, 0, 0, 0, 0, 0, 0, 0, 0, 0, 0].map Ev.run) (by decide)

/-- a heap object is destroyed exactly once -/
example : ∃ c, Reachable 1 0 3 2 [[.newHeap 0, .ccast 1 0, .reset 0, .reset 1]] c ∧
    (c.obj (.heap 0)).rel = 1 ∧ (c.obj (.heap 0)).alive = false :=
  machine.witness ([0, 0, 0, 0, 0, 0, 0, 0, 0, 0, 0, 0, 0, 0].map Ev.run) (by decide)

/-- a linked list head -> second whose only other reference to `second` is `head->next`; after the pop `a = a->next`
(the order of /repo commit 3dba531) the head is destroyed and `second` is alive with count 1, held by the slot -/
def popProg : List (List Op) := [[.newHeap 0, .newHeap 1, .link 0 1, .reset 1, .pop 0]]

example : ∃ c, Reachable 1 0 3 2 popProg c ∧ (c.obj (.heap 0)).alive = false ∧ (c.obj (.heap 1)).alive = true ∧
    (c.obj (.heap 1)).count = 1 ∧ (c.ths[0]?.map fun th => slotOf th 0) = some (some (.heap 1, true)) :=
  machine.witness ([0, 0, 0, 0, 0, 0, 0, 0, 0, 0, 0, 0].map Ev.run) (by decide)

/-- a cascading release: dropping the last reference to the head of a two-element pooled chain releases both -/
example : ∃ c, Reachable 2 0 3 2 [[.newPool 0, .newPool 1, .link 0 1, .reset 1, .reset 0]] c ∧
    (c.obj (.node 0 1)).rel = 1 ∧ (c.obj (.node 0 0)).rel = 1 ∧ c.links = [] :=
  machine.witness ([0, 0, 0, 0, 0, 0, 0, 0, 0, 0, 0, 0, 0, 0, 0, 0, 0, 0, 0, 0].map Ev.run) (by decide)

/-- a non-counting `Ref` does not count, and promoting it does: count 1 → (alias) 1 → (promote) 2 -/
example : ∃ c, Reachable 2 0 3 2 [[.newPool 0, .weak 1 0, .promote 1]] c ∧ (c.obj (.node 0 1)).count = 2 ∧
    (c.ths[0]?.map fun th => slotOf th 1) = some (some (.node 0 1, true)) :=
  machine.witness ([0, 0, 0, 0, 0, 0].map Ev.run) (by decide)

/-- **Why the order matters (the defect repaired by /repo commit 3dba531).**  With `SetRef()`'s former order — release
the old item, store the pointer, then reference the new item — the same pop destroys `second` together with the head
(the head's `next` member was the only other reference) and then increments the count of the destroyed object: the
thread's slot is a reference-counting `Ref` to an object that is not alive.  `never_early_slot` is false for
`machineOld`; this configuration is reachable there. -/
theorem old_order_counterexample :
    ∃ c, machineOld.Reach (Cfg.init 1 0 3 2 popProg) c ∧
      (c.ths[0]?.map fun th => slotOf th 0) = some (some (.heap 1, true)) ∧ (c.obj (.heap 1)).alive = false ∧ (c.obj (.heap 1)).rel = 1 :=
  machineOld.witness ((List.replicate 12 0).map Ev.run) (by decide)

end Muscle.Props.C10
