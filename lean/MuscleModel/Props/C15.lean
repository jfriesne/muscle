import MuscleModel.Wildcard.DenoteProofs
import MuscleModel.Wildcard.TranslateProofs
import MuscleModel.Wildcard.EscapeProofs
import MuscleModel.Wildcard.RangeProofs
import MuscleModel.Wildcard.ParseProofs

/-!
# C15 — Wildcard patterns match exactly the strings their documented syntax denotes

Property theorems only.  Lemmas, in `Wildcard/`: `DenoteProofs.lean` (matcher = relation, meaning of the intended
ERE), `TranslateProofs.lean` (the loop of `SetPattern`), `EscapeProofs.lean` (escape / unescape, the single-valued
test), `RangeProofs.lean` (numeric ranges), `ParseProofs.lean` (the driver's parser), `Tables.lean` (table facts), `SyntaxProofs.lean` (what `Pat.WF`, `Top.WF` say per
constructor).  Some proofs here are the last step of their argument and not one-liners.

* Specification: `Pat.Matches` / `Top.denote` (documented meaning of a pattern tree), `Top.render` (its text).
* Code mirrors (`Wildcard/Code.lean`): `translateLoop`/`setPattern` = `StringMatcher::SetPattern`,
  `matchCompiled`/`matchRange` = `StringMatcher::Match`, `escape` = `EscapeRegexTokens`, `unescape` =
  `RemoveEscapeChars`, `canMatchMultiple` = `CanWildcardStringMatchMultipleValues`.
* `Ere`, `Ere.Matches`, `Ere.render`: POSIX extended regular expressions; `GlibcOK libc` is the trusted statement
  that glibc's `regcomp`/`regexec` implement them on the well-formed fragment.

`WF` = inside the documented grammar: unescaped literals are plain characters, classes are non-empty and contain
none of `] [ ^ - \` as members (every other character, `, . + * ?` included, is an ordinary member), precedence
is respected, numbers in a range list are below `MUSCLE_NO_LIMIT`, and the body does not begin with an unescaped
`~`, backtick or `<`.

Three behaviours of the code on which the theorems rest without a hypothesis; the inputs that tell each from its
alternative are regression cases (corpus/C15/wc-regress-*.ops):
* F9 — `Match` on a range list reads the whole subject as one decimal number and clamps it to `MUSCLE_NO_LIMIT`
  (/repo 6c403df; `range_spec_documented` and `match_spec_ranges` hold for every subject);
* "class" — the translation loop copies the members of `[..]` untranslated, `, . + * ?` included (/repo ba0f5e7;
  `class_translation_exact`, and `WF` admits those members);
* "tick" — `EscapeRegexTokens` escapes a leading backtick (/repo b68d5f9; `escape_exact` holds for every C string).
The `IsRegexToken` table and the list of characters `SetPattern` keeps a backslash in front of are not typed in:
they are regenerated from /repo on every run (`Muscle.Gen.*`) and every fact the proofs use about them is
re-derived from the generated tables (`Wildcard/Tables.lean`).
-/


namespace Muscle.Props.C15
open Muscle Muscle.Wildcard

/-- The executable matcher the driver runs is the specification relation. -/
theorem denote_spec (p : Pat) (s : Bytes) : p.denote s = true ↔ Pat.Matches p s :=
  denote_iff p s

/-- The character loop of `SetPattern` emits exactly the rendering of the intended ERE
    (a string homomorphism with two pieces of state — the escape mode and the "inside a class" marker — which are
    both off at every token boundary). -/
theorem translate_render (p : Pat) (h : p.WF = true) :
    translateLoop false none p.render = (toEre p).render := by
  have := translateLoop_render p [] h
  simpa [translateLoop] using this

/-- `SetPattern` on the text of a documented pattern: negate flag from the `~`, no ranges, and
    `regcomp` receives `^(` intended ERE `)$`. -/
theorem setPattern_render (neg : Bool) (p : Pat) (h : (Top.pat neg p).WF = true) :
    (setPattern (Top.pat neg p).render).negate = neg ∧
    (setPattern (Top.pat neg p).render).ranges = [] ∧
    (setPattern (Top.pat neg p).render).regex = some (Ere.anchored (toEre p).render) := by
  obtain ⟨hp, hfirst⟩ := Top.WF_pat.mp h
  have := setPattern_body neg p.render hfirst
  simp only [translate, translate_render p hp] at this
  exact this

/-- POSIX matching of the intended ERE is the documented meaning of the pattern (whole string). -/
theorem toEre_correct (p : Pat) (s : Bytes) : Ere.Matches (toEre p) s ↔ p.denote s = true := by
  rw [denote_iff]; exact toEre_matches p s

/-- …and the intended ERE lies in the fragment for which glibc is trusted. -/
theorem toEre_wf (p : Pat) (h : p.WF = true) : (toEre p).WF = true :=
  toEre_WF p h

/-- End to end, for every documented pattern (incl. a leading `~`) and every subject: if glibc implements
    POSIX ERE (`GlibcOK`), `Match` after `SetPattern` answers the documented meaning. -/
theorem match_spec (libc : Libc) (hg : GlibcOK libc) (neg : Bool) (p : Pat) (h : (Top.pat neg p).WF = true)
    (s : Bytes) :
    matchCompiled libc (setPattern (Top.pat neg p).render) s = (Top.pat neg p).denote s := by
  obtain ⟨h1, h2, h3⟩ := setPattern_render neg p h
  obtain ⟨f, hf, hfs⟩ := hg (toEre p) (toEre_WF p (Top.WF_pat.mp h).1)
  have hd : f s = p.denote s := by
    rw [Bool.eq_iff_iff, hfs s, toEre_correct]
  simp only [matchCompiled, h1, h2, h3, hf, hd, List.isEmpty_nil, if_true, Top.denote]
  cases neg <;> cases p.denote s <;> rfl

/-- The loop of `SetPattern` copies a whole character class — members `, . + * ?` included — to `regcomp`
    unchanged, and is outside the class again after its closing `]`. -/
theorem class_translation_exact (neg : Bool) (items : List ClsItem) (rest : Bytes)
    (h : (Pat.cls neg items).WF = true) :
    translateLoop false none ((Pat.cls neg items).render ++ rest)
      = (Pat.cls neg items).render ++ translateLoop false none rest :=
  translateLoop_class neg items rest h

/-- What `Match` does with a range list, exactly: the whole subject must be a decimal number, and its value —
    clamped, not wrapped, to `MUSCLE_NO_LIMIT` — must lie in one of the stored ranges. -/
theorem range_spec_code (rs : List (Nat × Nat)) (s : Bytes) :
    matchRange rs s = true ↔
      (isDecimal s = true ∧ ∃ r ∈ rs, r.1 ≤ min (decVal s) noLimit ∧ min (decVal s) noLimit ≤ r.2) := by
  simp only [matchRange_eq, Bool.and_eq_true, List.any_eq_true, decide_eq_true_eq]

/-- The documented statement — "matches ASCII representations of integers in that range", "`<21->` matches all
    integers greater than or equal to 21" — for every documented range list and EVERY subject (integers of any
    size; anything that is not a string of digits is not matched). -/
theorem range_spec_documented (neg : Bool) (rs : List RangeSpec) (hwf : (Top.ranges neg rs).WF = true) (s : Bytes) :
    (matchRange (rs.map RangeSpec.toId) s != neg) = (Top.ranges neg rs).denote s := by
  simp only [Top.denote, matchRange_toId neg rs hwf s]

/-- `SetPattern` reads the text of a documented range list `[~]<a-b,c,d-,-e>` as exactly the ranges it denotes
    (tokenizer, `DigitsOnly`, `Atoull`, the trailing `>` that the last clause still carries), and compiles no regex. -/
theorem setPattern_ranges (neg : Bool) (rs : List RangeSpec) (hwf : (Top.ranges neg rs).WF = true) :
    (setPattern (Top.ranges neg rs).render).negate = neg ∧
    (setPattern (Top.ranges neg rs).render).ranges = rs.map RangeSpec.toId ∧
    (setPattern (Top.ranges neg rs).render).regex = none := by
  obtain ⟨hrs, hall⟩ := Top.WF_ranges.mp hwf
  have hpr : parseRanges (cLt :: (renderRanges rs ++ [cGt])) = rs.map RangeSpec.toId := by
    have hs := splitAtFirst_append cGt (renderRanges rs) [] (renderRanges_noGt rs)
    simp only [parseRanges, beq_self_eq_true, if_true, hs, split_renderRanges rs hrs hall]
  have hne : (rs.map RangeSpec.toId).isEmpty = false := by simpa using hrs
  -- after the `~`: no backtick, and the text parses as a non-empty range list
  rw [Top.render, setPattern_prefix neg _ fun _ => by simp [cLt, cTilde], if_neg (by simp [cLt, cTick]), hpr,
    if_neg (by simp [hne])]
  exact ⟨rfl, rfl, rfl⟩

/-- End to end for range lists (no libc involved), for every subject: `Match` after `SetPattern` answers the
    documented meaning, negation included. -/
theorem match_spec_ranges (libc : Libc) (neg : Bool) (rs : List RangeSpec) (hwf : (Top.ranges neg rs).WF = true)
    (s : Bytes) :
    matchCompiled libc (setPattern (Top.ranges neg rs).render) s = (Top.ranges neg rs).denote s := by
  obtain ⟨h1, h2, h3⟩ := setPattern_ranges neg rs hwf
  rw [← range_spec_documented neg rs hwf s]
  have hne : (rs.map RangeSpec.toId).isEmpty = false := by simpa using (Top.WF_ranges.mp hwf).1
  simp only [matchCompiled, h1, h2, hne, Bool.false_eq_true, if_false]
  cases neg <;> cases matchRange (rs.map RangeSpec.toId) s <;> rfl

/-- `RemoveEscapeChars` undoes `EscapeRegexTokens`, for every string. -/
theorem unescape_escape (s : Bytes) : unescape (escape s) = s :=
  unescapeAux_escapeAux s true

/-- `EscapeRegexTokens(s)` is the text of a documented pattern that denotes `s` and nothing else — for every
    NUL-free string (a C string), one that starts with a backtick included: `EscapeRegexTokens` escapes a leading
    backtick (regression case corpus/C15/wc-regress-tick.ops). -/
theorem escape_exact (s : Bytes) (h0 : ∀ c ∈ s, c ≠ 0) :
    ∃ p : Pat, (Top.pat false p).WF = true ∧ (Top.pat false p).render = escape s ∧
      ∀ t, (Top.pat false p).denote t = true ↔ t = s := by
  refine ⟨litsOf true s, ?_, ?_, ?_⟩
  · exact Top.WF_pat.mpr ⟨litsOf_WF s h0 true, by rw [litsOf_render]; exact escape_firstOK s⟩
  · simp [Top.render, litsOf_render, escape]
  · intro t
    simp only [Top.denote, Bool.bne_false, denote_iff]
    rw [litOnly_matches _ (litsOf_litOnly s true), litsOf_chars]

/-- …hence, with glibc trusted, the real `Match` on the escaped pattern accepts `s` and no other string. -/
theorem escape_exact_code (libc : Libc) (hg : GlibcOK libc) (s : Bytes) (h0 : ∀ c ∈ s, c ≠ 0) (t : Bytes) :
    matchCompiled libc (setPattern (escape s)) t = true ↔ t = s := by
  obtain ⟨p, hwf, hr, hd⟩ := escape_exact s h0
  rw [← hr, match_spec libc hg false p hwf t]
  exact hd t

/-- …and the escaped pattern is reported single-valued (`IsPatternUnique`). -/
theorem escape_single_valued (s : Bytes) : canMatchMultiple (escape s) = false := by
  rw [canMatchMultiple, canMatchMultipleAux_of_firstOK (escape_firstOK s), escape, cwsScan_escapeAux]

/-- A documented pattern that `CanWildcardStringMatchMultipleValues` calls single-valued denotes exactly one
    string: its own text with the escapes removed (what the hash-lookup fast path of tree traversal looks up). -/
theorem unique_sound (t : Top) (hwf : t.WF = true) (h : canMatchMultiple t.render = false) (s : Bytes) :
    t.denote s = true ↔ s = unescape t.render := by
  cases t with
  | ranges neg rs =>
    exfalso
    cases neg
    · simp [Top.render, canMatchMultiple_lt] at h
    · simp [Top.render, canMatchMultiple_tilde] at h
  | pat neg p =>
    cases neg with
    | true => exfalso; simp [Top.render, canMatchMultiple_tilde] at h
    | false =>
      obtain ⟨hp, hfirst⟩ := Top.WF_pat.mp hwf
      simp only [Top.render, Bool.false_eq_true, if_false, List.nil_append] at h ⊢
      have hl := canMatchMultiple_false_litOnly p hp hfirst h
      have hu := unescapeAux_render p hl [] hp
      simp only [List.append_nil, unescapeAux] at hu
      simp only [Top.denote, Bool.bne_false, denote_iff, unescape, hu]
      exact litOnly_matches p hl s

/-- The same through the flag `SetPattern` stores: `IsPatternUnique()` ⇒ exactly the unescaped text matches. -/
theorem isPatternUnique_sound (t : Top) (hwf : t.WF = true) (h : (setPattern t.render).isUnique = true) (s : Bytes) :
    t.denote s = true ↔ s = unescape t.render := by
  simp only [Compiled.isUnique, Bool.and_eq_true, Bool.not_eq_true', setPattern_canMulti] at h
  exact unique_sound t hwf h.1.2 s

/-- Whenever two different strings match, the "can match multiple values" test says yes. -/
theorem multi_complete (t : Top) (hwf : t.WF = true) (s₁ s₂ : Bytes) (hne : s₁ ≠ s₂)
    (h1 : t.denote s₁ = true) (h2 : t.denote s₂ = true) : canMatchMultiple t.render = true := by
  cases hc : canMatchMultiple t.render
  · exfalso
    have e1 := (unique_sound t hwf hc s₁).1 h1
    have e2 := (unique_sound t hwf hc s₂).1 h2
    exact hne (e1.trans e2.symm)
  · rfl

/-- The model driver predicts `Match` for a non-range pattern text only through `inGrammar`, and what it prints
    is `t.denote`: for every text it accepts there is a well-formed tree that renders to exactly that text, so
    (with glibc trusted) the prediction is what the mirrored code computes.  The parser itself is not trusted. -/
theorem driver_prediction (libc : Libc) (hg : GlibcOK libc) (pat : Bytes) (neg : Bool) (p : Pat)
    (h : inGrammar pat = some (.pat neg p)) (s : Bytes) :
    matchCompiled libc (setPattern pat) s = (Top.pat neg p).denote s := by
  unfold inGrammar at h
  split at h
  · rename_i t _
    split at h
    · rename_i hc
      simp only [Bool.and_eq_true, beq_iff_eq] at hc
      cases h
      rw [← hc.2]
      exact match_spec libc hg neg p hc.1 s
    · cases h
  · cases h

/-- The driver's pattern parser is sound for every input: whatever tree it returns renders back to exactly the
    text it was given and has a well-formed body (the prefix-character condition `firstOK` of `Top.WF` is checked
    separately by `inGrammar`).  Completeness (`parseTop (render t) = some t`) is not proved: a text the parser
    wrongly rejects only costs a `?` (counted in the evidence), never a wrong prediction. -/
theorem parseTop_sound (pat : Bytes) (t : Top) (h : parseTop pat = some t) :
    t.render = pat ∧ ∃ neg p, t = .pat neg p ∧ p.WF = true := by
  unfold parseTop at h
  split at h
  · rename_i c r
    split at h
    · rename_i hc
      simp only [beq_iff_eq] at hc
      subst hc
      obtain ⟨e, p, ht, w⟩ := parseBody_sound true r t h
      exact ⟨by simpa using e, true, p, ht, w⟩
    · obtain ⟨e, p, ht, w⟩ := parseBody_sound false (c :: r) t h
      exact ⟨by simpa using e, false, p, ht, w⟩
  · obtain ⟨e, p, ht, w⟩ := parseBody_sound false [] t h
    exact ⟨by simpa using e, false, p, ht, w⟩

/-! ## Non-vacuity -/

/-- `~(a|?b[^0-1])*\*` : every constructor; well-formed; the text is what the generator would print -/
def sample : Top :=
  .pat true (.seq (.grp (.alt true (.seq (.lit false 97) .eps) (.seq .any (.seq (.lit false 98) (.seq (.cls true [.rng 48 49]) .eps)))))
                  (.seq .star (.seq (.lit true 42) .eps)))

example : sample.WF = true := by decide
example : sample.render = [126, 40, 97, 124, 63, 98, 91, 94, 48, 45, 49, 93, 41, 42, 92, 42] := by decide
example : (setPattern sample.render).regex
    = some [94, 40, 40, 97, 124, 46, 98, 91, 94, 48, 45, 49, 93, 41, 46, 42, 92, 42, 41, 36] := by decide  -- ^((a|.b[^0-1]).*\*)$
example : sample.denote [97, 42] = false ∧ sample.denote [97] = true := by decide
example : inGrammar sample.render = some sample := by decide

/-- escape: `a*` ↦ `a\*`, which denotes `a*` and not `ab` -/
example : escape [97, 42] = [97, 92, 42] ∧ canMatchMultiple (escape [97, 42]) = false := by decide

/-- a single-valued pattern (`a\*`) and a multi-valued one (`a*`, matching `a` and `ab`) -/
example : canMatchMultiple (Top.pat false (.seq (.lit false 97) (.lit true 42))).render = false := by decide
example : (Top.pat false (.seq (.lit false 97) .star)).denote [97] = true ∧
          (Top.pat false (.seq (.lit false 97) .star)).denote [97, 98] = true := by decide

/-- a documented range list: `~<19-21,25,30->` -/
example : (Top.ranges true [.span (some 19) (some 21), .one 25, .span (some 30) none]).WF = true := by decide
example : (Top.ranges true [.span (some 19) (some 21), .one 25, .span (some 30) none]).render
    = [126, 60, 49, 57, 45, 50, 49, 44, 50, 53, 44, 51, 48, 45, 62] := by
  simp [Top.render, renderRanges, RangeSpec.render, decimal]

/-- F9: `<5-7>` matches neither `6x` nor `4294967302`; `06` is a representation of 6; an integer too large for
    32 bits matches the open-ended `<5->` -/
example : parseRanges [60, 53, 45, 55, 62] = [(5, 7)] := by decide
example : matchRange [(5, 7)] [54, 120] = false ∧ rangeDenote [.span (some 5) (some 7)] [54, 120] = false := by decide
example : matchRange [(5, 7)] [52, 50, 57, 52, 57, 54, 55, 51, 48, 50] = false := by decide
example : matchRange [(5, 7)] [48, 54] = true ∧ rangeDenote [.span (some 5) (some 7)] [48, 54] = true := by decide
example : matchRange [(5, 4294967295)] [57, 57, 57, 57, 57, 57, 57, 57, 57, 57, 57, 57] = true ∧
          rangeDenote [.span (some 5) none] [57, 57, 57, 57, 57, 57, 57, 57, 57, 57, 57, 57] = true := by decide

/-- "class": `[a,b]` and `[?]` reach regcomp as they are; `[]a]`-style first members and
    an escaped `]` are tracked as regcomp sees them -/
example : translateLoop false none [91, 97, 44, 98, 93, 44] = [91, 97, 44, 98, 93, 124] ∧
          translateLoop false none [91, 63, 93, 63] = [91, 63, 93, 46] := by decide
example : (Pat.cls false [.ch 97, .ch 44, .ch 98]).WF = true := by decide
example : translateLoop false none [91, 93, 44, 93, 44] = [91, 93, 44, 93, 124] ∧
          translateLoop false none [91, 94, 93, 44, 93, 44] = [91, 94, 93, 44, 93, 124] := by decide

/-- "tick": a leading backtick is escaped, so the escaped pattern is not a raw regex -/
example : escape [96, 97] = [92, 96, 97] ∧ (setPattern (escape [96, 97])).regex = some [94, 40, 96, 97, 41, 36] := by decide

end Muscle.Props.C15
