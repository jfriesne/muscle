import MuscleModel.Gateway.ProofsFrame
import MuscleModel.Gateway.ProofsText
import MuscleModel.Gateway.ProofsRaw
import MuscleModel.Gateway.ProofsWs
import MuscleModel.Gateway.ProofsTemplating

/-!
# C03 — A gateway delivers exactly the sent sequence for every byte segmentation

Property theorems only (lemmas: `Gateway/Proofs*.lean`).  The model (`Gateway/*.lean`) mirrors the
call loops of the real gateways — `DoOutputImplementation`/`SendMoreData`,
`DoInputImplementation`/`ReceiveMoreData` with the scratch-buffer branch, the text line splitter, the
raw and SLIP gateways, the WebSocket frame header — over a *scheduled transport*: a byte queue, and for
every `DoOutput(maxBytes)` / `DoInput(maxBytes)` call the list of byte counts its `Write`s/`Read`s obtain
(0 = would block).  The tie to the C++ code is the correspondence run of engine `gw`, which executes the
same definitions.

* `rxCalls R s cs q []` — ANY list `cs` of input calls (each with its own `maxBytes` and grants) on a transport
  holding `q` (`[]`: nothing delivered yet); `txCalls T fuel t cs []` — ANY list of output calls; `run G s evs` — ANY list of events
  (`Ev.add u` = `AddOutgoingMessage`, `Ev.output c`, `Ev.input c`): every interleaving and segmentation.
* Hypotheses, all explicit: Messages are C01-well-formed, within the nesting limit and the size limits
  (`frameOKZ`/`frameOK`); zlib is an opaque pair of functions with `inflate (deflate x) = x` (`CodecOK`; the
  history dependence of the real deflate stream is outside the model — validated by the correspondence run
  and the direct oracle, incl. the F24 regression); text lines contain no CR/LF/NUL (`cleanLine`) and the
  terminator is CR LF, LF or CR; a raw/SLIP chunk without bytes contributes nothing (the SLIP decoder drops empty
  frames, so the SLIP unit is the non-empty chunk); "drained" = nothing in transit, nothing pending.
* Of the templating gateway the cache protocol of the two ends is covered (last section), not its byte layout; the
  WebSocket handshake and receive loop are outside these theorems.
-/

namespace Muscle.Props.C03
open Muscle Muscle.Wire Muscle.Gen Muscle.Gateway

/-! ## the generic statements, proved once -/

/-- **The receiver's state is a function of the consumed byte prefix alone.**  For any receiver whose single
    `Read` results refine a byte-wise machine `step` (`RxRefines`): one `DoInput` call — any `maxBytes`, any
    grants — consumes a prefix `x` of the transport and ends exactly where feeding `x` byte by byte ends. -/
theorem rx_state_is_prefix_fn {σ υ ω : Type} {R : RxM σ υ} {step : σ → UInt8 → σ × List ω} {proj : List υ → List ω}
    {Inv : σ → Prop} {ok : UInt8 → Prop} (H : RxRefines R step proj Inv ok)
    (s : σ) (c : Call) (q : Bytes) (hi : Inv s) (hq : ∀ b ∈ q, ok b) :
    ∃ x, q = x ++ (rxCall R s c q).2.1 ∧ (rxCall R s c q).1 = (feedBy step s x).1 ∧
      proj (rxCall R s c q).2.2 = (feedBy step s x).2 :=
  let ⟨x, h1, h2, h3, _⟩ := rxCall_refines H s c q hi hq
  ⟨x, h1, h2, h3⟩

/-- **Input: any chunking of the byte stream gives the same sequence.**  Two arbitrary lists of `DoInput` calls
    (different numbers of calls, `maxBytes`, bytes per `Read`, would-blocks) that both empty the transport end in
    the same receiver state and have delivered the same units — those of feeding the bytes one at a time. -/
theorem input_chunking_independent {σ υ ω : Type} {R : RxM σ υ} {step : σ → UInt8 → σ × List ω} {proj : List υ → List ω}
    {Inv : σ → Prop} {ok : UInt8 → Prop} (H : RxRefines R step proj Inv ok)
    (cs1 cs2 : List Call) (s : σ) (q : Bytes) (hi : Inv s) (hq : ∀ b ∈ q, ok b)
    (h1 : (rxCalls R s cs1 q []).2.1 = []) (h2 : (rxCalls R s cs2 q []).2.1 = []) :
    (rxCalls R s cs1 q []).1 = (rxCalls R s cs2 q []).1 ∧
    proj (rxCalls R s cs1 q []).2.2 = proj (rxCalls R s cs2 q []).2.2 ∧
    proj (rxCalls R s cs1 q []).2.2 = (feedBy step s q).2 := by
  obtain ⟨a1, a2⟩ := input_any_chunking H cs1 s q hi hq h1
  obtain ⟨b1, b2⟩ := input_any_chunking H cs2 s q hi hq h2
  exact ⟨by rw [a1, b1], by rw [a2, b2], a2⟩

/-- **Output: any short-write schedule emits the same bytes.**  Whatever the list of `DoOutput` calls, what has been
    written is a prefix of the sender's pending bytes; two schedules that both leave nothing pending have written
    the same bytes — exactly the pending bytes. -/
theorem output_schedule_independent {τ ι : Type} {T : TxM τ} {enqueue : τ → ι → τ} {pending : τ → Bytes} {enc : ι → Bytes}
    (H : TxRefines T enqueue pending enc) (fuel : τ → Call → Nat) (cs1 cs2 : List Call) (t : τ)
    (h1 : pending (txCalls T fuel t cs1 []).1 = []) (h2 : pending (txCalls T fuel t cs2 []).1 = []) :
    (∃ rest, pending t = (txCalls T fuel t cs1 []).2 ++ rest) ∧
    (txCalls T fuel t cs1 []).2 = (txCalls T fuel t cs2 []).2 ∧ (txCalls T fuel t cs1 []).2 = pending t := by
  have a := output_any_schedule H fuel cs1 t
  have b := output_any_schedule H fuel cs2 t
  exact ⟨a.1, by rw [a.2 h1, b.2 h2], a.2 h1⟩

/-- **…for whole histories**: after any interleaving of queueing, output calls and input calls, every byte of
    the sent stream is consumed, in transit, or pending (in this order), and receiver state and deliveries are
    those of feeding the consumed prefix byte by byte.  Nothing is lost, duplicated or reordered at any time. -/
theorem interleave_independent {τ σ ι υ ω : Type} {G : Gw τ σ ι υ} {step : σ → UInt8 → σ × List ω} {proj : List υ → List ω}
    {Inv : σ → Prop} {ok : UInt8 → Prop} {pending : τ → Bytes} {enc : ι → Bytes}
    (HR : RxRefines G.rx step proj Inv ok) (HT : TxRefines G.tx G.enqueue pending enc)
    (t0 : τ) (r0 : σ) (h0 : pending t0 = []) (hi : Inv r0) (evs : List (Ev ι)) (hok : ∀ x ∈ addsOf evs, ∀ b ∈ enc x, ok b) :
    ∃ consumed, streamOf enc (addsOf evs) =
        consumed ++ ((run G { t := t0, q := [], r := r0, out := [] } evs).q ++ pending (run G { t := t0, q := [], r := r0, out := [] } evs).t) ∧
      (run G { t := t0, q := [], r := r0, out := [] } evs).r = (feedBy step r0 consumed).1 ∧
      proj (run G { t := t0, q := [], r := r0, out := [] } evs).out = (feedBy step r0 consumed).2 :=
  deliveries_are_prefix_fn G HR HT t0 r0 h0 hi evs hok

/-! ## binary gateway (`MessageIOGateway`), default encoding and zlib-flagged frames -/

/-- A `Read` result of any size that fits what `ReceiveMoreData` asked for does what its bytes do one at a time. -/
theorem binary_rx_incremental (P : BinParams) (hP : 0 < P.hs ∧ P.hs < P.scratch) :
    RxRefines (binRx P) (binStep P) id (binInv P) (fun _ => True) :=
  binRx_refines P hP

/-- the sender, for every outgoing encoding level: what a call appends to the transport is exactly what leaves the
    sender (`DoOutputImplementation`/`SendMoreData`, any `maxBytes`, any short writes) -/
theorem binary_tx_conserves (P : BinParams) (lvl : Nat) :
    TxRefines (binTx P lvl) (fun t m => { t with queue := t.queue ++ [m] }) (binPending P lvl) (frameZ P lvl) :=
  binTx_refines P lvl

/-- header + flattened Message, fed to the receiver in any segmentation, yields that Message and the idle state -/
theorem frame_roundtrip (P : BinParams) (hP : P.OK) (m : Msg) (hm : frameOK P m) (rest : Bytes) :
    feedBy (binStep P) (binInitRx P) (frame m ++ rest) =
      ((feedBy (binStep P) (binInitRx P) rest).1, tripMsg m :: (feedBy (binStep P) (binInitRx P) rest).2) :=
  bin_frame_roundtrip P hP m hm rest

/-- the frame built with outgoing level `lvl` ∈ 0..9 — compressed and flagged when the buffer has at least 32 bytes,
    plain otherwise — yields its Message and the idle state in any segmentation, for ANY codec with
    `inflate (deflate x) = x` -/
theorem frame_roundtrip_zlib (P : BinParams) (hP : P.OK) (hC : CodecOK P) (lvl : Nat) (hl : lvl ≤ 9) (m : Msg)
    (hm : frameOKZ P lvl m) (rest : Bytes) :
    feedBy (binStep P) (binInitRx P) (frameZ P lvl m ++ rest) =
      ((feedBy (binStep P) (binInitRx P) rest).1, tripMsg m :: (feedBy (binStep P) (binInitRx P) rest).2) :=
  bin_frameZ_roundtrip P hP hC lvl hl m hm rest

/-- **Input, binary gateway**: the frames of `ms` on the transport, ANY list of input calls that empties it:
    exactly `ms` (C01 round trip of each) is delivered, in order, and the receiver is idle without error. -/
theorem binary_input_any_chunking (P : BinParams) (hP : P.OK) (hC : CodecOK P) (lvl : Nat) (hl : lvl ≤ 9)
    (ms : List Msg) (hm : ∀ m ∈ ms, frameOKZ P lvl m) (cs : List Call)
    (hall : (rxCalls (binRx P) (binInitRx P) cs (streamOf (frameZ P lvl) ms) []).2.1 = []) :
    (rxCalls (binRx P) (binInitRx P) cs (streamOf (frameZ P lvl) ms) []).2.2 = ms.map tripMsg ∧
    (rxCalls (binRx P) (binInitRx P) cs (streamOf (frameZ P lvl) ms) []).1 = binInitRx P := by
  obtain ⟨a1, a2⟩ := input_any_chunking (binRx_refines P hP.pos) cs (binInitRx P) _ (binInv_init hP.pos.1) (fun _ _ => trivial) hall
  obtain ⟨_, rfl, e⟩ := (bin_decodes P hP hC lvl hl).stream ms hm _ rfl
  rw [e] at a1 a2
  exact ⟨a2.trans List.map_eq_flatMap.symm, a1⟩

/-- **Output, binary gateway**: ANY list of output calls that leaves nothing pending has written exactly the frames of
    the queued Messages, back to back. -/
theorem binary_output_any_schedule (P : BinParams) (lvl : Nat) (ms : List Msg) (fuel : BinTx → Call → Nat) (cs : List Call)
    (hp : binPending P lvl (txCalls (binTx P lvl) fuel { cur := [], queue := ms } cs []).1 = []) :
    (txCalls (binTx P lvl) fuel { cur := [], queue := ms } cs []).2 = binQueueBytes P lvl ms := by
  have h := (output_any_schedule (binTx_refines P lvl) fuel cs { cur := [], queue := ms }).2 hp
  rw [h]; simp [binPending]

/-- **Segmentation independence, binary gateway**: whatever the events (interleaving, `maxBytes`, grants), if the
    link ends drained the receiver has delivered exactly the Messages queued, in order, each as C01's round trip
    of it, and is idle without error — for every outgoing encoding level and any codec satisfying `CodecOK`. -/
theorem segmentation_independent_binary (P : BinParams) (hP : P.OK) (hC : CodecOK P) (lvl : Nat) (hl : lvl ≤ 9)
    (evs : List (Ev Msg)) (hm : ∀ m ∈ addsOf evs, frameOKZ P lvl m)
    (hq : (run (binGw P lvl) { t := binInitTx, q := [], r := binInitRx P, out := [] } evs).q = [])
    (hp : binPending P lvl (run (binGw P lvl) { t := binInitTx, q := [], r := binInitRx P, out := [] } evs).t = []) :
    (run (binGw P lvl) { t := binInitTx, q := [], r := binInitRx P, out := [] } evs).out = (addsOf evs).map tripMsg ∧
    (run (binGw P lvl) { t := binInitTx, q := [], r := binInitRx P, out := [] } evs).r = binInitRx P := by
  have h := drained_decodes (binGw P lvl) (binRx_refines P hP.pos) (binTx_refines P lvl) (bin_decodes P hP hC lvl hl)
    binInitTx (binInitRx P) rfl (binInv_init hP.pos.1) rfl evs hm (fun _ _ _ _ => trivial) hq hp
  exact ⟨h.1.trans List.map_eq_flatMap.symm, h.2⟩

/-! ## plain-text gateway -/

/-- **The line splitter**: scanning the read buffers one after the other (each with the carry-over text and the
    previous-char-was-CR flag the previous one left) = feeding their concatenation byte by byte: the lines do not
    depend on where the reads fall — CR at the end of one read and LF at the start of the next included. -/
theorem text_line_splitter (readSize : Nat) :
    RxRefines (textRx readSize) textStep id (fun _ => True) (fun b => b ≠ 0) :=
  textRx_refines readSize

/-- lines free of CR, LF, NUL, each followed by the terminator, come out as exactly those lines -/
theorem text_roundtrip (eol : Bytes) (he : IsEol eol) (ls : List Bytes) (h : ∀ l ∈ ls, cleanLine l) :
    (feedBy textStep textInitRx (textLinesBytes eol ls)).2 = ls := by
  obtain ⟨_, _, e⟩ := textMsg_decodes eol he ls h textInitRx (textIdle_init eol) []
  rw [List.append_nil] at e
  rw [e, feedBy, List.append_nil]

/-- the text sender conserves bytes under every schedule (within its recursion limit per call) -/
theorem text_tx_conserves (eol : Bytes) :
    TxRefines (textTx eol) (fun t m => { t with queue := t.queue ++ [m] }) (textPending eol) (textLinesBytes eol) :=
  textTx_refines eol

/-- **Input, text gateway**: clean lines with their terminators on the transport, ANY list of input calls that empties
    it (any read sizes, a terminator split across reads): exactly those lines are delivered, in order. -/
theorem text_input_any_chunking (readSize : Nat) (eol : Bytes) (he : IsEol eol) (ls : List Bytes) (h : ∀ l ∈ ls, cleanLine l)
    (cs : List Call) (hall : (rxCalls (textRx readSize) textInitRx cs (textLinesBytes eol ls) []).2.1 = []) :
    (rxCalls (textRx readSize) textInitRx cs (textLinesBytes eol ls) []).2.2 = ls := by
  obtain ⟨_, a2⟩ := input_any_chunking (textRx_refines readSize) cs textInitRx _ trivial
    (textLinesBytes_nonzero eol he ls h) hall
  rw [text_roundtrip eol he ls h] at a2
  exact a2

/-- **Segmentation independence, text gateway**: any events; drained link ⇒ the delivered lines are exactly the lines of
    the queued Messages, in order (how they are grouped into delivered Messages depends on the reads; the lines do not). -/
theorem segmentation_independent_text (readSize limit : Nat) (eol : Bytes) (he : IsEol eol) (evs : List (Ev (List Bytes)))
    (hc : ∀ m ∈ addsOf evs, ∀ l ∈ m, cleanLine l)
    (hq : (run (textGw readSize limit eol) { t := textInitTx, q := [], r := textInitRx, out := [] } evs).q = [])
    (hp : textPending eol (run (textGw readSize limit eol) { t := textInitTx, q := [], r := textInitRx, out := [] } evs).t = []) :
    (run (textGw readSize limit eol) { t := textInitTx, q := [], r := textInitRx, out := [] } evs).out = (addsOf evs).flatten := by
  have h := drained_decodes (textGw readSize limit eol) (textRx_refines readSize) (textTx_refines eol) (textMsg_decodes eol he)
    textInitTx textInitRx rfl trivial (textIdle_init eol) evs hc (fun x hx => textLinesBytes_nonzero eol he x (hc x hx)) hq hp
  exact h.1.trans List.flatten_eq_flatMap.symm

/-! ## SLIP and raw -/

/-- **SLIP escape/unescape round trip, for all byte strings**: `SLIPEncodeBytes x` decodes to exactly the frame `x`
    (nothing for the empty chunk) and leaves the decoder idle -/
theorem slip_roundtrip (K : SlipK) (hK : K.WF) (x rest : Bytes) :
    feedBy (slipByte K) slipIdle (slipEncode K x ++ rest) =
      ((feedBy (slipByte K) slipIdle rest).1, (if x.isEmpty then [] else [x]) ++ (feedBy (slipByte K) slipIdle rest).2) :=
  slip_roundtrip_append K hK x rest

/-- the SLIP decoder's END/ESC state survives any segmentation: a read of any size = its bytes one at a time -/
theorem slip_rx_incremental (K : SlipK) (readSize : Nat) :
    RxRefines (slipRx K readSize) (slipByte K) id (fun _ => True) (fun _ => True) :=
  slipRx_refines K readSize

/-- the SLIP constants of the compiled code satisfy the side conditions of `slip_roundtrip` -/
theorem slip_constants_wf :
    SlipK.WF { END := UInt8.ofNat slipEnd, ESC := UInt8.ofNat slipEsc, ESC_END := UInt8.ofNat slipEscEnd, ESC_ESC := UInt8.ofNat slipEscEsc } :=
  ⟨by decide, by decide, by decide, by decide⟩

/-- **Input, SLIP**: the encodings of non-empty chunks on the transport, ANY list of input calls that empties it
    (an ESC and its companion in different reads included): exactly those chunks are delivered. -/
theorem slip_input_any_chunking (K : SlipK) (hK : K.WF) (readSize : Nat) (xs : List Bytes) (hx : ∀ x ∈ xs, x.isEmpty = false)
    (cs : List Call) (hall : (rxCalls (slipRx K readSize) slipIdle cs ((xs.map (slipEncode K)).flatten) []).2.1 = []) :
    (rxCalls (slipRx K readSize) slipIdle cs ((xs.map (slipEncode K)).flatten) []).2.2 = xs := by
  obtain ⟨_, a2⟩ := input_any_chunking (slipRx_refines K readSize) cs slipIdle _ trivial (fun _ _ => trivial) hall
  obtain ⟨_, _, e⟩ := (slipChunk_decodes K hK).stream xs hx slipIdle rfl
  rw [streamOf_eq_flatMap, List.flatMap_def] at e
  rw [e] at a2
  exact a2.trans (List.flatMap_singleton' xs)

/-- **Segmentation independence, SLIP gateway**: any events; drained link ⇒ the delivered frames are exactly the non-empty
    chunks of the queued Messages, in order. -/
theorem segmentation_independent_slip (K : SlipK) (hK : K.WF) (readSize : Nat) (evs : List (Ev (List Bytes)))
    (hq : (run (slipGw K readSize) { t := rawInitTx, q := [], r := slipInitRx, out := [] } evs).q = [])
    (hp : rawPending (run (slipGw K readSize) { t := rawInitTx, q := [], r := slipInitRx, out := [] } evs).t = []) :
    (run (slipGw K readSize) { t := rawInitTx, q := [], r := slipInitRx, out := [] } evs).out =
      ((addsOf evs).map (fun m => m.filter (fun c => !c.isEmpty))).flatten := by
  exact (drained_decodes (slipGw K readSize) (slipRx_refines K readSize) (rawTx_refines (slipMsg K)) (slipMsg_decodes K hK)
    rawInitTx slipInitRx rfl trivial rfl evs (fun _ _ => trivial) (fun _ _ _ _ => trivial) hq hp).1

/-- raw gateway, both receive modes: the delivered chunks, concatenated, are the bytes consumed, however they were read -/
theorem raw_rx_incremental (readSize minChunk : Nat) :
    RxRefines (rawRx readSize minChunk) (rawStep readSize minChunk) List.flatten (rawInv minChunk) (fun _ => True) :=
  rawRx_refines readSize minChunk

/-- the raw sender (also used by SLIP, with `enc` = the SLIP encoding of the chunks) conserves bytes under every schedule -/
theorem raw_tx_conserves (enc : List Bytes → List Bytes) :
    TxRefines rawTx (fun t m => { t with queue := t.queue ++ [enc m] }) rawPending (fun m => rawEff (enc m)) :=
  rawTx_refines enc

/-- **Segmentation independence, raw gateway (immediate-forward mode)**: if the link ends drained, the delivered
    bytes are exactly the bytes of all queued chunks, in order.  For minimum-chunk mode (`minChunk ≠ 0`) only the
    refinement `raw_rx_incremental` is stated; delivered = sent is not proved for it. -/
theorem segmentation_independent_raw (readSize : Nat) (evs : List (Ev (List Bytes)))
    (hq : (run (rawGw readSize 0) { t := rawInitTx, q := [], r := rawInitRx, out := [] } evs).q = [])
    (hp : rawPending (run (rawGw readSize 0) { t := rawInitTx, q := [], r := rawInitRx, out := [] } evs).t = []) :
    (run (rawGw readSize 0) { t := rawInitTx, q := [], r := rawInitRx, out := [] } evs).out.flatten =
      (addsOf evs).flatten.flatten := by
  have h := (drained_decodes (rawGw readSize 0) (rawRx_refines readSize 0) (rawTx_refines id) (raw_decodes readSize)
    rawInitTx rawInitRx rfl (fun h => absurd rfl h) trivial evs (fun _ _ => trivial) (fun _ _ _ _ => trivial) hq hp).1
  exact h.trans List.flatten_flatten.symm

/-! ## WebSocket frame kernels (`CreateReplyFrame` vs. the header logic and unmasking loop of `DoInputImplementation`) -/

/-- masking is an involution, for every key and every starting offset -/
theorem ws_mask_involutive (key : Bytes) (i : Nat) (p : Bytes) : wsMask key i (wsMask key i p) = p :=
  wsMask_involutive key i p

/-- the length field round-trips in its 7-bit, 16-bit (126) and 64-bit (127) form, with or without the mask bit -/
theorem ws_len_field_roundtrip (mask : Nat) (hm : mask = 0 ∨ mask = 128) (n : Nat) (hn : n < 9223372036854775808) (rest : Bytes) :
    ∃ b1 ext, wsLenField mask n = b1 :: ext ∧ wsReadLen b1 (ext ++ rest) = some (n, rest) :=
  let ⟨b1, ext, h1, h2, _⟩ := wsReadLen_lenField mask hm n hn rest
  ⟨b1, ext, h1, h2⟩

/-- a server's frame (unmasked), any opcode, any payload up to the receiver's 10 MB limit, any of the three length forms -/
theorem ws_server_frame_roundtrip (op : Nat) (hop : op < 16) (p : Bytes) (hp : p.length ≤ 10485760) (rest : Bytes) :
    wsDecodeFrame false (wsServerFrame op p ++ rest) = some (op, true, p, rest) :=
  ws_server_frame_decode op hop p hp rest

/-- a client's frame, masked with ANY 4-byte key written in the order it is applied -/
theorem ws_client_frame_roundtrip (op : Nat) (hop : op < 16) (key : Bytes) (hk : key.length = 4) (p : Bytes)
    (hp : p.length ≤ 10485760) (rest : Bytes) :
    wsDecodeFrame true (wsClientFrame op key p ++ rest) = some (op, true, p, rest) :=
  ws_client_frame_decode op hop key hk p hp rest

/-! ## templating gateway: the two ends' template caches (`TemplatingMessageIOGateway`, same `maxLRUCacheSizeBytes` on both ends) -/

/-- **Lock-step.**  Start both ends with the same cache (in particular: empty) and send ANY Message sequence: the receiver
    never fails, delivers exactly the sequence, and afterwards sender and receiver hold the same templates — same ids, same
    layouts and sizes, in the same recency order — and the same byte tally.  (`TCache` equality is equality of the ordered
    entry list and of the tally; `tRun` returns `none` as soon as the receiver cannot find or use a template.) -/
theorem template_caches_in_step (max : Nat) (us : List TUnit) (c : TCache) :
    ∃ c', tRun max c c us = some (c', c', us) :=
  tRun_lockstep max us c

/-- the caches are in step after EVERY Message of the sequence, not only at its end -/
theorem template_caches_in_step_after_every_message (max : Nat) (us : List TUnit) (n : Nat) :
    ∃ c', tRun max tEmpty tEmpty (us.take n) = some (c', c', us.take n) :=
  tRun_lockstep max (us.take n) tEmpty

/-- one Message through both ends: equal caches stay equal (the sender's `GetAndMoveToFront`/`PutAtFront`/`TrimLRUCache`
    are matched move for move by the receiver's), and the receiver delivers that Message -/
theorem template_step_in_step (max : Nat) (c : TCache) (u : TUnit) :
    tRx max c (tTx max c u).2 = some ((tTx max c u).1, u) :=
  tStep_lockstep max c u

/-- **consequently every payload-only Message finds its template**: whenever the sender, in step with the receiver,
    chooses the payload-only form, the receiver's cache holds a template of that id with the Message's layout -/
theorem template_payload_finds_template (max : Nat) (c : TCache) (u v : TUnit) (h : (tTx max c u).2 = .payload v) :
    ∃ e, tLookup v.id c.entries = some e ∧ e.layout = v.layout ∧ tRx max c (.payload v) ≠ none :=
  tPayload_finds_template max c u v h

/-! ## non-vacuity -/

/-- the scenario A B C A D A with room for three templates: the sender evicts B (not the re-used A), sends the last A
    payload-only, and the receiver — in step — still has A -/
example :
    let A : TUnit := { id := 1, layout := [1], tsize := 10, trivial := false }
    let B : TUnit := { id := 2, layout := [2], tsize := 10, trivial := false }
    let C : TUnit := { id := 3, layout := [3], tsize := 10, trivial := false }
    let D : TUnit := { id := 4, layout := [4], tsize := 10, trivial := false }
    tKinds 35 tEmpty [A, B, C, A, D, A, B] = ['C', 'C', 'C', 'T', 'C', 'T', 'C'] ∧
    (tRun 35 tEmpty tEmpty [A, B, C, A, D, A]).map (fun x => x.1.entries.map (·.id)) = some [1, 4, 3] := by
  decide +kernel


/-- the parameters of the compiled code satisfy `BinParams.OK` -/
example : BinParams.OK { hs := gwHeaderSize, scratch := gwScratchRecvBufferSize, maxIn := 4294967295, mx := 256, deflate := (fun _ x => x), inflate := (fun _ _ => none) } :=
  ⟨rfl, by decide⟩

/-- `CodecOK` is satisfiable (the identity codec), so the zlib theorems are not vacuous -/
example : CodecOK { hs := 8, scratch := 2048, maxIn := 4294967295, mx := 256, deflate := (fun _ x => x), inflate := (fun _ b => some b) } := by
  intro lvl x _ _; rfl

/-- the hypotheses are satisfiable: an empty Message is `frameOK` -/
example : frameOK { hs := 8, scratch := 2048, maxIn := 4294967295, mx := 256, deflate := (fun _ x => x), inflate := (fun _ _ => none) } (.mk 7 []) := by
  refine ⟨?_, ?_, ?_, ?_⟩
  · simp [wfMsg, wfFields, countFlat, U32]
  · simp [depthMsg, depthFields]
  · simp [encode, encMsg, encFields]
  · simp [encode, encMsg, encFields]

/-- a non-trivial history: queue a Message, one whole-buffer output call — the transport then holds
    exactly its frame and the sender has nothing pending (drained on the sender's side; the frame is still in transit) -/
example :
    let P : BinParams := { hs := 8, scratch := 2048, maxIn := 4294967295, mx := 256, deflate := (fun _ x => x), inflate := (fun _ _ => none) }
    let s := run (binGw P 0) { t := binInitTx, q := [], r := binInitRx P, out := [] }
      [.add (.mk 7 []), .output { maxBytes := 4294967295, grants := none }]
    s.q = frame (.mk 7 []) ∧ binPending P 0 s.t = [] := by
  simp [run, stepSys, binGw, binInitTx, txLoop, callFuel, binTx, binSettle, nextGrant, binPending, binQueueBytes, frame, frameZ, frameOf,
    encode, encMsg, encFields, countFlat]
  exact List.take_of_length_le (by simp)

/-- a CR LF split across two reads yields one line, not a line and an empty line -/
example : (textScan [10, 0x62, 13] [] (textScan [0x61, 13] [] textInitRx []).1 []).2 = [[0x62]]
    ∧ (textScan [0x61, 13] [] textInitRx []).2 = [[0x61]] := by decide +kernel

example : cleanLine [0x61, 0x62] := by intro b hb; simp at hb; rcases hb with h | h <;> subst h <;> decide

/-- the three length forms really occur: 125 → 7-bit, 126 → 16-bit, 65536 → 64-bit -/
example : (wsLenField 0 125).length = 1 ∧ (wsLenField 0 126).length = 3 ∧ (wsLenField 128 65536).length = 9 := by
  simp [wsLenField, beN]

end Muscle.Props.C03
