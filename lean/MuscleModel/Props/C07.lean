import MuscleModel.Props.C06
import MuscleModel.Engines.Srv
import MuscleModel.Reflector.OrderProofs
import MuscleModel.Reflector.WorkBoundProofs
import MuscleModel.Props.C05Reach

/-!
# C07 — One client's traffic can never hang or crash the server

What a Lean theorem can say here: in the reflector model every command handler is a total function
(accepted by Lean's termination checker: every loop is structural recursion on a list, on the tree, or
on explicit fuel bounded by MUSCLE_MAX_NODE_DEPTH), so "handles each Message in bounded time and keeps
running" holds for the model by construction; and whatever one session does, another session stays
attached with its parameters intact (C06, `frame_sessions_lookup`) and its ping is answered in the very
next step (`witness_pong`).  Wall-clock time, stack depth and crashes of the binary are runtime facts:
they are decided by the correspondence run of engine `srv` with its witness session (`wping` after every
hostile command, a 20 s alarm per op, ASan/UBSan).

The model covers the command subset of `Engines/Srv.lean` (`Cmd`); Messages outside it (arbitrary
what-codes, wrong field types, hostile filter archives, JETTISON* with results queued for a client that
does not read) are decided by the harness oracle alone.
-/

namespace Muscle.Props.C07
open Muscle Muscle.Reflector Muscle.Eng.SrvEngine

/-- A ping is answered at once: the PONG is the last thing in the pinging session's inbox. -/
theorem ping_answered (sv : Server) (sid : Nat) (s : Sess) (tag : Nat) (hs : sv.sess? sid = some s) :
    ∃ s', (runCmd sv sid (.ping tag)).sess? sid = some s' ∧ s'.inbox = s.inbox ++ ["PONG " ++ toString tag] := by
  exact ⟨_, sess?_updSess_same sv sid _ hs, rfl⟩

/-- The witness: whatever command `c` any session `a` has just run, session `b`'s ping is answered. -/
theorem witness_pong (sv : Server) (a b : Nat) (c : Cmd) (t : Sess) (tag : Nat)
    (hb : sv.sess? b = some t) :
    ∃ t', (runCmd (runCmd sv a c) b (.ping tag)).sess? b = some t' ∧
      t'.inbox.getLast? = some ("PONG " ++ toString tag) := by
  obtain ⟨t1, ht1, _⟩ := Muscle.Props.C06.frame_sessions_lookup sv a c b t hb
  obtain ⟨t2, ht2, hin⟩ := ping_answered (runCmd sv a c) b t1 tag ht1
  exact ⟨t2, ht2, by simp [hin]⟩

/-- …and after any history of commands by any sessions. -/
theorem witness_pong_history (sv : Server) (hist : List (Nat × Cmd)) (b : Nat) (t : Sess) (tag : Nat)
    (hb : sv.sess? b = some t) :
    ∃ t', (runCmd (hist.foldl (fun sv p => runCmd sv p.1 p.2) sv) b (.ping tag)).sess? b = some t' ∧
      t'.inbox.getLast? = some ("PONG " ++ toString tag) := by
  obtain ⟨t1, ht1, _⟩ := od_lookup_cmds hist b sv t hb
  obtain ⟨t2, ht2, hin⟩ := ping_answered _ b t1 tag ht1
  exact ⟨t2, ht2, by simp [hin]⟩

end Muscle.Props.C07

/-!
# C07, second part — what is queued for a client is never removed or reordered

Lemmas: `Reflector/OrderProofs.lean`.  Every theorem holds for EVERY server state.
`OdEv` / `odRunEv` / `odRunEvs` (OrderProofs.lean): histories of events `cmd sid c | push | attach slot host | detach sid`.
-/

namespace Muscle.Props.C07
open Muscle Muscle.Reflector Muscle.Eng.SrvEngine

/-- **Append-only, one command.**  Whatever command any session runs, the session table keeps its length and order,
    and every session's inbox afterwards is its inbox before followed by `extra`: nothing already queued for a
    client is removed or reordered. -/
theorem inbox_append_only (sv : Server) (sid : Nat) (c : Cmd) :
    (runCmd sv sid c).sessions.length = sv.sessions.length ∧
    ∀ (i : Nat) (t : Sess), sv.sessions[i]? = some t →
      ∃ t' extra, (runCmd sv sid c).sessions[i]? = some t' ∧ t'.sid = t.sid ∧ t'.inbox = t.inbox ++ extra := by
  have h := od_runCmd sv sid c
  refine ⟨SessAll₂.length _ _ h, fun i t ht => ?_⟩
  obtain ⟨t', h1, h2, e, h3, _⟩ := SessAll₂.get _ _ h i t ht
  exact ⟨t', e, h1, h2, h3⟩

/-- the same through the lookup by session id -/
theorem inbox_append_only_lookup (sv : Server) (sid : Nat) (c : Cmd) (b : Nat) (t : Sess) (ht : sv.sess? b = some t) :
    ∃ t' extra, (runCmd sv sid c).sess? b = some t' ∧ t'.inbox = t.inbox ++ extra :=
  InboxExt.extra (od_lookup (od_runCmd sv sid c) b t ht)

/-- `pushAll` (`PushSubscriptionMessages`) only appends -/
theorem inbox_append_only_push (sv : Server) (b : Nat) (t : Sess) (ht : sv.sess? b = some t) :
    ∃ t' extra, (pushAll sv).sess? b = some t' ∧ t'.inbox = t.inbox ++ extra :=
  InboxExt.extra (od_lookup (od_pushAll sv) b t ht)

/-- a new session attaching only appends to the inboxes of the sessions already there -/
theorem inbox_append_only_attach (sv : Server) (slot : Nat) (host : Bytes) (b : Nat) (t : Sess) (ht : sv.sess? b = some t) :
    ∃ t' extra, (attach sv slot host).1.sess? b = some t' ∧ t'.inbox = t.inbox ++ extra :=
  InboxExt.extra (od_lookup_attach sv slot host b t ht)

/-- the departure of ANOTHER session only appends -/
theorem inbox_append_only_detach (sv : Server) (x b : Nat) (hb : b ≠ x) (t : Sess) (ht : sv.sess? b = some t) :
    ∃ t' extra, (detach sv x).sess? b = some t' ∧ t'.inbox = t.inbox ++ extra :=
  InboxExt.extra (od_lookup_detach sv x b hb t ht)

/-- **Append-only, histories.**  After any history of commands of any sessions, pushes, attaches and departures of
    other sessions, session `b` is still there and its inbox extends the inbox it had. -/
theorem inbox_append_only_history (sv : Server) (evs : List OdEv) (b : Nat) (hb : ∀ e ∈ evs, e ≠ .detach b)
    (t : Sess) (ht : sv.sess? b = some t) :
    ∃ t' extra, (odRunEvs sv evs).sess? b = some t' ∧ t'.inbox = t.inbox ++ extra :=
  InboxExt.extra (od_lookup_evs evs b hb sv t ht)

/-- the history form with commands only, as in `witness_pong_history` -/
theorem inbox_append_only_cmds (sv : Server) (hist : List (Nat × Cmd)) (b : Nat) (t : Sess) (ht : sv.sess? b = some t) :
    ∃ t' extra, (hist.foldl (fun sv p => runCmd sv p.1 p.2) sv).sess? b = some t' ∧ t'.inbox = t.inbox ++ extra :=
  InboxExt.extra (od_lookup_cmds hist b sv t ht)

/-! Non-vacuity: a reachable state with two sessions; session 0 broadcasts, session 1 pings, session 0 broadcasts again:
    session 1's inbox only grows. -/
def exOdSv0 : Server := (attach (attach {} 0 [104]).1 1 [104]).1
def exOdEvs : List OdEv := [.cmd 0 (.send 7 []), .cmd 1 (.ping 3), .push, .cmd 0 (.send 8 [])]

example : ∀ e ∈ exOdEvs, e ≠ OdEv.detach 1 := by
  intro e he
  simp only [exOdEvs, List.mem_cons, List.not_mem_nil, or_false] at he
  rcases he with rfl | rfl | rfl | rfl <;> exact fun h => OdEv.noConfusion h
example : (exOdSv0.sess? 1).map (·.inbox) = some [] := by decide
example : ((odRunEvs exOdSv0 exOdEvs).sess? 1).map (·.inbox) =
    some ["MSG 1234 from=0 tag=7", "PONG 3", "MSG 1234 from=0 tag=8"] := by decide

end Muscle.Props.C07


/-!
# C07, third part — bounded work: one traversal records at most one visit per node of the tree

Lemmas: `Reflector/WorkBoundProofs.lean`.  The commands `rm`, `sub`, `unsub`, `ins`, `reorder`, `send` and `find`
run the wildcard traversal `doTraversal` (`NodePathMatcher::DoTraversal`, Reflector/Traverse.lean) through `travGlobal` / `travSession`; its
result is the list of recorded visits, and the handlers do one unit of work (one node update, one `deliver`, …) per visit.

PROVED, for EVERY tree (sibling names need not even be distinct), matcher, callback, `useFilters`, root depth and fuel — no hypothesis:
* the number of recorded visits is at most the number of nodes strictly below the traversal root within `fuel` levels,
  `(descendants fuel node []).length`, which is at most `node.size - 1` (`Node.size`: all nodes of the tree, root included).  The bound does
  NOT grow with the number of patterns: `CheckChildForTraversal` hands a child to the callback at most once (`matched`) and descends into
  it at most once (`recursed`) however many entries match it, and the literal-lookup path handles each child name at most once
  (`alreadyDid`).
  The bound is attained (`*`, `*/*`, `*/*/*` on a three-level tree: example below), so it is the tightest bound in terms of the tree alone.
* every recorded path has between 1 and `fuel` names: a hostile chain of nodes deeper than `fuelDepth` (110 > MUSCLE_MAX_NODE_DEPTH) is not
  followed; the recursion depth of `travAux` is its fuel by construction (structural recursion on the fuel).
* `send` (one client-to-client Message): when the session ids are pairwise distinct (every reachable state: `session_ids_distinct` of C05,
  Props/C05Reach.lean), all inboxes together (`wbTotal`) grow by at most one line per recorded visit of `route`, i.e. by at most the
  number of nodes below the root, and by at most the number of sessions in the broadcast fallback — one hostile Message enqueues at most
  `max (nodes below the root) (sessions)` copies (C05 sharpens this to one copy per selected session).

* a node found in the tree is no larger than the tree (`getNode_size_le`), so the traversal from a session's own node is bounded by the
  size of the whole tree as well (`travSession_bounded_root`): every traversal a client can trigger records fewer visits than the tree has
  nodes.
* pattern tests per child (`pattern_tests_bounded`): `checkEntriesCost` is the entry loop of `CheckChildForTraversal` with a counter of the
  entries it examines (one clause test each); it computes the same state as `checkEntries`, and the counter is at most the number of
  entries taking part at that level, which is at most `pmNumEntries pm`.
* the TOTAL number of pattern tests of one traversal (`traversal_tests_bounded`): `travAuxC` (WorkBoundProofs.lean) is the whole traversal
  — `checkEntries`, `checkChild`, `travKids`, `lookupElems`, `travLookups`, `travLevel`, `travAux` — returning (result, number of entries
  examined by the entry loops of `CheckChildForTraversal`, the recursive calls included); its result is the real traversal's, and the count
  is at most (nodes below the root within `fuel`) × `pmNumEntries pm`, on the child-iteration path and on the literal-lookup path alike
  (each child is handed to `CheckChildForTraversal` at most once per traversal, and one hand-over examines at most every entry once).
  Attained: one pattern `*/*/*` on the three-level tree (5 tests; example below).  One step of the loop is counted by the condition `descends` (= the step makes the recursive call).
* in every reachable state (`RReach`, ids pairwise distinct by `session_ids_distinct` of C05) the hypothesis of `send_deliveries_bounded` /
  `route_deliveries_bounded` is discharged (`cmd_deliveries_bounded_reach`, `route_deliveries_bounded_reach`).

NOT proved here (stays with the harness: `wping` witness after every hostile command, 20 s alarm per op, ASan/UBSan): wall-clock time; the
cost of one pattern test (`regcomp`/`regexec` for a clause, C15) and of one filter evaluation (C14); the multi-pattern re-check `MatchesNode`
(at most one per child, `pmMatchesPath` over one depth group); memory.
-/

namespace Muscle.Props.C07
open Muscle Muscle.Reflector Muscle.Eng.SrvEngine

/-- **Bounded number of visits.**  Any matcher, callback, tree, root depth, fuel: at most one recorded visit per node strictly below the
    traversal root (within `fuel` levels), hence fewer than `node.size`. -/
theorem traversal_visits_bounded (pm : PM) (useFilters : Bool) (rd : Nat) (cb : Visit → Nat → Node → Bool × Int) (node : Node)
    (fuel : Nat) :
    (doTraversal pm useFilters rd cb node fuel).length ≤ (descendants fuel node []).length ∧
    (descendants fuel node []).length + 1 ≤ node.size := by
  rw [wb_descendants_length]
  exact ⟨wb_travAux _ fuel node [] rd, wb_cnt_lt_size fuel node⟩

/-- the form "nodes × patterns": weaker than `traversal_visits_bounded`, which does not depend on the matcher at all -/
theorem traversal_visits_bounded_entries (pm : PM) (useFilters : Bool) (rd : Nat) (cb : Visit → Nat → Node → Bool × Int) (node : Node)
    (fuel : Nat) :
    (doTraversal pm useFilters rd cb node fuel).length + 1 ≤ node.size * max 1 (pmNumEntries pm) := by
  obtain ⟨h1, h2⟩ := traversal_visits_bounded pm useFilters rd cb node fuel
  have : node.size * 1 ≤ node.size * max 1 (pmNumEntries pm) := Nat.mul_le_mul_left _ (Nat.le_max_left ..)
  omega

/-- once the fuel covers the tree (`fits fuel₀ node`) the bound is the number of nodes below the root, whatever the fuel -/
theorem traversal_visits_bounded_fits (pm : PM) (useFilters : Bool) (rd : Nat) (cb : Visit → Nat → Node → Bool × Int) (node : Node)
    (fuel₀ j : Nat) (hfit : fits fuel₀ node = true) :
    (doTraversal pm useFilters rd cb node (fuel₀ + j)).length ≤ (descendants fuel₀ node []).length := by
  have := (traversal_visits_bounded pm useFilters rd cb node (fuel₀ + j)).1
  rwa [descendants_stable fuel₀ node [] hfit j] at this

/-- **Bounded depth.**  Every recorded path (relative to the traversal root) has at least 1 and at most `fuel` names. -/
theorem traversal_depth_bounded (pm : PM) (useFilters : Bool) (rd : Nat) (cb : Visit → Nat → Node → Bool × Int) (node : Node)
    (fuel : Nat) :
    ∀ v ∈ doTraversal pm useFilters rd cb node fuel, 1 ≤ v.length ∧ v.length ≤ fuel := by
  intro v hv
  obtain ⟨_, h2, h3⟩ := travAux_prefix _ fuel node [] rd v hv
  simp only [List.length_nil] at h2 h3
  omega

/-- the traversal from the global root that `sub`, `unsub`, `send` and `find` (absolute paths) run -/
theorem travGlobal_bounded (sv : Server) (pm : PM) (useFilters : Bool) (cb : Visit → Nat → Node → Bool × Int) :
    (travGlobal sv pm useFilters cb).length ≤ (descendants fuelDepth sv.root []).length ∧
    (travGlobal sv pm useFilters cb).length + 1 ≤ sv.root.size ∧
    ∀ v ∈ travGlobal sv pm useFilters cb, 1 ≤ v.length ∧ v.length ≤ fuelDepth := by
  obtain ⟨h1, h2⟩ := traversal_visits_bounded pm useFilters 0 cb sv.root fuelDepth
  exact ⟨h1, by unfold travGlobal; omega, traversal_depth_bounded pm useFilters 0 cb sv.root fuelDepth⟩

/-- the traversal from a session's own node that `rm`, `ins`, `reorder` and `find` (relative paths) run: bounded by the session's own
    subtree `n`; the recorded (absolute) paths have between 3 and `2 + fuelDepth` names -/
theorem travSession_bounded (sv : Server) (s : Sess) (pm : PM) (cb : Visit → Nat → Node → Bool × Int) :
    (∀ n, getNode sv (sessNames s) = some n →
      (travSession sv s pm cb).length ≤ (descendants fuelDepth n []).length ∧ (travSession sv s pm cb).length + 1 ≤ n.size) ∧
    (getNode sv (sessNames s) = none → travSession sv s pm cb = []) ∧
    ∀ v ∈ travSession sv s pm cb, 3 ≤ v.length ∧ v.length ≤ 2 + fuelDepth := by
  refine ⟨?_, ?_, ?_⟩
  · intro n hn
    obtain ⟨h1, h2⟩ := traversal_visits_bounded pm true 2 cb n fuelDepth
    unfold travSession
    rw [hn]
    simp only [List.length_map]
    exact ⟨h1, by omega⟩
  · intro hn
    unfold travSession
    rw [hn]
  · intro v hv
    obtain ⟨n, w, _, hw, rfl⟩ := travSession_suffix sv s pm cb v hv
    have := traversal_depth_bounded pm true 2 cb n fuelDepth w hw
    rw [List.length_append, sessNames_length]
    omega

/-- **Deliveries of `route`.**  Session ids pairwise distinct: the lines queued for all clients together grow by at most one per recorded
    visit, hence by at most the number of nodes below the root. -/
theorem route_deliveries_bounded (sv : Server) (sid : Nat) (pm : PM) (what : String) (hnd : (sv.sessions.map (·.sid)).Nodup) :
    wbTotal (route sv sid pm what) ≤ wbTotal sv + (travGlobal sv pm true (fun _ _ _ => (true, 1))).length ∧
    wbTotal (route sv sid pm what) ≤ wbTotal sv + (descendants fuelDepth sv.root []).length ∧
    wbTotal (route sv sid pm what) + 1 ≤ wbTotal sv + sv.root.size := by
  have h := (wb_route sv sid pm what hnd).1
  obtain ⟨b1, b2, _⟩ := travGlobal_bounded sv pm true (fun _ _ _ => (true, 1))
  exact ⟨h, by omega, by omega⟩

/-- **Deliveries of one client-to-client Message**, whichever of the three branches of `sendMsg` it takes (explicit keys, default route,
    broadcast): at most `max (nodes below the root) (sessions)` lines are queued, for all clients together. -/
theorem send_deliveries_bounded (sv : Server) (sid tag : Nat) (keys : List Bytes) (hnd : (sv.sessions.map (·.sid)).Nodup) :
    wbTotal (runCmd sv sid (.send tag keys)) ≤
      wbTotal sv + max (descendants fuelDepth sv.root []).length sv.sessions.length := by
  show wbTotal (sendMsg sv sid tag keys) ≤ _
  have hl := Nat.le_max_left (descendants fuelDepth sv.root []).length sv.sessions.length
  have hr := Nat.le_max_right (descendants fuelDepth sv.root []).length sv.sessions.length
  have hroute : ∀ pm what, wbTotal (route sv sid pm what) ≤
      wbTotal sv + max (descendants fuelDepth sv.root []).length sv.sessions.length := fun pm what =>
    Nat.le_trans (route_deliveries_bounded sv sid pm what hnd).2.1 (by omega)
  unfold sendMsg
  split
  · omega
  · refine ite_pred (P := fun x => wbTotal x ≤ _) (hroute _ _) (ite_pred (P := fun x => wbTotal x ≤ _) (hroute _ _) ?_)
    refine Nat.le_trans (wb_fold _ (fun sv1 t h1 => ?_) sv.sessions sv hnd).1 (by omega)
    exact ite_pred (P := fun x => wbTotal x ≤ wbTotal sv1 + 1 ∧ x.sessions.map (·.sid) = sv1.sessions.map (·.sid))
      (wb_deliver _ _ _ h1) ⟨by omega, rfl⟩

/-! Non-vacuity: the bound is attained.  The three-level tree of C05 (one host, two sessions, one node each: 5 nodes below the root, 6 in
    all) and the matcher `*`, `*/*`, `*/*/*`: five visits.  With 9 patterns that all match everything: still five visits. -/
def exWbAll : PM :=
  [(1, [{ path := [42], clauses := [[42]], filter := none }]),
   (2, [{ path := [42, 47, 42], clauses := [[42], [42]], filter := none }]),
   (3, [{ path := [42, 47, 42, 47, 42], clauses := [[42], [42], [42]], filter := none }])]
def exWbMany : PM :=
  [(1, [{ path := [42], clauses := [[42]], filter := none }, { path := [42, 42], clauses := [[42]], filter := none },
        { path := [63], clauses := [[42]], filter := none }]),
   (2, [{ path := [42, 47, 42], clauses := [[42], [42]], filter := none }, { path := [1], clauses := [[42], [42]], filter := none },
        { path := [2], clauses := [[42], [42]], filter := none }]),
   (3, [{ path := [42, 47, 42, 47, 42], clauses := [[42], [42], [42]], filter := none },
        { path := [3], clauses := [[42], [42], [42]], filter := none }, { path := [4], clauses := [[42], [42], [42]], filter := none }])]

example : (doTraversal exWbAll true 0 cbContinue C05.exSrvTree 4).length = 5 ∧
    (descendants 4 C05.exSrvTree []).length = 5 ∧ C05.exSrvTree.size = 6 ∧ fits 3 C05.exSrvTree = true ∧
    pmNumEntries exWbMany = 9 ∧ (doTraversal exWbMany true 0 cbContinue C05.exSrvTree 4).length = 5 ∧
    (doTraversal exWbAll true 0 cbContinue C05.exSrvTree 2).length = 3 ∧ (descendants 2 C05.exSrvTree []).length = 3 ∧
    (doTraversal exWbAll true 0 cbContinue C05.exSrvTree 4).map List.length = [1, 2, 3, 2, 3] := by decide

/-- deliveries: three sessions on two hosts; session 0 broadcasts: 2 copies (sessions 1 and 2), within the bound (3 sessions). -/
example : (C05.exBcSv.sessions.map (·.sid)).Nodup ∧ wbTotal C05.exBcSv = 0 ∧ C05.exBcSv.sessions.length = 3 ∧
    wbTotal (runCmd C05.exBcSv 0 (.send 7 [])) = 2 := by decide

/-! ### the whole tree bounds every traversal; pattern tests per child; reachable states -/

/-- a node found in the tree is no larger than the tree -/
theorem getNode_size_le (sv : Server) (path : List Bytes) (n : Node) (h : getNode sv path = some n) : n.size ≤ sv.root.size :=
  wb_getNode_size h

theorem nodeAt_size_le (fuel : Nat) (root : Node) (path : List Bytes) (n : Node) (h : nodeAt fuel root path = some n) :
    n.size ≤ root.size :=
  wb_nodeAt_size path fuel root n h

/-- the traversal from a session's own node records fewer visits than the WHOLE tree has nodes (whether or not the session node exists) -/
theorem travSession_bounded_root (sv : Server) (s : Sess) (pm : PM) (cb : Visit → Nat → Node → Bool × Int) :
    (travSession sv s pm cb).length + 1 ≤ sv.root.size := by
  obtain ⟨h1, h2, _⟩ := travSession_bounded sv s pm cb
  cases hn : getNode sv (sessNames s) with
  | none =>
    rw [h2 hn]
    have := wb_cnt_lt_size 0 sv.root
    simp only [List.length_nil]
    omega
  | some n =>
    have := (h1 n hn).2
    have := wb_getNode_size hn
    omega

/-- **Pattern tests per child.**  The instrumented entry loop computes the same state as `checkEntries` and examines at most as many
    entries as take part at the level, at most `pmNumEntries ctx.pm` (for the entry list `checkChild` passes: `activeEntries`). -/
theorem pattern_tests_bounded (ctx : TCtx) (rec : Rec) (child : Node) (cn : Visit) (depth : Nat) (known : Option Nat) :
    (∀ (es : List Entry) (idx : Nat) (st : CState),
      (checkEntriesCost ctx rec child cn depth known es idx st).1 = checkEntries ctx rec child cn depth known es idx st ∧
      (checkEntriesCost ctx rec child cn depth known es idx st).2 ≤ es.length) ∧
    (checkEntriesCost ctx rec child cn depth known (activeEntries ctx.pm (depth - ctx.rootDepth)) 0 {}).2 ≤ pmNumEntries ctx.pm := by
  refine ⟨wb_checkEntriesCost ctx rec child cn depth known, ?_⟩
  exact Nat.le_trans (wb_checkEntriesCost ctx rec child cn depth known _ 0 {}).2 (wb_activeEntries_length _ _)

/-- the instrumented loop IS `checkChild` when run the way `checkChild` runs it -/
theorem pattern_tests_checkChild (ctx : TCtx) (rec : Rec) (child : Node) (names : Visit) (depth : Nat) (known : Option Nat) :
    checkChild ctx rec child names depth known =
      ((checkEntriesCost ctx rec child (names ++ [child.name]) depth known (activeEntries ctx.pm (depth - ctx.rootDepth)) 0 {}).1.visits,
       (checkEntriesCost ctx rec child (names ++ [child.name]) depth known (activeEntries ctx.pm (depth - ctx.rootDepth)) 0 {}).1.abort) := by
  rw [(wb_checkEntriesCost ctx rec child (names ++ [child.name]) depth known _ 0 {}).1]
  rfl

/-- **Deliveries of one client-to-client Message in a reachable state**: no hypothesis on the ids. -/
theorem cmd_deliveries_bounded_reach (sv : Server) (h : RReach sv) (sid tag : Nat) (keys : List Bytes) :
    wbTotal (runCmd sv sid (.send tag keys)) ≤
      wbTotal sv + max (descendants fuelDepth sv.root []).length sv.sessions.length :=
  send_deliveries_bounded sv sid tag keys (C05.session_ids_distinct sv h).1

theorem route_deliveries_bounded_reach (sv : Server) (h : RReach sv) (sid : Nat) (pm : PM) (what : String) :
    wbTotal (route sv sid pm what) ≤ wbTotal sv + (travGlobal sv pm true (fun _ _ _ => (true, 1))).length ∧
    wbTotal (route sv sid pm what) ≤ wbTotal sv + (descendants fuelDepth sv.root []).length ∧
    wbTotal (route sv sid pm what) + 1 ≤ wbTotal sv + sv.root.size :=
  route_deliveries_bounded sv sid pm what (C05.session_ids_distinct sv h).1

/-- in terms of the size of the tree alone: fewer than `max (nodes of the tree) (sessions + 1)` new lines -/
theorem cmd_deliveries_bounded_reach_size (sv : Server) (h : RReach sv) (sid tag : Nat) (keys : List Bytes) :
    wbTotal (runCmd sv sid (.send tag keys)) + 1 ≤ wbTotal sv + max sv.root.size (sv.sessions.length + 1) := by
  have h1 := cmd_deliveries_bounded_reach sv h sid tag keys
  have h2 := (traversal_visits_bounded [] true 0 cbContinue sv.root fuelDepth).2
  have := Nat.le_max_left sv.root.size (sv.sessions.length + 1)
  have := Nat.le_max_right sv.root.size (sv.sessions.length + 1)
  rcases Nat.le_total (descendants fuelDepth sv.root []).length sv.sessions.length with hc | hc
  · rw [Nat.max_eq_right hc] at h1; omega
  · rw [Nat.max_eq_left hc] at h1; omega

/-- non-vacuity: the three-session state of C05 is reachable -/
example : RReach C05.exBcSv := .attach _ _ (.attach _ _ (.attach _ _ .init))

/-- two `*/*/*` entries, then `*`: the loop examines all three for a host node (descent at the first, nothing at the second, the callback
    at the third): the bound `pmNumEntries` is attained.  With `exWbAll` (`*`, `*/*`, `*/*/*`) the loop stops after two entries at the first
    level (`done`), and only one entry takes part at the third level. -/
def exWbRev : PM :=
  [(3, [{ path := [42, 47, 42, 47, 42], clauses := [[42], [42], [42]], filter := none },
        { path := [1], clauses := [[42], [42], [42]], filter := none }]),
   (1, [{ path := [42], clauses := [[42]], filter := none }])]

example : pmNumEntries exWbRev = 3 ∧ pmNumEntries exWbAll = 3 ∧
    (checkEntriesCost { pm := exWbRev, useFilters := true, rootDepth := 0, cb := cbContinue }
      (travAux { pm := exWbRev, useFilters := true, rootDepth := 0, cb := cbContinue } 3)
      (.mk [104] none [] [] 0 []) [[104]] 0 none (activeEntries exWbRev 0) 0 {}).2 = 3 ∧
    (checkEntriesCost { pm := exWbAll, useFilters := true, rootDepth := 0, cb := cbContinue }
      (travAux { pm := exWbAll, useFilters := true, rootDepth := 0, cb := cbContinue } 3)
      (.mk [104] none [] [] 0 []) [[104]] 0 none (activeEntries exWbAll 0) 0 {}).2 = 2 ∧
    (checkEntriesCost { pm := exWbAll, useFilters := true, rootDepth := 0, cb := cbContinue }
      (travAux { pm := exWbAll, useFilters := true, rootDepth := 0, cb := cbContinue } 1)
      (.mk [120] none [] [] 0 []) [[104], [115], [120]] 2 none (activeEntries exWbAll 2) 0 {}).2 = 1 := by decide

/-! ### total pattern tests of one traversal -/

/-- the instrumented traversal, any arguments: same result, and at most (nodes below `node` within `fuel`) × (entries of the matcher) tests -/
theorem traversal_tests_twin (ctx : TCtx) (fuel : Nat) (node : Node) (names : Visit) (depth : Nat) :
    (travAuxC ctx fuel node names depth).1 = travAux ctx fuel node names depth ∧
    (travAuxC ctx fuel node names depth).2 ≤ (descendants fuel node names).length * pmNumEntries ctx.pm := by
  rw [wb_descendants_length]
  exact ⟨wb_travAuxC_fst ctx fuel node names depth, wb_travAuxC_cost ctx fuel node names depth⟩

/-- **Bounded number of pattern tests.**  Any matcher, callback, tree, root depth, fuel: the instrumented traversal records exactly the
    visits of `doTraversal`, and examines at most (nodes strictly below the root within `fuel`) × `pmNumEntries pm` pattern entries. -/
theorem traversal_tests_bounded (pm : PM) (useFilters : Bool) (rd : Nat) (cb : Visit → Nat → Node → Bool × Int) (node : Node)
    (fuel : Nat) :
    (travAuxC { pm := pm, useFilters := useFilters, rootDepth := rd, cb := cb } fuel node [] rd).1.1 =
      doTraversal pm useFilters rd cb node fuel ∧
    (travAuxC { pm := pm, useFilters := useFilters, rootDepth := rd, cb := cb } fuel node [] rd).2 ≤
      (descendants fuel node []).length * pmNumEntries pm ∧
    (travAuxC { pm := pm, useFilters := useFilters, rootDepth := rd, cb := cb } fuel node [] rd).2 + pmNumEntries pm ≤
      node.size * pmNumEntries pm := by
  obtain ⟨h1, h2⟩ := traversal_tests_twin { pm := pm, useFilters := useFilters, rootDepth := rd, cb := cb } fuel node [] rd
  refine ⟨by rw [h1]; rfl, h2, ?_⟩
  have h3 := (traversal_visits_bounded pm useFilters rd cb node fuel).2
  have h4 : ((descendants fuel node []).length + 1) * pmNumEntries pm ≤ node.size * pmNumEntries pm := Nat.mul_le_mul_right _ h3
  rw [Nat.add_mul, Nat.one_mul] at h4
  exact Nat.le_trans (Nat.add_le_add_right h2 _) h4

/-- the traversal from the global root of a server: tests ≤ (nodes below the root) × (entries), fewer than (nodes of the tree) × (entries) -/
theorem travGlobal_tests_bounded (sv : Server) (pm : PM) (useFilters : Bool) (cb : Visit → Nat → Node → Bool × Int) :
    (travAuxC { pm := pm, useFilters := useFilters, rootDepth := 0, cb := cb } fuelDepth sv.root [] 0).1.1 =
      travGlobal sv pm useFilters cb ∧
    (travAuxC { pm := pm, useFilters := useFilters, rootDepth := 0, cb := cb } fuelDepth sv.root [] 0).2 ≤
      (descendants fuelDepth sv.root []).length * pmNumEntries pm ∧
    (travAuxC { pm := pm, useFilters := useFilters, rootDepth := 0, cb := cb } fuelDepth sv.root [] 0).2 + pmNumEntries pm ≤
      sv.root.size * pmNumEntries pm :=
  traversal_tests_bounded pm useFilters 0 cb sv.root fuelDepth

/-- the traversal from a session's own node: tests ≤ (nodes below the session node) × (entries) ≤ (nodes of the whole tree) × (entries) -/
theorem travSession_tests_bounded (sv : Server) (s : Sess) (pm : PM) (cb : Visit → Nat → Node → Bool × Int) (n : Node)
    (hn : getNode sv (sessNames s) = some n) :
    travSession sv s pm cb =
      (travAuxC { pm := pm, useFilters := true, rootDepth := 2, cb := cb } fuelDepth n [] 2).1.1.map (fun v => sessNames s ++ v) ∧
    (travAuxC { pm := pm, useFilters := true, rootDepth := 2, cb := cb } fuelDepth n [] 2).2 + pmNumEntries pm ≤
      sv.root.size * pmNumEntries pm := by
  obtain ⟨h1, _, h3⟩ := traversal_tests_bounded pm true 2 cb n fuelDepth
  refine ⟨by unfold travSession; rw [hn, h1], ?_⟩
  exact Nat.le_trans h3 (Nat.mul_le_mul_right _ (wb_getNode_size hn))

/-- non-vacuity on the three-level tree (5 nodes below the root): one pattern `*/*/*`: 5 tests = 5 × 1 (attained); `*`, `*/*`, `*/*/*`: 8;
    two `*/*/*` then `*`: 11; nine patterns: 18 — within 5 × 3, 5 × 3, 5 × 9; and the instrumented traversal returns the real visits -/
example :
    (travAuxC { pm := C05.exPM3, useFilters := true, rootDepth := 0, cb := cbContinue } 4 C05.exSrvTree [] 0).2 = 5 ∧
    pmNumEntries C05.exPM3 = 1 ∧
    (travAuxC { pm := exWbAll, useFilters := true, rootDepth := 0, cb := cbContinue } 4 C05.exSrvTree [] 0).2 = 8 ∧
    (travAuxC { pm := exWbRev, useFilters := true, rootDepth := 0, cb := cbContinue } 4 C05.exSrvTree [] 0).2 = 11 ∧
    (travAuxC { pm := exWbMany, useFilters := true, rootDepth := 0, cb := cbContinue } 4 C05.exSrvTree [] 0).2 = 18 ∧
    (travAuxC { pm := exWbAll, useFilters := true, rootDepth := 0, cb := cbContinue } 4 C05.exSrvTree [] 0).1.1 =
      doTraversal exWbAll true 0 cbContinue C05.exSrvTree 4 := by decide

end Muscle.Props.C07
