import MuscleModel.Reflector.IndexProofsReach
import MuscleModel.Reflector.IndexProofsStep
import MuscleModel.Reflector.IndexProofsInstr

/-!
# C13 — An ordered child index replayed from its update log equals the server's index

Property theorems.  Definitions: `Reflector/IndexSpec.lean` (`Instr`, `Instr.render`, `Instr.parse`, the
client `replay`/`replayAll`, `InRange`, `IdxInv`, `AllNodes`, `IdxOp`, `runOps`, `snapshotLog`); lemmas:
`Reflector/IndexProofsList.lean` (list algebra), `DecBytes.lean` (decimal digits), `IndexProofsInstr.lean` (`:` parsing, `doGetData`'s snapshot),
`IndexProofsTree.lean`, `IndexProofsOps.lean`, `IndexProofsRemove.lean`, `AutoNames.lean` (generated names are unused),
`Changes.lean` (the step equations of the clause loop of `SetDataNode`),
`IndexProofsStep.lean`, `IndexProofsTrav.lean` (every traversal visit is an existing node),
`IndexProofsTreeInv.lean` (whole trees: every model function, `SetDataNode`, the handlers),
`IndexProofsClone.lean` (subtree clone / restore: model in `Reflector/Clone.lean`),
`IndexProofsReach.lean` (every engine command, every engine state, over `EngineStep.lean`).

How the statements fit together.

* The client is `replay : index → instruction bytes → Option index` (`none` = the client would refuse the
  instruction: position out of range, wrong name at a remove position, unknown op).  It reads rendered
  instructions back exactly (`parse_render`), for every name (names may contain `:`).
* For each index-changing model function `F` there is an `…_emits` equation
  `F sv … = notifyIndex sv₀ parent p' (instruction)` with `sv₀` an explicit term and
  `getNode sv₀ parent = some p'`: this exposes exactly what `F` hands to
  `notifyIndex` and that the node it notifies about is the parent as it is after the change.
  `log_replay_F` then says that the client applying that instruction to the parent's old index holds the
  parent's new index.
* `IdxOp.log` collects those instructions as a function of the state before; `log_replay` lifts to arbitrary
  sequences of operations on one parent; `snapshot_replay` is the GETDATA snapshot.
* Delivery of what `notifyIndex` queues to each subscriber, in order, is property C04 (not restated here).
-/

namespace Muscle.Props.C13
open Muscle Muscle.Reflector

/-! ## a concrete state used by the non-vacuity examples: a node with children `a`, `b`, both indexed -/

def exNode : Node := .mk [] none [.mk [97] none [] [] 0 [], .mk [98] none [] [] 0 []] [[97], [98]] 0 []
def exSv : Server := { root := exNode }

example : getNode exSv [] = some exNode := rfl
example : getNode exSv ([] ++ [[98]]) = some (.mk [98] none [] [] 0 []) := rfl
example : lastIndexOf exNode.index [98] = some 1 := by decide
example : lastIndexOf exNode.index [99] = none := by decide
example : IdxInv exNode := ⟨by decide, by decide⟩
example : exNode.index.Nodup := by decide

/-! ## the instruction format -/

/-- The client's reading (`op` = first byte, `atol` of the digits, split at the FIRST `:`) of a rendered
    instruction is that instruction — for every position and every name, including names containing `:`
    or digits. -/
theorem parse_render (i : Instr) : Instr.parse i.render = some i :=
  Reflector.parse_render i

/-- so the raw client on rendered instructions is the structured client -/
theorem replay_render (ix : List Bytes) (l : List Instr) :
    replayAll ix (l.map Instr.render) = applyAll ix l :=
  replayAll_render ix l

example : Instr.parse (Instr.ins 12 [58, 49, 58]).render = some (Instr.ins 12 [58, 49, 58]) := parse_render _

/-! ## replay of the log, per function -/

/-- `RemoveIndexEntry(key, notify)` when `key` is indexed (last occurrence at `i`): the equation exposing the
    instruction, the parent afterwards, and the client's replay. -/
theorem log_replay_removeIndexEntry {sv : Server} {parent : List Bytes} {p : Node} {key : Bytes} {i : Nat}
    (h : getNode sv parent = some p) (hi : lastIndexOf p.index key = some i) :
    removeIndexEntry sv parent key true =
        notifyIndex (setNode sv parent (fun q => q.setIndex (q.index.eraseIdx i))) parent
          (p.setIndex (p.index.eraseIdx i)) (Instr.rem i key).render ∧
      getNode (setNode sv parent (fun q => q.setIndex (q.index.eraseIdx i))) parent =
        some (p.setIndex (p.index.eraseIdx i)) ∧
      getNode (removeIndexEntry sv parent key true) parent = some (p.setIndex (p.index.eraseIdx i)) ∧
      replayAll p.index [(Instr.rem i key).render] = some (p.setIndex (p.index.eraseIdx i)).index := by
  refine ⟨removeIndexEntry_emits h hi, getNode_setIndex _ h, ?_, ?_⟩
  · rw [removeIndexEntry_emits h hi, getNode_notifyIndex]; exact getNode_setIndex _ h
  · simp [replayAll_render_one, Instr.apply, lastIndexOf_some hi]

/-- …and when `key` is not indexed nothing happens and nothing is emitted. -/
theorem removeIndexEntry_silent {sv : Server} {parent : List Bytes} {p : Node} {key : Bytes} (notify : Bool)
    (h : getNode sv parent = some p) (hi : lastIndexOf p.index key = none) :
    removeIndexEntry sv parent key notify = sv :=
  removeIndexEntry_none notify h hi

/-- `InsertOrderedChild(data, before, name)` with `before ≠ "!Rmv"`: the equation exposing the instruction
    (`insertOrderedPre` is the explicit state at the time of the notification: counter advanced, child put, entry
    inserted), the parent afterwards, and the client's replay.  Position = last entry named `before`, default
    end; name = the given one or the generated `I<n>`. -/
theorem log_replay_insertOrderedChild {sv : Server} {parent : List Bytes} {p : Node} (by_ : Nat) (d : Option Nat)
    {before : Bytes} (name : Bytes) (nc : Bool) (h : getNode sv parent = some p)
    (hb : before ≠ removeFromIndexName) :
    ∃ p', getNode (insertOrderedPre sv by_ parent d (ordPair p name).1 (ordPair p name).2 (insertPos p.index before) nc)
          parent = some p' ∧
      insertOrderedChild sv by_ parent d before name nc =
        notifyIndex (insertOrderedPre sv by_ parent d (ordPair p name).1 (ordPair p name).2 (insertPos p.index before) nc)
          parent p' (Instr.ins (insertPos p.index before) (ordPair p name).1).render ∧
      getNode (insertOrderedChild sv by_ parent d before name nc) parent = some p' ∧
      (∃ c, c.name = (ordPair p name).1 ∧ p'.kids = putKid c p.kids) ∧
      replayAll p.index [(Instr.ins (insertPos p.index before) (ordPair p name).1).render] = some p'.index := by
  exact ⟨_, getNode_insertOrderedPre _ _ _ _ _ _ h, insertOrderedChild_emits by_ d name nc h hb,
    getNode_insertOrderedChild by_ d name nc h hb, insertOrderedNode_kids _ _ _ _ _ _ _,
    by simp [replayAll_render_one, apply_ins_le _ (insertPos_le _ _)]⟩

/-- `InsertOrderedChild(data, "!Rmv", name)` (PR_NAME_REMOVE_FROM_INDEX): the child is created but not indexed —
    the function IS the state after the put (`insertOrderedPut`: counter advanced, child stored; nothing is handed
    to `notifyIndex`), the parent's index is unchanged, and the empty log replays to it. -/
theorem log_replay_insertOrderedChild_unindexed {sv : Server} {parent : List Bytes} {p : Node} (by_ : Nat)
    (d : Option Nat) (name : Bytes) (nc : Bool) (h : getNode sv parent = some p) :
    insertOrderedChild sv by_ parent d removeFromIndexName name nc =
        insertOrderedPut sv by_ parent d (ordPair p name).1 (ordPair p name).2 nc ∧
      ∃ p', getNode (insertOrderedChild sv by_ parent d removeFromIndexName name nc) parent = some p' ∧
        p'.index = p.index ∧ (∃ c, c.name = (ordPair p name).1 ∧ p'.kids = putKid c p.kids) ∧
        replayAll p.index [] = some p'.index := by
  have he := insertOrderedChild_unindexed by_ d name nc h rfl
  exact ⟨he, _, by rw [he]; exact getNode_insertOrderedPut _ _ _ _ _ h, insertOrderedPutNode_index _ _ _ _ _ _,
    insertOrderedPutNode_kids _ _ _ _ _ _, by simp [replayAll]⟩

/-- `ReorderChild(child, before)` emits: nothing (before itself / remove-from-index of something in an empty
    index), the removal alone (`before = "!Rmv"`), or the removal (if the child was indexed) followed by an
    insert.  These four equations expose the calls; the removal is `removeIndexEntry … true`, whose own
    instruction is exposed by `log_replay_removeIndexEntry`. -/
theorem reorderChild_emitted {sv : Server} {parent : List Bytes} {p : Node} (child before : Bytes)
    (h : getNode sv parent = some p) :
    (before = child → reorderChild sv parent child before = sv) ∧
    ((p.index.isEmpty && !(p.index.contains child) && before = removeFromIndexName) = true →
      reorderChild sv parent child before = sv) ∧
    (before ≠ child → ¬ (p.index.isEmpty && !(p.index.contains child) && before = removeFromIndexName) = true →
      before = removeFromIndexName → reorderChild sv parent child before = removeIndexEntry sv parent child true) ∧
    (before ≠ child → ¬ (p.index.isEmpty && !(p.index.contains child) && before = removeFromIndexName) = true →
      before ≠ removeFromIndexName →
      reorderChild sv parent child before =
        notifyIndex
          (setNode (removeIndexEntry sv parent child true) parent
            (fun q => q.setIndex (q.index.take (reorderTarget p child before) ++ [child] ++
              q.index.drop (reorderTarget p child before))))
          parent (p.setIndex (insertAt (eraseLast p.index child) (reorderTarget p child before) child))
          (Instr.ins (reorderTarget p child before) child).render) :=
  ⟨fun hb => reorderChild_self h hb, fun hg => reorderChild_nothing h hg,
   fun hb hg hr => reorderChild_remove h hb hg hr, fun hb hg hr => reorderChild_emits h hb hg hr⟩

/-- …and replaying those instructions (`reorderLog`) on the parent's old index gives its new index; the
    children are untouched. -/
theorem log_replay_reorderChild {sv : Server} {parent : List Bytes} {p : Node} (child before : Bytes)
    (h : getNode sv parent = some p) :
    ∃ p', getNode (reorderChild sv parent child before) parent = some p' ∧ p'.kids = p.kids ∧
      replayAll p.index ((reorderLog p child before).map Instr.render) = some p'.index := by
  refine ⟨_, getNode_reorderChild child before h, by simp, ?_⟩
  rw [replayAll_render, applyAll_reorderLog]; simp

/-- `RemoveChild`'s body for one child (`removeOne`, notifying): it is `RemoveIndexEntry(key, notify)` followed by
    the removed-notification and the removal of the child (`removeOneRest`); the client that applies the one
    emitted instruction (if the child was indexed) holds the parent's new index. -/
theorem log_replay_removeOne {sv : Server} {parent : List Bytes} {p c : Node} {key : Bytes} (by_ : Nat)
    (h : getNode sv parent = some p) (hc : getNode sv (parent ++ [key]) = some c) :
    removeOne sv by_ true (parent ++ [key]) =
        removeOneRest (removeIndexEntry sv parent key true) by_ true parent key ∧
      ∃ p', getNode (removeOne sv by_ true (parent ++ [key])) parent = some p' ∧
        p'.kids = removeKid key p.kids ∧
        replayAll p.index ((remLog p.index key).map Instr.render) = some p'.index := by
  refine ⟨removeOne_eq by_ true hc, _, getNode_removeOne by_ true h hc, by simp, ?_⟩
  rw [replayAll_render, applyAll_remLog]; simp

/-- `RemoveChild(key, notify, recurse)`: first the descendants (`removeDescs`, which leaves the parent's index
    alone: second conjunct), then `removeOne` of the child itself; the client that
    applies the one emitted instruction holds the parent's new index. -/
theorem log_replay_removeChild {sv : Server} {parent : List Bytes} {p c : Node} {key : Bytes} (by_ : Nat)
    (h : getNode sv parent = some p) (hc : getNode sv (parent ++ [key]) = some c) :
    removeChild sv by_ true (parent ++ [key]) =
        removeOne (removeDescs sv by_ true (parent ++ [key]) c) by_ true (parent ++ [key]) ∧
      (∃ q, getNode (removeDescs sv by_ true (parent ++ [key]) c) parent = some q ∧ q.index = p.index) ∧
      ∃ p', getNode (removeChild sv by_ true (parent ++ [key])) parent = some p' ∧
        replayAll p.index ((remLog p.index key).map Instr.render) = some p'.index := by
  refine ⟨removeChild_eq by_ true hc, removeDescs_parent_index by_ true c h, _, getNode_removeChild by_ true h hc, ?_⟩
  rw [replayAll_render, applyAll_remLog]; simp

/-! ## sequences of operations, and the snapshot -/

/-- For every list of index operations on the children of one node (ordered inserts with generated or explicit
    names, reorders, index-entry removals, removals of indexed and non-indexed children with or without
    subtrees, plain puts): the client that starts from the node's index and applies the concatenated log, in
    order, holds exactly the node's final index (and never refuses an instruction). -/
theorem log_replay {parent : List Bytes} (ops : List IdxOp) {sv : Server} {p : Node}
    (h : getNode sv parent = some p) :
    ∃ p', getNode (runOps parent sv ops).1 parent = some p' ∧
      replayAll p.index (runOps parent sv ops).2 = some p'.index := by
  obtain ⟨p', h1, h2, _⟩ := runOps_step ops h
  exact ⟨p', h1, by rw [runOps_log, replayAll_render]; exact h2⟩

/-- non-vacuity: a run on the concrete node (reorder `b` before `a`, insert `c` at the end, remove `a`) -/
example : ∃ p', getNode (runOps [] exSv [.reorder [98] [97], .insert 0 none [] [99] true, .removeChild 0 [97]]).1 []
    = some p' ∧ replayAll exNode.index
      (runOps [] exSv [.reorder [98] [97], .insert 0 none [] [99] true, .removeChild 0 [97]]).2 = some p'.index :=
  log_replay _ rfl

/-- The snapshot `c, i0:n0, i1:n1, …` replayed on ANY client index gives exactly the server's index. -/
theorem snapshot_replay (clientIx ix : List Bytes) : replayAll clientIx (snapshotLog ix) = some ix := by
  rw [snapshotLog_eq, replayAll_render]
  exact applyAll_snapshot clientIx ix

/-- `snapshotLog` is what `doGetData` sends: the exact expression it evaluates for a node with a non-empty index
    appends `c, i0:n0, i1:n1, …` to that node's field (`idxField … np`) of the PR_RESULT_INDEXUPDATED Message. -/
theorem snapshot_emitted (im : IdxMsg) (np : Bytes) (ix : List Bytes) :
    idxField ((ix.zipIdx).foldl (fun im (nm, i) => IdxMsg.add im np (instrOf 'i' i nm))
      (IdxMsg.add im np "c".toUTF8.toList)) np = idxField im np ++ snapshotLog ix := by
  have := idxField_foldl_add (fun (x : Bytes × Nat) => instrOf 'i' x.2 x.1) np ix.zipIdx (IdxMsg.add im np "c".toUTF8.toList)
  rw [idxField_add] at this
  simpa [snapshotLog] using this

/-- A subscriber that joins at any point: snapshot, then the log of whatever happens afterwards. -/
theorem snapshot_then_log_replay {parent : List Bytes} (ops : List IdxOp) {sv : Server} {p : Node}
    (clientIx : List Bytes) (h : getNode sv parent = some p) :
    ∃ p', getNode (runOps parent sv ops).1 parent = some p' ∧
      replayAll clientIx (snapshotLog p.index ++ (runOps parent sv ops).2) = some p'.index := by
  obtain ⟨p', hp', hr⟩ := log_replay ops h
  exact ⟨p', hp', by rw [replayAll_append, snapshot_replay]; exact hr⟩

/-! ## positions -/

/-- Every emitted insert position is ≤ the current length, every remove position is < the current length and the
    removed name is the name at that position — along the whole log of any run. -/
theorem positions_in_range {parent : List Bytes} (ops : List IdxOp) {sv : Server} {p : Node}
    (h : getNode sv parent = some p) :
    InRange p.index (opsLog parent sv ops) ∧ (runOps parent sv ops).2 = (opsLog parent sv ops).map Instr.render := by
  obtain ⟨_, _, hr, _⟩ := runOps_step ops h
  exact ⟨inRange_of_applyAll hr, runOps_log parent sv ops⟩

/-- the same for the snapshot, from any client index -/
theorem positions_in_range_snapshot (clientIx ix : List Bytes) :
    InRange clientIx (Instr.clear :: (ix.zipIdx.map (fun (nm, i) => Instr.ins i nm))) :=
  inRange_of_applyAll (applyAll_snapshot clientIx ix)

/-! ## the index lists existing children, each at most once -/

/-- One operation keeps the invariant of the node whose children it works on.  `IdxOp.ok`: `InsertOrderedChild`
    does not index (`before = "!Rmv"`) or the name it uses is not already an indexed child; `ReorderChild` names
    an existing child (or removes from the index). -/
theorem index_sound_step {sv : Server} {parent : List Bytes} {p : Node} (op : IdxOp)
    (h : getNode sv parent = some p) (hinv : IdxInv p) (hok : op.ok p) :
    ∃ p', getNode (op.run parent sv) parent = some p' ∧ IdxInv p' := by
  obtain ⟨p', h1, _, h2⟩ := op.step h
  exact ⟨p', h1, h2 hinv hok⟩

example : (IdxOp.reorder [98] [97]).ok exNode := by simp [IdxOp.ok, exNode, findKid, Node.name, Node.kids]
example : (IdxOp.insert 0 none [] [99] true).ok exNode := by right; left; decide

/-- …and so does every sequence of operations. -/
theorem index_sound_run {parent : List Bytes} (ops : List IdxOp) {sv : Server} {p : Node}
    (h : getNode sv parent = some p) (hinv : IdxInv p) (hok : OpsOk parent sv ops) :
    ∃ p', getNode (runOps parent sv ops).1 parent = some p' ∧ IdxInv p' := by
  obtain ⟨p', h1, _, h3⟩ := runOps_step ops h
  exact ⟨p', h1, h3 hinv hok⟩

/-! ## removal drops the entry -/

/-- After `removeOne` of child `key`, `key` is not in the parent's index. -/
theorem remove_drops_entry_removeOne {sv : Server} {parent : List Bytes} {p c : Node} {key : Bytes} (by_ : Nat)
    (notify : Bool) (h : getNode sv parent = some p) (hc : getNode sv (parent ++ [key]) = some c)
    (hn : p.index.Nodup) :
    ∃ p', getNode (removeOne sv by_ notify (parent ++ [key])) parent = some p' ∧ key ∉ p'.index := by
  exact ⟨_, getNode_removeOne by_ notify h hc, by simpa using not_mem_eraseLast key hn⟩

/-- After `removeChild` (recursive) of child `key`, `key` is not in the parent's index. -/
theorem remove_drops_entry {sv : Server} {parent : List Bytes} {p c : Node} {key : Bytes} (by_ : Nat)
    (notify : Bool) (h : getNode sv parent = some p) (hc : getNode sv (parent ++ [key]) = some c)
    (hn : p.index.Nodup) :
    ∃ p', getNode (removeChild sv by_ notify (parent ++ [key])) parent = some p' ∧ key ∉ p'.index := by
  exact ⟨_, getNode_removeChild by_ notify h hc, by simpa using not_mem_eraseLast key hn⟩

/-! ## `SetDataNode` with SETDATANODE_FLAG_ADDTOINDEX -/

/-- The clause loop of `SetDataNode(path, data, ADDTOINDEX)`: an inner clause creates a missing child by a plain
    `PutChild` (no index change) and descends; at the last clause an existing child means nothing happens at all,
    a missing child means exactly `InsertOrderedChild(data, "", clause)` on the node reached — whose instruction
    and replay are `log_replay_insertOrderedChild` (position = before the last entry with the empty name, i.e. the
    end of the index unless a child with an empty name is indexed). -/
theorem log_replay_setDataNode {sv : Server} {cur : List Bytes} {p : Node} (by_ : Nat) (d : Option Nat) (cl : Bytes)
    (h : getNode sv cur = some p) :
    (∀ rest, rest ≠ [] →
      setDataClauses by_ d true sv cur (cl :: rest) =
        setDataClauses by_ d true
          (if (findKid cl p.kids).isSome then sv else putChild sv by_ cur (Node.fresh cl none) true)
          (cur ++ [cl]) rest) ∧
    (∀ c, findKid cl p.kids = some c → setDataClauses by_ d true sv cur [cl] = sv) ∧
    (findKid cl p.kids = none →
      setDataClauses by_ d true sv cur [cl] =
        (insertOrderedChild sv by_ cur d [] cl true).updSess by_ (fun s => { s with indexingPresent := true }) ∧
      ∃ p', getNode (setDataClauses by_ d true sv cur [cl]) cur = some p' ∧
        replayAll p.index [(Instr.ins (insertPos p.index []) (ordPair p cl).1).render] = some p'.index) := by
  refine ⟨fun rest hr => ?_, (setDataClauses_lastI by_ d h cl).2, fun hk => ?_⟩
  · cases hk : findKid cl p.kids with
    | none =>
      rw [setDataClauses_createDown by_ d true h hk hr, putChild_notify_absent sv by_ cur cl none h hk]
      simp
    | some c => rw [setDataClauses_down by_ d true h hk hr]; simp
  have he := (setDataClauses_lastI by_ d h cl).1 hk
  refine ⟨he, ?_⟩
  obtain ⟨p', _, _, hg, _, hr⟩ := log_replay_insertOrderedChild by_ d cl true h nil_ne_removeFromIndexName
  exact ⟨p', by rw [he]; exact hg, hr⟩

example : findKid [99] exNode.kids = none := by decide

/-! ## the invariant over whole trees (`TreeInv sv`: at every node `NodeInv` = `IdxInv` ∧ sibling names distinct) -/

/-- the generated name `I<n>` is never the name of an existing child (`kids.length + 1` attempts, pairwise
    different candidates) -/
theorem generated_name_fresh (p : Node) : findKid (ordPair p []).1 p.kids = none :=
  ordPair_fresh p rfl

/-- the tree a server starts with -/
theorem index_sound_init : TreeInv ({} : Server) := treeInv_init

/-- plain `PutChild` (also when it replaces an indexed child of the same name: the entry then refers to the new
    child), for any child whose own subtree is sound -/
theorem index_sound_putChild {sv : Server} (by_ : Nat) (parent : List Bytes) (child : Node) (notify : Bool)
    (h : TreeInv sv) (hc : AllNodes NodeInv child) : TreeInv (putChild sv by_ parent child notify) :=
  treeInv_putChild by_ parent child notify h hc

/-- `InsertOrderedChild`, provided it does not index (`before = "!Rmv"`) or the name used is not already an indexed
    child of the parent (always true for
    generated names, `generated_name_fresh`, and for `SetDataNode`, which only inserts absent children).  Without
    this hypothesis the statement is false in the model and in the C++ alike: `InsertOrderedChild(…, name)` with
    `name` an indexed child appends a second entry of that name. -/
theorem index_sound_insertOrderedChild {sv : Server} (by_ : Nat) (parent : List Bytes) (d : Option Nat)
    (before name : Bytes) (nc : Bool) (h : TreeInv sv)
    (hok : ∀ p, getNode sv parent = some p →
      before = removeFromIndexName ∨ findKid (ordPair p name).1 p.kids = none ∨ (ordPair p name).1 ∉ p.index) :
    TreeInv (insertOrderedChild sv by_ parent d before name nc) :=
  treeInv_insertOrderedChild by_ parent d before name nc h hok

/-- `ReorderChild(child, before)` for an existing child (or out of the index) -/
theorem index_sound_reorderChild {sv : Server} (parent : List Bytes) (child before : Bytes) (h : TreeInv sv)
    (hok : ∀ p, getNode sv parent = some p → before = removeFromIndexName ∨ (findKid child p.kids).isSome) :
    TreeInv (reorderChild sv parent child before) :=
  treeInv_reorderChild parent child before h hok

theorem index_sound_removeIndexEntry {sv : Server} (parent : List Bytes) (key : Bytes) (notify : Bool)
    (h : TreeInv sv) : TreeInv (removeIndexEntry sv parent key notify) :=
  treeInv_removeIndexEntry parent key notify h

theorem index_sound_removeOne {sv : Server} (by_ : Nat) (notify : Bool) (names : List Bytes) (h : TreeInv sv) :
    TreeInv (removeOne sv by_ notify names) :=
  treeInv_removeOne by_ notify names h

/-- `RemoveChild` (recursive, notifying or quiet), any path -/
theorem index_sound_removeChild {sv : Server} (by_ : Nat) (notify : Bool) (names : List Bytes) (h : TreeInv sv) :
    TreeInv (removeChild sv by_ notify names) :=
  treeInv_removeChild by_ notify names h

/-- `SetDataNode`, with or without ADDTOINDEX, any path -/
theorem index_sound_setDataNode {sv : Server} (by_ : Nat) (path : Bytes) (d : Option Nat) (addToIndex : Bool)
    (h : TreeInv sv) : TreeInv (setDataNode sv by_ path d addToIndex) :=
  treeInv_setDataNode by_ path d addToIndex h

/-- the handlers PR_COMMAND_INSERTORDEREDDATA, PR_COMMAND_REMOVEDATA, `AttachedToServer`, `Cleanup` -/
theorem index_sound_handlers {sv : Server} (h : TreeInv sv) :
    (∀ sid key before vals, TreeInv (insertOrdered sv sid key before vals)) ∧
    (∀ sid keys, TreeInv (removeData sv sid keys)) ∧
    (∀ slot host, TreeInv (attach sv slot host).1) ∧
    (∀ sid, TreeInv (detach sv sid)) :=
  ⟨fun sid key before vals => treeInv_insertOrdered sid key before vals h,
   fun sid keys => treeInv_removeData sid keys h,
   fun slot host => treeInv_attach slot host h,
   fun sid => treeInv_detach sid h⟩

/-- Every path the wildcard traversal hands to a handler is the name path of an existing node — for every
    matcher, callback and fuel (no pattern laws needed). -/
theorem traversal_visits_exist {sv : Server} (s : Sess) (pm : PM) (cb : Visit → Nat → Node → Bool × Int)
    (h : TreeInv sv) : ∀ v ∈ travSession sv s pm cb, below sv.root v = true :=
  travSession_sound s pm cb h

/-- PR_COMMAND_REORDERDATA, unconditionally: the traversal hands over existing nodes, and reorders never make a
    node disappear, so every visited node is still a child of its parent when its turn comes. -/
theorem index_sound_reorder {sv : Server} (sid : Nat) (key before : Bytes) (h : TreeInv sv) :
    TreeInv (reorder sv sid key before) :=
  treeInv_reorder sid key before h

/-- every command a session can send (`runCmd` of engine `srv`: SETDATA ± ADDTOINDEX, REMOVEDATA, subscribe,
    unsubscribe, parameters, INSERTORDEREDDATA, REORDERDATA, client-to-client Messages, PING) -/
theorem index_sound_runCmd {sv : Server} (sid : Nat) (c : Muscle.Eng.SrvEngine.Cmd) (h : TreeInv sv) :
    TreeInv (Muscle.Eng.SrvEngine.runCmd sv sid c) :=
  treeInv_runCmd sid c h

/-- Every reachable server state — any interleaving of `attach`, `detach`, commands of any sessions, pushes, server-side
    subtree clones and restores, and any replacement of the session table (which covers the inbox pumps), from the initial
    server — has at every node an index that lists existing children of that node
    at most once (and pairwise different sibling names). -/
theorem index_sound_reach {sv : Server} (h : Reach sv) : TreeInv sv :=
  treeInv_reach h

/-- …in particular every state of the engine `srv` on any op stream whatsoever (batches, bad ops, `case` resets
    included). -/
theorem index_sound_engine (lines : List (List String)) :
    TreeInv (lines.foldl (fun st toks => (Muscle.Eng.SrvEngine.step st toks).1) ({} : Muscle.Eng.SrvEngine.St)).sv :=
  treeInv_reach (reach_engine lines)

/-- what `TreeInv` says about one node -/
theorem index_sound {sv : Server} (h : Reach sv) {path : List Bytes} {n : Node} (hn : getNode sv path = some n) :
    n.index.Nodup ∧ ∀ c ∈ n.index, (findKid c n.kids).isSome :=
  (treeInv_getNode (treeInv_reach h) hn).here.1

/-- non-vacuity: a reachable tree with a non-empty index -/
example : (getNode (insertOrderedChild ({} : Server) 0 [] (some 1) [] [97] true) []).map Node.index = some [[97]] := by
  rw [getNode_insertOrderedChild 0 (some 1) [97] true (sv := {}) (parent := []) (p := Node.fresh [] none) rfl
    nil_ne_removeFromIndexName]
  simp only [Option.map_some, insertOrderedNode_index]
  decide
example : TreeInv (insertOrderedChild ({} : Server) 0 [] (some 1) [] [97] true) :=
  index_sound_insertOrderedChild 0 [] (some 1) [] [97] true index_sound_init
    (by intro p hp; cases hp; right; left; decide)

/-- non-vacuity of `Reach`: attach a session, let it insert two ordered children and reorder -/
example : Reach (Muscle.Eng.SrvEngine.runCmd (Muscle.Eng.SrvEngine.runCmd (attach {} 0 [104]).1 0 (.ins [] [] [1, 2]))
    0 (.reorder [42] [])) :=
  .cmd 0 _ (.cmd 0 _ (.attach 0 [104] .init))

/-! ## subtree clone / save / restore (`CloneDataNodeSubtree`, `SaveNodeTreeToMessage`, `RestoreNodeTreeFromMessage`;
model: `Reflector/Clone.lean`, engine ops `clone` / `save` / `restore`) -/

/-- `DataNode::InsertIndexEntryAt(i, key)` keeps the invariant when `key` is not listed yet (that `key` is a child is
    checked by the function itself).  Without the hypothesis it is false, in the model and in the C++ alike: this is the
    call the clone made for children the destination already listed, before /repo 003a760. -/
theorem index_sound_insertIndexEntryAt {sv : Server} (parent : List Bytes) (i : Nat) (key : Bytes) (h : TreeInv sv)
    (hok : ∀ p, getNode sv parent = some p → key ∉ p.index) : TreeInv (insertIndexEntryAt sv parent i key) :=
  treeInv_insertIndexEntryAt parent i key h hok

/-- `CloneDataNodeSubtree` (as repaired by /repo 003a760), from EVERY state: any source node, any destination — fresh,
    existing, with an index of its own, the source itself, inside the source or above it —, with or without ADDTOINDEX,
    whether the call succeeds, stops at the depth limit or (in the model) runs out of fuel: every index of the resulting
    tree is duplicate-free and lists only existing children, sibling names stay distinct. -/
theorem index_sound_clone {sv : Server} (by_ : Nat) (src dest : List Bytes) (ati : Bool) (h : TreeInv sv) :
    TreeInv (cloneDataNodeSubtree sv by_ src dest ati).1 :=
  treeInv_cloneDataNodeSubtree by_ src dest ati h

/-- `RestoreNodeTreeFromMessage`, from every state and for EVERY saved tree — also one `SaveNodeTreeToMessage` would
    never write (an index naming absent children, or the same child twice) —, any destination, flag and depth. -/
theorem index_sound_restore {sv : Server} (by_ : Nat) (t : Node) (dest : List Bytes) (ati : Bool) (maxDepth : Nat)
    (h : TreeInv sv) : TreeInv (restoreNodeTree sv by_ t dest ati maxDepth).1 :=
  treeInv_restoreNodeTree by_ t dest ati maxDepth h

/-- a small tree: `/p` and `/q`, each with children `x`, `y`, both indexed -/
def exLeafX : Node := .mk [120] none [] [] 0 []
def exLeafY : Node := .mk [121] none [] [] 0 []
def exTwo : Server :=
  { root := .mk [] none [.mk [112] none [exLeafX, exLeafY] [[120], [121]] 0 [],
                         .mk [113] none [exLeafX, exLeafY] [[120], [121]] 0 []] [] 0 [] }

theorem exTwo_inv : TreeInv exTwo := by
  have leafX : AllNodes NodeInv exLeafX := AllNodes.fresh [120] none
  have leafY : AllNodes NodeInv exLeafY := AllNodes.fresh [121] none
  have mid : ∀ nm : Bytes, AllNodes NodeInv (.mk nm none [exLeafX, exLeafY] [[120], [121]] 0 []) := by
    intro nm
    refine AllNodes.mk _ ⟨⟨by simp only [Node.index]; decide, by simp only [Node.index, Node.kids]; decide⟩,
      by unfold KidsDistinct; simp only [Node.kids]; decide⟩ ?_
    intro k hk
    simp only [Node.kids, List.mem_cons, List.mem_nil_iff, or_false] at hk
    rcases hk with rfl | rfl
    · exact leafX
    · exact leafY
  refine AllNodes.mk _ ⟨⟨by decide, by decide⟩, by unfold KidsDistinct; decide⟩ ?_
  intro k hk
  simp only [exTwo, Node.kids, List.mem_cons, List.mem_nil_iff, or_false] at hk
  rcases hk with rfl | rfl
  · exact mid _
  · exact mid _

/-- the repaired index loop, cloning `/p`'s index onto `/q` (which lists the same children): `/q`'s index is `/p`'s -/
example : (getNode (cloneIndexLoop true [[112]] [[113]] 2 0 0 exTwo) [[113]]).map Node.index = some [[120], [121]] := by
  decide

/-- …and the loop as it was BEFORE /repo 003a760 (`dedup := false`: `InsertIndexEntryAt` without removing the child's
    existing entry) lists every child twice -/
example : (getNode (cloneIndexLoop false [[112]] [[113]] 2 0 0 exTwo) [[113]]).map Node.index =
    some [[120], [121], [120], [121]] := by
  decide

/-- so the unrepaired variant does NOT preserve the invariant (from a state that satisfies it: `exTwo_inv`) -/
theorem index_unsound_clone_before_003a760 : ¬ TreeInv (cloneIndexLoop false [[112]] [[113]] 2 0 0 exTwo) := by
  intro h
  have hi : (getNode (cloneIndexLoop false [[112]] [[113]] 2 0 0 exTwo) [[113]]).map Node.index =
      some [[120], [121], [120], [121]] := by decide
  cases hg : getNode (cloneIndexLoop false [[112]] [[113]] 2 0 0 exTwo) [[113]] with
  | none => rw [hg] at hi; cases hi
  | some n =>
    rw [hg] at hi
    simp only [Option.map_some, Option.some.injEq] at hi
    have hn := (treeInv_getNode h hg).here.1.1
    rw [hi] at hn
    exact absurd hn (by decide)

/-- What the index part of a clone hands to `notifyIndex`: one round of the loop, for an entry whose name is a child of
    the clone, is `RemoveIndexEntry(name, notify)` followed by `InsertIndexEntryAt(writeIdxCounter, name, notify)` on the
    destination (first equation); the removal's instruction is exposed by `log_replay_removeIndexEntry`, the insert's by
    the second equation, with the destination node as it is after the change. -/
theorem clone_emitted {sv : Server} {src dest : List Bytes} {nm : Bytes} {clone : Node} (r i w : Nat)
    (hs : (getNode sv src).bind (fun n => n.index[i]?) = some nm) (hd : getNode sv dest = some clone)
    (hk : (findKid nm clone.kids).isSome) :
    cloneIndexLoop true src dest (r+1) i w sv =
        cloneIndexLoop true src dest r (i+1) (w+1) (insertIndexEntryAt (removeIndexEntry sv dest nm true) dest w nm) ∧
      (∀ (sv' : Server) (p : Node) (k : Nat), getNode sv' dest = some p → (findKid nm p.kids).isSome →
        insertIndexEntryAt sv' dest k nm =
          notifyIndex (setNode sv' dest (fun q => q.setIndex (q.index.take k ++ [nm] ++ q.index.drop k))) dest
            (p.setIndex (insertAt p.index k nm)) (Instr.ins k nm).render) :=
  ⟨by rw [cloneIndexLoop]; simp only [hs, hd, hk, if_true], fun _ _ k hp hkid => insertIndexEntryAt_emits k hp hkid⟩

/-- The index loop of a clone from any point that satisfies the loop invariant `CloneInv` (the first `w` entries of the
    destination's index are the names written so far and none of them is read again; it holds at the start of the loop in
    every `TreeInv` state and is kept by every round): the destination keeps its children, and the client that applies the
    emitted instructions (`cloneIndexLog`), in order, to the destination's old index holds its new index.  Source and
    destination may be one node or lie inside one another; the source's index is read as it is at each round. -/
theorem log_replay_clone_loop (src dest : List Bytes) (r i w : Nat) {sv : Server} {pd : Node}
    (hinv : CloneInv src dest i w sv) (hd : getNode sv dest = some pd) :
    ∃ pd', getNode (cloneIndexLoop true src dest r i w sv) dest = some pd' ∧ pd'.kids = pd.kids ∧
      replayAll pd.index ((cloneIndexLog src dest r i w sv).map Instr.render) = some pd'.index := by
  obtain ⟨pd', h1, _, h2, h3, _⟩ := cloneIndexLoop_spec src dest r i w sv pd hinv hd
  exact ⟨pd', h1, h2, by rw [replayAll_render]; exact h3⟩

/-- `CloneDataNodeSubtree`'s "make sure the clone ends up with an equivalent index", in any state of a sound tree: the
    instructions handed to `notifyIndex` during the clone (`cloneIndexLogOf`), replayed on the destination's old index,
    give its new index — and the client never refuses one (every position in range, every removal names the entry at
    its position). -/
theorem log_replay_clone {sv : Server} (by_ : Nat) {src dest : List Bytes} {pd : Node} (h : TreeInv sv)
    (hd : getNode sv dest = some pd) :
    ∃ pd', getNode (cloneIndex true by_ sv src dest).1 dest = some pd' ∧ pd'.kids = pd.kids ∧
      replayAll pd.index ((cloneIndexLogOf by_ sv src dest).map Instr.render) = some pd'.index := by
  rw [replayAll_render]
  unfold cloneIndex cloneIndexLogOf
  cases hs : getNode sv src with
  | none => exact ⟨pd, hd, rfl, rfl⟩
  | some ps =>
    simp only [hd]
    split
    · exact ⟨pd, hd, rfl, rfl⟩
    · obtain ⟨pd', h1, _, h3, h4, _⟩ :=
        cloneIndexLoop_spec src dest ps.index.length 0 0 _ pd (CloneInv.init (treeInv_updSess by_ _ h)) hd
      exact ⟨pd', h1, h3, h4⟩

/-- "…make sure the clone ends up with an equivalent index": after the loop the destination's index BEGINS with the copied
    names (`cloneIndexNames`: the source's entries, read live, whose name is a child of the clone), in the order in which they
    were read; entries the destination had for other children follow. -/
theorem clone_index_prefix (src dest : List Bytes) (r i w : Nat) {sv : Server} {pd : Node}
    (hinv : CloneInv src dest i w sv) (hd : getNode sv dest = some pd) :
    ∃ pd', getNode (cloneIndexLoop true src dest r i w sv) dest = some pd' ∧
      pd'.index.take (w + (cloneIndexNames src dest r i w sv).length) =
        pd.index.take w ++ cloneIndexNames src dest r i w sv := by
  obtain ⟨pd', h1, _, _, _, h2⟩ := cloneIndexLoop_spec src dest r i w sv pd hinv hd
  exact ⟨pd', h1, h2⟩

/-- non-vacuity: the names copied onto `/q` (which lists the same children) are `/p`'s entries, in `/p`'s order -/
example : cloneIndexNames [[112]] [[113]] 2 0 0 exTwo = [[120], [121]] := by decide

/-- the positions of a clone's log are in range -/
theorem positions_in_range_clone {sv : Server} (by_ : Nat) {src dest : List Bytes} {pd : Node} (h : TreeInv sv)
    (hd : getNode sv dest = some pd) : InRange pd.index (cloneIndexLogOf by_ sv src dest) := by
  obtain ⟨pd', _, _, hr⟩ := log_replay_clone by_ (src := src) h hd
  rw [replayAll_render] at hr
  exact inRange_of_applyAll hr

/-- non-vacuity: the log of cloning `/p`'s index onto `/q` is remove-then-insert per entry, and replays -/
example : cloneIndexLogOf 0 exTwo [[112]] [[113]] =
    [.rem 0 [120], .ins 0 [120], .rem 1 [121], .ins 1 [121]] := by decide
example : ∃ pd', getNode (cloneIndex true 0 exTwo [[112]] [[113]]).1 [[113]] = some pd' ∧
    pd'.kids = [exLeafX, exLeafY] ∧
    replayAll [[120], [121]] ((cloneIndexLogOf 0 exTwo [[112]] [[113]]).map Instr.render) = some pd'.index :=
  log_replay_clone 0 (pd := .mk [113] none [exLeafX, exLeafY] [[120], [121]] 0 []) exTwo_inv rfl

/-- non-vacuity of the `clone` and `restore` constructors of `Reach`: a session attaches, inserts ordered children, clones that subtree
    twice onto one destination, restores a saved copy of it -/
example : Reach (restoreNodeTree
    (cloneDataNodeSubtree (cloneDataNodeSubtree
      (Muscle.Eng.SrvEngine.runCmd (attach {} 0 [104]).1 0 (.ins [] [] [1, 2])) 0 [[104], [48]] [[113]] false).1
      0 [[104], [48]] [[113]] false).1 0 (Node.fresh [] none) [[114]] true 5).1 :=
  .restore 0 _ _ _ _ (.clone 0 _ _ _ (.clone 0 _ _ _ (.cmd 0 _ (.attach 0 [104] .init))))

end Muscle.Props.C13
