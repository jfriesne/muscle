import MuscleModel.Props.C04
import MuscleModel.Reflector.Departure
import MuscleModel.Reflector.VictimFrame

/-!
# C06 — A session can alter only its own subtree

Lemmas: `Reflector/Strip.lean`, `EffectSteps.lean`, `CommandEffects.lean`, `CommandFrame.lean`, `VictimFrame.lean`, `Departure.lean`.

Model: `Reflector/Server.lean`, `Reflector/Handlers.lean`, `Engines/Srv.lean` (`Cmd`, `runCmd`), tied to the real
`ReflectServer` by the `srv` correspondence harness.  A session `s` owns the subtree below
`sessNames s = [s.host, sidName s.sid]`.

* `strip sid n` (Strip.lean) = name, payload, index, counter of node `n`, the NAMES of its children in order,
  and its subscriber table without `sid`'s own entry.
* `SessKept sid t t'` (CommandFrame.lean) = `t'` has the id, host and slot of `t`, and when `t.sid ≠ sid` also the same
  `subs`, `params`, `reflectSelf`, `maxItems`, `subsEnabled`, `indexingPresent`, `route`, `hasRouteKeys`
  (only `nextData`, `nextIdx`, `inbox` may differ: that is how `t` is notified).
* `runHistory sv sid cmds` = the commands one after the other, each followed by `pushAll` (the engine's `step`, BATCH).

The frame theorems (`frame_*`, `own_root_kept*`, `foreign_marks_kept`, `victim_untouched`) hold for EVERY server state
(no reachability or well-formedness hypothesis: not even uniqueness of session ids or of child names); the only
hypothesis is that `sid` names a session (`sv.sess? sid = some s`), which fixes the subtree the statement talks about.
The departure theorems that say a node is GONE need unique child names below the root and the host node (`HostWF`):
the model keeps children in a list and `removeKid` removes the first child of that name.
-/


namespace Muscle.Props.C06
open Muscle Muscle.Reflector Muscle.Eng.SrvEngine

/-- **Frame, tree part.**  No command of session `sid` changes, creates, removes or reorders a node outside
    `sid`'s own subtree; the only thing it may change there is `sid`'s own subscription mark. -/
theorem frame_tree (sv : Server) (sid : Nat) (s : Sess) (hs : sv.sess? sid = some s) (c : Cmd)
    (names : List Bytes) (hn : ¬ sessNames s <+: names) :
    (getNode (runCmd sv sid c) names).map (strip sid) = (getNode sv names).map (strip sid) :=
  (runCmd_own sv sid s hs c).tree names hn

/-- In particular every node in ANOTHER session's subtree (`sessNames t ≠ sessNames s`) is untouched. -/
theorem frame_tree_foreign (sv : Server) (sid : Nat) (s : Sess) (hs : sv.sess? sid = some s) (c : Cmd)
    (t : Sess) (ht : sessNames t ≠ sessNames s) (names : List Bytes) (hn : sessNames t <+: names) :
    (getNode (runCmd sv sid c) names).map (strip sid) = (getNode sv names).map (strip sid) :=
  frame_tree sv sid s hs c names (not_prefix_of_other (p := sessNames s) (q := sessNames t) rfl ht hn)

/-- Outside `sid`'s subtree no node appears or disappears, and the reference count of every OTHER
    session `o` on every such node is unchanged. -/
theorem foreign_marks_kept (sv : Server) (sid : Nat) (s : Sess) (hs : sv.sess? sid = some s) (c : Cmd)
    (names : List Bytes) (hn : ¬ sessNames s <+: names) (o : Nat) (ho : o ≠ sid) :
    (getNode (runCmd sv sid c) names).map (fun n => subCount n.subs o) = (getNode sv names).map (fun n => subCount n.subs o) := by
  have h := frame_tree sv sid s hs c names hn
  cases h1 : getNode (runCmd sv sid c) names <;> cases h2 : getNode sv names <;> rw [h1, h2] at h <;>
    simp only [Option.map_some, Option.map_none, Option.some.injEq, reduceCtorEq] at h ⊢
  exact subCount_of_strip ho h

/-- **Frame, session part.**  The session table keeps its length and order (nobody is kicked or added); every session
    keeps id, host and slot; every OTHER session keeps its subscriptions and all parameters.
    No hypothesis at all (if `sid` names no session the command does nothing). -/
theorem frame_sessions (sv : Server) (sid : Nat) (c : Cmd) :
    (runCmd sv sid c).sessions.length = sv.sessions.length ∧
    ∀ (i : Nat) (t : Sess), sv.sessions[i]? = some t →
      ∃ t', (runCmd sv sid c).sessions[i]? = some t' ∧ SessKept sid t t' :=
  sessions_kept (runCmd_sessions sv sid c)

/-- The same through the lookup the handlers use: session `tid` is still found, unchanged. -/
theorem frame_sessions_lookup (sv : Server) (sid : Nat) (c : Cmd) (tid : Nat) (t : Sess) (ht : sv.sess? tid = some t) :
    ∃ t', (runCmd sv sid c).sess? tid = some t' ∧ SessKept sid t t' :=
  let ⟨t', h1, h2⟩ := sess?_kept (runCmd_sessions sv sid c) tid ht; ⟨t', h1, h2.kept⟩

/-- The host node and the session node themselves survive every command (REMOVEDATA never removes them:
    every path a session traversal records lies strictly below the session node). -/
theorem own_root_kept (sv : Server) (sid : Nat) (s : Sess) (hs : sv.sess? sid = some s) (c : Cmd) :
    ((getNode sv [s.host]).isSome → (getNode (runCmd sv sid c) [s.host]).isSome) ∧
    ((getNode sv (sessNames s)).isSome → (getNode (runCmd sv sid c) (sessNames s)).isSome) :=
  host_kept (frame_tree sv sid s hs c [s.host] (not_two_prefix_one _ _ _)) _

/-- **Frame over histories.**  After any sequence of commands of session `sid` (each followed by the push of the
    pending update Messages) every node outside `sid`'s subtree still looks the same through `strip sid`, the session
    table has the same length and order, and every other session has the same subscriptions and parameters. -/
theorem frame_history (sv : Server) (sid : Nat) (s : Sess) (hs : sv.sess? sid = some s) (cmds : List Cmd) :
    (∀ names, ¬ sessNames s <+: names →
      (getNode (runHistory sv sid cmds) names).map (strip sid) = (getNode sv names).map (strip sid)) ∧
    (runHistory sv sid cmds).sessions.length = sv.sessions.length ∧
    (∀ (i : Nat) (t : Sess), sv.sessions[i]? = some t →
      ∃ t', (runHistory sv sid cmds).sessions[i]? = some t' ∧ SessKept sid t t') := by
  have h := runHistory_own sid cmds sv s hs
  exact ⟨h.tree, sessions_kept h.sessions⟩

/-- …and the session and host nodes are still there after the whole history. -/
theorem own_root_kept_history (sv : Server) (sid : Nat) (s : Sess) (hs : sv.sess? sid = some s) (cmds : List Cmd) :
    (getNode sv (sessNames s)).isSome → (getNode (runHistory sv sid cmds) (sessNames s)).isSome :=
  (host_kept ((frame_history sv sid s hs cmds).1 [s.host] (not_two_prefix_one _ _ _)) _).2

/-! Non-vacuity: in the concrete state `demoSv` (two sessions on two hosts, session 1 owns `/i/1/x` = 7 carrying a
    mark of session 0) the hypotheses of the theorems hold for session 0 and the foreign node `/i/1/x`, which exists. -/
example : demoSv.sess? 0 = some demoS0 := rfl
example : demoSv.sess? 1 = some demoS1 := rfl
example : ¬ sessNames demoS0 <+: [[105], sidName 1, [120]] := by decide
example : ¬ sessNames demoS0 <+: [[104]] := by decide
example : sessNames demoS1 ≠ sessNames demoS0 := by decide
example : sessNames demoS1 <+: [[105], sidName 1, [120]] := by simp [sessNames, demoS1]
example : (getNode demoSv [[105], sidName 1, [120]]).map (strip 0) =
    some { name := [120], data := some 7, index := [], ctr := 0, kidNames := [], subs := [] } := by
  simp [getNode, fuelDepth, nodeAt, demoSv, findKid, Node.name, Node.kids, strip, Node.data, Node.index, Node.ctr, Node.subs]
example : (getNode demoSv (sessNames demoS0)).isSome := by
  simp [getNode, fuelDepth, nodeAt, demoSv, findKid, Node.name, Node.kids, sessNames, demoS0]
example : (getNode demoSv [demoS0.host]).isSome := by
  simp [getNode, fuelDepth, nodeAt, demoSv, findKid, Node.name, Node.kids, demoS0]

/-! ## the victim's view: histories of commands of ANY other sessions

* `runAll sv hist`: the commands `(sender id, command)` one after the other, each followed by `pushAll`.
* `stripV o n` (VictimFrame.lean) = name, payload, index, counter, child names in order of `n`, and `o`'s OWN reference
  count on `n` (the marks of the other sessions on `o`'s nodes are theirs to change).
* `VictimKept o t t'` = same id, host, slot, and when `t.sid = o` every field except `nextData/nextIdx/inbox`. -/

/-- **Frame, victim form.**  Let `so` be any session.  After ANY interleaved history of commands sent by sessions
    other than `so` (sender id ≠ `so.sid`, sender's subtree root ≠ `so`'s), every node in `so`'s subtree has the same name,
    payload, index, counter, children names/order and the same reference count of `so`; no such node appeared or
    disappeared; the session table has the same length and order; `so` has the same subscriptions and parameters. -/
theorem victim_untouched (sv : Server) (so : Sess) (hist : List (Nat × Cmd))
    (hsend : ∀ p ∈ hist, p.1 ≠ so.sid ∧ ∀ t, sv.sess? p.1 = some t → sessNames t ≠ sessNames so) :
    (∀ names, sessNames so <+: names →
      (getNode (runAll sv hist) names).map (stripV so.sid) = (getNode sv names).map (stripV so.sid)) ∧
    (runAll sv hist).sessions.length = sv.sessions.length ∧
    (∀ (i : Nat) (t : Sess), sv.sessions[i]? = some t →
      ∃ t', (runAll sv hist).sessions[i]? = some t' ∧ VictimKept so.sid t t') := by
  have h := runAll_untouched so.sid (sessNames so) rfl hist sv hsend
  exact ⟨h.tree, SessAll₂.length _ _ h.sessions, SessAll₂.get _ _ h.sessions⟩

/-! Non-vacuity: in `demoSv` session 0 sends two commands; the victim is session 1 (host `i`), whose node `/i/1/x` exists. -/
example : ∀ p ∈ [((0 : Nat), Cmd.set [120] 5 false), (0, Cmd.rm [[42]])],
    p.1 ≠ demoS1.sid ∧ ∀ t, demoSv.sess? p.1 = some t → sessNames t ≠ sessNames demoS1 := by
  intro p hp
  have h0 : p.1 = 0 := by
    simp only [List.mem_cons, List.not_mem_nil, or_false] at hp
    rcases hp with rfl | rfl <;> rfl
  rw [h0]
  refine ⟨by decide, fun t ht => ?_⟩
  have : demoSv.sess? 0 = some demoS0 := rfl
  rw [this] at ht
  cases ht
  decide

/-! ## departure (`detach` = `Cleanup` + removal from the session table)

* `HostWF sv s` (Departure.lean): child names are unique below the root and below the host node of `s` (the children
  of a `DataNode` are a `Hashtable`, so this always holds in the real server; the model's child LIST needs it said).
* `detachPre sv sid s`: the state inside `detach` just before the un-mark pass (own subtree and an emptied host node
  removed, pending update Messages pushed).
* `markAt sv sid names`: the reference count of `sid` on the node at `names` (`none` if there is no such node). -/

/-- After `detach` the departed id is in the session table no more. -/
theorem departure_session_gone (sv : Server) (sid : Nat) (s : Sess) (hs : sv.sess? sid = some s) :
    ∀ t ∈ (detach sv sid).sessions, t.sid ≠ sid := by
  intro t ht
  rcases detach_sessions sv sid t ht with h | h
  · exact h
  · rw [hs] at h; cases h

/-- After `detach` nothing is left at or below the session node. -/
theorem departure_subtree_gone (sv : Server) (sid : Nat) (s : Sess) (hs : sv.sess? sid = some s) (hwf : HostWF sv s)
    (w : List Bytes) : getNode (detach sv sid) (sessNames s ++ w) = none := by
  apply getNode_append_none
  apply getNode_of_markAt_none (sid := sid)
  rw [markAt_detach sv sid s hs]
  have : markAt (detachPre sv sid s) sid (sessNames s) = none := by
    simp only [markAt, detachPre_own_gone sv sid s hwf, Option.map_none]
  rw [this]
  split <;> rfl

/-- What the un-mark pass does to the marks of `sid`, exactly: cleared on every node the traversal of `s.subs`
    visits (when the tree is not empty), unchanged on every other node. -/
theorem departure_marks (sv : Server) (sid : Nat) (s : Sess) (hs : sv.sess? sid = some s) (names : List Bytes) :
    markAt (detach sv sid) sid names =
      if ¬ (detachPre sv sid s).root.kids.isEmpty ∧ names ∈ travGlobal (detachPre sv sid s) s.subs false cbContinue
      then (markAt (detachPre sv sid s) sid names).map (fun _ => 0)
      else markAt (detachPre sv sid s) sid names :=
  markAt_detach sv sid s hs names

/-- Departure changes nothing else in the tree: apart from the root and the host node (which may lose a child) and the
    departed subtree, every node looks the same through `strip sid` (only `sid`'s own marks go) — in particular the
    subtrees of the other sessions on the same host. -/
theorem departure_frame_tree (sv : Server) (sid : Nat) (s : Sess) (hs : sv.sess? sid = some s) (hwf : HostWF sv s)
    (names : List Bytes) (h0 : names ≠ []) (h1 : names ≠ [s.host]) (h2 : ¬ sessNames s <+: names) :
    (getNode (detach sv sid) names).map (strip sid) = (getNode sv names).map (strip sid) :=
  detach_frame sv sid s hs hwf names h0 h1 h2

/-- Departure removes exactly the sessions with the departed id from the table; every remaining session keeps its
    place in the order, its identity, subscriptions and parameters. -/
theorem departure_frame_sessions (sv : Server) (sid : Nat) (s : Sess) (hs : sv.sess? sid = some s) :
    (detach sv sid).sessions.length = (sv.sessions.filter (fun t => t.sid ≠ sid)).length ∧
    ∀ (i : Nat) (t : Sess), (sv.sessions.filter (fun t => t.sid ≠ sid))[i]? = some t →
      ∃ t', (detach sv sid).sessions[i]? = some t' ∧ SessKept sid t t' :=
  sessions_kept (detach_view sv sid s hs)

/- For an ARBITRARY state the statement "after `detach` no node carries a mark of `sid`" needs a hypothesis: marks of `sid` sit
   only where an entry of `s.subs` matches, and the un-mark traversal reaches all such nodes.  The `_partial` version takes
   exactly that coverage as its hypothesis, on the state the traversal runs on; for reachable states `departure_no_marks`
   (below) discharges it by the subscriber-table invariant of C04. -/

/-- If the un-mark traversal reaches every node that still carries a mark of `sid` (traversal completeness, and
    marks only where an entry of `s.subs` matches), then after `detach` NO node carries a mark of `sid`. -/
theorem departure_no_marks_partial (sv : Server) (sid : Nat) (s : Sess) (hs : sv.sess? sid = some s)
    (hcover : ∀ names k, markAt (detachPre sv sid s) sid names = some k → k ≠ 0 →
      names ∈ travGlobal (detachPre sv sid s) s.subs false cbContinue)
    (names : List Bytes) (n : Node) (hn : getNode (detach sv sid) names = some n) : subCount n.subs sid = 0 := by
  have hm : markAt (detach sv sid) sid names = some (subCount n.subs sid) := by
    simp only [markAt, hn, Option.map_some]
  rw [markAt_detach sv sid s hs] at hm
  split at hm
  · cases hp : markAt (detachPre sv sid s) sid names with
    | none => rw [hp] at hm; simp at hm
    | some k => rw [hp] at hm; simp at hm; exact hm.symm
  · rename_i hc
    by_cases h0 : subCount n.subs sid = 0
    · exact h0
    · exfalso
      have hin := hcover names _ hm h0
      apply hc
      refine ⟨?_, hin⟩
      intro hk
      -- the root has no children: only the root exists, and no traversal visits the root
      cases names with
      | nil => exact doTraversal_ne _ _ _ _ _ _ [] hin rfl
      | cons a r =>
        have : getNode (detachPre sv sid s) (a :: r) = none :=
          getNode_below_leaf _ [] (nodeAt_nil _ _) (by simpa using hk) a r
        simp only [markAt, this, Option.map_none] at hm
        exact absurd hm (by simp)

/-- **Departure, marks — full statement for reachable states.**  In every state reached from the empty server (attach, detach,
    commands with GoodPath subscriptions, pushes, pumps) the departure of session `sid` leaves NO mark of `sid` on any node:
    the coverage hypothesis of the `_partial` version above is discharged by the subscriber-table invariant of C04
    (`marks_correct`: marks sit exactly where a subscription entry matches, so the un-mark traversal reaches all of them). -/
theorem departure_no_marks {sv : Server} (h : MReach sv) (sid : Nat) {v : List Bytes} {n : Node} (hv : v ≠ [])
    (hn : getNode (detach sv sid) v = some n) : subCount n.subs sid = 0 :=
  Muscle.Props.C04.marks_correct_detached h sid hv hn

/-! Non-vacuity: `HostWF` holds in `demoSv`; the coverage hypothesis holds in `orphanSv`, where the node `/x` does carry
    a mark of the departing session and is visited by the un-mark traversal. -/
example : HostWF demoSv demoS0 := by
  refine ⟨by decide, ?_⟩
  intro p hp
  simp [getNode, fuelDepth, nodeAt, demoSv, findKid, Node.name, Node.kids, demoS0] at hp
  subst hp
  simp [Node.kids, Node.name]
example : ([[105], sidName 1, [120]] : List Bytes) ≠ [] ∧ ([[105], sidName 1, [120]] : List Bytes) ≠ [demoS0.host] ∧
    ¬ sessNames demoS0 <+: [[105], sidName 1, [120]] := by
  refine ⟨by simp, by simp, by decide⟩
example : orphanSv.sess? 0 = some orphanS := orphan_sess
example : markAt (detachPre orphanSv 0 orphanS) 0 [[120]] = some 1 := rfl
example : ∀ names k, markAt (detachPre orphanSv 0 orphanS) 0 names = some k → k ≠ 0 →
    names ∈ travGlobal (detachPre orphanSv 0 orphanS) orphanS.subs false cbContinue := orphan_cover

end Muscle.Props.C06
