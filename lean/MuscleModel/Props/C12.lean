import MuscleModel.Tunnel.ProofsParse
import MuscleModel.Tunnel.ProofsSources
import MuscleModel.Tunnel.ProofsMini
import MuscleModel.Tunnel.Backpressure

/-!
# C12 — The packet tunnel never delivers a Message that was not sent

Property theorems and the senders they speak of (`Source`, `MiniSource`); lemmas: `Tunnel/Proofs*.lean`, vocabulary:
`Tunnel/Spec.lean`, and `Datagram` of `Tunnel/Net.lean` (its transport relation `Deliverable` is not used here: the statements
spell the network hypothesis out, `hnet`).
The model (`Tunnel/Frag.lean`, `Tunnel/Mini.lean`) mirrors `PacketTunnelIOGateway::DoOutputImplementation` /
`DoInputImplementation` and the mini tunnel; the tie to the C++ code is the correspondence run of engine `tun`.

* payloads are opaque byte strings (`Bytes`); a datagram is `(source, bytes)`;
* the network is ANY list of datagrams: the safety theorems quantify over every `delivered` list (loss,
  duplication, reordering, arbitrary delay, even forged datagrams as long as what the receiver accepts out of
  them is `Genuine`);
* "ids distinct per source among deliverable packets" is the fact that `sent : SentMap` is a function
  (`safety_any_datagrams`), respectively `ms.length ≤ 2^32` for a concrete sender (`safety`);
* every tunable is a parameter: MTUs, magic, exclusion ids, the size limit, the receive-state cap
  `c.maxStates`, the start value of the id counter.  The header size is the value measured on the code.
-/

namespace Muscle.Props.C12
open Muscle Muscle.Tunnel Muscle.Gen

/-- `FRAGMENT_HEADER_SIZE` as measured on the compiled gateway -/
abbrev hdr : Nat := tunnelFragmentHeaderSize

/-- the model reads six 32-bit words per fragment header: that is the header size measured on the code -/
theorem header_is_six_words : tunnelFragmentHeaderSize = 6 * 4 := by decide

/-- **Invariant, inductive form.**  Whatever datagrams arrive in whatever order, as long as the fragments the receiver
    accepts stem from sent Messages with per-source distinct ids, every receive state names a sent Message
    and its buffer holds, in its first `off` bytes, exactly that Message's first `off` bytes (and has its
    size): fragments of two Messages are never mixed in one buffer.  It holds from every table that satisfies it. -/
theorem rx_buffer_prefix_step (c : RxCfg) (hmisc : c.misc = false) (sent : SentMap) (t : Table) (delivered : List Datagram)
    (hinv : TableInv sent t) (hgen : AllGenuine hdr c sent delivered) :
    TableInv sent (rxAll hdr c t delivered).1 :=
  (rxAll_inv sent hdr c hmisc delivered t hinv hgen).1

/-- **Invariant.**  …in particular from the empty table a receiver starts with. -/
theorem rx_buffer_prefix (c : RxCfg) (hmisc : c.misc = false) (sent : SentMap) (delivered : List Datagram)
    (hgen : AllGenuine hdr c sent delivered) :
    TableInv sent (rxAll hdr c [] delivered).1 :=
  rx_buffer_prefix_step c hmisc sent [] delivered (tableInv_nil sent) hgen

/-- **Safety, general form.**  For ANY list of datagrams (any loss, duplication, reordering; any receiver
    MTU, size limit, exclusion id, state cap), if the accepted fragments are genuine for a per-source
    id-to-Message FUNCTION `sent`, then every buffer handed to the receiver as coming from `src` is
    bit-identical to a Message that `src` sent. -/
theorem safety_any_datagrams (c : RxCfg) (hmisc : c.misc = false) (sent : SentMap) (delivered : List Datagram)
    (hgen : AllGenuine hdr c sent delivered) :
    ∀ src b, (src, b) ∈ (rxAll hdr c [] delivered).2 → ∃ id, sent src id = some b :=
  (rxAll_inv sent hdr c hmisc delivered [] (tableInv_nil sent) hgen).2

/-- a sending gateway: configuration, start value of `_sendMessageIDCounter`, the payloads it is given -/
structure Source where
  tx : TxCfg
  id0 : Nat
  ms : List Bytes

/-- header words are `uint32`s, payload sizes fit `uint32`, and — the explicit hypothesis of the property —
    the source sends at most 2^32 Messages while its packets can still be delivered, so that no two
    different Messages carry the same id -/
def Source.OK (s : Source) : Prop :=
  s.tx.magic < W32 ∧ s.tx.sex < W32 ∧ s.id0 < W32 ∧ s.ms.length ≤ W32 ∧ ∀ m, m ∈ s.ms → m.length < W32

/-- the datagrams source `s` writes (`DoOutputImplementation` run until its queue is empty) -/
def sentDatagrams (s : Source) : List Bytes := (sendAllBytes hdr s.tx s.id0 s.ms).1

/-- **Safety, for the modelled senders, cut datagrams included.**  Any number of sources, each a real sender of the
    model with its own MTU, magic, exclusion id and counter start; every delivered datagram of source `s` is any PREFIX
    of one of `s`'s packets (a transport that took only part of a packet (short `Write`), a path that truncates, a
    receiver with a smaller MTU) — nothing else is assumed.  Then whatever the receiver (any MTU — smaller ones
    truncate —, any filter, any cap) hands on as coming from `src` is one of the payloads `src` was given.  In particular
    fragments of different Messages or of different senders are never combined. -/
theorem safety_truncated (c : RxCfg) (hmisc : c.misc = false) (srcs : Nat → Source) (hok : ∀ s, (srcs s).OK)
    (delivered : List Datagram)
    (hnet : ∀ s d, (s, d) ∈ delivered → ∃ p t, p ∈ sentDatagrams (srcs s) ∧ d ++ t = p) :
    ∀ src b, (src, b) ∈ (rxAll hdr c [] delivered).2 → b ∈ (srcs src).ms := by
  intro src b hb
  let sent : SentMap := fun s => sentBy (srcs s).id0 (srcs s).ms
  have hgen : AllGenuine hdr c sent delivered := fun s d hd =>
    have ⟨hmg, hsx, hid, hlen, hW⟩ := hok s
    have ⟨p, t, hp, hpre⟩ := hnet s d hd
    sent_prefix_genuine hdr c (srcs s).tx (srcs s).id0 (srcs s).ms hmg hsx hid hlen hW s sent rfl d t (hpre ▸ hp)
  obtain ⟨id, hid⟩ := safety_any_datagrams c hmisc sent delivered hgen src b hb
  exact sentBy_mem _ _ _ _ hid

/-- **Safety, whole packets**: `delivered` is ANY list over the packets the sources wrote (each datagram of source `s`
    is one of `s`'s packets, nothing cut off). -/
theorem safety (c : RxCfg) (hmisc : c.misc = false) (srcs : Nat → Source) (hok : ∀ s, (srcs s).OK)
    (delivered : List Datagram) (hnet : ∀ s p, (s, p) ∈ delivered → p ∈ sentDatagrams (srcs s)) :
    ∀ src b, (src, b) ∈ (rxAll hdr c [] delivered).2 → b ∈ (srcs src).ms :=
  safety_truncated c hmisc srcs hok delivered (fun s d hd => ⟨d, [], hnet s d hd, List.append_nil d⟩)

/-- **No cross-source interaction.**  What the fragments of a datagram from `src` do depends on, and
    changes, only the receive state of `src` (`srcRun` never sees the table). -/
theorem no_cross_source (c : RxCfg) (src : Nat) (fs : List Frag) (t : Table) :
    tget (rxFrags c src t fs).1 src = (srcRun (tget t src) fs).1 ∧
    (rxFrags c src t fs).2 = (srcRun (tget t src) fs).2 :=
  rxFrags_own c src fs t

/-- The fragments of `src` leave the state of every other source `s` exactly as it was — unless `src` is new and the table
    is above its cap, the one place where the code deliberately forgets the least recently heard-from
    sources (`MAX_NUM_RECEIVE_STATES`). -/
theorem no_cross_source_others (c : RxCfg) (src s : Nat) (hs : s ≠ src) (fs : List Frag) (t : Table)
    (hroom : tget t src ≠ none ∨ t.length ≤ c.maxStates) :
    tget (rxFrags c src t fs).1 s = tget t s :=
  rxFrags_other c src s hs fs t hroom

/-- At the datagram level, for a whole run: datagrams of other sources — with ANY content, forged ones
    included — leave the receive state of `s` exactly as it was, as long as the table cannot exceed its
    cap during the run (each datagram adds at most one entry) -/
theorem no_cross_source_datagrams (c : RxCfg) (s : Nat) (ps : List Datagram) (t : Table)
    (hothers : ∀ p, p ∈ ps → p.1 ≠ s) (hcap : t.length + ps.length ≤ c.maxStates) :
    tget (rxAll hdr c t ps).1 s = tget t s :=
  rxAll_other hdr c s ps t hothers hcap

/-- **Interleaving independence.**  What the receiver hands on for source `s` when `s`'s datagrams arrive
    interleaved with arbitrary datagrams of other sources is exactly what it hands on for `s`'s datagrams
    alone (under the same no-overflow condition). -/
theorem interleaving_independent (c : RxCfg) (s : Nat) (ps : List Datagram) (t : Table)
    (hcap : t.length + ps.length ≤ c.maxStates) :
    (rxAll hdr c t ps).2.filter (fun d => decide (d.1 = s)) =
      (rxAll hdr c t (ps.filter (fun d => decide (d.1 = s)))).2 :=
  rxAll_interleaved hdr c s ps t t rfl hcap

/-- **Perfect transport ⇒ exactly once, in order.**  For every MTU (the constructor raises it to at least
    header+1), every start value of the 32-bit id counter (so also across the wrap 2^32−1 → 0), every
    receiver that listens to this sender (same magic, source not excluded, MTU not smaller) in any table
    state in which the source is not known yet, every size limit, and every queue of payloads: delivering the
    sender's packets once, in order, hands over exactly the queued payloads THAT FIT THE RECEIVER'S SIZE LIMIT,
    each once, in order, tagged with the source — and nothing else.  Payloads over the limit are dropped and
    do not affect their neighbours (`DoInputImplementation` skips such a fragment and goes on with the packet:
    commit 79d1d2b, finding C12-oversize).
    `hlen` is the id hypothesis again: within one queue of at most 2^32 payloads no id repeats.  It is needed
    here because a skipped payload leaves the receive state at the id of an *earlier* payload (with exactly
    2^32−1 oversized payloads between two fitting ones the second would carry the first one's id). -/
theorem perfect_liveness (tx : TxCfg) (c : RxCfg) (src id0 : Nat) (ms : List Bytes) (t : Table)
    (hmisc : c.misc = false) (hmagic : c.magic = tx.magic) (hsex : c.sex = 0 ∨ c.sex ≠ tx.sex)
    (hmg : tx.magic < W32) (hsx : tx.sex < W32) (hid : id0 < W32)
    (hmtu : effMtu hdr tx.mtu ≤ effMtu hdr c.mtu)
    (hW : ∀ m, m ∈ ms → m.length < W32) (hlen : ms.length ≤ W32)
    (hfresh : tget t src = none) :
    (rxAll hdr c t ((sendAllBytes hdr tx id0 ms).1.map (fun p => (src, p)))).2 =
      (ms.filter (fun m => decide (m.length ≤ c.maxIn))).map (fun m => (src, m)) := by
  have hs := sendAll_stream hdr tx id0 ms
  have hwf := stream_wf c tx.magic tx.sex hmg hsx hmagic hsex hs.1 hid hW
  have hacc : ∀ p, p ∈ (sendAll hdr tx id0 ms).1 →
      accepted hdr c (encPacket p) = p.filter (fun f => decide (f.total ≤ c.maxIn)) := by
    intro p hp
    exact accepted_enc hdr c p (fun f hf => hwf f (List.mem_flatten.mpr ⟨p, hp, hf⟩))
      (Nat.le_trans (hs.2 header_is_six_words p hp) hmtu)
  rw [rxAll_source hdr c hmisc, hfresh, sendAllBytes, List.flatMap_map, List.flatMap_def, List.map_congr_left hacc,
    ← List.filter_flatten]
  have := stream_delivers_spaced tx.magic tx.sex c.maxIn hs.1 none hW (spaced_of_length c.maxIn ms id0 hid hlen)
    (syncLim_of_clear c.maxIn none id0 ms (Or.inl rfl))
  simp only [sendAll] at this ⊢
  rw [this]

/-- the special case without oversized payloads: the whole queue arrives -/
theorem perfect_liveness_all_fit (tx : TxCfg) (c : RxCfg) (src id0 : Nat) (ms : List Bytes) (t : Table)
    (hmisc : c.misc = false) (hmagic : c.magic = tx.magic) (hsex : c.sex = 0 ∨ c.sex ≠ tx.sex)
    (hmg : tx.magic < W32) (hsx : tx.sex < W32) (hid : id0 < W32)
    (hmtu : effMtu hdr tx.mtu ≤ effMtu hdr c.mtu)
    (hW : ∀ m, m ∈ ms → m.length < W32) (hlen : ms.length ≤ W32) (hfit : ∀ m, m ∈ ms → m.length ≤ c.maxIn)
    (hfresh : tget t src = none) :
    (rxAll hdr c t ((sendAllBytes hdr tx id0 ms).1.map (fun p => (src, p)))).2 = ms.map (fun m => (src, m)) := by
  rw [perfect_liveness tx c src id0 ms t hmisc hmagic hsex hmg hsx hid hmtu hW hlen hfresh]
  congr 1
  exact List.filter_eq_self.mpr (fun m hm => decide_eq_true (hfit m hm))

/-- **…with other sources interleaved.**  `src`'s packets arrive once and in order, but between them any
    datagrams of other sources may arrive (any content): `src`'s deliveries are still exactly its queued
    payloads within the size limit, once, in order. -/
theorem perfect_liveness_interleaved (tx : TxCfg) (c : RxCfg) (src id0 : Nat) (ms : List Bytes) (t : Table)
    (ps : List Datagram)
    (hmine : ps.filter (fun d => decide (d.1 = src)) = (sendAllBytes hdr tx id0 ms).1.map (fun p => (src, p)))
    (hcap : t.length + ps.length ≤ c.maxStates)
    (hmisc : c.misc = false) (hmagic : c.magic = tx.magic) (hsex : c.sex = 0 ∨ c.sex ≠ tx.sex)
    (hmg : tx.magic < W32) (hsx : tx.sex < W32) (hid : id0 < W32)
    (hmtu : effMtu hdr tx.mtu ≤ effMtu hdr c.mtu)
    (hW : ∀ m, m ∈ ms → m.length < W32) (hlen : ms.length ≤ W32)
    (hfresh : tget t src = none) :
    (rxAll hdr c t ps).2.filter (fun d => decide (d.1 = src)) =
      (ms.filter (fun m => decide (m.length ≤ c.maxIn))).map (fun m => (src, m)) := by
  rw [interleaving_independent c src ps t hcap, hmine]
  exact perfect_liveness tx c src id0 ms t hmisc hmagic hsex hmg hsx hid hmtu hW hlen hfresh

/-- every packet the sender writes respects its MTU -/
theorem packets_within_mtu (tx : TxCfg) (id0 : Nat) (ms : List Bytes) :
    ∀ p, p ∈ (sendAllBytes hdr tx id0 ms).1 → p.length ≤ effMtu hdr tx.mtu := by
  intro p hp
  simp only [sendAllBytes, List.mem_map] at hp
  obtain ⟨fr, hfr, rfl⟩ := hp
  exact (sendAll_stream hdr tx id0 ms).2 header_is_six_words fr hfr

/-! ## Non-vacuity

A sender at the minimum MTU (25: one payload byte per packet) whose id counter starts at 2^32−1 and wraps,
two payloads; the hypotheses of `safety` and `perfect_liveness` hold and the statements compute. -/

def exTx : TxCfg := { mtu := 0, magic := tunnelDefaultMagic, sex := 0 }
def exRx : RxCfg := { mtu := 0, magic := tunnelDefaultMagic, sex := 0, maxIn := muscleNoLimit, misc := false, maxStates := tunnelMaxReceiveStates }
def exMs : List Bytes := [[1, 2, 3], [], [9]]

example : (Source.OK { tx := exTx, id0 := 4294967295, ms := exMs }) := by
  refine ⟨by decide, by decide, by decide, by decide, ?_⟩
  intro m hm
  simp only [exMs, List.mem_cons, List.not_mem_nil, or_false] at hm
  rcases hm with h | h | h <;> subst h <;> decide

example : (sendAllBytes hdr exTx 4294967295 exMs).1.length = 5 := by decide +kernel

example : (rxAll hdr exRx [] ((sendAllBytes hdr exTx 4294967295 exMs).1.map (fun p => (7, p)))).2
    = [(7, [1, 2, 3]), (7, []), (7, [9])] := by decide +kernel

/-- a receiver limit of 2 bytes: the 3-byte payload is dropped, its neighbours arrive (the regression of C12-oversize) -/
example : (rxAll hdr { exRx with maxIn := 2, mtu := 100 } []
    ((sendAllBytes hdr { exTx with mtu := 100 } 4294967295 exMs).1.map (fun p => (7, p)))).2
    = [(7, []), (7, [9])] := by decide +kernel

/-- back-pressure (`Tunnel/Backpressure.lean`, tied to the code by the correspondence run only): MTU 26, the
    transport takes the first packet and blocks on the second, which is held; a later call (one more payload
    queued) writes the held packet first: nothing is lost, the order is kept -/
def exBlocked : List Bytes :=
  let d1 := drain hdr 26 tunnelDefaultMagic 0 50 [100000, 0] { queue := [[1, 2, 3]] }
  let d2 := drain hdr 26 tunnelDefaultMagic 0 50 [] { d1.2 with queue := d1.2.queue ++ [[9]] }
  d1.1 ++ d2.1
example : (drain hdr 26 tunnelDefaultMagic 0 50 [100000, 0] { queue := [[1, 2, 3]] }).1.length = 1 := by decide +kernel
example : (rxAll hdr { exRx with mtu := 26 } [] (exBlocked.map (fun p => (7, p)))).2 = [(7, [1, 2, 3]), (7, [9])] := by decide +kernel

/-- loss of the middle packet of the first payload: it is not delivered, the others are -/
example : (rxAll hdr exRx [] (((sendAllBytes hdr exTx 4294967295 exMs).1.eraseIdx 1).map (fun p => (7, p)))).2
    = [(7, []), (7, [9])] := by decide +kernel

/-! ## The mini tunnel (`MiniPacketTunnelIOGateway`)

No fragmentation and no receive state: safety needs no hypothesis about ids.  zlib is an arbitrary codec with
the one law `inflate (deflate x) = x` (`Codec.Lawful`); the theorems hold with and without compression
(`tx.level`).  The receiver's MTU must not be smaller than the sender's (a truncated deflated packet is
outside the codec law). -/

/-- the layout facts the mini model relies on, as measured on the compiled gateway -/
theorem mini_layout : miniPacketHeaderSize = 3 * 4 ∧ miniChunkHeaderSize = 4 ∧ miniPacketIdBits ≤ 24 := by decide

structure MiniSource where
  tx : MiniTx
  id0 : Nat
  ms : List Bytes

def MiniSource.OK (s : MiniSource) : Prop :=
  s.tx.magic < W32 ∧ s.tx.sex < W32 ∧ s.tx.level < 256 ∧ s.id0 < 2 ^ miniPacketIdBits ∧ ∀ m, m ∈ s.ms → m.length < W32

/-- the datagrams a mini-tunnel sender writes for its queue -/
def miniSent (cd : Codec) (s : MiniSource) : List Bytes :=
  (miniSendAll cd miniPacketHeaderSize miniChunkHeaderSize miniPacketIdBits s.tx s.id0 s.ms).1

/-- One packet `pk` of those a sender wrote, seen by a receiver whose MTU is not smaller: the receiver reads back exactly
    its chunks (nothing if it does not listen to this sender), and every chunk is one of the sender's payloads. -/
theorem mini_rx_of_sent (cd : Codec) (hcd : cd.Lawful) (c : MiniRx) (hmisc : c.misc = false) (s : MiniSource) (hok : s.OK)
    (hmtu : miniEffMtu miniPacketHeaderSize miniChunkHeaderSize s.tx.mtu ≤ miniEffMtu miniPacketHeaderSize miniChunkHeaderSize c.mtu)
    (pk : Nat × List Bytes)
    (hpk : pk ∈ (miniLoop miniPacketHeaderSize miniChunkHeaderSize miniPacketIdBits
                  (miniEffMtu miniPacketHeaderSize miniChunkHeaderSize s.tx.mtu) [] s.id0 s.ms).1) :
    miniRx cd miniPacketHeaderSize miniChunkHeaderSize miniPacketIdBits c (miniEncPacket cd miniPacketIdBits s.tx pk.1 pk.2) =
      (if s.tx.magic = c.magic && (c.sex = 0 || c.sex ≠ s.tx.sex) then pk.2 else []) ∧
    ∀ b, b ∈ pk.2 → b ∈ s.ms := by
  obtain ⟨hmg, hsx, hlv, hid, hW⟩ := hok
  have hspec := miniLoop_spec miniPacketHeaderSize miniChunkHeaderSize miniPacketIdBits
    (miniEffMtu miniPacketHeaderSize miniChunkHeaderSize s.tx.mtu) mini_layout.2.1 s.ms [] s.id0 (fun h => absurd rfl h) hid
  have hp := hspec.2 pk hpk
  have hsub : ∀ b, b ∈ pk.2 → b ∈ s.ms := by
    intro b hb
    have : b ∈ ((miniLoop miniPacketHeaderSize miniChunkHeaderSize miniPacketIdBits
        (miniEffMtu miniPacketHeaderSize miniChunkHeaderSize s.tx.mtu) [] s.id0 s.ms).1.map (·.2)).flatten :=
      List.mem_flatten.mpr ⟨pk.2, List.mem_map.mpr ⟨pk, hpk, rfl⟩, hb⟩
    rw [hspec.1] at this
    simp only [List.nil_append, List.mem_filter] at this
    exact this.1
  refine ⟨?_, hsub⟩
  exact miniRx_enc cd hcd miniPacketHeaderSize miniChunkHeaderSize miniPacketIdBits mini_layout.1 mini_layout.2.2 s.tx c pk.1 pk.2 hmg hsx hlv hp.1
    (fun x hx => hW x (hsub x hx)) hmisc (Nat.le_trans hp.2 hmtu)

/-- **Mini tunnel, safety.**  For ANY list over the packets the senders wrote (loss, duplication,
    reordering), with or without compression, every chunk the receiver hands on as coming from `src` is one
    of the payloads `src` was given. -/
theorem mini_safety (cd : Codec) (hcd : cd.Lawful) (c : MiniRx) (hmisc : c.misc = false)
    (srcs : Nat → MiniSource) (hok : ∀ s, (srcs s).OK)
    (hmtu : ∀ s, miniEffMtu miniPacketHeaderSize miniChunkHeaderSize (srcs s).tx.mtu ≤ miniEffMtu miniPacketHeaderSize miniChunkHeaderSize c.mtu)
    (delivered : List Datagram) (hnet : ∀ s p, (s, p) ∈ delivered → p ∈ miniSent cd (srcs s)) :
    ∀ src b, (src, b) ∈ miniRxAll cd miniPacketHeaderSize miniChunkHeaderSize miniPacketIdBits c delivered → b ∈ (srcs src).ms := by
  intro src b hb
  obtain ⟨p, hp, hb'⟩ := mem_miniRxAll hb
  obtain ⟨pk, hpk, rfl⟩ := List.mem_map.mp (hnet src p hp)
  have h := mini_rx_of_sent cd hcd c hmisc (srcs src) (hok src) (hmtu src) pk hpk
  rw [h.1] at hb'
  split at hb'
  · exact h.2 b hb'
  · cases hb'

/-- **Mini tunnel, perfect transport.**  Every packet once and in order, a receiver that listens to the
    sender: exactly the payloads that fit a packet (`size ≤ MTU − 16`) are handed on, each once, in order. -/
theorem mini_perfect_liveness (cd : Codec) (hcd : cd.Lawful) (c : MiniRx) (hmisc : c.misc = false) (s : MiniSource) (hok : s.OK)
    (hmtu : miniEffMtu miniPacketHeaderSize miniChunkHeaderSize s.tx.mtu ≤ miniEffMtu miniPacketHeaderSize miniChunkHeaderSize c.mtu)
    (hmagic : s.tx.magic = c.magic) (hsex : c.sex = 0 ∨ c.sex ≠ s.tx.sex) (src : Nat) :
    miniRxAll cd miniPacketHeaderSize miniChunkHeaderSize miniPacketIdBits c ((miniSent cd s).map (fun p => (src, p))) =
      (s.ms.filter (miniFits miniPacketHeaderSize miniChunkHeaderSize
        (miniEffMtu miniPacketHeaderSize miniChunkHeaderSize s.tx.mtu))).map (fun m => (src, m)) := by
  have hlisten := hdrTest_true s.tx.magic s.tx.sex c.magic c.sex hmagic hsex
  have hspec := (miniLoop_spec miniPacketHeaderSize miniChunkHeaderSize miniPacketIdBits
    (miniEffMtu miniPacketHeaderSize miniChunkHeaderSize s.tx.mtu) mini_layout.2.1 s.ms [] s.id0 (fun h => absurd rfl h) hok.2.2.2.1).1
  rw [miniRxAll_tagged]
  refine congrArg _ ?_
  show (((miniLoop miniPacketHeaderSize miniChunkHeaderSize miniPacketIdBits
    (miniEffMtu miniPacketHeaderSize miniChunkHeaderSize s.tx.mtu) [] s.id0 s.ms).1.map
    (fun p => miniEncPacket cd miniPacketIdBits s.tx p.1 p.2)).map _).flatten = _
  rw [List.map_map, List.map_congr_left (fun pk hpk => by
    rw [Function.comp, (mini_rx_of_sent cd hcd c hmisc s hok hmtu pk hpk).1, if_pos hlisten]), hspec, List.nil_append]

/-- non-vacuity: a lawful codec exists (the identity), and a sender/receiver pair satisfying the hypotheses -/
def idCodec : Codec := { deflate := fun _ b => some b, inflate := fun b => some b }
example : idCodec.Lawful := by intro l b z h; cases h; rfl
def exMini : MiniSource := { tx := { mtu := 40, magic := miniTunnelDefaultMagic, sex := 0, level := 6 }, id0 := 16777215, ms := [[1, 2], [], List.replicate 30 7, [5]] }
example : exMini.OK := by
  refine ⟨by decide, by decide, by decide, by decide, ?_⟩
  intro m hm
  simp only [exMini, List.mem_cons, List.not_mem_nil, or_false] at hm
  rcases hm with h | h | h | h <;> subst h <;> decide
example : miniRxAll idCodec miniPacketHeaderSize miniChunkHeaderSize miniPacketIdBits
    { mtu := 40, magic := miniTunnelDefaultMagic, sex := 0, misc := false } ((miniSent idCodec exMini).map (fun p => (3, p)))
    = [(3, [1, 2]), (3, []), (3, [5])] := by decide +kernel

end Muscle.Props.C12
