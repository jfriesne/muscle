import MuscleModel.Filter.ProofsEval
import MuscleModel.Filter.ProofsRoundTrip
import MuscleModel.Filter.ProofsLex
import MuscleModel.Filter.ProofsRender

/-!
# C14 — Query filters evaluate as documented, survive archiving, tolerate bad archives

Property theorems only (lemmas: `Filter/Proofs*.lean`).  `eval sm f msg node`
mirrors `f.Matches(msg, node)` for every class of `regex/QueryFilter.h`, `toArchive`/`fromArchive`
mirror `SaveToArchive` / the factory + `SetFromArchive`; the tie to the C++ code is the
correspondence run of engine `qf`.  Every theorem is quantified over the StringMatcher stand-in
`sm` (the four wildcard/regex operators, property C15), over all Messages and all nodes.

`Spec` below is the documentation: the class comments of `MinimumThresholdQueryFilter`
("matches iff more than (n) of its children match", n capped at numKids-1),
`MaximumThresholdQueryFilter` ("iff no more than (n)"), And/Or/Nand/Nor/Xor, including the rows the
default constructors document for a filter with no children (And/Or: always true, Nand/Nor/Xor: always false).

Expression strings: `parseExpr` (`Filter/Lexer.lean`, `Filter/Parser.lean`) mirrors
`CreateQueryFilterFromExpression`; it is a total function (`PRes`: error / filter / filter with an operand
outside the exactly modelled `atof` subset), tied to the code by the `expr` / `exprt` ops.  Proved here:
lexer progress (the termination measure), soundness (every parsed filter is `wf`, hence survives archiving) and
`parse_print` (the canonical spelling of a tree of the documented grammar parses to its denotation).
-/

namespace Muscle.Props.C14
open Muscle Muscle.Wire Muscle.Gen Muscle.Filter

/-! ## the documented truth tables, over the list of the children's results -/
namespace Spec
def minMatch (n : Nat) (vs : List Bool) : Bool := vs.isEmpty || decide (vs.count true > min n (vs.length - 1))
def maxMatch (n : Nat) (vs : List Bool) : Bool := !vs.isEmpty && decide (vs.count true ≤ min n (vs.length - 1))
def and (vs : List Bool) : Bool := vs.all id                       -- true on []
def or (vs : List Bool) : Bool := vs.isEmpty || vs.any id           -- true on [] (documented)
def nand (vs : List Bool) : Bool := !vs.isEmpty && !vs.all id       -- false on [] (documented)
def nor (vs : List Bool) : Bool := !vs.isEmpty && !vs.any id        -- false on [] (documented)
def xor (vs : List Bool) : Bool := parity vs                        -- false on []
end Spec

variable (sm : Nat → Bytes → Bytes → Bool)

/-- children's decisions -/
def kidVals (kids : List Filter) (m : Msg) (nd : Option Node) : List Bool := kids.map (fun k => eval sm k m nd)

/-- `ThresholdMaxAux` with its two early exits decides exactly "more than min(n, numKids−1) children
    match" — and true when there are no children — for every list of child results. -/
theorem threshold_spec (n : Nat) (vals : List Bool) :
    thresholdMaxAux n vals = (vals.isEmpty || decide (vals.count true > min n (vals.length - 1))) :=
  thresholdMaxAux_spec n vals

/-- …and the loop itself, started in any reachable state (`mc` matches so far, `mc ≤ threshold`). -/
theorem threshold_loop_spec (t mc : Nat) (vals : List Bool) (h : mc ≤ t) :
    thrLoop t mc vals = decide (mc + vals.count true > t) :=
  thrLoop_spec t vals mc h

theorem combinator_minMatch (n : Nat) (kids : List Filter) (m : Msg) (nd : Option Node) :
    eval sm (.minMatch n kids) m nd = Spec.minMatch n (kidVals sm kids m nd) := by
  simp only [eval, evalKids_eq_map, thresholdMaxAux_spec, Spec.minMatch, kidVals]
  rfl

theorem combinator_maxMatch (n : Nat) (kids : List Filter) (m : Msg) (nd : Option Node) :
    eval sm (.maxMatch n kids) m nd = Spec.maxMatch n (kidVals sm kids m nd) := by
  simp only [eval, evalKids_eq_map, thresholdMaxAux_spec, Bool.not_or, ← decide_not, Nat.not_lt, Spec.maxMatch, kidVals]
  rfl

/-- AND: every child matches (a `Queue` holds at most 2^32 children: `numKids` is a `uint32`). -/
theorem combinator_and (kids : List Filter) (m : Msg) (nd : Option Node) (h : kids.length ≤ muscleNoLimit + 1) :
    eval sm (Filter.and kids) m nd = Spec.and (kidVals sm kids m nd) := by
  simp only [Filter.and, eval, evalKids_eq_map, Spec.and, kidVals]
  exact thr_and _ (by simpa using h)

theorem combinator_or (kids : List Filter) (m : Msg) (nd : Option Node) :
    eval sm (Filter.or kids) m nd = Spec.or (kidVals sm kids m nd) := by
  simp only [Filter.or, eval, evalKids_eq_map, Spec.or, kidVals]
  exact thr_or _

theorem combinator_nand (kids : List Filter) (m : Msg) (nd : Option Node) (h : kids.length ≤ muscleNoLimit + 1) :
    eval sm (Filter.nand kids) m nd = Spec.nand (kidVals sm kids m nd) := by
  simp only [Filter.nand, eval, evalKids_eq_map, Spec.nand, kidVals]
  rw [thr_and _ (by simpa using h)]
  cases kids <;> simp

theorem combinator_nor (kids : List Filter) (m : Msg) (nd : Option Node) :
    eval sm (Filter.nor kids) m nd = Spec.nor (kidVals sm kids m nd) := by
  simp only [Filter.nor, eval, evalKids_eq_map, Spec.nor, kidVals]
  rw [thr_or]
  cases kids <;> simp

theorem combinator_xor (kids : List Filter) (m : Msg) (nd : Option Node) :
    eval sm (.xor kids) m nd = Spec.xor (kidVals sm kids m nd) := by
  simp only [eval, evalKids_eq_map, Spec.xor, kidVals, xorLoop_spec, parity_count, Nat.zero_add]

/-- The documented behaviour of the seven combinators without children. -/
theorem combinators_no_children (n : Nat) (m : Msg) (nd : Option Node) :
    eval sm (Filter.and []) m nd = true ∧ eval sm (Filter.or []) m nd = true ∧ eval sm (.minMatch n []) m nd = true ∧
    eval sm (Filter.nand []) m nd = false ∧ eval sm (Filter.nor []) m nd = false ∧ eval sm (.maxMatch n []) m nd = false ∧
    eval sm (.xor []) m nd = false := by
  simp [Filter.and, Filter.or, Filter.nand, Filter.nor, eval, evalKids, thresholdMaxAux, xorLoop]

/-- NOT (a `NorQueryFilter`/`NandQueryFilter` with one child) inverts its child. -/
theorem combinator_not (k : Filter) (m : Msg) (nd : Option Node) :
    eval sm (Filter.nor [k]) m nd = !eval sm k m nd ∧ eval sm (Filter.nand [k]) m nd = !eval sm k m nd := by
  cases h : eval sm k m nd <;>
    simp [Filter.nor, Filter.nand, eval, evalKids, thresholdMaxAux, thrLoop, h, muscleNoLimit]

/-! ## numeric comparison: per operator and operand type -/

/-- Signed integer types: the six operators are the six order relations on the two's-complement
    values of item and operand (both of the operand width). -/
theorem numeric_spec_int (t : NumTy) (ht : t = .i8 ∨ t = .i16 ∨ t = .i32 ∨ t = .i64) (a b : Bytes)
    (ha : a.length = t.size) (hb : b.length = t.size) :
    let x := sval t.size (leVal a); let y := sval t.size (leVal b)
    numCmp t nopEq a b = decide (x = y) ∧ numCmp t nopLt a b = decide (x < y) ∧ numCmp t nopGt a b = decide (x > y) ∧
    numCmp t nopLe a b = decide (x ≤ y) ∧ numCmp t nopGe a b = decide (x ≥ y) ∧ numCmp t nopNe a b = decide (x ≠ y) :=
  numCmp_ops (valEq_int ht ha hb) (valLt_int ht) (valLt_int ht) (valLe_int ht ha hb) (valLe_int ht hb ha) (decide_not ..).symm

/-- `bool`: compared as 0/1 (false < true). -/
theorem numeric_spec_bool (a b : Bytes) :
    let x := leVal a; let y := leVal b
    numCmp .bool nopEq a b = decide (x = y) ∧ numCmp .bool nopLt a b = decide (x < y) ∧ numCmp .bool nopGt a b = decide (x > y) ∧
    numCmp .bool nopLe a b = decide (x ≤ y) ∧ numCmp .bool nopGe a b = decide (x ≥ y) ∧ numCmp .bool nopNe a b = decide (x ≠ y) :=
  numCmp_ops rfl rfl rfl (decide_lt_or_beq _ _) (decide_lt_or_beq _ _) (decide_not ..).symm

/-- `float` / `double` on bit patterns: IEEE order = order of the sign-magnitude keys; every
    operator is false as soon as one side is a NaN, except `!=`, which is then true. -/
theorem numeric_spec_float (t : NumTy) (ht : t = .f32 ∨ t = .f64) (a b : Bytes) :
    let k := t.size; let x := leVal a; let y := leVal b
    let ord := !fNaN k x && !fNaN k y
    numCmp t nopEq a b = (ord && decide (fKey k x = fKey k y)) ∧ numCmp t nopLt a b = (ord && decide (fKey k x < fKey k y)) ∧
    numCmp t nopGt a b = (ord && decide (fKey k x > fKey k y)) ∧ numCmp t nopLe a b = (ord && decide (fKey k x ≤ fKey k y)) ∧
    numCmp t nopGe a b = (ord && decide (fKey k x ≥ fKey k y)) ∧ numCmp t nopNe a b = (!ord || decide (fKey k x ≠ fKey k y)) :=
  numCmp_ops (valEq_float ht a b) (valLt_float ht a b) ((valLt_float ht b a).trans (fLt_swap ..))
    ((valLe_float ht a b).trans (fLt_or_fEq ..)) ((valLe_float ht b a).trans (fLt_or_fEq_swap ..)) (fEq_not ..)

/-- `Point` / `Rect` (`Tuple<2,float>` / `Tuple<4,float>`): `==` is component-wise IEEE equality, `<` and `>` are
    the lexicographic order in which component pairs that are equal *or unordered* are skipped (`lexLt`), and
    `<=`, `>=`, `!=` are the *negations* of `>`, `<`, `==` (so with a NaN component `<=` and `>=` both hold). -/
theorem numeric_spec_tuple (t : NumTy) (ht : t = .pt ∨ t = .rc) (a b : Bytes) :
    let n := t.size / 4; let xy := (comps n a).zip (comps n b); let yx := (comps n b).zip (comps n a)
    numCmp t nopEq a b = allEq xy ∧ numCmp t nopLt a b = lexLt xy ∧ numCmp t nopGt a b = lexLt yx ∧
    numCmp t nopLe a b = !lexLt yx ∧ numCmp t nopGe a b = !lexLt xy ∧ numCmp t nopNe a b = !allEq xy :=
  numCmp_ops (valEq_tuple ht a b) (valLt_tuple ht a b) (valLt_tuple ht b a) (valLe_tuple ht a b) (valLe_tuple ht b a) rfl

/-- An operator code outside the enumeration matches nothing, whatever the type. -/
theorem numeric_spec_bad_op (t : NumTy) (op : Nat) (a b : Bytes) (h : 6 ≤ op) : numCmp t op a b = false :=
  numCmp_bad_op t op a b h

/-! ## missing data: the default rule -/

/-- `FindData` misses exactly in the documented ways (no such field / other type / index out of range) … -/
theorem findData_misses (fn : Bytes) (tc idx : Nat) (m : Msg) :
    (lookupField fn m.fields = none → findData fn tc idx m = none) ∧
    (∀ f, lookupField fn m.fields = some f → tc ≠ tcAny → tc ≠ f.typeCode → findData fn tc idx m = none) ∧
    (∀ f, lookupField fn m.fields = some f → f.count ≤ idx → findData fn tc idx m = none) :=
  ⟨fun h => by simp [findData, h], fun f h hany ht => by simp [findData, h, hany, ht],
    fun f h => findData_out_of_range fn tc idx m f h⟩

/-- … and then a numeric filter compares the assumed default if one was given, and rejects otherwise. -/
theorem missing_data_num (ty : NumTy) (fn : Bytes) (idx op mop : Nat) (val mask : Bytes) (dflt : Option Bytes) (m : Msg) (nd : Option Node)
    (h : findData fn ty.tc idx m = none) :
    eval sm (.num ty fn idx op mop val mask dflt) m nd =
      match dflt with
      | some d => numCmp ty op (if mop = mopNone then d else doMask ty mop d mask) val
      | none => false := by
  cases dflt <;> simp [eval, h, numMatches]

theorem missing_data_str (fn : Bytes) (idx op : Nat) (val : Bytes) (dflt : Option Bytes) (m : Msg) (nd : Option Node)
    (h : findString fn idx m = none) :
    eval sm (.str fn idx op val dflt) m nd = match dflt with | some d => strMatches sm op val d | none => false := by
  rw [eval, h]
  exact strMatchesOpt_none sm op val dflt

theorem missing_data_raw (fn : Bytes) (idx op tc : Nat) (val dflt : Option Bytes) (m : Msg) (nd : Option Node)
    (h : findData fn tc idx m = none) :
    eval sm (.raw fn idx op tc val dflt) m nd = match dflt with | some d => rawMatches op val none (some d) | none => false := by
  rw [eval, h]
  exact rawMatches_none op val dflt

theorem missing_data_msg (fn : Bytes) (idx : Nat) (kid : Filter) (dflt : Option Msg) (m : Msg) (nd : Option Node)
    (h : findMessage fn idx m = none) :
    eval sm (.msgKid fn idx kid dflt) m nd = match dflt with | some d => eval sm kid d nd | none => false := by
  cases dflt <;> simp [eval, h, orElse']

/-- When the item is there, the default is irrelevant. -/
theorem present_data_num (ty : NumTy) (fn : Bytes) (idx op mop : Nat) (val mask : Bytes) (d1 d2 : Option Bytes) (m : Msg) (nd : Option Node)
    (v : Bytes) (h : findData fn ty.tc idx m = some v) :
    eval sm (.num ty fn idx op mop val mask d1) m nd = eval sm (.num ty fn idx op mop val mask d2) m nd := by
  simp [eval, h, numMatches]

/-- A filter restored from its archived form is the same filter up to `norm` (a zero-length
    raw-data *value* buffer comes back as a NULL reference, which `Matches` treats identically) and
    decides identically on every Message and node — for every well-formed filter tree of all 19
    classes, nested to any depth.  `wf`: operands of the operand width, 32-bit indices / counts /
    type codes, 8-bit operator codes.  (A zero-length raw-data *default* is archived and restored like any other.)
    `fromArchive` supplies the archive's own nesting depth + 1 as fuel; `fdepth_le` shows that is enough. -/
theorem archive_roundtrip (f : Filter) (h : wf f) :
    fromArchive (toArchive f) = some (norm f) ∧ ∀ m nd, eval sm (norm f) m nd = eval sm f m nd :=
  ⟨fromArchive_toArchive f h, fun m nd => eval_norm sm f m nd⟩

/-- …stated for the fuel-indexed factory: any fuel of at least the tree depth gives the same answer. -/
theorem archive_roundtrip_fuel (f : Filter) (h : wf f) (fuel : Nat) (hf : fdepth f ≤ fuel) :
    fromArchiveF fuel (toArchive f) = some (norm f) :=
  roundtripF f fuel h hf

/-- Consequence: the restored filter decides like the original. -/
theorem archive_roundtrip_decides (f g : Filter) (h : wf f) (hg : fromArchive (toArchive f) = some g) (m : Msg) (nd : Option Node) :
    eval sm g m nd = eval sm f m nd := by
  rw [fromArchive_toArchive f h] at hg
  cases hg
  exact eval_norm sm f m nd

/-- Building a filter from an arbitrary Message either fails or yields a completely initialised
    filter: every numeric operand and mask has the operand width, every child exists and is itself
    well-shaped (`shapeOk`); in particular evaluation of the result is defined on every Message
    (`eval` is total). -/
theorem fromArchive_total (a : Msg) :
    fromArchive a = none ∨ ∃ f, fromArchive a = some f ∧ shapeOk f := by
  cases h : fromArchive a with
  | none => exact Or.inl rfl
  | some f => exact Or.inr ⟨f, rfl, fromArchiveF_shape _ a f h⟩

/-- An unknown class code is rejected. -/
theorem fromArchive_unknown_code (w : Nat) (fs : List (Bytes × Field)) (h : w < qfWhatCode ∨ qfNodeName < w) :
    fromArchive (.mk w fs) = none :=
  fromArchiveF_unknown _ (.mk w fs) h

/-- A child archive that the factory rejects makes the parent fail (no partially built combinator). -/
theorem fromArchive_bad_child (fuel : Nat) (a : Msg) (k : Msg) (hk : k ∈ kidArchives a) (hbad : fromArchiveF fuel k = none)
    (hw : a.what = qfMinMatch ∨ a.what = qfMaxMatch ∨ a.what = qfXor) : fromArchiveF (fuel + 1) a = none :=
  fromArchiveF_bad_child fuel a k hk hbad hw

/-- Every call of `Lexer::GetNextToken` consumes at least one character of the expression, except when it returns
    an empty unquoted user string (in front of a vertical tab / form feed, which end a user string but are not
    skipped) — and then it gives nothing back.  This is the termination measure of the parser: each iteration of a
    token loop of `CreateQueryFilterFromExpressionAux` either shortens the input or appends a plain token to a list
    that is rejected beyond four entries, and each recursive call is preceded by the consumption of a `(`;
    `parseExpr` therefore runs its loop with `6·(length+1)` units of fuel. -/
theorem lexer_progress (s : Bytes) (t : Tok) (r : Bytes) (h : nextToken s = some (t, r)) :
    r.length < s.length ∨ (r.length ≤ s.length ∧ t = .user [] false) :=
  nextTokenWith_progress getMatchingToken getMatchingToken_pos s t r h

/-- A fixed token or synonym is never empty. -/
theorem lexer_token_nonempty (s : Bytes) (id n : Nat) (h : getMatchingToken s = some (id, n)) : 1 ≤ n :=
  getMatchingToken_pos s id n h

/-- Soundness: whatever filter `CreateQueryFilterFromExpression` builds from ANY character string is well-formed
    (operands of the operand width, 32-bit indices, 8-bit operators, children in place) … -/
theorem parser_sound (s : Bytes) (f : Filter) (h : parseExpr s = .ok f) : wf f :=
  parseExpr_wf s f h

/-- … and therefore survives archiving: the restored filter decides identically on every Message. -/
theorem parser_archive (s : Bytes) (f : Filter) (h : parseExpr s = .ok f) :
    fromArchive (toArchive f) = some (norm f) ∧ ∀ m nd, eval sm (norm f) m nd = eval sm f m nd :=
  archive_roundtrip sm f (parser_sound s f h)

/-- `parse_print`.  `Ast` is the abstract syntax of the documented grammar (a predicate of 2–4 plain tokens, `!`,
    n-ary `&&` / `||` / `^`), `denote` the filter the grammar assigns to a tree (`leafOf` for predicates,
    `NorQueryFilter` for `!`, And/Or/Xor for the conjunctions), `printT` its canonical spelling as tokens (every term
    in its own parentheses) and `render` writes the tokens as characters, one blank after each.  For every tree whose
    tokens are printable (`printableTok`, `Filter/ProofsRender.lean`: every fixed token; quoted strings without `"`;
    unquoted words that are non-empty, free of white space, do not begin with `"` or with a token/synonym, and in
    which no non-letter character starts a token/synonym) parsing the printed characters yields EXACTLY the
    denotation — in particular a filter that decides identically on every Message. -/
theorem parse_print (a : Ast) (f : Filter) (hok : okAst a) (hpr : ∀ t ∈ printT a, printableTok t = true)
    (hd : denote a = some f) :
    parseExpr (render (printT a)) = .ok f ∧
    ∀ g, parseExpr (render (printT a)) = .ok g → ∀ m nd, eval sm g m nd = eval sm f m nd := by
  have h := parseExpr_render a f hok hpr hd
  refine ⟨h, fun g hg m nd => ?_⟩
  rw [h] at hg
  cases hg
  rfl

/-- The same at the level of tokens, for ANY token source that delivers the canonical spelling (no printability needed):
    the recursive-descent loop is a correct parser of the grammar. -/
theorem parse_print_tokens (a : Ast) (f : Filter) (hok : okAst a) (hd : denote a = some f) (b : Bytes)
    (hl : Lexes b (printT a)) (fuel : Nat) (hf : sizeA a + 2 ≤ fuel) :
    (parseLoopWith nextToken fuel {} b).1 = .ok f :=
  parse_of_lexes a f hok hd b hl fuel hf

/-- Rendered printable tokens lex back to themselves, whatever they are (not only spellings of trees). -/
theorem lex_render (ts : List Tok) (h : ∀ t ∈ ts, printableTok t = true) : Lexes (render ts) ts :=
  lexes_render ts h

/-! ## non-vacuity -/

-- the table is scanned from its last entry: `!=`, `<=`, `>=`, `(int32)` win over `!`, `<`, `>`, `(`
example : getMatchingToken [33, 61, 53] = some (ltNeq, 2) ∧ getMatchingToken [60, 61, 53] = some (ltLeq, 2) ∧
          getMatchingToken [62, 61, 32, 53] = some (ltGeq, 2) ∧ getMatchingToken [40, 73, 78, 84, 51, 50, 41, 53] = some (ltInt32, 7) ∧
          getMatchingToken [33, 120] = some (ltNot, 1) ∧ getMatchingToken [61, 32, 53] = some (ltEq, 1) ∧
          getMatchingToken [73, 115, 32, 53] = some (ltEq, 3) ∧ getMatchingToken [105, 115, 101, 110, 100, 111, 102, 32, 120] = some (ltIsendof, 8) ∧
          getMatchingToken [97, 103, 101] = none := by decide +kernel
-- `(eyecolor == "green") && (!(age:1 >= 21))`, canonically spelled, is printable, denotes a filter and parses to it
def sampleAst : Ast :=
  .conj ltAnd [ .leaf [.user [101,121,101,99,111,108,111,114] false, .fixed ltEq, .user [103,114,101,101,110] true],
                .not (.leaf [.user [97,103,101,58,49] false, .fixed ltGeq, .user [50,49] false]) ]
example : okAst sampleAst := by
  simp [sampleAst, okAst, okKids, plainTok, ltAnd, ltEq, ltGeq, ltNot, ltLparen, ltRparen, ltOr, ltXor]
example : (∀ t ∈ printT sampleAst, printableTok t = true) ∧ (denote sampleAst).isSome = true := by decide +kernel
example : (match parseExpr (render (printT sampleAst)), denote sampleAst with
           | .ok g, some f => feq g f | _, _ => false) = true := by decide +kernel
-- words the lexer keeps whole / refuses as unquoted field names
example : printableTok (.user [115,111,109,101,119,104,97,116] false) = true ∧      -- somewhat
          printableTok (.user [119,104,97,116,101,118,101,114] false) = false ∧     -- whatever (begins with `what`)
          printableTok (.user [97,60,98] false) = false := by decide +kernel                -- a<b
-- a vertical tab: an empty token and no progress
example : nextToken [11, 97] = some (.user [] false, [11, 97]) := by decide +kernel


def sampleFilter : Filter :=
  .minMatch 0 [ .num .i32 [97] 0 nopLt mopNone [5, 0, 0, 0] [0, 0, 0, 0] (some [1, 0, 0, 0]),
                .msgKid [109] 0 (.str [115] 0 sopStartsWith [97] none) none,
                .raw [114] 0 ropEq tcAny (some []) none ]

def sampleMsg : Msg := .mk 7 [([97], .fixed tcInt32 .inl [[4, 0, 0, 0]])]

example : wf sampleFilter := by
  simp [sampleFilter, wf, wfKids, NumTy.size, Filter.U32, nopLt, mopNone, sopStartsWith, ropEq, tcAny]

example : eval (fun _ _ _ => false) sampleFilter sampleMsg none = true := by decide
example : eval (fun _ _ _ => false) sampleFilter (.mk 7 []) none = true := by decide   -- the default 1 < 5 is used
example : eval (fun _ _ _ => false) sampleFilter (.mk 7 [([97], .fixed tcInt32 .inl [[5, 0, 0, 0]])]) none = false := by decide
example : roundTripsTo sampleFilter = true := by decide +kernel
/-- one filter of every class, with and without defaults / optional fields -/
def sampleAll : Filter :=
  .xor [ .what 3 3, .what 0 9, .valueExists [97] 2 tcAny, .valueExists [] 0 tcInt32,
         .num .bool [98] 0 nopNe mopXor [1] [1] none, .num .f64 [98] 1 nopGe mopNone [0,0,0,0,0,0,240,63] [0,0,0,0,0,0,0,0] (some [0,0,0,0,0,0,248,127]),
         .num .rc [114] 0 nopEq mopNone rectDefault rectDefault (some rectDefault), .num .i8 [97] 0 200 7 [255] [1] none,
         .childCount [] 0 nopGt mopNone [2,0,0,0] [0,0,0,0] none, .childCount [120] 3 nopEq mopAnd [2,0,0,0] [1,0,0,0] (some [0,0,0,0]),
         .str [115] 0 sopContains [97, 98] (some []), .str [115] 4 255 [] none, .nodeName [] 0 sopEq [110] none, .nodeName [102] 1 13 [110] (some [100]),
         .raw [114] 0 ropLt tcRaw (some [1, 2]) (some [3]), .raw [114] 1 ropSubsetOf tcAny none none, .raw [114] 0 0 200 (some []) none,
         .msgAny [109] 0 none, .msgAny [109] 1 none,
         .msgKid [109] 0 (.what 1 2) none, .msgKid [109] 2 (.minMatch 1 [.what 1 2, .xor []]) none,
         .minMatch muscleNoLimit [], .minMatch 0 [.what 1 1], .maxMatch 0 [.what 1 1, .what 2 2], .maxMatch 7 [], .xor [] ]
example : wf sampleAll := by
  simp [sampleAll, wf, wfKids, NumTy.size, Filter.U32, rectDefault, tcAny, tcInt32, tcRaw, muscleNoLimit,
    nopNe, nopGe, nopEq, nopGt, mopXor, mopNone, mopAnd, sopContains, sopEq, ropLt, ropSubsetOf]
example : roundTripsTo sampleAll = true := by decide +kernel
-- a zero-length assumed default survives archiving and is what a Message without the field is compared with
def rawEmptyDefault : Filter := .raw [102] 0 ropLt tcRaw (some [97, 98]) (some [])
example : roundTripsTo rawEmptyDefault = true ∧ feq (norm rawEmptyDefault) rawEmptyDefault = true ∧
          eval (fun _ _ _ => false) rawEmptyDefault (.mk 1 []) none = true := by decide +kernel
example : fromArchive (.mk qfInt32 [(kFn, .strs .inl [[97]])]) = none := by decide     -- "val" missing: rejected
-- a Point with a NaN component is both `<=` and `>=` (1.0, NaN) yet not `==`
example : numCmp .pt nopLe [0,0,128,63, 0,0,192,127] [0,0,128,63, 0,0,128,63] = true ∧
          numCmp .pt nopGe [0,0,128,63, 0,0,192,127] [0,0,128,63, 0,0,128,63] = true ∧
          numCmp .pt nopEq [0,0,128,63, 0,0,192,127] [0,0,128,63, 0,0,128,63] = false := by decide
example : ∃ m nd, findData [97] tcInt32 0 m = none ∧ eval (fun _ _ _ => false) (.num .i32 [97] 0 nopEq mopNone [1,0,0,0] [0,0,0,0] (some [1,0,0,0])) m nd = true :=
  ⟨.mk 0 [], none, by decide, by decide⟩

end Muscle.Props.C14
