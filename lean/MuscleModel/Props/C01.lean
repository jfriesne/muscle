import MuscleModel.Wire.ResultSize
import MuscleModel.Wire.ChecksumProofs
import MuscleModel.Wire.EqProofs

/-!
# C01 — Message serialisation round-trips exactly and its size is exact

The property theorems and the sample Messages of their non-vacuity examples.
`encode`/`decode`/`sizeMsg` mirror `Message::Flatten/Unflatten/FlattenedSize`; the tie to the C++
code is the correspondence run of engine `msg`.

`tripMsg m` is the Message without its non-flattenable (pointer/tag) fields and with the inline/array
representation tag reset to what the parser chooses.  By definition it keeps the what-code, the field
order, names, type codes, item counts and every item's bytes at every nesting level.  `wfMsg`: names
NUL-free and distinct, items of their type's size, an inline field with exactly one item, every size
below 2^32; `depthMsg m ≤ mx` = nesting within `MUSCLE_MAX_MESSAGE_NESTING_DEPTH` (a parameter: the
theorems hold for every value of the limit).
-/


namespace Muscle.Props.C01
open Muscle Muscle.Wire Muscle.Gen

/-- The inline writer (`SingleFlatten`) and the array writer (`TemplatedFlatten`) produce the same
    payload bytes for a one-item field, for every field type. -/
theorem encInline_eq_encArray_fixed (x : Bytes) : encFixed .inl [x] = encFixed .arr [x] := by
  simp [encFixed, encFixedArr]

theorem encInline_eq_encArray_strs (s : Bytes) : encStrs .inl [s] = encStrs .arr [s] := by
  simp [encStrs, encStrItems]

theorem encInline_eq_encArray_raws (b : Bytes) : encRaws .inl [b] = encRaws .arr [b] := by
  simp [encRaws, encRawItems]

theorem encInline_eq_encArray_msgs (m : Msg) : encMsgsF .inl [m] = encMsgsF .arr [m] := by
  simp [encMsgsF, encMsgItems]

/-- Trailing bytes after a complete encoding do not change the result (streams, sub-buffers). -/
theorem decode_encode_append (mx : Nat) (m : Msg) (rest : Bytes) (h : wfMsg m) (hd : depthMsg m ≤ mx) :
    decode mx (encode m ++ rest) = some (tripMsg m) := by
  have hn := nodes_msg m h
  have := decMsg_enc mx m h ((encode m ++ rest).length + 2) 1 rest
    (by simp only [encode_eq, List.length_append]; omega) (by omega)
  simp only [encode_eq] at this
  simp only [decode, encode_eq, this]

/-- Parsing the serialised bytes yields the original Message (minus non-flattenable fields), for every
    well-formed Message and every value `mx` of the nesting limit that admits it. -/
theorem decode_encode (mx : Nat) (m : Msg) (h : wfMsg m) (hd : depthMsg m ≤ mx) :
    decode mx (encode m) = some (tripMsg m) := by
  simpa using decode_encode_append mx m [] h hd

/-- Serialising the parsed Message reproduces the original bytes exactly. -/
theorem reencode (m : Msg) (h : wfMsg m) : encode (tripMsg m) = encode m :=
  reenc_msg m h

/-- The advertised flattened size equals the number of bytes written. -/
theorem size_exact (m : Msg) (h : wfMsg m) : (encode m).length = sizeMsg m :=
  size_msg m h

/-- Field order is preserved: the parsed Message lists exactly the flattenable fields, in order. -/
theorem order_preserved (fs : List (Bytes × Field)) : (tripFields fs).map (·.1) = flatNames fs := by
  induction fs with
  | nil => simp [tripFields, flatNames]
  | cons a r ih =>
    obtain ⟨n, f⟩ := a
    cases f <;> simp [tripFields, flatNames, ih]

/-! Non-vacuity: a concrete Message with an inline int32, a two-item string array, a nested
Message and a pointer field satisfies the hypotheses, and the statement computes. -/

def sample : Msg :=
  .mk 42 [ ([0x61], .fixed tcInt32 .inl [[1, 0, 0, 0]]),
           ([0x62], .strs .arr [[0x68, 0x69], []]),
           ([0x70], .opaque tcPointer 1),
           ([0x63], .msgs .inl [.mk 7 [([0x64], .fixed tcBool .arr [[1]])]]) ]

theorem sample_wf : wfMsg sample := by
  simp [sample, wfMsg, wfFields, wfMsgs, countFlat, nulFree, flatNames, U32, wireItemSize, tcInt32, tcBool,
    tcDouble, tcFloat, tcInt64, normBool, encStrs, encStrItems, encMsgItems,
    encMsg, encFields, encFixed, encFixedArr, le32, leN, protocolVersion]

example : wfMsg sample ∧ depthMsg sample ≤ 256 :=
  ⟨sample_wf, by simp [sample, depthMsg, depthFields, depthMsgs]⟩

/-! ## Injectivity, exact consumption, truncation, additive size -/

/-- The bytes determine the content: equal encodings of well-formed Messages mean equal Messages up to what a
    round trip may change. -/
theorem encode_injective_c01 (m₁ m₂ : Msg) (h₁ : wfMsg m₁) (h₂ : wfMsg m₂) (h : encode m₁ = encode m₂) :
    tripMsg m₁ = tripMsg m₂ := by
  have d1 := decode_encode (max (depthMsg m₁) (depthMsg m₂)) m₁ h₁ (Nat.le_max_left _ _)
  have d2 := decode_encode (max (depthMsg m₁) (depthMsg m₂)) m₂ h₂ (Nat.le_max_right _ _)
  rw [h] at d1
  exact Option.some.inj (d1.symm.trans d2)

/-- The stream reader (`decMsg`, which returns the unread rest) applied to `encode m ++ rest` consumes
    exactly `sizeMsg m` bytes: it yields the Message, leaves exactly `rest`, and the consumed prefix
    `encode m` is `sizeMsg m` bytes long.  Any fuel ≥ the encoded length will do (`decode` supplies
    input length + 2). -/
theorem decode_consumes_exactly (mx : Nat) (m : Msg) (rest : Bytes) (h : wfMsg m) (hd : depthMsg m ≤ mx)
    (fuel : Nat) (hf : (encode m).length ≤ fuel) :
    decMsg mx fuel 1 (encode m ++ rest) = some (tripMsg m, rest) ∧
    (encode m).length = sizeMsg m ∧
    (encode m ++ rest).length = sizeMsg m + rest.length := by
  have hn := nodes_msg m h
  have hs := size_msg m h
  refine ⟨?_, hs, ?_⟩
  · exact decMsg_enc mx m h fuel 1 rest (by simp only [encode_eq] at hf; omega) (by omega)
  · simp only [encode_eq, List.length_append, hs]

/-- For ARBITRARY input bytes: whatever the parser accepts has a flattened size no larger than the
    input.  (No well-formedness hypothesis: this is about the reader alone.) -/
theorem decode_result_le_input (mx : Nat) (b : Bytes) (m' : Msg) (h : decode mx b = some m') :
    sizeMsg m' ≤ b.length := by
  obtain ⟨r, hd⟩ := decode_eq_some.1 h
  have := (sizeAt mx _).msg _ _ _ _ hd
  rw [← decMsg_sizeMsg hd] at this
  omega

/-- Truncation, strongest true form for *every* cut point: whatever the parser makes of a strict prefix
    of `encode m`, the result is strictly smaller (in flattened size) than `m`.  The parser is lenient
    — `decode_strict_prefix_none_is_false` below shows a cut exactly where the last payload starts IS
    accepted, as a Message with an empty field — so "always `none`" is false; but it never reconstructs
    the original, or anything as large, from fewer bytes. -/
theorem decode_strict_prefix_smaller (mx : Nat) (m : Msg) (k : Nat) (h : wfMsg m)
    (hk : k < (encode m).length) (m' : Msg) (hdec : decode mx ((encode m).take k) = some m') :
    sizeMsg m' < sizeMsg m := by
  have h1 := decode_result_le_input mx _ m' hdec
  have h2 := size_exact m h
  simp only [List.length_take] at h1
  omega

/-- A truncated buffer is never accepted as the complete Message: for every `k` below the encoded
    length, parsing the first `k` bytes does not yield `m` (i.e. not what parsing all bytes yields). -/
theorem decode_strict_prefix_fails (mx : Nat) (m : Msg) (k : Nat) (h : wfMsg m)
    (hk : k < (encode m).length) : decode mx ((encode m).take k) ≠ some (tripMsg m) := by
  intro hdec
  have := decode_strict_prefix_smaller mx m k h hk _ hdec
  rw [sizeMsg_trip m h] at this
  omega

/-- Same, phrased against the full parse: a strict prefix never parses to the same result as the
    whole encoding. -/
theorem decode_strict_prefix_differs (mx : Nat) (m : Msg) (k : Nat) (h : wfMsg m) (hd : depthMsg m ≤ mx)
    (hk : k < (encode m).length) : decode mx ((encode m).take k) ≠ decode mx (encode m) := by
  rw [decode_encode mx m h hd]
  exact decode_strict_prefix_fails mx m k h hk

/-- …and a cut inside the 12-byte header, or anywhere before `12 + 12 × (number of flattenable entries)`
    bytes, IS always rejected (header reads fail; then the parser's plausibility check "every declared
    entry needs at least 12 bytes of what is left" fails). -/
theorem decode_truncated_head_fails (mx : Nat) (m : Msg) (k : Nat) (h : wfMsg m)
    (hk : k < 12 + 12 * countFlat m.fields) : decode mx ((encode m).take k) = none := by
  cases m with
  | mk w fs =>
    simp only [Msg.fields] at hk
    simp only [decode, encode_eq, decMsg_take_head mx _ 1 w fs k (wfMsg_what h) (wfMsg_count h) hk]

/-- `Message::FlattenedSize` is additive: 12 header bytes plus, per entry, `sizeEntry` (name length
    word, name + NUL, type code, payload length word, payload; 0 for a pointer/tag field). -/
theorem size_additive (m : Msg) :
    sizeMsg m = 12 + (m.fields.map (fun e => sizeEntry e.1 e.2)).sum := by
  cases m with
  | mk w fs => simp only [sizeMsg, Msg.fields, adds_sizeFields.eq_sum]

theorem size_entry_flattenable (n : Bytes) (f : Field) (h : f.flattenable = true) :
    sizeEntry n f = 4 + (n.length + 1) + 4 + 4 + sizePayload f := by
  simp [sizeEntry, h]

/-! Non-vacuity for the truncation theorems: `sample` (nested, 105 bytes) satisfies the hypotheses for
every cut point; and the counter-example showing why the conclusion is not "`= none`". -/

theorem sample_length : (encode sample).length = 105 := by
  rw [size_exact sample sample_wf]
  simp [sample, sizeMsg, sizeFields, sizeFixed, sizeStrs, sizeMsgsF, sumLen, wireItemSize, tcInt32, tcBool,
    tcDouble, tcFloat, tcInt64]

example : ∀ k, k < 105 → decode 256 ((encode sample).take k) ≠ some (tripMsg sample) :=
  fun k hk => decode_strict_prefix_fails 256 sample k sample_wf (by rw [sample_length]; exact hk)

example : ∀ k, k < 48 → decode 256 ((encode sample).take k) = none :=
  fun k hk => decode_truncated_head_fails 256 sample k sample_wf (by simp [sample, Msg.fields, countFlat]; omega)

/-- one inline int32 field `a = 1`; 30 bytes, the last 4 are the payload -/
def truncSample : Msg := .mk 1 [([0x61], .fixed tcInt32 .inl [[1, 0, 0, 0]])]

theorem truncSample_take :
    (encode truncSample).take 26 =
      [48, 48, 77, 80, 1, 0, 0, 0, 1, 0, 0, 0, 2, 0, 0, 0, 97, 0, 71, 78, 79, 76, 4, 0, 0, 0] := by
  simp [truncSample, encode_eq, encMsg, encFields, encFixed, countFlat, le32, leN, protocolVersion, tcInt32]

/-- Counter-example to "a truncated Message is always rejected": cutting `truncSample` (30 bytes) after
    26 bytes — header and field header intact, payload gone — is ACCEPTED by the parser, as a Message
    whose field `a` is an empty int32 array (the limited view is empty, `0 % 4 = 0`, zero items). -/
theorem decode_strict_prefix_none_is_false :
    (26 < (encode truncSample).length) ∧
    decode 256 ((encode truncSample).take 26) = some (.mk 1 [([0x61], .fixed tcInt32 .arr [])]) := by
  refine ⟨?_, ?_⟩
  · simp [truncSample, encode_eq, encMsg, encFields, encFixed, countFlat, le32, leN, protocolVersion, tcInt32]
  · rw [truncSample_take]
    simp [decode, decMsg, decFields, decPayload, decFixed, chunks, rd32, rdN, takeN, leVal, cstr, lookupField,
      upsertField, wireItemSize, oldestProtocolVersion, protocolVersion,
      tcBool, tcDouble, tcFloat, tcInt64, tcInt32]

/-! ## The content checksum (`Message::CalculateChecksum(false)`) is unchanged by the trip

`checksumMsg` (`Wire/Checksum.lean`) is transcribed from the C++ and compared with it op by op (`cksum` of
engine `msg`).  Lemmas: `Wire/ChecksumProofs.lean`. -/

/-- The parse of the serialisation has the same checksum as the original: dropping the non-flattenable
    fields (never counted) and resetting the representation tag do not change it, at any nesting level. -/
theorem checksum_trip (m : Msg) (h : wfMsg m) : checksumMsg (tripMsg m) = checksumMsg m :=
  chkTrip_all.1 m h

/-- …stated on the parser: whatever `decode` makes of `encode m` (followed by anything) has `m`'s checksum. -/
theorem checksum_decode_encode (mx : Nat) (m : Msg) (rest : Bytes) (h : wfMsg m) (hd : depthMsg m ≤ mx) :
    (decode mx (encode m ++ rest)).map checksumMsg = some (checksumMsg m) := by
  rw [decode_encode_append mx m rest h hd]
  simp [checksum_trip m h]

/-- A one-item field has the same checksum in the inline representation (`SingleCalculateChecksum`:
    type code + 1 + item) and in the array representation (the `*DataArray` classes: type code + count +
    Σ (i+1)·item), for every field type. -/
theorem checksum_rep_independent (tc : Nat) (x : Bytes) (m : Msg) :
    checksumField (.fixed tc .inl [x]) = checksumField (.fixed tc .arr [x]) ∧
    checksumField (.strs .inl [x]) = checksumField (.strs .arr [x]) ∧
    checksumField (.raws tc .inl [x]) = checksumField (.raws tc .arr [x]) ∧
    checksumField (.msgs .inl [m]) = checksumField (.msgs .arr [m]) := by
  simp [checksumField, chkMsgList, chkItems, chkInl_eq_chkArr]

/-- …hence the representation tag of any field built through the API (inline only with exactly one item) is
    irrelevant to the Message checksum. -/
theorem checksum_rep_independent_items (tc : Nat) (rp : Rep) (cs : List Nat) (h : rp = .inl → cs.length = 1) :
    chkItems tc rp cs = chkItems tc .arr cs := by
  rw [chkItems_eq_arr tc rp cs h, chkItems_eq_arr tc .arr cs (by intro e; cases e)]

/-- The checksum ignores the order of the fields ("deliberately NOT considering the ordering of the
    fields", `Message::CalculateChecksum`): any permutation of the entry list gives the same value. -/
theorem checksum_order_independent (w : Nat) (fs₁ fs₂ : List (Bytes × Field)) (h : fs₁.Perm fs₂) :
    checksumMsg (.mk w fs₁) = checksumMsg (.mk w fs₂) := by
  simp only [checksumMsg, adds_chkFields.perm h]

/-- The Message checksum is the what-code plus one `entryChk` per entry (0 for pointer/tag fields), mod 2^32. -/
theorem checksum_additive (m : Msg) :
    checksumMsg m = (m.what + (m.fields.map (fun e => entryChk e.1 e.2)).sum) % 4294967296 := by
  cases m with
  | mk w fs => simp only [checksumMsg, Msg.what, Msg.fields, adds_chkFields.eq_sum, M32]

/-! Non-vacuity: the checksum of `sample` computes to the value the C++ prints for the same Message, the trip
keeps it (the pointer field does not count, the one-item bool array becomes inline), and reversing the
field list keeps it. -/

example : checksumMsg sample = 2048938212 := by decide

example : checksumMsg (tripMsg sample) = 2048938212 := by rw [checksum_trip sample sample_wf]; decide

example : tripMsg sample ≠ sample ∧ checksumMsg (.mk 42 sample.fields.reverse) = checksumMsg sample :=
  ⟨by simp [sample, tripMsg, tripFields], checksum_order_independent 42 _ _ (List.reverse_perm _)⟩

/-! ## Equality (`Message::operator==`) is unchanged by the trip

`msgEq` (`Wire/Ops.lean`) models `operator==`: `what == rhs.what && GetNumNames() == rhs.GetNumNames() &&
FieldsAreSubsetOf(rhs, true)`, with `MessageField::IsEqualTo` comparing type code, item count and items (IEEE
`==` on float/double/point/rect items, whatever the inline/array representation of the two sides).  Lemmas:
`Wire/EqProofs.lean`.

Non-flattenable (pointer/tag) fields: `GetNumNames()` counts EVERY entry, pointer and tag fields included, and
`FieldsAreSubsetOf` looks every one of this Message's entries up in the other.  `Flatten` skips those fields, so
the parsed Message has fewer names than the original and `==` is false in both directions (first counter-example
below: `sample`, which holds a pointer field).  The theorems are therefore stated for Messages without
non-flattenable fields at any nesting level (`hasOpaque m = false`); no other hypothesis is needed for the
congruence — not even well-formedness. -/

/-- Replacing the left operand by its parse does not change the comparison, against any Message. -/
theorem eq_trip_left (a b : Msg) (ha : hasOpaque a = false) : msgEq (tripMsg a) b = msgEq a b :=
  eqTripLeft_all.1 a ha b

/-- Replacing the right operand by its parse does not change the comparison, against any Message. -/
theorem eq_trip_right (a b : Msg) (hb : hasOpaque b = false) : msgEq a (tripMsg b) = msgEq a b :=
  eqTripRight_all.1 b hb a

/-- The parsed Message compares equal to the original, in both directions, whenever the original compares
    equal to itself (i.e. holds no NaN: `msgEq_refl_of_nanfree`). -/
theorem eq_trip (m : Msg) (ho : hasOpaque m = false) (hs : msgEq m m = true) :
    msgEq (tripMsg m) m = true ∧ msgEq m (tripMsg m) = true := by
  rw [eq_trip_left m m ho, eq_trip_right m m ho]; exact ⟨hs, hs⟩

/-- …stated on the parser. -/
theorem eq_decode_encode (mx : Nat) (m : Msg) (rest : Bytes) (h : wfMsg m) (hd : depthMsg m ≤ mx)
    (ho : hasOpaque m = false) (hs : msgEq m m = true) :
    ∃ m', decode mx (encode m ++ rest) = some m' ∧ msgEq m' m = true ∧ msgEq m m' = true :=
  ⟨tripMsg m, decode_encode_append mx m rest h hd, eq_trip m ho hs⟩

/-- "Equality is unchanged by the trip": two Messages compare the same before and after both went through
    serialisation and parsing (no self-equality hypothesis needed: NaN-holding Messages stay unequal). -/
theorem eq_trip_iff (a b : Msg) (ha : hasOpaque a = false) (hb : hasOpaque b = false) :
    msgEq (tripMsg a) (tripMsg b) = msgEq a b := by
  rw [eq_trip_left a (tripMsg b) ha, eq_trip_right a b hb]

/-- Self-equality characterised: a well-formed Message (without pointer/tag fields) compares equal to itself
    iff no float, double, point or rect item at any nesting level is a NaN bit pattern. -/
theorem msgEq_refl_of_nanfree (m : Msg) (hw : wfMsg m) (ho : hasOpaque m = false) :
    msgEq m m = true ↔ nanFreeMsg m = true := by
  rw [selfEq_all.1 m hw ho]

/-- A one-item field compares the same in the inline and in the array representation (`IsEqualTo` handles the
    mixed cases explicitly; the model's `fieldEq` never looks at the tag): equal iff the item is equal to itself. -/
theorem eq_rep_independent (tc : Nat) (x : Bytes) (m : Msg) :
    fieldEq (.fixed tc .inl [x]) (.fixed tc .arr [x]) = itemNanFree tc x ∧
    fieldEq (.strs .inl [x]) (.strs .arr [x]) = true ∧
    fieldEq (.raws tc .inl [x]) (.raws tc .arr [x]) = true ∧
    fieldEq (.msgs .inl [m]) (.msgs .arr [m]) = msgEq m m := by
  simp [fieldEq, listEqBy, msgsEq, itemEq_self]

/-- …and in general the representation tags of the two sides are irrelevant to the comparison. -/
theorem eq_rep_irrelevant (tc tc' : Nat) (r r' s s' : Rep) (xs ys : List Bytes) (ms ns : List Msg) :
    fieldEq (.fixed tc r xs) (.fixed tc' r' ys) = fieldEq (.fixed tc s xs) (.fixed tc' s' ys) ∧
    fieldEq (.strs r xs) (.strs r' ys) = fieldEq (.strs s xs) (.strs s' ys) ∧
    fieldEq (.raws tc r xs) (.raws tc' r' ys) = fieldEq (.raws tc s xs) (.raws tc' s' ys) ∧
    fieldEq (.msgs r ms) (.msgs r' ns) = fieldEq (.msgs s ms) (.msgs s' ns) := by
  simp [fieldEq]

/-- The comparison of a Message with its parse is the same in both directions (both are `msgEq m m`). -/
theorem eq_trip_symm (m : Msg) (ho : hasOpaque m = false) : msgEq (tripMsg m) m = msgEq m (tripMsg m) := by
  rw [eq_trip_left m m ho, eq_trip_right m m ho]

/-! Non-vacuity and counter-examples. -/

/-- Counter-example for Messages WITH a non-flattenable field: `sample` holds a pointer field, its parse does
    not, `GetNumNames()` differs (4 vs 3) and `==` is false in both directions. -/
example : hasOpaque sample = true ∧ msgEq sample sample = true ∧
    msgEq (tripMsg sample) sample = false ∧ msgEq sample (tripMsg sample) = false := by
  refine ⟨by decide, ?_⟩
  simp [sample, tripMsg, tripFields, tripMsgs, repOf, msgEq, fieldsSubset, lookupField, fieldEq, listEqBy, itemEq,
    msgsEq, tcInt32, tcBool, tcDouble, tcFloat, tcPoint, tcRect, tcPointer]

/-- `sample` without its pointer field -/
def sampleFlat : Msg :=
  .mk 42 [ ([0x61], .fixed tcInt32 .inl [[1, 0, 0, 0]]),
           ([0x62], .strs .arr [[0x68, 0x69], []]),
           ([0x63], .msgs .inl [.mk 7 [([0x64], .fixed tcBool .arr [[1]])]]) ]

theorem sampleFlat_selfEq : msgEq sampleFlat sampleFlat = true := by
  simp [sampleFlat, msgEq, fieldsSubset, lookupField, fieldEq, listEqBy, itemEq, msgsEq,
    tcInt32, tcBool, tcDouble, tcFloat, tcPoint, tcRect]

example : hasOpaque sampleFlat = false ∧ msgEq sampleFlat sampleFlat = true ∧ nanFreeMsg sampleFlat = true ∧
    tripMsg sampleFlat ≠ sampleFlat := by
  refine ⟨by decide, sampleFlat_selfEq, by decide, by simp [sampleFlat, tripMsg, tripFields, tripMsgs, repOf]⟩

example : msgEq (tripMsg sampleFlat) sampleFlat = true ∧ msgEq sampleFlat (tripMsg sampleFlat) = true :=
  eq_trip sampleFlat (by decide) sampleFlat_selfEq

/-- a Message holding a float NaN (0x7FC00000) is not equal to itself, before and after the trip -/
def nanMsg : Msg := .mk 1 [([0x61], .fixed tcFloat .inl [[0, 0, 0xC0, 0x7F]])]

example : nanFreeMsg nanMsg = false ∧ msgEq nanMsg nanMsg = false ∧
    msgEq (tripMsg nanMsg) (tripMsg nanMsg) = false := by
  refine ⟨by decide, ?_⟩
  simp [nanMsg, tripMsg, tripFields, repOf, msgEq, fieldsSubset, lookupField, fieldEq, listEqBy, itemEq, feq32,
    isNaN32, leVal, tcFloat]

/-- `msgEq` is NOT symmetric on arbitrary `Msg` values: the value type allows a repeated field name, which a
    real Message (a hash table keyed by name) cannot hold; with one, "same count and subset" is one-directional.
    Symmetry for Messages with distinct names is not proved here. -/
example :
    msgEq (.mk 0 [([1], .strs .arr []), ([1], .strs .arr [])]) (.mk 0 [([1], .strs .arr []), ([2], .strs .arr [])]) = true ∧
    msgEq (.mk 0 [([1], .strs .arr []), ([2], .strs .arr [])]) (.mk 0 [([1], .strs .arr []), ([1], .strs .arr [])]) = false := by
  simp [msgEq, fieldsSubset, lookupField, fieldEq]

end Muscle.Props.C01
