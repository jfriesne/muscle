import MuscleModel.Props.C05
import MuscleModel.Reflector.MarksReach

/-!
# C05, broadcast fallback — the corollaries for reachable states

`Props/C05.lean` proves `broadcast_exactly_once` for any server whose session ids are pairwise distinct.  Here: the ids are pairwise
distinct (and below the id counter) in every `RReach` state (RouteProofs.lean: reachable from the empty server by attach, detach, ANY
command, `pushAll`, pump), hence in every `MReach` state (`rt_of_mreach`), so the hypothesis can be dropped there.  No write of a handler
touches the id counter (`Acts.nextSid`) and `InboxApp` keeps the ids in place (`InboxApp.sids`); `attach` adds the counter as the
new id and advances it.
-/

namespace Muscle.Reflector
open Muscle Muscle.Eng.SrvEngine

/-- the ids of the table are pairwise distinct and below the id counter -/
def SidsOK (sv : Server) : Prop := (sv.sessions.map (·.sid)).Nodup ∧ ∀ i ∈ sv.sessions.map (·.sid), i < sv.nextSid

theorem bc_all2_sids {P : String → Prop} : ∀ l l' : List Sess, SessAll₂ (InboxExt P) l l' → l'.map (·.sid) = l.map (·.sid) :=
  fun l l' h => InboxApp.sids (a := { sessions := l }) (b := { sessions := l' }) h

theorem SidsOK.of_same {a b : Server} (hs : b.sessions.map (·.sid) = a.sessions.map (·.sid)) (hn : b.nextSid = a.nextSid)
    (h : SidsOK a) : SidsOK b := by
  unfold SidsOK; rw [hs, hn]; exact h

theorem SidsOK.of_app {P : String → Prop} {a b : Server} (hs : InboxApp P a b) (hn : b.nextSid = a.nextSid) (h : SidsOK a) :
    SidsOK b :=
  h.of_same hs.sids hn

theorem SidsOK.attach {sv : Server} (h : SidsOK sv) (slot : Nat) (host : Bytes) : SidsOK (attach sv slot host).1 := by
  have hg := attach_grow (N := fun _ => True) sv slot host trivial trivial
  refine SidsOK.of_app hg.data.inboxApp hg.nextSid ?_
  simp only [SidsOK, List.map_append, List.map_cons, List.map_nil]
  constructor
  · rw [List.nodup_append]
    refine ⟨h.1, by simp, fun x hx y hy => ?_⟩
    rw [List.mem_singleton.mp hy]
    exact Nat.ne_of_lt (h.2 x hx)
  · intro i hi
    rcases List.mem_append.mp hi with hi | hi
    · exact Nat.lt_succ_of_lt (h.2 i hi)
    · rw [List.mem_singleton.mp hi]; exact Nat.lt_succ_self _

theorem SidsOK.detach {sv : Server} (h : SidsOK sv) (x : Nat) : SidsOK (detach sv x) := by
  rcases od_detach sv x with hd | hd
  · have hsub : ((sv.sessions.filter (fun t => t.sid ≠ x)).map (·.sid)).Sublist (sv.sessions.map (·.sid)) :=
      List.Sublist.map _ List.filter_sublist
    unfold SidsOK
    rw [InboxApp.sids (a := { sv with sessions := sv.sessions.filter (fun t => t.sid ≠ x) }) hd, nextSid_detach]
    exact ⟨h.1.sublist hsub, fun i hi => h.2 i (hsub.subset hi)⟩
  · rw [hd]; exact h

/-- in every reachable state the session ids are pairwise distinct and below the id counter -/
theorem rt_reach_sidsOK {sv : Server} (h : RReach sv) : SidsOK sv := by
  induction h with
  | init => exact ⟨by simp, by simp⟩
  | attach slot host _ ih => exact ih.attach slot host
  | detach sid _ ih => exact ih.detach sid
  | cmd sid c _ ih => exact ih.of_app (od_runCmd _ sid c) (nextSid_runCmd _ sid c)
  | push _ ih => exact ih.of_app (od_pushAll _) (nextSid_pushAll _)
  | @pump sv0 _ ih =>
    unfold SidsOK
    simp only [List.map_map]
    exact ih

end Muscle.Reflector

namespace Muscle.Props.C05
open Muscle Muscle.Reflector Muscle.Eng.SrvEngine

/-- In every reachable state (`RReach`: attach, detach, ANY command, `pushAll`, pump from the empty server) the session ids are pairwise
    distinct, and every id is below the id counter. -/
theorem session_ids_distinct (sv : Server) (h : RReach sv) :
    (sv.sessions.map (·.sid)).Nodup ∧ ∀ t ∈ sv.sessions, t.sid < sv.nextSid := by
  obtain ⟨h1, h2⟩ := rt_reach_sidsOK h
  exact ⟨h1, fun t ht => h2 t.sid (List.mem_map.2 ⟨t, ht, rfl⟩)⟩

/-- `broadcast_exactly_once` in a reachable state: no hypothesis on the ids -/
theorem broadcast_exactly_once_reach (sv : Server) (h : RReach sv) (sid tag : Nat) (s : Sess)
    (hs : sv.sess? sid = some s) (hk : s.hasRouteKeys = false) :
    (∀ t ∈ sv.sessions, ∃ t', (sendMsg sv sid tag []).sess? t.sid = some t' ∧
        t'.inbox = (if t.sid ≠ sid ∨ s.reflectSelf = true then t.inbox ++ [msgText sid tag] else t.inbox) ∧
        { t' with inbox := t.inbox } = t) ∧
    (sendMsg sv sid tag []).sessions.map (·.sid) = sv.sessions.map (·.sid) ∧
    (sendMsg sv sid tag []).root = sv.root ∧
    (sendMsg sv sid tag []).live = sv.live ∧
    (sendMsg sv sid tag []).nextSid = sv.nextSid ∧
    (sendMsg sv sid tag []).subsDirty = sv.subsDirty ∧
    (sendMsg sv sid tag []).maxItemsDefault = sv.maxItemsDefault :=
  broadcast_exactly_once sv (rt_reach_sidsOK h).1 sid tag s hs hk

theorem broadcast_session_table_reach (sv : Server) (h : RReach sv) (sid tag : Nat) (s : Sess)
    (hs : sv.sess? sid = some s) (hk : s.hasRouteKeys = false) :
    (sendMsg sv sid tag []).sessions =
      sv.sessions.map (fun t => if t.sid ≠ sid ∨ s.reflectSelf = true then { t with inbox := t.inbox ++ [msgText sid tag] } else t) :=
  broadcast_session_table sv (rt_reach_sidsOK h).1 sid tag s hs hk

theorem broadcast_sender_excluded_unless_reflect_reach (sv : Server) (h : RReach sv) (sid tag : Nat) (s : Sess)
    (hs : sv.sess? sid = some s) (hk : s.hasRouteKeys = false) :
    ∃ s', (sendMsg sv sid tag []).sess? sid = some s' ∧
      s'.inbox = (if s.reflectSelf = true then s.inbox ++ [msgText sid tag] else s.inbox) ∧
      { s' with inbox := s.inbox } = s :=
  broadcast_sender_excluded_unless_reflect sv (rt_reach_sidsOK h).1 sid tag s hs hk

/-- the same for the states of C04 (`MReach`: commands restricted by `CmdOK`), which are `RReach` states -/
theorem broadcast_exactly_once_mreach (sv : Server) (h : MReach sv) (sid tag : Nat) (s : Sess)
    (hs : sv.sess? sid = some s) (hk : s.hasRouteKeys = false) :
    (∀ t ∈ sv.sessions, ∃ t', (sendMsg sv sid tag []).sess? t.sid = some t' ∧
        t'.inbox = (if t.sid ≠ sid ∨ s.reflectSelf = true then t.inbox ++ [msgText sid tag] else t.inbox) ∧
        { t' with inbox := t.inbox } = t) ∧
    (sendMsg sv sid tag []).sessions.map (·.sid) = sv.sessions.map (·.sid) ∧
    (sendMsg sv sid tag []).root = sv.root ∧
    (sendMsg sv sid tag []).live = sv.live ∧
    (sendMsg sv sid tag []).nextSid = sv.nextSid ∧
    (sendMsg sv sid tag []).subsDirty = sv.subsDirty ∧
    (sendMsg sv sid tag []).maxItemsDefault = sv.maxItemsDefault :=
  broadcast_exactly_once_reach sv (rt_of_mreach h) sid tag s hs hk

/-- non-vacuity: the concrete three-session state of `Props/C05.lean` is reachable, so the corollary applies to it -/
example : (sendMsg exBcSv 0 7 []).sessions.map (·.sid) = exBcSv.sessions.map (·.sid) :=
  (broadcast_exactly_once_reach exBcSv (.attach _ _ (.attach _ _ (.attach _ _ .init))) 0 7
    { slot := 0, sid := 0, host := [104] } rfl rfl).2.1

end Muscle.Props.C05
