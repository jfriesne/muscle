import MuscleModel.Wire.RoundTrip

/-! Size exactness, byte-exact re-encoding, fuel bound: each is one fact about the payload of a field, lifted to field
lists, Messages and sub-Message lists by `Msg.induct`. -/

namespace Muscle.Wire
open Muscle Muscle.Gen

theorem sizeMsgsF_eq_items (rp : Rep) (ms : List Msg) (h : rp = .inl → ms.length = 1) :
    sizeMsgsF rp ms = sizeMsgItems ms := by
  cases rp with
  | arr => simp [sizeMsgsF]
  | inl =>
    have := h rfl
    match ms, this with
    | [m], _ => simp [sizeMsgsF, sizeMsgItems]

theorem encPayload_length {f : Field} (hw : f.Sized)
    (hsub : (encMsgItems f.subMsgs).length = sizeMsgItems f.subMsgs) : (encPayload f).length = sizePayload f := by
  cases f with
  | «opaque» tc k => rfl
  | fixed tc rp xs =>
    rw [encPayload, sizePayload, encFixed_eq_arr rp xs hw.1, encFixedArr_length _ xs hw.2]
    cases rp with
    | arr => rfl
    | inl => simp [sizeFixed, hw.1 rfl]
  | strs rp xs =>
    rw [encPayload, sizePayload, encStrs_eq_arr rp xs hw, List.length_append, le32_length, encStrItems_length]
    cases rp with
    | arr => simp only [sizeStrs]; omega
    | inl =>
      match xs, hw rfl with
      | [x], _ => simp only [sizeStrs, sumLen, List.length_cons, List.length_nil]; omega
  | raws tc rp xs =>
    rw [encPayload, sizePayload, encRaws_eq_arr rp xs hw, List.length_append, le32_length, encRawItems_length]
    cases rp with
    | arr => simp only [sizeRaws]; omega
    | inl =>
      match xs, hw rfl with
      | [x], _ => simp only [sizeRaws, sumLen, List.length_cons, List.length_nil]; omega
  | msgs rp ms =>
    rw [encPayload, sizePayload, encMsgsF_eq_items rp ms hw, sizeMsgsF_eq_items rp ms hw]
    exact hsub

theorem size_all :
    (∀ (m : Msg), wfMsg m → (encMsg m).length = sizeMsg m) ∧
    (∀ (fs : List (Bytes × Field)), wfFields fs → (encFields fs).length = sizeFields fs) ∧
    (∀ (ms : List Msg), wfMsgs ms → (encMsgItems ms).length = sizeMsgItems ms) := by
  apply Msg.induct
  · intro w fs ih h
    simp only [encMsg, sizeMsg, List.length_append, le32_length, ih (wfMsg_fields h)]
    omega
  · intro _; simp only [encFields, sizeFields, List.length_nil]
  · intro n f r _ hR ih h
    rw [encFields_cons, sizeFields_cons, sizeEntry, ← ih (wfFields_tail h)]
    by_cases hfl : f.flattenable = true
    · have hw := wfFields_field h hfl
      rw [if_pos hfl, if_pos hfl, ← encPayload_length (wfField_sized hw) (hR (wfField_subMsgs hw))]
      simp only [List.length_append, List.length_cons, le32_length]
      omega
    · rw [if_neg hfl, if_neg hfl, Nat.zero_add]
  · intro _; simp only [encMsgItems, sizeMsgItems, List.length_nil]
  · intro m r hP hR h
    simp only [encMsgItems, sizeMsgItems, List.length_append, le32_length, hP (wfMsgs_head h), hR (wfMsgs_tail h)]
    omega

theorem size_msg : ∀ (m : Msg), wfMsg m → (encMsg m).length = sizeMsg m := size_all.1

theorem size_fields : ∀ (fs : List (Bytes × Field)), wfFields fs → (encFields fs).length = sizeFields fs := size_all.2.1

theorem size_msgItems : ∀ (ms : List Msg), wfMsgs ms → (encMsgItems ms).length = sizeMsgItems ms := size_all.2.2

theorem countFlat_trip : ∀ (fs : List (Bytes × Field)), countFlat (tripFields fs) = countFlat fs := by
  intro fs
  induction fs with
  | nil => rfl
  | cons a r ih =>
    obtain ⟨n, f⟩ := a
    rw [tripFields_cons, countFlat_cons n f]
    by_cases hfl : f.flattenable = true
    · rw [if_pos hfl, if_pos hfl, countFlat_cons, tripField_flattenable, if_pos hfl, ih]
    · rw [if_neg hfl, if_neg hfl, Nat.zero_add, ih]

theorem encPayload_trip {f : Field} (hw : wfField f)
    (hsub : encMsgItems (tripMsgs f.subMsgs) = encMsgItems f.subMsgs) : encPayload (tripField f) = encPayload f := by
  cases f with
  | «opaque» tc k => rfl
  | fixed tc rp xs =>
    simp only [tripField, encPayload]
    rw [encFixed_eq_arr rp xs (wfField_sized hw).one, encFixed_eq_arr _ xs repOf_inl]
  | strs rp xs =>
    simp only [tripField, encPayload]
    rw [encStrs_eq_arr rp xs (wfField_sized hw).one, encStrs_eq_arr _ xs repOf_inl]
  | raws tc rp xs =>
    simp only [tripField, encPayload]
    rw [encRaws_eq_arr rp xs (wfField_sized hw).one, encRaws_eq_arr _ xs repOf_inl]
  | msgs rp ms =>
    simp only [tripField, encPayload]
    rw [encMsgsF_eq_items rp ms (wfField_sized hw).one,
      encMsgsF_eq_items _ (tripMsgs ms) (fun e => (tripMsgs_length ms).trans (repOf_inl e))]
    exact hsub

theorem reenc_all :
    (∀ (m : Msg), wfMsg m → encMsg (tripMsg m) = encMsg m) ∧
    (∀ (fs : List (Bytes × Field)), wfFields fs → encFields (tripFields fs) = encFields fs) ∧
    (∀ (ms : List Msg), wfMsgs ms → encMsgItems (tripMsgs ms) = encMsgItems ms) := by
  apply Msg.induct
  · intro w fs ih h
    simp only [tripMsg, encMsg, ih (wfMsg_fields h), countFlat_trip]
  · intro _; rfl
  · intro n f r _ hR ih h
    rw [tripFields_cons, encFields_cons n f]
    by_cases hfl : f.flattenable = true
    · have hw := wfFields_field h hfl
      rw [if_pos hfl, if_pos hfl, encFields_cons, tripField_flattenable, if_pos hfl, tripField_typeCode,
        encPayload_trip hw (hR (wfField_subMsgs hw)), ih (wfFields_tail h)]
    · rw [if_neg hfl, if_neg hfl, ih (wfFields_tail h)]
  · intro _; rfl
  · intro m r hP hR h
    simp only [tripMsgs, encMsgItems, hP (wfMsgs_head h), hR (wfMsgs_tail h)]

theorem reenc_msg : ∀ (m : Msg), wfMsg m → encMsg (tripMsg m) = encMsg m := reenc_all.1

theorem reenc_fields : ∀ (fs : List (Bytes × Field)), wfFields fs → encFields (tripFields fs) = encFields fs :=
  reenc_all.2.1

theorem reenc_msgItems : ∀ (ms : List Msg), wfMsgs ms → encMsgItems (tripMsgs ms) = encMsgItems ms := reenc_all.2.2

theorem nodes_all :
    (∀ (m : Msg), wfMsg m → nodesMsg m ≤ (encMsg m).length) ∧
    (∀ (fs : List (Bytes × Field)), wfFields fs → nodesFields fs ≤ (encFields fs).length) ∧
    (∀ (ms : List Msg), wfMsgs ms → nodesMsgs ms ≤ (encMsgItems ms).length) := by
  apply Msg.induct
  · intro w fs ih h
    have := ih (wfMsg_fields h)
    simp only [nodesMsg, encMsg, List.length_append, le32_length]
    omega
  · intro _; simp only [nodesFields, Nat.zero_le]
  · intro n f r _ hR ih h
    have := ih (wfFields_tail h)
    rw [nodesFields_cons, encFields_cons]
    by_cases hfl : f.flattenable = true
    · have hw := wfFields_field h hfl
      -- only a Message field has sub-Messages, and its payload is their encoding
      have hp : nodesMsgs f.subMsgs ≤ (encPayload f).length := by
        have := hR (wfField_subMsgs hw)
        cases f with
        | msgs rp ms => rw [encPayload, encMsgsF_eq_items rp ms (wfField_sized hw).one]; exact this
        | _ => exact Nat.zero_le _
      simp only [if_pos hfl, List.length_append, List.length_cons, le32_length]
      omega
    · have h0 : nodesMsgs f.subMsgs = 0 := by
        cases f with
        | «opaque» tc k => rfl
        | _ => exact absurd rfl hfl
      rw [if_neg hfl, if_neg hfl, h0]
      omega
  · intro _; simp only [nodesMsgs, Nat.zero_le]
  · intro m r hP hR h
    have h1 := hP (wfMsgs_head h)
    have h2 := hR (wfMsgs_tail h)
    simp only [nodesMsgs, encMsgItems, List.length_append, le32_length]
    omega

theorem nodes_msg : ∀ (m : Msg), wfMsg m → nodesMsg m ≤ (encMsg m).length := nodes_all.1

theorem nodes_fields : ∀ (fs : List (Bytes × Field)), wfFields fs → nodesFields fs ≤ (encFields fs).length :=
  nodes_all.2.1

theorem nodes_msgItems : ∀ (ms : List Msg), wfMsgs ms → nodesMsgs ms ≤ (encMsgItems ms).length := nodes_all.2.2

end Muscle.Wire
