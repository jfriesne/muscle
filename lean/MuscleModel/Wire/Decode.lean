import MuscleModel.Wire.Msg

/-!
# The Message parser (`Message::Unflatten` and everything below it)

Mirrors what the current code does with *arbitrary* bytes:
`Message::Unflatten`, `MessageField::Unflatten`, `GetNumItemsInFlattenedBuffer`,
`SingleUnflatten`, and the `TemplatedUnflatten` of the data-array classes, with
the `DataUnflattener` conventions (a read limiter narrows the view to
`min(declared, available)` bytes; after a limited read the position is where the
callee *stopped*, not the end of the declared region; `String::Unflatten` of a
view without NUL is an error).

`none` = the parser returns an error status.  Readers return the unread rest.
Every recursive call consumes one unit of fuel; `decode` supplies
`length + 2`, and the round-trip theorem shows any fuel ≥ the value's node count
suffices.
-/

namespace Muscle.Wire
open Muscle Muscle.Gen

/-- `String::Unflatten` on a limited view: the bytes up to the first NUL; a view without NUL (or an empty
    view) is an error (`ReadCString` flags it and `String::Unflatten` returns that status) -/
def cstr (p : Bytes) : Option Bytes := if p.contains 0 then some (p.takeWhile (· != 0)) else none

/-- `ReadFlatsWithLengthPrefixes<String>` : `k` × (`len`, `len` bytes) -/
def decStrItems : Nat → Bytes → Option (List Bytes × Bytes)
  | 0, b => some ([], b)
  | k+1, b =>
    match rd32 b with
    | none => none
    | some (len, b) =>
      match takeN len b with
      | none => none
      | some (p, b) =>
        match cstr p, decStrItems k b with
        | some s, some (xs, b) => some (s :: xs, b)
        | _, _ => none

/-- `ByteBufferDataArray::TemplatedUnflatten` item loop -/
def decRawItems : Nat → Bytes → Option (List Bytes × Bytes)
  | 0, b => some ([], b)
  | k+1, b =>
    match rd32 b with
    | none => none
    | some (len, b) =>
      match takeN len b with
      | none => none
      | some (p, b) =>
        match decRawItems k b with
        | none => none
        | some (xs, b) => some (p :: xs, b)

/-- cut a byte list whose length is a multiple of `sz` into `sz`-byte items -/
def chunks (sz : Nat) : Nat → Bytes → List Bytes
  | 0, _ => []
  | k+1, b => b.take sz :: chunks sz k (b.drop sz)

/-- a wire byte read into a C++ `bool` and written back: `ReadByte() != 0` then `? 1 : 0` -/
def normBool (x : Bytes) : Bytes := x.map (fun b => if b = 0 then 0 else 1)

/-- fixed-size payloads (`wireItemSize tc = sz > 0`) -/
def decFixed (tc sz : Nat) (p : Bytes) : Option (Field × Bytes) :=
  if p.length / sz = 1 then
    -- SingleUnflatten reads exactly one item and leaves the rest unread
    let item := p.take sz
    some (.fixed tc .inl [if tc = tcBool then normBool item else item], p.drop sz)
  else if p.length % sz ≠ 0 then none
  else
    let items := chunks sz (p.length / sz) p
    some (.fixed tc .arr (if tc = tcBool then items.map normBool else items), [])

/-- look a field name up in the entries parsed so far -/
def lookupField (nm : Bytes) : List (Bytes × Field) → Option Field
  | [] => none
  | (n, f) :: r => if n = nm then some f else lookupField nm r

/-- `GetOrCreateMessageField` followed by the overwrite: same position if the name exists -/
def upsertField (nm : Bytes) (f : Field) : List (Bytes × Field) → List (Bytes × Field)
  | [] => [(nm, f)]
  | (n, g) :: r => if n = nm then (n, f) :: r else (n, g) :: upsertField nm f r

mutual
/-- `Message::Unflatten`; `mx` = `MUSCLE_MAX_MESSAGE_NESTING_DEPTH`, `lvl` = the per-thread nest count
    (1 for the outermost call) -/
def decMsg (mx : Nat) : Nat → Nat → Bytes → Option (Msg × Bytes)
  | 0, _, _ => none
  | fuel+1, lvl, b =>
    if mx < lvl then none else
    match rd32 b with
    | none => none
    | some (ver, b) =>
      if ver < oldestProtocolVersion ∨ protocolVersion < ver then none else
      match rd32 b with
      | none => none
      | some (what, b) =>
        match rd32 b with
        | none => none
        | some (n, b) =>
          if b.length / 12 < n then none else
          match decFields mx fuel lvl n b [] with
          | none => none
          | some (fs, b) => some (.mk what fs, b)
/-- the entry loop of `Message::Unflatten`; `acc` = entries created so far, in order -/
def decFields (mx : Nat) : Nat → Nat → Nat → Bytes → List (Bytes × Field) → Option (List (Bytes × Field) × Bytes)
  | _, _, 0, b, acc => some (acc, b)
  | 0, _, _+1, _, _ => none
  | fuel+1, lvl, k+1, b, acc =>
    match rd32 b with
    | none => none
    | some (nl, b) =>
      match takeN nl b with
      | none => none
      | some (np, b) =>
        match rd32 b with
        | none => none
        | some (tc, b) =>
          match rd32 b with
          | none => none
          | some (el, b) =>
            match cstr np with
            | none => none
            | some nm =>
            -- GetOrCreateMessageField: reuse a same-named field if the type agrees (or B_ANY_TYPE), else B_TYPE_MISMATCH
            let tc? : Option Nat :=
              match lookupField nm acc with
              | some f => if tc = tcAny ∨ tc = f.typeCode then some f.typeCode else none
              | none => some tc
            match tc? with
            | none => none
            | some tc =>
              match decPayload mx fuel lvl tc (b.take el) with
              | none => none
              | some (f, rest) => decFields mx fuel lvl k (rest ++ b.drop el) (upsertField nm f acc)
/-- `MessageField::Unflatten` on the limited view `p`; returns the unread rest of `p` -/
def decPayload (mx : Nat) : Nat → Nat → Nat → Bytes → Option (Field × Bytes)
  | fuel, lvl, tc, p =>
    if wireItemSize tc ≠ 0 then decFixed tc (wireItemSize tc) p
    else if tc = tcPointer ∨ tc = tcTag then none
    else if tc = tcMessage then
      if p.length < 4 then
        (if p.length = 0 then some (.msgs .arr [], []) else none)
      else if leVal (p.take 4) = p.length - 4 then
        -- exactly one sub-Message filling the view: inline
        match decMsg mx fuel (lvl + 1) (p.drop 4) with
        | none => none
        | some (m, _) => some (.msgs .inl [m], [])
      else
        match decMsgItems mx fuel lvl p with
        | none => none
        | some ms => some (.msgs .arr ms, [])
    else
      match rd32 p with
      | none => none
      | some (cnt, q) =>
        if tc = tcString then
          match decStrItems cnt q with
          | none => none
          | some (xs, rest) => some (.strs (if cnt = 1 then .inl else .arr) xs, rest)
        else if cnt = 1 then
          match rd32 q with
          | none => none
          | some (sz, q) => if sz = q.length then some (.raws tc .inl [q], []) else none
        else
          match decRawItems cnt q with
          | none => none
          | some (xs, rest) => some (.raws tc .arr xs, rest)
/-- `MessageDataArray::TemplatedUnflatten`: until the view is exhausted -/
def decMsgItems (mx : Nat) : Nat → Nat → Bytes → Option (List Msg)
  | _, _, [] => some []
  | 0, _, _ :: _ => none
  | fuel+1, lvl, b@(_ :: _) =>
    match rd32 b with
    | none => none
    | some (len, b) =>
      if b.length < len then none else
      match decMsg mx fuel (lvl + 1) (b.take len) with
      | none => none
      | some (m, rest) =>
        match decMsgItems mx fuel lvl (rest ++ b.drop len) with
        | none => none
        | some ms => some (m :: ms)
end

/-- `Message::UnflattenFromBytes` (trailing bytes are ignored, as the code ignores them) -/
def decode (mx : Nat) (b : Bytes) : Option Msg :=
  match decMsg mx (b.length + 2) 1 b with
  | some (m, _) => some m
  | none => none

/-- what `Flatten` makes of a Message -/
def encode (m : Msg) : Bytes := encMsg m

end Muscle.Wire
