import MuscleModel.Wire.Decode

/-! The non-recursive readers of `Wire/Decode.lean` on ARBITRARY bytes: per reader, what a successful call consumed and
returned; the mutual block is taken apart in `Wire/Headers.lean`. -/

namespace Muscle.Wire
open Muscle Muscle.Gen

theorem c2_rd32_none {b : Bytes} (h : rd32 b = none) : b.length < 4 := rd32_eq_none.1 h

/-- the read limiter: a sub-reader ran on the view `b.take n` and left `rest`; the caller goes on with `rest ++ b.drop n` -/
theorem length_limited (b rest : Bytes) (n : Nat) :
    (rest ++ b.drop n).length = rest.length + (b.length - (b.take n).length) ∧ (b.take n).length ≤ b.length := by
  simp only [List.length_append, List.length_drop, List.length_take]; omega

theorem cstr_length {p s : Bytes} (h : cstr p = some s) : s.length + 1 ≤ p.length := by
  have tw : ∀ (l : Bytes), l.contains 0 = true → (l.takeWhile (· != 0)).length + 1 ≤ l.length := by
    intro l
    induction l with
    | nil => intro hl; simp at hl
    | cons a t ih =>
      intro hl
      by_cases ha : a = 0
      · simp [ha]
      · have ht : t.contains 0 = true := by
          rw [List.contains_cons, Bool.or_eq_true] at hl
          rcases hl with h0 | h1
          · exact absurd (by simpa using h0) (fun e : (0 : UInt8) = a => ha e.symm)
          · exact h1
        simpa [List.takeWhile_cons, ha] using ih ht
  unfold cstr at h
  by_cases hc : p.contains 0 = true
  · rw [if_pos hc] at h
    cases h
    exact tw p hc
  · rw [if_neg hc] at h
    cases h

theorem decStrItems_size : ∀ (k : Nat) (b : Bytes) (xs : List Bytes) (r : Bytes),
    decStrItems k b = some (xs, r) → xs.length = k ∧ 4 * k + sumLen xs + k + r.length ≤ b.length
  | 0, b, xs, r, h => by
    cases h
    simp [sumLen]
  | k+1, b, xs, r, h => by
    rw [decStrItems] at h
    split at h
    · cases h
    · rename_i len b1 h1
      split at h
      · cases h
      · rename_i p b2 h2
        split at h
        · rename_i s xs' b3 hs hrec
          cases h
          have ih := decStrItems_size k b2 xs' r hrec
          have l1 := rd32_length h1
          have l2 := takeN_length h2
          have l3 := cstr_length hs
          simp only [List.length_cons, sumLen]
          omega
        · cases h

theorem decRawItems_size : ∀ (k : Nat) (b : Bytes) (xs : List Bytes) (r : Bytes),
    decRawItems k b = some (xs, r) → xs.length = k ∧ 4 * k + sumLen xs + r.length ≤ b.length
  | 0, b, xs, r, h => by
    cases h
    simp [sumLen]
  | k+1, b, xs, r, h => by
    rw [decRawItems] at h
    split at h
    · cases h
    · rename_i len b1 h1
      split at h
      · cases h
      · rename_i p b2 h2
        split at h
        · cases h
        · rename_i xs' b3 hrec
          cases h
          have ih := decRawItems_size k b2 xs' r hrec
          have l1 := rd32_length h1
          have l2 := takeN_length h2
          simp only [List.length_cons, sumLen]
          omega

theorem chunks_length (sz : Nat) : ∀ (k : Nat) (b : Bytes), (chunks sz k b).length = k
  | 0, _ => rfl
  | k+1, b => by simp [chunks, chunks_length sz k]

theorem chunks_item_length (sz : Nat) : ∀ (k : Nat) (b : Bytes), k * sz ≤ b.length → ∀ x ∈ chunks sz k b, x.length = sz
  | 0, _, _, x, hx => by cases hx
  | k+1, b, h, x, hx => by
    rw [Nat.succ_mul] at h
    simp only [chunks, List.mem_cons] at hx
    rcases hx with rfl | hx
    · rw [List.length_take]; omega
    · exact chunks_item_length sz k _ (by rw [List.length_drop]; omega) x hx

theorem normBool_length (x : Bytes) : (normBool x).length = x.length := by simp [normBool]

/-- a fixed-size payload is cut into items of exactly `sz` bytes; one item is read inline and may leave a rest -/
theorem decFixed_some {tc sz : Nat} {p : Bytes} {f : Field} {r : Bytes} (h : decFixed tc sz p = some (f, r)) :
    ∃ rp xs, f = .fixed tc rp xs ∧ (rp = .inl → xs.length = 1) ∧ (∀ x ∈ xs, x.length = sz) ∧
      xs.length * sz + r.length = p.length := by
  unfold decFixed at h
  by_cases h1 : p.length / sz = 1
  · rw [if_pos h1] at h
    cases h
    have hsz : sz ≤ p.length := by
      rcases Nat.lt_or_ge p.length sz with hlt | hge
      · rw [Nat.div_eq_of_lt hlt] at h1; cases h1
      · exact hge
    refine ⟨.inl, _, rfl, fun _ => rfl, ?_, ?_⟩
    · intro x hx
      rw [List.mem_singleton] at hx
      subst hx
      by_cases hb : tc = tcBool
      · rw [if_pos hb, normBool_length, List.length_take]; omega
      · rw [if_neg hb, List.length_take]; omega
    · rw [List.length_drop, List.length_singleton]; omega
  · rw [if_neg h1] at h
    by_cases h2 : p.length % sz ≠ 0
    · rw [if_pos h2] at h; cases h
    · rw [if_neg h2] at h
      cases h
      have hd : p.length / sz * sz = p.length := by
        have := Nat.div_add_mod p.length sz
        rw [Nat.mul_comm] at this
        omega
      have hl := chunks_item_length sz (p.length / sz) p (by omega)
      refine ⟨.arr, _, rfl, (fun e => by cases e), ?_, ?_⟩
      · by_cases hb : tc = tcBool
        · rw [if_pos hb]
          intro x hx
          obtain ⟨y, hy, rfl⟩ := List.mem_map.1 hx
          rw [normBool_length]; exact hl y hy
        · rw [if_neg hb]; exact hl
      · by_cases hb : tc = tcBool
        · rw [if_pos hb, List.length_map, chunks_length]; simpa using hd
        · rw [if_neg hb, chunks_length]; simpa using hd

theorem encode_eq (m : Msg) : encode m = encMsg m := rfl

theorem decode_eq_some {mx : Nat} {b : Bytes} {m : Msg} :
    decode mx b = some m ↔ ∃ r, decMsg mx (b.length + 2) 1 b = some (m, r) := by
  unfold decode
  cases decMsg mx (b.length + 2) 1 b with
  | none => simp
  | some v => obtain ⟨m', r⟩ := v; simp

theorem decode_eq_none {mx : Nat} {b : Bytes} : decode mx b = none ↔ decMsg mx (b.length + 2) 1 b = none := by
  unfold decode
  cases decMsg mx (b.length + 2) 1 b with
  | none => simp
  | some v => simp

end Muscle.Wire
