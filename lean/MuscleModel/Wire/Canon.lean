import MuscleModel.Wire.Decode

/-!
# What a round trip may change, and which Messages it is stated for

* `tripMsg m`: non-flattenable fields dropped (the writer skips them) and the
  representation tag reset to what the parser chooses (inline iff exactly one item).  It keeps the
  what-code, field order, names, type codes, item counts and every item's bytes *by definition* —
  that is the "equal at every nesting level" clause of C01.
* `wfMsg m`: the Messages that can be built through the public API and whose sizes fit the 32-bit
  fields of the format.
* `nodesMsg`, `depthMsg`: recursion measures used for fuel and for the nesting limit.
-/

namespace Muscle.Wire
open Muscle Muscle.Gen

def repOf (n : Nat) : Rep := if n = 1 then .inl else .arr

mutual
def tripMsg : Msg → Msg
  | .mk w fs => .mk w (tripFields fs)
def tripFields : List (Bytes × Field) → List (Bytes × Field)
  | [] => []
  | (_, .opaque _ _) :: r => tripFields r
  | (n, .fixed tc _ xs) :: r => (n, .fixed tc (repOf xs.length) xs) :: tripFields r
  | (n, .strs _ xs) :: r => (n, .strs (repOf xs.length) xs) :: tripFields r
  | (n, .raws tc _ xs) :: r => (n, .raws tc (repOf xs.length) xs) :: tripFields r
  | (n, .msgs _ xs) :: r => (n, .msgs (repOf xs.length) (tripMsgs xs)) :: tripFields r
def tripMsgs : List Msg → List Msg
  | [] => []
  | m :: r => tripMsg m :: tripMsgs r
end

def U32 : Nat := 4294967296

def nulFree (b : Bytes) : Prop := ∀ x ∈ b, x ≠ 0

/-- names of the flattenable fields, in order -/
def flatNames : List (Bytes × Field) → List Bytes
  | [] => []
  | (_, .opaque _ _) :: r => flatNames r
  | (n, .fixed _ _ _) :: r => n :: flatNames r
  | (n, .strs _ _) :: r => n :: flatNames r
  | (n, .raws _ _ _) :: r => n :: flatNames r
  | (n, .msgs _ _) :: r => n :: flatNames r

/-- type codes the parser treats as "anything else": a `ByteBufferDataArray` with that code -/
def isRawTc (tc : Nat) : Prop :=
  wireItemSize tc = 0 ∧ tc ≠ tcPointer ∧ tc ≠ tcTag ∧ tc ≠ tcMessage ∧ tc ≠ tcString ∧ tc < U32

mutual
def wfMsg : Msg → Prop
  | .mk w fs => w < U32 ∧ countFlat fs < U32 ∧ wfFields fs
def wfFields : List (Bytes × Field) → Prop
  | [] => True
  | (_, .opaque _ _) :: r => wfFields r
  | (n, .fixed tc rp xs) :: r =>
      nulFree n ∧ n.length + 1 < U32 ∧ n ∉ flatNames r ∧
      wireItemSize tc ≠ 0 ∧ tc < U32 ∧ (∀ x ∈ xs, x.length = wireItemSize tc) ∧
      (tc = tcBool → ∀ x ∈ xs, normBool x = x) ∧ (rp = .inl → xs.length = 1) ∧
      xs.length * wireItemSize tc < U32 ∧ wfFields r
  | (n, .strs rp xs) :: r =>
      nulFree n ∧ n.length + 1 < U32 ∧ n ∉ flatNames r ∧
      (∀ s ∈ xs, nulFree s ∧ s.length + 1 < U32) ∧ (rp = .inl → xs.length = 1) ∧
      (encStrs .arr xs).length < U32 ∧ wfFields r
  | (n, .raws tc rp xs) :: r =>
      nulFree n ∧ n.length + 1 < U32 ∧ n ∉ flatNames r ∧
      isRawTc tc ∧ (∀ b ∈ xs, b.length < U32) ∧ (rp = .inl → xs.length = 1) ∧
      (encRaws .arr xs).length < U32 ∧ wfFields r
  | (n, .msgs rp xs) :: r =>
      nulFree n ∧ n.length + 1 < U32 ∧ n ∉ flatNames r ∧
      wfMsgs xs ∧ (rp = .inl → xs.length = 1) ∧ (encMsgItems xs).length < U32 ∧ wfFields r
def wfMsgs : List Msg → Prop
  | [] => True
  | m :: r => (encMsg m).length < U32 ∧ wfMsg m ∧ wfMsgs r
end

-- number of parser calls needed (fuel)
mutual
def nodesMsg : Msg → Nat
  | .mk _ fs => 1 + nodesFields fs
def nodesFields : List (Bytes × Field) → Nat
  | [] => 0
  | (_, .opaque _ _) :: r => nodesFields r
  | (_, .fixed _ _ _) :: r => 1 + nodesFields r
  | (_, .strs _ _) :: r => 1 + nodesFields r
  | (_, .raws _ _ _) :: r => 1 + nodesFields r
  | (_, .msgs _ xs) :: r => 1 + nodesMsgs xs + nodesFields r
def nodesMsgs : List Msg → Nat
  | [] => 0
  | m :: r => 1 + nodesMsg m + nodesMsgs r
end

-- nesting depth: 1 for a Message without sub-Messages
mutual
def depthMsg : Msg → Nat
  | .mk _ fs => 1 + depthFields fs
def depthFields : List (Bytes × Field) → Nat
  | [] => 0
  | (_, .msgs _ xs) :: r => max (depthMsgs xs) (depthFields r)
  | (_, .opaque _ _) :: r => depthFields r
  | (_, .fixed _ _ _) :: r => depthFields r
  | (_, .strs _ _) :: r => depthFields r
  | (_, .raws _ _ _) :: r => depthFields r
def depthMsgs : List Msg → Nat
  | [] => 0
  | m :: r => max (depthMsg m) (depthMsgs r)
end

/-- `wfMsg` under another name: constructible, sizes fit 32 bits -/
def Msg.WF (m : Msg) : Prop := wfMsg m

end Muscle.Wire
