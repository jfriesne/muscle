import MuscleModel.Wire.Headers

/-! Where a successful reader leaves the read position, read off from what its header and its sub-readers consumed
(`Wire/Readers.lean`, `Wire/Headers.lean`). -/

namespace Muscle.Wire
open Muscle Muscle.Gen

theorem decStrItems_pos (k : Nat) (b : Bytes) (xs : List Bytes) (r : Bytes)
    (h : decStrItems k b = some (xs, r)) : r.length + 4 * k ≤ b.length := by
  have := (decStrItems_size k b xs r h).2
  omega

theorem decRawItems_pos (k : Nat) (b : Bytes) (xs : List Bytes) (r : Bytes)
    (h : decRawItems k b = some (xs, r)) : r.length + 4 * k ≤ b.length := by
  have := (decRawItems_size k b xs r h).2
  omega

theorem decFixed_pos (tc sz : Nat) (p : Bytes) (f : Field) (r : Bytes)
    (h : decFixed tc sz p = some (f, r)) : r.length ≤ p.length := by
  obtain ⟨_, _, _, _, _, hlen⟩ := decFixed_some h
  omega

structure PosAt (mx fuel : Nat) : Prop where
  msg : ∀ (lvl : Nat) (b : Bytes) (m : Msg) (r : Bytes), decMsg mx fuel lvl b = some (m, r) → r.length + 12 ≤ b.length
  fields : ∀ (lvl k : Nat) (b : Bytes) (acc fs : List (Bytes × Field)) (r : Bytes),
    decFields mx fuel lvl k b acc = some (fs, r) → r.length + 12 * k ≤ b.length
  payload : ∀ (lvl tc : Nat) (p : Bytes) (f : Field) (r : Bytes),
    decPayload mx fuel lvl tc p = some (f, r) → r.length ≤ p.length

/-- the Message branches consume their whole view, the others are the item loops -/
theorem decPayload_pos {mx fuel lvl tc : Nat} {p : Bytes} {f : Field} {r : Bytes}
    (h : decPayload mx fuel lvl tc p = some (f, r)) : r.length ≤ p.length := by
  rcases decPayload_some h with ⟨_, hf⟩ | ⟨_, _, _, rfl⟩ | ⟨_, _, _, _, _, _, rfl⟩ | ⟨_, _, _, _, _, rfl⟩ |
    ⟨_, cnt, q, xs, hq, hx, _⟩ | ⟨_, ⟨_, _, _, _, _, rfl⟩ | ⟨cnt, q, xs, hq, hx, _⟩⟩
  · exact decFixed_pos _ _ _ _ _ hf
  · exact Nat.zero_le _
  · exact Nat.zero_le _
  · exact Nat.zero_le _
  · have := decStrItems_pos _ _ _ _ hx
    have := rd32_length hq
    omega
  · exact Nat.zero_le _
  · have := decRawItems_pos _ _ _ _ hx
    have := rd32_length hq
    omega

theorem posAt (mx fuel : Nat) : PosAt mx fuel := by
  induction fuel using Nat.strongRecOn with
  | ind fuel ih =>
    refine ⟨?_, ?_, fun _ _ _ _ _ => decPayload_pos⟩
    · intro lvl b m r h
      obtain ⟨f', _, n, b3, fs, rfl, hh, hf, _⟩ := decMsg_some h
      have := msgHeader_some hh
      have := (ih f' (Nat.lt_succ_self _)).fields _ _ _ _ _ _ hf
      omega
    · intro lvl k b acc fs r h
      cases k with
      | zero => rw [decFields_zero] at h; cases h; omega
      | succ k =>
        obtain ⟨f', nm, tc, el, b4, f, rest, rfl, hh, hp, hrec⟩ := decFields_succ_some h
        have hb := entryHeader_some hh
        have l5 := decPayload_pos hp
        have l6 := (ih f' (Nat.lt_succ_self _)).fields _ _ _ _ _ _ hrec
        simp only [List.length_append, List.length_take, List.length_drop] at l5 l6
        omega

end Muscle.Wire
