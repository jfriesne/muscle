import MuscleModel.Base.Bytes
import MuscleModel.Generated.Constants

/-!
# Message value model, the two field writers, and the size function

Mirrors `message/Message.cpp`: `Message::Flatten/FlattenedSize`,
`MessageField::SingleFlatten/SingleFlattenedSize` (the *inline* writer) and
`*DataArray::TemplatedFlatten/TemplatedFlattenedSize` (the *array* writer).

An item of a fixed-size type (bool, int8 … double, point, rect) is represented by
its flattened bytes (bit pattern, little-endian as written by
`DataFlattener::WritePrimitive`); the conversion number ↔ bytes lives in the
engine (`parseVal`, `Engines/Msg.lean`).  Strings are NUL-free byte lists, raw items arbitrary
byte lists, sub-Messages are values.  Pointer/tag fields are `opaque`: only a
count, never on the wire.
-/

namespace Muscle.Wire
open Muscle Muscle.Gen

/-- `FIELD_STATE_INLINE` vs `FIELD_STATE_ARRAY` -/
inductive Rep where
  | inl | arr
  deriving DecidableEq, Repr, Inhabited

mutual
inductive Msg where
  | mk (what : Nat) (fields : List (Bytes × Field))
inductive Field where
  /-- bool/int8/int16/int32/int64/float/double/point/rect; each item = its wire bytes -/
  | fixed (tc : Nat) (r : Rep) (items : List Bytes)
  | strs (r : Rep) (items : List Bytes)
  /-- any type code outside the built-in repertoire (`ByteBufferDataArray`) -/
  | raws (tc : Nat) (r : Rep) (items : List Bytes)
  | msgs (r : Rep) (items : List Msg)
  /-- `B_POINTER_TYPE` / `B_TAG_TYPE`: non-flattenable -/
  | opaque (tc : Nat) (n : Nat)
end

instance : Inhabited Msg := ⟨.mk 0 []⟩
instance : Inhabited Field := ⟨.opaque 0 0⟩

def Msg.what : Msg → Nat | .mk w _ => w
def Msg.fields : Msg → List (Bytes × Field) | .mk _ fs => fs

def Field.typeCode : Field → Nat
  | .fixed tc _ _ => tc
  | .strs _ _ => tcString
  | .raws tc _ _ => tc
  | .msgs _ _ => tcMessage
  | .opaque tc _ => tc

def Field.count : Field → Nat
  | .fixed _ _ xs => xs.length
  | .strs _ xs => xs.length
  | .raws _ _ xs => xs.length
  | .msgs _ xs => xs.length
  | .opaque _ n => n

def Field.rep : Field → Rep
  | .fixed _ r _ => r
  | .strs r _ => r
  | .raws _ r _ => r
  | .msgs r _ => r
  | .opaque _ n => if n = 1 then .inl else .arr

/-- `MessageField::IsFlattenable` -/
def Field.flattenable : Field → Bool
  | .opaque _ _ => false
  | _ => true

/-! ## array writers (`TemplatedFlatten` of the data-array classes) -/

def encFixedArr : List Bytes → Bytes
  | [] => []
  | x :: r => x ++ encFixedArr r

/-- `count` is written by the caller; each item is `len ++ bytes ++ NUL` -/
def encStrItems : List Bytes → Bytes
  | [] => []
  | s :: r => le32 (s.length + 1) ++ (s ++ (0 :: encStrItems r))

def encRawItems : List Bytes → Bytes
  | [] => []
  | b :: r => le32 b.length ++ (b ++ encRawItems r)

mutual
/-- `Message::Flatten` -/
def encMsg : Msg → Bytes
  | .mk what fs => le32 protocolVersion ++ (le32 what ++ (le32 (countFlat fs) ++ encFields fs))
/-- number of flattenable entries, as counted inside `Message::Flatten` -/
def countFlat : List (Bytes × Field) → Nat
  | [] => 0
  | (_, .opaque _ _) :: r => countFlat r
  | (_, .fixed _ _ _) :: r => 1 + countFlat r
  | (_, .strs _ _) :: r => 1 + countFlat r
  | (_, .raws _ _ _) :: r => 1 + countFlat r
  | (_, .msgs _ _) :: r => 1 + countFlat r
def encFields : List (Bytes × Field) → Bytes
  | [] => []
  | (_, .opaque _ _) :: r => encFields r
  | (n, .fixed tc rp xs) :: r =>
      le32 (n.length + 1) ++ (n ++ (0 :: (le32 tc ++ (le32 (encFixed rp xs).length ++ (encFixed rp xs ++ encFields r)))))
  | (n, .strs rp xs) :: r =>
      le32 (n.length + 1) ++ (n ++ (0 :: (le32 tcString ++ (le32 (encStrs rp xs).length ++ (encStrs rp xs ++ encFields r)))))
  | (n, .raws tc rp xs) :: r =>
      le32 (n.length + 1) ++ (n ++ (0 :: (le32 tc ++ (le32 (encRaws rp xs).length ++ (encRaws rp xs ++ encFields r)))))
  | (n, .msgs rp xs) :: r =>
      le32 (n.length + 1) ++ (n ++ (0 :: (le32 tcMessage ++ (le32 (encMsgsF rp xs).length ++ (encMsgsF rp xs ++ encFields r)))))
/-- fixed-size payload: inline writer = the one item; array writer = concatenation -/
def encFixed : Rep → List Bytes → Bytes
  | .inl, [x] => x
  | .inl, _ => []
  | .arr, xs => encFixedArr xs
/-- string payload: inline writer writes a literal count 1 (`SingleFlatten`) -/
def encStrs : Rep → List Bytes → Bytes
  | .inl, [s] => le32 1 ++ (le32 (s.length + 1) ++ (s ++ [0]))
  | .inl, _ => []
  | .arr, xs => le32 xs.length ++ encStrItems xs
def encRaws : Rep → List Bytes → Bytes
  | .inl, [b] => le32 1 ++ (le32 b.length ++ b)
  | .inl, _ => []
  | .arr, xs => le32 xs.length ++ encRawItems xs
/-- Message payload: no item count, for "entirely historical reasons" -/
def encMsgsF : Rep → List Msg → Bytes
  | .inl, [m] => le32 (encMsg m).length ++ encMsg m
  | .inl, _ => []
  | .arr, xs => encMsgItems xs
def encMsgItems : List Msg → Bytes
  | [] => []
  | m :: r => le32 (encMsg m).length ++ (encMsg m ++ encMsgItems r)
end

/-- payload bytes of one field (what `WriteFlatWithLengthPrefix(mf)` writes after the length) -/
def encPayload : Field → Bytes
  | .fixed _ r xs => encFixed r xs
  | .strs r xs => encStrs r xs
  | .raws _ r xs => encRaws r xs
  | .msgs r xs => encMsgsF r xs
  | .opaque _ _ => []

/-! ## sizes, written from the `*FlattenedSize` functions (not as `(encode m).length`) -/

def sumLen : List Bytes → Nat
  | [] => 0
  | x :: r => x.length + sumLen r

mutual
/-- `Message::FlattenedSize` -/
def sizeMsg : Msg → Nat
  | .mk _ fs => 12 + sizeFields fs
def sizeFields : List (Bytes × Field) → Nat
  | [] => 0
  | (_, .opaque _ _) :: r => sizeFields r
  | (n, .fixed tc rp xs) :: r => 4 + (n.length + 1) + 4 + 4 + sizeFixed tc rp xs + sizeFields r
  | (n, .strs rp xs) :: r => 4 + (n.length + 1) + 4 + 4 + sizeStrs rp xs + sizeFields r
  | (n, .raws _ rp xs) :: r => 4 + (n.length + 1) + 4 + 4 + sizeRaws rp xs + sizeFields r
  | (n, .msgs rp xs) :: r => 4 + (n.length + 1) + 4 + 4 + sizeMsgsF rp xs + sizeFields r
/-- `SingleFlattenedSize` for fixed types = `GetElementSize`; array = `n * sizeof(item)` -/
def sizeFixed : Nat → Rep → List Bytes → Nat
  | tc, .inl, _ => wireItemSize tc
  | tc, .arr, xs => xs.length * wireItemSize tc
def sizeStrs : Rep → List Bytes → Nat
  | .inl, [s] => 4 + 4 + (s.length + 1)
  | .inl, _ => 0
  | .arr, xs => (xs.length + 1) * 4 + sumLen xs + xs.length
def sizeRaws : Rep → List Bytes → Nat
  | .inl, [b] => 4 + 4 + b.length
  | .inl, _ => 0
  | .arr, xs => 4 + xs.length * 4 + sumLen xs
def sizeMsgsF : Rep → List Msg → Nat
  | .inl, [m] => 4 + sizeMsg m
  | .inl, _ => 0
  | .arr, xs => sizeMsgItems xs
def sizeMsgItems : List Msg → Nat
  | [] => 0
  | m :: r => 4 + sizeMsg m + sizeMsgItems r
end

end Muscle.Wire
