import MuscleModel.Wire.Checksum
import MuscleModel.Wire.Entry

/-! Lemmas about `checksumMsg` for C01: independence of the inline/array representation, invariance under the
serialisation round trip, independence of the field order. -/

namespace Muscle.Wire
open Muscle Muscle.Gen

theorem chkInl_eq_chkArr (tc c : Nat) : chkInl tc c = chkArr tc [c] := by
  simp [chkInl, chkArr, wsum]

theorem chkItems_eq_arr (tc : Nat) (rp : Rep) (cs : List Nat) (h : rp = .inl → cs.length = 1) :
    chkItems tc rp cs = chkArr tc cs := by
  cases rp with
  | arr => simp [chkItems]
  | inl =>
    have := h rfl
    match cs, this with
    | [c], _ => simp [chkItems, chkInl_eq_chkArr]

theorem chkItems_repOf (tc : Nat) (rp : Rep) (cs : List Nat) (n : Nat) (hn : cs.length = n)
    (h : rp = .inl → n = 1) : chkItems tc (repOf n) cs = chkItems tc rp cs := by
  rw [chkItems_eq_arr tc rp cs (by intro e; rw [hn]; exact h e),
    chkItems_eq_arr tc (repOf n) cs (fun e => hn.trans (repOf_inl e))]

theorem chkMsgList_length : ∀ (ms : List Msg), (chkMsgList ms).length = ms.length
  | [] => by simp [chkMsgList]
  | _ :: r => by simp [chkMsgList, chkMsgList_length r]

/-- what one entry contributes to `Message::CalculateChecksum(false)`; nothing for a pointer/tag field -/
def entryChk (n : Bytes) (f : Field) : Nat :=
  if f.flattenable then entryTerm (hashBytes n) (checksumField f) else 0

theorem chkFields_cons (n : Bytes) (f : Field) (r : List (Bytes × Field)) :
    chkFields ((n, f) :: r) = entryChk n f + chkFields r := by
  cases f <;> simp [chkFields, entryChk, checksumField, Field.flattenable]

theorem adds_chkFields : Conc.Adds (fun e => entryChk e.1 e.2) chkFields :=
  ⟨by simp [chkFields], fun e r => chkFields_cons e.1 e.2 r⟩

theorem checksumField_trip {f : Field} (hw : wfField f)
    (hsub : chkMsgList (tripMsgs f.subMsgs) = chkMsgList f.subMsgs) : checksumField (tripField f) = checksumField f := by
  cases f with
  | «opaque» tc k => rfl
  | fixed tc rp xs => exact chkItems_repOf tc rp (xs.map (chkFixedItem tc)) xs.length (by simp) (wfField_sized hw).one
  | strs rp xs => exact chkItems_repOf tcString rp (xs.map hashBytes) xs.length (by simp) (wfField_sized hw).one
  | raws tc rp xs => exact chkItems_repOf tc rp (xs.map hashBytes) xs.length (by simp) (wfField_sized hw).one
  | msgs rp ms =>
    simp only [Field.subMsgs] at hsub
    simp only [tripField, checksumField, hsub]
    exact chkItems_repOf tcMessage rp (chkMsgList ms) ms.length (chkMsgList_length ms) (wfField_sized hw).one

theorem chkTrip_all :
    (∀ (m : Msg), wfMsg m → checksumMsg (tripMsg m) = checksumMsg m) ∧
    (∀ (fs : List (Bytes × Field)), wfFields fs → chkFields (tripFields fs) = chkFields fs) ∧
    (∀ (ms : List Msg), wfMsgs ms → chkMsgList (tripMsgs ms) = chkMsgList ms) := by
  apply Msg.induct
  · intro w fs ih h
    simp only [tripMsg, checksumMsg, ih (wfMsg_fields h)]
  · intro _; rfl
  · intro n f r _ hR ih h
    rw [tripFields_cons, chkFields_cons n f, entryChk]
    by_cases hfl : f.flattenable = true
    · have hw := wfFields_field h hfl
      rw [if_pos hfl, if_pos hfl, chkFields_cons, entryChk, tripField_flattenable, if_pos hfl,
        checksumField_trip hw (hR (wfField_subMsgs hw)), ih (wfFields_tail h)]
    · rw [if_neg hfl, if_neg hfl, Nat.zero_add, ih (wfFields_tail h)]
  · intro _; rfl
  · intro m r hP hR h
    simp only [tripMsgs, chkMsgList, hP (wfMsgs_head h), hR (wfMsgs_tail h)]

theorem chkFields_trip : ∀ (fs : List (Bytes × Field)), wfFields fs →
    chkFields (tripFields fs) = chkFields fs := chkTrip_all.2.1

theorem chkMsgList_trip : ∀ (ms : List Msg), wfMsgs ms → chkMsgList (tripMsgs ms) = chkMsgList ms := chkTrip_all.2.2

end Muscle.Wire
