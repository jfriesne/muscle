import MuscleModel.Wire.Entry
import MuscleModel.Wire.Headers

/-! The parser inverts the writer (C01/C08): one lemma per reader combinator and per payload kind, one for an entry of
the field table, then induction over the Message (`Msg.induct`). -/

namespace Muscle.Wire
open Muscle Muscle.Gen

theorem encMsg_length_ge (m : Msg) : 12 ≤ (encMsg m).length := by
  cases m with
  | mk w fs => simp [encMsg]; omega

theorem encFixedArr_length (sz : Nat) (xs : List Bytes) (h : ∀ x ∈ xs, x.length = sz) :
    (encFixedArr xs).length = xs.length * sz := by
  induction xs with
  | nil => simp [encFixedArr]
  | cons x r ih =>
    have hx := h x (by simp)
    have := ih (fun y hy => h y (by simp [hy]))
    simp [encFixedArr, hx, this, Nat.add_mul]
    omega

theorem chunks_encFixedArr (sz : Nat) (xs : List Bytes) (h : ∀ x ∈ xs, x.length = sz) :
    chunks sz xs.length (encFixedArr xs) = xs := by
  induction xs with
  | nil => simp [chunks]
  | cons x r ih =>
    have hx := h x (by simp)
    have := ih (fun y hy => h y (by simp [hy]))
    subst hx
    simp [chunks, encFixedArr, this]

theorem encFixed_eq_arr (rp : Rep) (xs : List Bytes) (h : rp = .inl → xs.length = 1) :
    encFixed rp xs = encFixedArr xs := by
  cases rp with
  | arr => simp [encFixed]
  | inl =>
    have := h rfl
    match xs, this with
    | [x], _ => simp [encFixed, encFixedArr]

theorem encStrs_eq_arr (rp : Rep) (xs : List Bytes) (h : rp = .inl → xs.length = 1) :
    encStrs rp xs = le32 xs.length ++ encStrItems xs := by
  cases rp with
  | arr => simp [encStrs]
  | inl =>
    have := h rfl
    match xs, this with
    | [x], _ => simp [encStrs, encStrItems]

theorem encRaws_eq_arr (rp : Rep) (xs : List Bytes) (h : rp = .inl → xs.length = 1) :
    encRaws rp xs = le32 xs.length ++ encRawItems xs := by
  cases rp with
  | arr => simp [encRaws]
  | inl =>
    have := h rfl
    match xs, this with
    | [x], _ => simp [encRaws, encRawItems]

theorem encMsgsF_eq_items (rp : Rep) (ms : List Msg) (h : rp = .inl → ms.length = 1) :
    encMsgsF rp ms = encMsgItems ms := by
  cases rp with
  | arr => simp [encMsgsF]
  | inl =>
    have := h rfl
    match ms, this with
    | [m], _ => simp [encMsgsF, encMsgItems]

theorem map_normBool_id (xs : List Bytes) (h : ∀ x ∈ xs, normBool x = x) : xs.map normBool = xs := by
  induction xs with
  | nil => rfl
  | cons x r ih => simp [h x (by simp), ih (fun y hy => h y (by simp [hy]))]

theorem decFixed_enc (tc sz : Nat) (xs : List Bytes) (hsz : sz ≠ 0)
    (hl : ∀ x ∈ xs, x.length = sz) (hb : tc = tcBool → ∀ x ∈ xs, normBool x = x) :
    decFixed tc sz (encFixedArr xs) = some (.fixed tc (repOf xs.length) xs, []) := by
  have hlen := encFixedArr_length sz xs hl
  have hpos : 0 < sz := Nat.pos_of_ne_zero hsz
  unfold decFixed
  by_cases h1 : xs.length = 1
  · -- one item: the inline reader
    match xs, h1 with
    | [x], _ =>
      have hx : x.length = sz := hl x (by simp)
      have hd : (encFixedArr [x]).length / sz = 1 := by
        rw [hlen]; simp; exact Nat.div_self hpos
      simp only [hd, if_true]
      have henc : encFixedArr [x] = x := by simp [encFixedArr]
      rw [henc]
      have ht : x.take sz = x := by rw [← hx]; simp
      have hdr : x.drop sz = [] := by rw [← hx]; simp
      rw [ht, hdr]
      by_cases hbool : tc = tcBool
      · have := hb hbool x (by simp)
        simp [hbool, this, repOf]
      · simp [hbool, repOf]
  · have hd : (encFixedArr xs).length / sz = xs.length := by
      rw [hlen]; exact Nat.mul_div_cancel _ hpos
    have hm : (encFixedArr xs).length % sz = 0 := by
      rw [hlen]; exact Nat.mul_mod_left _ _
    simp only [hd, h1, if_false, hm, ne_eq, not_true_eq_false]
    rw [chunks_encFixedArr sz xs hl]
    by_cases hbool : tc = tcBool
    · simp [hbool, map_normBool_id xs (hb hbool), repOf, h1]
    · simp [hbool, repOf, h1]

theorem encStrItems_length (xs : List Bytes) : (encStrItems xs).length = 4 * xs.length + sumLen xs + xs.length := by
  induction xs with
  | nil => simp [encStrItems, sumLen]
  | cons a t ih => simp [encStrItems, sumLen, ih]; omega

theorem encRawItems_length (xs : List Bytes) : (encRawItems xs).length = 4 * xs.length + sumLen xs := by
  induction xs with
  | nil => simp [encRawItems, sumLen]
  | cons a t ih => simp [encRawItems, sumLen, ih]; omega

theorem decStrItems_enc (xs : List Bytes) (h : ∀ s ∈ xs, nulFree s ∧ s.length + 1 < U32) (rest : Bytes) :
    decStrItems xs.length (encStrItems xs ++ rest) = some (xs, rest) := by
  induction xs with
  | nil => simp [decStrItems, encStrItems]
  | cons s r ih =>
    obtain ⟨hn, hl⟩ := h s (by simp)
    have ihr := ih (fun y hy => h y (by simp [hy]))
    simp only [List.length_cons, decStrItems, encStrItems, List.append_assoc, List.cons_append]
    rw [rd32_le32 _ _ hl]
    simp only [takeN_name, ihr, cstr_name s hn]

theorem decRawItems_enc (xs : List Bytes) (h : ∀ b ∈ xs, b.length < U32) (rest : Bytes) :
    decRawItems xs.length (encRawItems xs ++ rest) = some (xs, rest) := by
  induction xs with
  | nil => simp [decRawItems, encRawItems]
  | cons b r ih =>
    have hl := h b (by simp)
    have ihr := ih (fun y hy => h y (by simp [hy]))
    simp only [List.length_cons, decRawItems, encRawItems, List.append_assoc]
    rw [rd32_le32 _ _ hl]
    simp only [takeN_append, ihr]

theorem decPayload_enc_fixed (mx fuel lvl tc : Nat) (rp : Rep) (xs : List Bytes)
    (hsz : wireItemSize tc ≠ 0) (hl : ∀ x ∈ xs, x.length = wireItemSize tc)
    (hb : tc = tcBool → ∀ x ∈ xs, normBool x = x) (hr : rp = .inl → xs.length = 1) :
    decPayload mx fuel lvl tc (encFixed rp xs) = some (.fixed tc (repOf xs.length) xs, []) := by
  rw [encFixed_eq_arr rp xs hr]
  unfold decPayload
  rw [if_pos hsz]
  exact decFixed_enc tc (wireItemSize tc) xs hsz hl hb

theorem decPayload_enc_strs (mx fuel lvl : Nat) (rp : Rep) (xs : List Bytes)
    (h : ∀ s ∈ xs, nulFree s ∧ s.length + 1 < U32) (hr : rp = .inl → xs.length = 1)
    (hlen : xs.length < U32) :
    decPayload mx fuel lvl tcString (encStrs rp xs) = some (.strs (repOf xs.length) xs, []) := by
  rw [encStrs_eq_arr rp xs hr]
  have hd := decStrItems_enc xs h []
  simp only [List.append_nil] at hd
  unfold decPayload
  have e0 : wireItemSize tcString = 0 := by decide
  have e1 : tcString ≠ tcPointer := by decide
  have e2 : tcString ≠ tcTag := by decide
  have e3 : tcString ≠ tcMessage := by decide
  simp only [e0, ne_eq, not_true_eq_false, if_false, e1, e2, e3, or_self,
    rd32_le32 _ _ hlen, hd, if_true, repOf]

theorem decPayload_enc_raws (mx fuel lvl tc : Nat) (rp : Rep) (xs : List Bytes)
    (htc : isRawTc tc) (h : ∀ b ∈ xs, b.length < U32) (hr : rp = .inl → xs.length = 1)
    (hlen : xs.length < U32) :
    decPayload mx fuel lvl tc (encRaws rp xs) = some (.raws tc (repOf xs.length) xs, []) := by
  rw [encRaws_eq_arr rp xs hr]
  obtain ⟨hs, hp, ht, hm, hst, _⟩ := htc
  unfold decPayload
  simp only [hs, ne_eq, not_true_eq_false, if_false, hp, ht, hm, hst, or_self, rd32_le32 _ _ hlen]
  by_cases h1 : xs.length = 1
  · match xs, h1 with
    | [b], _ =>
      simp [encRawItems, rd32_le32 _ _ (h b (by simp)), repOf]
  · have hd := decRawItems_enc xs h []
    simp only [List.append_nil] at hd
    simp only [h1, if_false, hd, repOf]

/-- A Message payload carries no item count: the parser takes it for ONE inline sub-Message iff its first length word
    equals the view length − 4, and for an array otherwise.  So an array of one item comes back inline (hence `repOf`),
    and an array of two or more cannot be mistaken for one item, because behind the first item there are the ≥ 12 bytes
    of the second (`hne`).  The recursive calls are hypotheses in just these two shapes: one sub-Message filling the
    view (`hsingle`), or the item loop on at least two (`hitems`). -/
theorem decPayload_enc_msgs (mx fuel lvl : Nat) (ms : List Msg)
    (hlen : ∀ m ∈ ms, (encMsg m).length < U32)
    (hsingle : ∀ m, ms = [m] → decMsg mx fuel (lvl + 1) (encMsg m) = some (tripMsg m, []))
    (hitems : 2 ≤ ms.length → decMsgItems mx fuel lvl (encMsgItems ms) = some (tripMsgs ms)) :
    decPayload mx fuel lvl tcMessage (encMsgItems ms)
      = some (.msgs (repOf ms.length) (tripMsgs ms), []) := by
  match ms, hlen, hsingle, hitems with
  | [], _, _, _ =>
    simp [decPayload, (by decide : wireItemSize tcMessage = 0), encMsgItems, tripMsgs, repOf, (by decide : tcMessage ≠ tcPointer),
      (by decide : tcMessage ≠ tcTag)]
  | [m], hlen, hsingle, _ =>
    have hl : (encMsg m).length < U32 := hlen m (by simp)
    have h4 : 4 ≤ (encMsgItems [m]).length := by simp [encMsgItems]
    have htake : (encMsgItems [m]).take 4 = le32 (encMsg m).length := by
      simp [encMsgItems]
    have hdrop : (encMsgItems [m]).drop 4 = encMsg m := by
      have : (le32 (encMsg m).length).length = 4 := by simp
      simp [encMsgItems, this]
    have hlen2 : (encMsgItems [m]).length - 4 = (encMsg m).length := by simp [encMsgItems]
    simp only [decPayload_msg mx fuel lvl _ h4, htake, leVal_le32 _ hl, hlen2, if_true, hdrop, hsingle m rfl, tripMsgs,
      repOf, List.length_cons, List.length_nil]
  | m1 :: m2 :: r, hlen, _, hitems =>
    have hl : (encMsg m1).length < U32 := hlen m1 (by simp)
    have h12 := encMsg_length_ge m2
    have h4 : 4 ≤ (encMsgItems (m1 :: m2 :: r)).length := by simp [encMsgItems]
    have htake : (encMsgItems (m1 :: m2 :: r)).take 4 = le32 (encMsg m1).length := by
      simp [encMsgItems]
    have hne : (encMsg m1).length ≠ (encMsgItems (m1 :: m2 :: r)).length - 4 := by
      simp [encMsgItems] <;> omega
    have h2 : 2 ≤ (m1 :: m2 :: r).length := by simp
    have hrep : repOf (m1 :: m2 :: r).length = .arr := by simp [repOf]
    simp only [decPayload_msg mx fuel lvl _ h4, htake, leVal_le32 _ hl, hne, if_false, hitems h2, hrep]

/-- `MessageField::Unflatten` inverts the payload writer on a well-formed field whose sub-Messages round-trip; the
    payload length and the type code fit their 32-bit words -/
theorem decPayload_enc (mx fuel lvl : Nat) (f : Field) (hfl : f.flattenable = true) (hw : wfField f)
    (hsingle : ∀ m, f.subMsgs = [m] → decMsg mx fuel (lvl + 1) (encMsg m) = some (tripMsg m, []))
    (hitems : 2 ≤ f.subMsgs.length → decMsgItems mx fuel lvl (encMsgItems f.subMsgs) = some (tripMsgs f.subMsgs)) :
    decPayload mx fuel lvl f.typeCode (encPayload f) = some (tripField f, []) ∧
      (encPayload f).length < U32 ∧ f.typeCode < U32 := by
  cases f with
  | «opaque» tc k => cases hfl
  | fixed tc rp xs =>
    obtain ⟨hsz, htc, hl, hb, hr, hlen⟩ := hw
    refine ⟨decPayload_enc_fixed mx fuel lvl tc rp xs hsz hl hb hr, ?_, htc⟩
    rw [encPayload, encFixed_eq_arr rp xs hr, encFixedArr_length _ xs hl]
    exact hlen
  | strs rp xs =>
    obtain ⟨hs, hr, hlen⟩ := hw
    have hcnt : xs.length < U32 := by
      have := encStrItems_length xs
      simp only [encStrs, List.length_append, le32_length] at hlen
      omega
    refine ⟨decPayload_enc_strs mx fuel lvl rp xs hs hr hcnt, ?_, (by decide : tcString < U32)⟩
    rw [encPayload, encStrs_eq_arr rp xs hr]
    exact hlen
  | raws tc rp xs =>
    obtain ⟨hraw, hs, hr, hlen⟩ := hw
    have hcnt : xs.length < U32 := by
      have := encRawItems_length xs
      simp only [encRaws, List.length_append, le32_length] at hlen
      omega
    refine ⟨decPayload_enc_raws mx fuel lvl tc rp xs hraw hs hr hcnt, ?_, isRawTc_lt hraw⟩
    rw [encPayload, encRaws_eq_arr rp xs hr]
    exact hlen
  | msgs rp ms =>
    obtain ⟨hms, hr, hlen⟩ := hw
    refine ⟨?_, ?_, (by decide : tcMessage < U32)⟩
    · rw [encPayload, encMsgsF_eq_items rp ms hr]
      exact decPayload_enc_msgs mx fuel lvl ms (fun m hm => (wfMsgs_mem ms hms m hm).1) hsingle hitems
    · rw [encPayload, encMsgsF_eq_items rp ms hr]
      exact hlen

theorem countFlat_le (fs : List (Bytes × Field)) : 12 * countFlat fs ≤ (encFields fs).length := by
  induction fs with
  | nil => simp [countFlat, encFields]
  | cons a r ih =>
    obtain ⟨n, f⟩ := a
    rw [countFlat_cons, encFields_cons]
    by_cases hf : f.flattenable = true
    · simp only [if_pos hf, List.length_append, List.length_cons, le32_length]; omega
    · simp only [if_neg hf]; omega

/-- The parser inverts the writer: on the encoding of a well-formed Message (field list, sub-Message list), with fuel for
    every node and nesting room for every level, it returns the Message up to `tripMsg` and consumes the encoding.
    `decMsg` refuses iff `mx < lvl`, and a Message of depth `d` entered with nest count `lvl` enters its innermost
    Message with `lvl + d − 1`: hence `lvl + depthMsg m ≤ mx + 1`; a field list or item list read at `lvl` holds
    sub-Messages that are entered with `lvl + 1`. -/
theorem dec_enc (mx : Nat) :
    (∀ (m : Msg), wfMsg m → ∀ (fuel lvl : Nat) (rest : Bytes),
      nodesMsg m ≤ fuel → lvl + depthMsg m ≤ mx + 1 →
      decMsg mx fuel lvl (encMsg m ++ rest) = some (tripMsg m, rest)) ∧
    (∀ (fs : List (Bytes × Field)), wfFields fs →
      ∀ (fuel lvl : Nat) (rest : Bytes) (acc : List (Bytes × Field)),
      nodesFields fs ≤ fuel → lvl + 1 + depthFields fs ≤ mx + 1 →
      (∀ x ∈ flatNames fs, lookupField x acc = none) →
      decFields mx fuel lvl (countFlat fs) (encFields fs ++ rest) acc = some (acc ++ tripFields fs, rest)) ∧
    (∀ (ms : List Msg), wfMsgs ms → ∀ (fuel lvl : Nat),
      nodesMsgs ms ≤ fuel → lvl + 1 + depthMsgs ms ≤ mx + 1 →
      decMsgItems mx fuel lvl (encMsgItems ms) = some (tripMsgs ms)) := by
  apply Msg.induct
  · intro w fs hrec h fuel lvl rest hf hd
    rw [nodesMsg] at hf
    rw [depthMsg] at hd
    cases fuel with
    | zero => omega
    | succ fuel =>
      have hrec := hrec (wfMsg_fields h) fuel lvl rest [] (by omega) (by omega) (fun _ _ => rfl)
      have hcnt : countFlat fs ≤ (encFields fs ++ rest).length / 12 := by
        have := countFlat_le fs
        rw [List.length_append]; omega
      simp only [encMsg, List.append_assoc, decMsg_succ, msgHeader_le32 mx lvl w _ _ (by omega) (wfMsg_what h) (wfMsg_count h) hcnt, hrec,
        List.nil_append, tripMsg]
  · intro _ fuel lvl rest acc _ _ _
    simp only [countFlat, encFields, tripFields, decFields_zero, List.nil_append, List.append_nil]
  · intro n f r hP hR ih h fuel lvl rest acc hf hd hacc
    rw [wfFields_cons] at h
    rw [nodesFields_cons] at hf
    rw [depthFields_cons] at hd
    rw [flatNames_cons] at hacc
    rw [countFlat_cons, encFields_cons, tripFields_cons]
    by_cases hfl : f.flattenable = true
    · obtain ⟨hn, hnl, hnr, hwf⟩ := h.1 hfl
      simp only [if_pos hfl] at hf hacc ⊢
      cases fuel with
      | zero => omega
      | succ fuel =>
        have hlook : lookupField n acc = none := hacc n List.mem_cons_self
        have hsub := wfField_subMsgs hwf
        obtain ⟨hpay, hplen, htc⟩ := decPayload_enc mx fuel lvl f hfl hwf
          (fun m hm => by
            rw [hm, nodesMsgs, nodesMsgs] at hf
            rw [hm, depthMsgs, depthMsgs] at hd
            have := hP m (hm ▸ List.mem_singleton_self m) (wfMsgs_mem _ hsub m (hm ▸ List.mem_singleton_self m)).2
              fuel (lvl + 1) [] (by omega) (by omega)
            rwa [List.append_nil] at this)
          (fun _ => hR hsub fuel lvl (by omega) (by omega))
        simp only [List.append_assoc, List.cons_append, Nat.add_comm 1 (countFlat r)]
        rw [decFields_enc_entry mx fuel lvl (countFlat r) n f.typeCode (encPayload f) (encFields r ++ rest) acc hn hnl htc hplen
          hlook, hpay]
        simp only [upsertField_new n (tripField f) acc hlook, List.nil_append]
        rw [ih h.2 fuel lvl rest _ (by omega) (by omega)
            (fun x hx => lookupField_append_none x n _ acc (hacc x (List.mem_cons_of_mem _ hx))
              (fun e => hnr (e ▸ hx))),
          List.append_assoc, List.singleton_append]
    · simp only [if_neg hfl, Nat.zero_add] at hf hacc ⊢
      exact ih h.2 fuel lvl rest acc (by omega) (by omega) hacc
  · intro _ fuel lvl _ _
    simp only [encMsgItems, decMsgItems_nil, tripMsgs]
  · intro m r hP hR h fuel lvl hf hd
    rw [nodesMsgs] at hf
    rw [depthMsgs] at hd
    cases fuel with
    | zero => omega
    | succ fuel =>
      have h1 := hP (wfMsgs_head h) fuel (lvl + 1) [] (by omega) (by omega)
      have h2 := hR (wfMsgs_tail h) fuel lvl (by omega) (by omega)
      rw [List.append_nil] at h1
      rw [encMsgItems, decMsgItems_succ mx fuel lvl _ (by simp [le32, leN]),
        itemHeader_le32 _ _ (wfMsgs_len h) (by rw [List.length_append]; omega)]
      simp [h1, h2, tripMsgs]

theorem decMsg_enc (mx : Nat) : ∀ (m : Msg), wfMsg m → ∀ (fuel lvl : Nat) (rest : Bytes),
    nodesMsg m ≤ fuel → lvl + depthMsg m ≤ mx + 1 →
    decMsg mx fuel lvl (encMsg m ++ rest) = some (tripMsg m, rest) :=
  (dec_enc mx).1

theorem decFields_enc (mx : Nat) : ∀ (fs : List (Bytes × Field)), wfFields fs →
    ∀ (fuel lvl : Nat) (rest : Bytes) (acc : List (Bytes × Field)),
    nodesFields fs ≤ fuel → lvl + 1 + depthFields fs ≤ mx + 1 →
    (∀ x ∈ flatNames fs, lookupField x acc = none) →
    decFields mx fuel lvl (countFlat fs) (encFields fs ++ rest) acc = some (acc ++ tripFields fs, rest) :=
  (dec_enc mx).2.1

theorem decMsgItems_enc (mx : Nat) : ∀ (ms : List Msg), wfMsgs ms → ∀ (fuel lvl : Nat),
    nodesMsgs ms ≤ fuel → lvl + 1 + depthMsgs ms ≤ mx + 1 →
    decMsgItems mx fuel lvl (encMsgItems ms) = some (tripMsgs ms) :=
  (dec_enc mx).2.2

end Muscle.Wire
