import MuscleModel.Wire.SizeReencode

/-! The accepted object is no bigger than the input (C01 truncation, C02).  Re-flattening what a reader returned takes no
more bytes than the reader consumed: `cstr` and `normBool` only shrink or keep, a repeated field name REPLACES the
earlier entry, every length word is 4 bytes whatever it says.  And `…FlattenedSize` of what a reader returned is the
length of that re-flattening, so the bound holds for both measures. -/

namespace Muscle.Wire
open Muscle Muscle.Gen

theorem encFields_cons_length (n : Bytes) (f : Field) (r : List (Bytes × Field)) :
    (encFields ((n, f) :: r)).length =
      (if f.flattenable = true then n.length + 13 + (encPayload f).length else 0) + (encFields r).length := by
  rw [encFields_cons]
  by_cases hf : f.flattenable = true
  · simp only [if_pos hf, List.length_append, List.length_cons, le32_length]; omega
  · simp only [if_neg hf, Nat.zero_add]

theorem encFields_upsert_length (nm : Bytes) (f : Field) : ∀ (acc : List (Bytes × Field)),
    (encFields (upsertField nm f acc)).length ≤ (encFields acc).length + (nm.length + 13 + (encPayload f).length) := by
  intro acc
  induction acc with
  | nil =>
    rw [upsertField_nil, encFields_cons_length]
    by_cases hf : f.flattenable = true
    · rw [if_pos hf]; omega
    · rw [if_neg hf]; omega
  | cons a t ih =>
    obtain ⟨n, g⟩ := a
    by_cases he : n = nm
    · subst he
      rw [upsertField_cons_eq, encFields_cons_length, encFields_cons_length]
      by_cases hf : f.flattenable = true
      · rw [if_pos hf]; omega
      · rw [if_neg hf]; omega
    · rw [upsertField_cons_ne _ _ _ _ _ he, encFields_cons_length, encFields_cons_length]; omega

theorem sizeFields_eq_length : ∀ (fs : List (Bytes × Field)),
    (∀ e ∈ fs, sizePayload e.2 = (encPayload e.2).length) → sizeFields fs = (encFields fs).length
  | [], _ => by simp [sizeFields, encFields]
  | (n, f) :: r, h => by
    have h0 : sizePayload f = (encPayload f).length := h (n, f) List.mem_cons_self
    rw [sizeFields_cons, sizeEntry, encFields_cons_length, sizeFields_eq_length r (fun e he => h e (List.mem_cons_of_mem _ he)),
      h0]
    by_cases hf : f.flattenable = true
    · rw [if_pos hf, if_pos hf]; omega
    · rw [if_neg hf, if_neg hf]

/-- the `hsub` argument of `encPayload_length` for a field without sub-Messages -/
theorem encMsgItems_nil_length : (encMsgItems []).length = sizeMsgItems [] := by
  simp [encMsgItems, sizeMsgItems]

structure SizeAt (mx fuel : Nat) : Prop where
  msg : ∀ (lvl : Nat) (b : Bytes) (m : Msg) (r : Bytes), decMsg mx fuel lvl b = some (m, r) →
    (encMsg m).length + r.length ≤ b.length
  fields : ∀ (lvl k : Nat) (b : Bytes) (acc fs : List (Bytes × Field)) (r : Bytes),
    decFields mx fuel lvl k b acc = some (fs, r) → (encFields fs).length + r.length ≤ (encFields acc).length + b.length
  payload : ∀ (lvl tc : Nat) (p : Bytes) (f : Field) (r : Bytes),
    decPayload mx fuel lvl tc p = some (f, r) → (encPayload f).length + r.length ≤ p.length
  items : ∀ (lvl : Nat) (b : Bytes) (ms : List Msg), decMsgItems mx fuel lvl b = some ms → (encMsgItems ms).length ≤ b.length

/-- one payload: no bigger than its view, and of exactly its advertised size, if that holds of its sub-Messages -/
theorem decPayload_size (mx fuel : Nat)
    (hm : ∀ (lvl : Nat) (b : Bytes) (m : Msg) (r : Bytes), decMsg mx fuel lvl b = some (m, r) →
      (encMsg m).length + r.length ≤ b.length ∧ sizeMsg m = (encMsg m).length)
    (hi : ∀ (lvl : Nat) (b : Bytes) (ms : List Msg), decMsgItems mx fuel lvl b = some ms →
      (encMsgItems ms).length ≤ b.length ∧ sizeMsgItems ms = (encMsgItems ms).length)
    (lvl tc : Nat) (p : Bytes) (f : Field) (r : Bytes) (h : decPayload mx fuel lvl tc p = some (f, r)) :
    (encPayload f).length + r.length ≤ p.length ∧ sizePayload f = (encPayload f).length := by
  rcases decPayload_some h with ⟨_, hf⟩ | ⟨_, rfl, rfl, rfl⟩ | ⟨_, m, r', _, hm', rfl, rfl⟩ | ⟨_, ms, _, hms, rfl, rfl⟩ |
    ⟨_, cnt, q, xs, hq, hx, rfl⟩ | ⟨_, ⟨q, q', hq, hq', rfl, rfl⟩ | ⟨cnt, q, xs, hq, hx, rfl⟩⟩
  · obtain ⟨rp, xs, rfl, hr, hl, hlen⟩ := decFixed_some hf
    refine ⟨?_, (encPayload_length (f := .fixed tc rp xs) ⟨hr, hl⟩ encMsgItems_nil_length).symm⟩
    rw [encPayload, encFixed_eq_arr rp xs hr, encFixedArr_length _ xs hl]
    omega
  · simp [encPayload, sizePayload, encMsgsF, sizeMsgsF, encMsgItems, sizeMsgItems]
  · obtain ⟨hb, he⟩ := hm _ _ _ _ hm'
    refine ⟨?_, (encPayload_length (f := .msgs .inl [m]) (fun _ => rfl) ?_).symm⟩
    · simp only [encPayload, encMsgsF, List.length_append, le32_length, List.length_drop, List.length_nil] at hb ⊢
      omega
    · simp only [Field.subMsgs, encMsgItems, sizeMsgItems, List.length_append, le32_length, he, List.length_nil]
      omega
  · obtain ⟨hb, he⟩ := hi _ _ _ hms
    exact ⟨by simpa [encPayload, encMsgsF] using hb,
      (encPayload_length (f := .msgs .arr ms) (fun e => nomatch e) he.symm).symm⟩
  · obtain ⟨hl, hb⟩ := decStrItems_size _ _ _ _ hx
    have lq := rd32_length hq
    have hr : (if cnt = 1 then Rep.inl else Rep.arr) = .inl → xs.length = 1 := by
      intro e; by_cases hc : cnt = 1 <;> simp [hc] at e; omega
    refine ⟨?_, (encPayload_length (f := .strs _ xs) hr encMsgItems_nil_length).symm⟩
    rw [encPayload, encStrs_eq_arr _ xs hr, List.length_append, le32_length, encStrItems_length]
    omega
  · have lq := rd32_length hq
    have lq' := rd32_length hq'
    refine ⟨?_, (encPayload_length (f := .raws tc .inl [q']) (fun _ => rfl) encMsgItems_nil_length).symm⟩
    simp only [encPayload, encRaws, List.length_append, le32_length, List.length_nil]
    omega
  · obtain ⟨hl, hb⟩ := decRawItems_size _ _ _ _ hx
    have lq := rd32_length hq
    refine ⟨?_, (encPayload_length (f := .raws tc .arr xs) (fun e => nomatch e) encMsgItems_nil_length).symm⟩
    simp only [encPayload, encRaws, List.length_append, le32_length, encRawItems_length]
    omega

/-- what a reader returned re-flattens into no more bytes than it consumed, and its `…FlattenedSize` is exact (for
    the entry loop: of every entry, if of those it started with) -/
theorem sizeAt_exact (mx fuel : Nat) :
    SizeAt mx fuel ∧
    (∀ (lvl : Nat) (b : Bytes) (m : Msg) (r : Bytes), decMsg mx fuel lvl b = some (m, r) → sizeMsg m = (encMsg m).length) ∧
    (∀ (lvl : Nat) (b : Bytes) (ms : List Msg), decMsgItems mx fuel lvl b = some ms →
      sizeMsgItems ms = (encMsgItems ms).length) ∧
    (∀ (lvl k : Nat) (b : Bytes) (acc fs : List (Bytes × Field)) (r : Bytes), decFields mx fuel lvl k b acc = some (fs, r) →
      (∀ e ∈ acc, sizePayload e.2 = (encPayload e.2).length) → ∀ e ∈ fs, sizePayload e.2 = (encPayload e.2).length) := by
  induction fuel using Nat.strongRecOn with
  | ind fuel ih =>
    have hm : ∀ (lvl : Nat) (b : Bytes) (m : Msg) (r : Bytes), decMsg mx fuel lvl b = some (m, r) →
        (encMsg m).length + r.length ≤ b.length ∧ sizeMsg m = (encMsg m).length := by
      intro lvl b m r h
      obtain ⟨f', what, n, b3, fs, rfl, hh, hf, rfl⟩ := decMsg_some h
      have hb := (msgHeader_some hh).2.1
      obtain ⟨hs, _, _, hx⟩ := ih f' (Nat.lt_succ_self _)
      have := hs.fields _ _ _ _ _ _ hf
      have he := sizeFields_eq_length fs (hx _ _ _ _ _ _ hf (fun _ he => nomatch he))
      simp only [encMsg, sizeMsg, encFields, List.length_append, le32_length, List.length_nil, he] at this ⊢
      omega
    have hi : ∀ (lvl : Nat) (b : Bytes) (ms : List Msg), decMsgItems mx fuel lvl b = some ms →
        (encMsgItems ms).length ≤ b.length ∧ sizeMsgItems ms = (encMsgItems ms).length := by
      intro lvl b ms h
      by_cases hb : b = []
      · subst hb
        rw [decMsgItems_nil] at h
        cases h
        simp [encMsgItems, sizeMsgItems]
      · obtain ⟨f', len, b1, m, rest, ms', rfl, hh, hm', hms, rfl⟩ := decMsgItems_some h hb
        obtain ⟨hl, _⟩ := itemHeader_some hh
        obtain ⟨hs, hxm, hxi, _⟩ := ih f' (Nat.lt_succ_self _)
        have s2 := hs.msg _ _ _ _ hm'
        have s3 := hs.items _ _ _ hms
        simp only [encMsgItems, sizeMsgItems, List.length_append, le32_length, List.length_take, List.length_drop,
          hxm _ _ _ _ hm', hxi _ _ _ hms] at s2 s3 ⊢
        omega
    have hp := decPayload_size mx fuel hm hi
    refine ⟨⟨fun l b m r h => (hm l b m r h).1, ?_, fun l t p f r h => (hp l t p f r h).1, fun l b ms h => (hi l b ms h).1⟩,
      fun l b m r h => (hm l b m r h).2, fun l b ms h => (hi l b ms h).2, ?_⟩
    · intro lvl k b acc fs r h
      cases k with
      | zero => rw [decFields_zero] at h; cases h; omega
      | succ k =>
        obtain ⟨f', nm, tc, el, b4, f, rest, rfl, hh, hp', hrec⟩ := decFields_succ_some h
        have hb := entryHeader_some hh
        have s5 := (ih f' (Nat.lt_succ_self _)).1.payload _ _ _ _ _ hp'
        have s6 := (ih f' (Nat.lt_succ_self _)).1.fields _ _ _ _ _ _ hrec
        have s7 := encFields_upsert_length nm f acc
        simp only [List.length_append, List.length_take, List.length_drop] at s5 s6
        omega
    · intro lvl k b acc fs r h hacc
      cases k with
      | zero => rw [decFields_zero] at h; cases h; exact hacc
      | succ k =>
        obtain ⟨f', nm, tc, el, b4, f, rest, rfl, _, hp', hrec⟩ := decFields_succ_some h
        obtain ⟨hs, hxm, hxi, hxf⟩ := ih f' (Nat.lt_succ_self _)
        have hf := (decPayload_size mx f' (fun l b m r h => ⟨hs.msg l b m r h, hxm l b m r h⟩)
          (fun l b ms h => ⟨hs.items l b ms h, hxi l b ms h⟩) _ _ _ _ _ hp').2
        refine hxf _ _ _ _ _ _ hrec (fun e he => ?_)
        rcases mem_upsertField he with rfl | he
        · exact hf
        · exact hacc e he

theorem sizeAt (mx fuel : Nat) : SizeAt mx fuel := (sizeAt_exact mx fuel).1

theorem decMsg_sizeMsg {mx fuel lvl : Nat} {b : Bytes} {m : Msg} {r : Bytes} (h : decMsg mx fuel lvl b = some (m, r)) :
    sizeMsg m = (encMsg m).length :=
  (sizeAt_exact mx fuel).2.1 lvl b m r h

theorem decMsgItems_sizeMsgItems {mx fuel lvl : Nat} {b : Bytes} {ms : List Msg} (h : decMsgItems mx fuel lvl b = some ms) :
    sizeMsgItems ms = (encMsgItems ms).length :=
  (sizeAt_exact mx fuel).2.2.1 lvl b ms h

theorem decFields_sizePayload {mx fuel lvl k : Nat} {b : Bytes} {acc fs : List (Bytes × Field)} {r : Bytes}
    (h : decFields mx fuel lvl k b acc = some (fs, r)) (hacc : ∀ e ∈ acc, sizePayload e.2 = (encPayload e.2).length) :
    ∀ e ∈ fs, sizePayload e.2 = (encPayload e.2).length :=
  (sizeAt_exact mx fuel).2.2.2 lvl k b acc fs r h hacc

/- The trip of `x` is what the parser returns on the encoding of `x`; what the parser returns is measured exactly, and
the two encodings are the same bytes. -/

theorem sizeMsg_trip (m : Msg) (h : wfMsg m) : sizeMsg (tripMsg m) = sizeMsg m := by
  have hd := decMsg_enc (depthMsg m) m h (nodesMsg m) 1 [] (Nat.le_refl _) (by omega)
  rw [decMsg_sizeMsg hd, reenc_msg m h, size_msg m h]

theorem sizeFields_trip : ∀ (fs : List (Bytes × Field)), wfFields fs →
    sizeFields (tripFields fs) = sizeFields fs := by
  intro fs h
  have hd := decFields_enc (depthFields fs) fs h (nodesFields fs) 0 [] [] (Nat.le_refl _) (by omega) (fun _ _ => rfl)
  rw [List.nil_append] at hd
  rw [sizeFields_eq_length _ (decFields_sizePayload hd (fun _ he => nomatch he)), reenc_fields fs h,
    size_fields fs h]

theorem sizeMsgItems_trip : ∀ (ms : List Msg), wfMsgs ms → sizeMsgItems (tripMsgs ms) = sizeMsgItems ms := by
  intro ms h
  have hd := decMsgItems_enc (depthMsgs ms) ms h (nodesMsgs ms) 0 (Nat.le_refl _) (by omega)
  rw [decMsgItems_sizeMsgItems hd, reenc_msgItems ms h, size_msgItems ms h]

theorem rd32_take_le32 (n k : Nat) (X : Bytes) (hn : n < U32) (hk : 4 ≤ k) :
    rd32 ((le32 n ++ X).take k) = some (n, X.take (k - 4)) := by
  have h1 : (le32 n).take k = le32 n := List.take_of_length_le (by simp; omega)
  rw [List.take_append, h1, le32_length, rd32_le32 _ _ hn]

theorem decMsg_take_head (mx fuel lvl w : Nat) (fs : List (Bytes × Field)) (k : Nat)
    (hw : w < U32) (hc : countFlat fs < U32) (hk : k < 12 + 12 * countFlat fs) :
    decMsg mx fuel lvl ((encMsg (.mk w fs)).take k) = none := by
  cases fuel with
  | zero => exact decMsg_out mx lvl _
  | succ fuel =>
    suffices h : msgHeader mx lvl ((encMsg (.mk w fs)).take k) = none by rw [decMsg_succ, h]
    unfold msgHeader
    split
    · rfl
    · by_cases k4 : k < 4
      · rw [rd32_eq_none.2 (by simp only [List.length_take]; omega)]
      · rw [encMsg, rd32_take_le32 _ _ _ protocolVersion_lt (by omega)]
        simp only [protocolVersion_ok, if_false]
        by_cases k8 : k - 4 < 4
        · rw [rd32_eq_none.2 (by simp only [List.length_take]; omega)]
        · rw [rd32_take_le32 _ _ _ hw (by omega)]
          simp only []
          by_cases k12 : k - 4 - 4 < 4
          · rw [rd32_eq_none.2 (by simp only [List.length_take]; omega)]
          · rw [rd32_take_le32 _ _ _ hc (by omega)]
            simp only []
            have : (List.take (k - 4 - 4 - 4) (encFields fs)).length / 12 < countFlat fs := by
              simp only [List.length_take]
              apply (Nat.div_lt_iff_lt_mul (by decide)).2
              omega
            simp only [this, if_true]

end Muscle.Wire
