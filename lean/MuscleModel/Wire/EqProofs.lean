import MuscleModel.Wire.Ops
import MuscleModel.Wire.Entry
import MuscleModel.Wire.FieldTable

/-! Lemmas about the model of `Message::operator==` (`msgEq`, `Wire/Ops.lean`) for C01: the serialisation round
trip (`tripMsg`) does not change what a Message compares equal to; self-equality = absence of NaN items. -/

namespace Muscle.Wire
open Muscle Muscle.Gen

/-- one entry of `fieldsSubset`: the like-named field of `gs` exists and compares equal -/
def lookEq (f : Field) (n : Bytes) (gs : List (Bytes × Field)) : Bool :=
  match lookupField n gs with
  | none => false
  | some g => fieldEq f g

theorem fieldsSubset_cons (n : Bytes) (f : Field) (r gs : List (Bytes × Field)) :
    fieldsSubset ((n, f) :: r) gs = (lookEq f n gs && fieldsSubset r gs) := by
  simp only [fieldsSubset, lookEq]
  cases lookupField n gs <;> rfl

theorem fieldsHaveOpaque_cons_inv (n : Bytes) (f : Field) (r : List (Bytes × Field))
    (h : fieldsHaveOpaque ((n, f) :: r) = false) :
    f.flattenable = true ∧ msgsHaveOpaque f.subMsgs = false ∧ fieldsHaveOpaque r = false := by
  cases f <;> simp [fieldsHaveOpaque, msgsHaveOpaque, Field.subMsgs, Field.flattenable] at h ⊢ <;> simp [h]

theorem fieldEq_trip_left {f : Field} (hsub : ∀ ys, msgsEq (tripMsgs f.subMsgs) ys = msgsEq f.subMsgs ys) (g : Field) :
    fieldEq (tripField f) g = fieldEq f g := by
  cases f with
  | msgs rp ms => cases g <;> simp [tripField, fieldEq]; exact hsub _
  | _ => cases g <;> simp [tripField, fieldEq]

theorem eqTripLeft_all :
    (∀ (a : Msg), hasOpaque a = false → ∀ (b : Msg), msgEq (tripMsg a) b = msgEq a b) ∧
    (∀ (fs : List (Bytes × Field)), fieldsHaveOpaque fs = false → ∀ (gs : List (Bytes × Field)),
      fieldsSubset (tripFields fs) gs = fieldsSubset fs gs ∧ (tripFields fs).length = fs.length) ∧
    (∀ (xs : List Msg), msgsHaveOpaque xs = false → ∀ (ys : List Msg), msgsEq (tripMsgs xs) ys = msgsEq xs ys) := by
  apply Msg.induct
  · intro w fs ih h b
    obtain ⟨w', gs⟩ := b
    have := ih h gs
    simp only [tripMsg, msgEq, this.1, this.2]
  · intro _ gs; exact ⟨rfl, rfl⟩
  · intro n f r _ hR ih h gs
    obtain ⟨hfl, hs, hr⟩ := fieldsHaveOpaque_cons_inv n f r h
    have e : lookEq (tripField f) n gs = lookEq f n gs := by
      unfold lookEq
      cases lookupField n gs with
      | none => rfl
      | some g => exact fieldEq_trip_left (hR hs) g
    rw [tripFields_cons, if_pos hfl, fieldsSubset_cons, fieldsSubset_cons, e, (ih hr gs).1, List.length_cons,
      List.length_cons, (ih hr gs).2]
    exact ⟨rfl, rfl⟩
  · intro _ ys; rfl
  · intro x r hP hR h ys
    simp only [msgsHaveOpaque, Bool.or_eq_false_iff] at h
    cases ys with
    | nil => simp [tripMsgs, msgsEq]
    | cons y t => simp only [tripMsgs, msgsEq, hP h.1 y, hR h.2 t]

theorem msgsEq_trip_left : ∀ (xs : List Msg), msgsHaveOpaque xs = false →
    ∀ (ys : List Msg), msgsEq (tripMsgs xs) ys = msgsEq xs ys :=
  eqTripLeft_all.2.2

theorem fieldsSubset_congr (fs gs gs' : List (Bytes × Field))
    (h : ∀ (f : Field) (n : Bytes), lookEq f n gs' = lookEq f n gs) :
    fieldsSubset fs gs' = fieldsSubset fs gs := by
  induction fs with
  | nil => simp [fieldsSubset]
  | cons a r ih => obtain ⟨n, f⟩ := a; simp only [fieldsSubset_cons, h, ih]

theorem fieldEq_trip_right {g : Field} (hsub : ∀ xs, msgsEq xs (tripMsgs g.subMsgs) = msgsEq xs g.subMsgs) (f : Field) :
    fieldEq f (tripField g) = fieldEq f g := by
  cases g with
  | msgs rp ms => cases f <;> simp [tripField, fieldEq]; exact hsub _
  | _ => cases f <;> simp [tripField, fieldEq]

theorem eqTripRight_all :
    (∀ (b : Msg), hasOpaque b = false → ∀ (a : Msg), msgEq a (tripMsg b) = msgEq a b) ∧
    (∀ (gs : List (Bytes × Field)), fieldsHaveOpaque gs = false →
      (tripFields gs).length = gs.length ∧
      ∀ (f : Field) (n : Bytes), lookEq f n (tripFields gs) = lookEq f n gs) ∧
    (∀ (ys : List Msg), msgsHaveOpaque ys = false → ∀ (xs : List Msg), msgsEq xs (tripMsgs ys) = msgsEq xs ys) := by
  apply Msg.induct
  · intro w' gs ih h a
    obtain ⟨w, fs⟩ := a
    have := ih h
    simp only [tripMsg, msgEq, this.1, fieldsSubset_congr fs _ _ this.2]
  · intro _; exact ⟨rfl, fun _ _ => rfl⟩
  · intro m g r _ hR ih h
    obtain ⟨hfl, hs, hr⟩ := fieldsHaveOpaque_cons_inv m g r h
    rw [tripFields_cons, if_pos hfl]
    refine ⟨by rw [List.length_cons, List.length_cons, (ih hr).1], ?_⟩
    intro f n
    have ihn := (ih hr).2 f n
    unfold lookEq at ihn ⊢
    by_cases hmn : m = n
    · rw [hmn, lookupField_cons_eq, lookupField_cons_eq]; exact fieldEq_trip_right (hR hs) f
    · rw [lookupField_cons_ne _ _ _ _ hmn, lookupField_cons_ne _ _ _ _ hmn]; exact ihn
  · intro _ xs; rfl
  · intro y t hP hR h xs
    simp only [msgsHaveOpaque, Bool.or_eq_false_iff] at h
    cases xs with
    | nil => simp [tripMsgs, msgsEq]
    | cons x r => simp only [tripMsgs, msgsEq, hP h.1 x, hR h.2 r]

theorem lookEq_trip_right : ∀ (gs : List (Bytes × Field)), fieldsHaveOpaque gs = false →
    (tripFields gs).length = gs.length ∧
    ∀ (f : Field) (n : Bytes), lookEq f n (tripFields gs) = lookEq f n gs :=
  eqTripRight_all.2.1

theorem msgsEq_trip_right : ∀ (ys : List Msg), msgsHaveOpaque ys = false →
    ∀ (xs : List Msg), msgsEq xs (tripMsgs ys) = msgsEq xs ys :=
  eqTripRight_all.2.2

def nanFreeWords32 : Nat → Bytes → Bool
  | 0, _ => true
  | k+1, a => !isNaN32 (leVal (a.take 4)) && nanFreeWords32 k (a.drop 4)

/-- no float of the item (float, double, the 2 floats of a point, the 4 of a rect) is a NaN bit pattern -/
def itemNanFree (tc : Nat) (a : Bytes) : Bool :=
  if tc = tcFloat then !isNaN32 (leVal a)
  else if tc = tcDouble then !isNaN64 (leVal a)
  else if tc = tcPoint then nanFreeWords32 2 a
  else if tc = tcRect then nanFreeWords32 4 a
  else true

mutual
def nanFreeMsg : Msg → Bool
  | .mk _ fs => nanFreeFields fs
def nanFreeFields : List (Bytes × Field) → Bool
  | [] => true
  | (_, .fixed tc _ xs) :: r => xs.all (itemNanFree tc) && nanFreeFields r
  | (_, .msgs _ ms) :: r => nanFreeMsgs ms && nanFreeFields r
  | (_, .strs _ _) :: r => nanFreeFields r
  | (_, .raws _ _ _) :: r => nanFreeFields r
  | (_, .opaque _ _) :: r => nanFreeFields r
def nanFreeMsgs : List Msg → Bool
  | [] => true
  | m :: r => nanFreeMsg m && nanFreeMsgs r
end

theorem feq32_self (a : Nat) : feq32 a a = !isNaN32 a := by simp [feq32]
theorem feq64_self (a : Nat) : feq64 a a = !isNaN64 a := by simp [feq64]

theorem feqWords32_self : ∀ (k : Nat) (a : Bytes), feqWords32 k a a = nanFreeWords32 k a
  | 0, _ => by simp [feqWords32, nanFreeWords32]
  | k+1, a => by simp [feqWords32, nanFreeWords32, feq32_self, feqWords32_self k]

theorem itemEq_self (tc : Nat) (a : Bytes) : itemEq tc a a = itemNanFree tc a := by
  unfold itemEq itemNanFree
  by_cases h1 : tc = tcFloat
  · rw [if_pos h1, if_pos h1]; exact feq32_self _
  rw [if_neg h1, if_neg h1]
  by_cases h2 : tc = tcDouble
  · rw [if_pos h2, if_pos h2]; exact feq64_self _
  rw [if_neg h2, if_neg h2]
  by_cases h3 : tc = tcPoint
  · rw [if_pos h3, if_pos h3]; exact feqWords32_self _ _
  rw [if_neg h3, if_neg h3]
  by_cases h4 : tc = tcRect
  · rw [if_pos h4, if_pos h4]; exact feqWords32_self _ _
  rw [if_neg h4, if_neg h4]
  exact beq_self_eq_true a

theorem listEqBy_self (tc : Nat) : ∀ (xs : List Bytes), listEqBy (itemEq tc) xs xs = xs.all (itemNanFree tc)
  | [] => by simp [listEqBy]
  | x :: r => by simp [listEqBy, itemEq_self, listEqBy_self tc r]

def selfEqFields : List (Bytes × Field) → Bool
  | [] => true
  | (_, f) :: r => fieldEq f f && selfEqFields r

theorem fieldsSubset_of_lookup (gs : List (Bytes × Field)) : ∀ (r : List (Bytes × Field)),
    (∀ e ∈ r, lookupField e.1 gs = some e.2) → fieldsSubset r gs = selfEqFields r
  | [], _ => by simp [fieldsSubset, selfEqFields]
  | (n, f) :: r, h => by
    have h1 := h (n, f) (by simp)
    have ih := fieldsSubset_of_lookup gs r (fun e he => h e (by simp [he]))
    simp only [fieldsSubset_cons, lookEq, h1, ih, selfEqFields]

theorem mem_flatNames_of_flat (r : List (Bytes × Field)) (h : fieldsHaveOpaque r = false) :
    ∀ e ∈ r, e.1 ∈ flatNames r := by
  induction r with
  | nil => intro e he; cases he
  | cons a t ih =>
    obtain ⟨n, f⟩ := a
    obtain ⟨hfl, _, ht⟩ := fieldsHaveOpaque_cons_inv n f t h
    intro e he
    rw [flatNames_cons, if_pos hfl]
    rcases List.mem_cons.1 he with rfl | he
    · exact List.mem_cons_self
    · exact List.mem_cons_of_mem _ (ih ht e he)

/-- distinct names: every entry is what a lookup of its name finds -/
theorem lookupField_self_of_wf (fs : List (Bytes × Field)) (hw : wfFields fs) (ho : fieldsHaveOpaque fs = false) :
    ∀ e ∈ fs, lookupField e.1 fs = some e.2 := by
  induction fs with
  | nil => intro e he; cases he
  | cons a t ih =>
    obtain ⟨n, f⟩ := a
    obtain ⟨hfl, _, hot⟩ := fieldsHaveOpaque_cons_inv n f t ho
    rw [wfFields_cons] at hw
    intro e he
    rcases List.mem_cons.1 he with rfl | he
    · exact lookupField_cons_eq _ _ _
    · have hne : n ≠ e.1 := fun e' => (hw.1 hfl).2.2.1 (e' ▸ mem_flatNames_of_flat t hot e he)
      rw [lookupField_cons_ne _ _ _ _ hne]
      exact ih hw.2 hot e he

theorem nanFreeFields_cons_of_selfEq (n : Bytes) (f : Field) (r : List (Bytes × Field)) (hfl : f.flattenable = true)
    (hsub : msgsEq f.subMsgs f.subMsgs = nanFreeMsgs f.subMsgs) :
    (fieldEq f f && nanFreeFields r) = nanFreeFields ((n, f) :: r) := by
  cases f with
  | «opaque» tc k => cases hfl
  | fixed tc rp xs => simp [fieldEq, nanFreeFields, listEqBy_self]
  | strs rp xs => simp [fieldEq, nanFreeFields]
  | raws tc rp xs => simp [fieldEq, nanFreeFields]
  | msgs rp ms =>
    simp only [Field.subMsgs] at hsub
    simp [fieldEq, nanFreeFields, hsub]

theorem selfEq_all :
    (∀ (m : Msg), wfMsg m → hasOpaque m = false → msgEq m m = nanFreeMsg m) ∧
    (∀ (fs : List (Bytes × Field)), wfFields fs → fieldsHaveOpaque fs = false →
      selfEqFields fs = nanFreeFields fs) ∧
    (∀ (ms : List Msg), wfMsgs ms → msgsHaveOpaque ms = false → msgsEq ms ms = nanFreeMsgs ms) := by
  apply Msg.induct
  · intro w fs ih hw ho
    have h1 := fieldsSubset_of_lookup fs fs (lookupField_self_of_wf fs (wfMsg_fields hw) ho)
    have h2 := ih (wfMsg_fields hw) ho
    simp [msgEq, nanFreeMsg, h1, h2]
  · intro _ _; rfl
  · intro n f r _ hR ih hw ho
    obtain ⟨hfl, hs, hr⟩ := fieldsHaveOpaque_cons_inv n f r ho
    rw [selfEqFields, ih (wfFields_tail hw) hr]
    exact nanFreeFields_cons_of_selfEq n f r hfl (hR (wfField_subMsgs (wfFields_field hw hfl)) hs)
  · intro _ _; simp only [msgsEq, nanFreeMsgs]
  · intro m r hP hR hw ho
    simp only [msgsHaveOpaque, Bool.or_eq_false_iff] at ho
    simp only [msgsEq, nanFreeMsgs, hP (wfMsgs_head hw) ho.1, hR (wfMsgs_tail hw) ho.2]

theorem selfEqFields_eq : ∀ (fs : List (Bytes × Field)), wfFields fs → fieldsHaveOpaque fs = false →
    selfEqFields fs = nanFreeFields fs :=
  selfEq_all.2.1

theorem msgsEq_self : ∀ (ms : List Msg), wfMsgs ms → msgsHaveOpaque ms = false → msgsEq ms ms = nanFreeMsgs ms :=
  selfEq_all.2.2

end Muscle.Wire
