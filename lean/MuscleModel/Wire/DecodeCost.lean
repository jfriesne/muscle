import MuscleModel.Wire.Decode
import MuscleModel.Generated.ParseGuards

/-!
# The Message parser with a cost tally (C02)

An instrumented twin of `Wire/Decode.lean`: the same recursion with the same result (`eraseAt`), but every function returns its result
TOGETHER WITH a `Tally` of what `Message::Unflatten` and the readers below it reserved, copied and iterated on the way —
on every path, failures included.

The checks that bound a reservation by the bytes actually present are not typed in: each is made only
`if <guard> && …`, where `<guard>` is a `Bool` constant of `Generated/ParseGuards.lean`, re-derived from the source text
of `/repo/message/Message.cpp` on every run (`tools/extract_parse_guards.py`).  With a guard missing the twin does what
the code would then do: it goes on, and charges the DECLARED count or length.  The case principles of `Wire/CostTwin.lean`, on which the theorems of
`Props/C02.lean` rest, unfold the constants, so they stop compiling as soon as one of them regenerates as `false`.

What is charged (the C++ statement is named at each charge):

* `table`   entry-table slots requested by `Message::Unflatten`'s field table (`util/Hashtable.h`): `Clear(true)` leaves the
            default capacity and no array; `_entries.EnsureSize(muscleMin(numEntries, cap), true)` only sets the capacity of the
            (empty) table; the array of `capacity` slots is allocated when the FIRST field is stored (`EnsureTableAllocated`),
            and a new field name arriving at a full table reallocates it at twice the capacity (`PutAux`); a repeated name
            re-uses its slot.  Each allocation is charged with its capacity.  `cap` is a parameter of the twin (`none` =
            presize for the bare declared count); the theorems instantiate it with `Gen.entryPresizeCap`;
* `reserve` every other reservation, in the unit the code reserves in: array slots for `_data.EnsureSize(n, true)` of the
            fixed-size, bool and string arrays, one slot per `AddDataItem` (ByteBuffer and Message arrays grow item by
            item), one per Message obtained from the pool, bytes for a `GetByteBufferFromPool(n, …)` body and for a
            String's character buffer;
* `copied`  bytes copied out of the input into owned storage (field names, string bodies, ByteBuffer bodies, fixed-size items);
* `steps`   one per loop iteration and per `Message::Unflatten` call;
* `depth`   the largest nest count (`lvl`) with which `Message::Unflatten` was entered;
* `window`  the largest byte budget requested for a nested reader (read limiter, `DataUnflattenerHelper`, sub-Message reader).
-/

namespace Muscle.Wire
open Muscle Muscle.Gen

structure Tally where
  table : Nat := 0
  reserve : Nat := 0
  copied : Nat := 0
  steps : Nat := 0
  depth : Nat := 0
  window : Nat := 0
  deriving Repr, DecidableEq, Inhabited

/-- sequential composition: amounts add up, high-water marks take the maximum -/
def Tally.add (a b : Tally) : Tally :=
  { table := a.table + b.table, reserve := a.reserve + b.reserve, copied := a.copied + b.copied,
    steps := a.steps + b.steps, depth := max a.depth b.depth, window := max a.window b.window }

instance : Add Tally := ⟨Tally.add⟩

/-- `ReadFlatsWithLengthPrefixes<String>`: per item the length word, `SizeCheck(payloadSize)`, a helper reader of
    `payloadSize` bytes, `String::Unflatten` (scan for the NUL, then `SetCstr` copies `strlen + 1` bytes) -/
def decStrItemsT : Nat → Bytes → Option (List Bytes × Bytes) × Tally
  | 0, b => (some ([], b), {})
  | k+1, b =>
    match rd32 b with
    | none => (none, { steps := 1 })
    | some (len, b) =>
      match takeN len b with
      | none => (none, { steps := 1 })
      | some (p, b) =>
        match cstr p with
        | none => (none, { steps := 1, window := p.length })
        | some s =>
          let r := decStrItemsT k b
          (match r.1 with
            | some (xs, b) => some (s :: xs, b)
            | none => none,
           { steps := 1, window := p.length, copied := s.length + 1, reserve := s.length + 1 } + r.2)

/-- `ByteBufferDataArray::TemplatedUnflatten` item loop: length word, `readFs > available` check,
    `GetByteBufferFromPool(readFs, ptr)` (allocates and fills `readFs` bytes), `SeekRelative(readFs)`, `AddDataItem` -/
def decRawItemsT : Nat → Bytes → Option (List Bytes × Bytes) × Tally
  | 0, b => (some ([], b), {})
  | k+1, b =>
    match rd32 b with
    | none => (none, { steps := 1 })
    | some (len, b) =>
      if rawLenGuard && decide (b.length < len) then (none, { steps := 1 }) else
      match takeN len b with
      | none => (none, { steps := 1, reserve := len, copied := len })
      | some (p, b) =>
        let r := decRawItemsT k b
        (match r.1 with
          | none => none
          | some (xs, b) => some (p :: xs, b),
         { steps := 1, reserve := len + 1, copied := len } + r.2)

/-- fixed-size payloads: `SingleUnflatten` reads one item; the array readers check `numBytes % itemSize`, then
    `_data.EnsureSize(numBytes / itemSize, true)` (bool: `EnsureSize(numBytes)`, item size 1) and read every item -/
def decFixedT (tc sz : Nat) (p : Bytes) : Option (Field × Bytes) × Tally :=
  (decFixed tc sz p,
   if p.length / sz = 1 then { steps := 1, copied := sz }
   else if p.length % sz ≠ 0 then {}
   else { reserve := p.length / sz, copied := p.length, steps := p.length / sz })

/-- capacity of the field table after `Clear(true)` and `_entries.EnsureSize(muscleMin(numEntries, cap), true)` on the empty
    table (`HashtableMid::EnsureSize`: a request of 0 with `allowShrink` = `Clear(true)` = the default capacity) -/
def presize (cap : Option Nat) (n : Nat) : Nat :=
  let p := match cap with
    | some c => min n c
    | none => n
  if p = 0 then htDefaultCapacity else p

/-- `PutAux` of a NEW key into a table of capacity `c` holding `items` entries: (slots requested, capacity afterwards).
    The first entry allocates the array (`EnsureTableAllocated`); a full table is reallocated at `2·c` (`EnsureSize(_tableSize*2)`). -/
def putCharge (items c : Nat) : Nat × Nat :=
  if items = 0 then (c, c) else if items = c then (2 * c, 2 * c) else (0, c)

mutual
/-- `Message::Unflatten` -/
def decMsgT (cap : Option Nat) (mx : Nat) : Nat → Nat → Bytes → Option (Msg × Bytes) × Tally
  | 0, _, _ => (none, {})
  | fuel+1, lvl, b =>
    if nestGuard && decide (mx < lvl) then (none, { steps := 1, depth := lvl }) else
    match rd32 b with
    | none => (none, { steps := 1, depth := lvl })
    | some (ver, b) =>
      if ver < oldestProtocolVersion ∨ protocolVersion < ver then (none, { steps := 1, depth := lvl }) else
      match rd32 b with
      | none => (none, { steps := 1, depth := lvl })
      | some (what, b) =>
        match rd32 b with
        | none => (none, { steps := 1, depth := lvl })
        | some (n, b) =>
          if entryCountGuard && decide (b.length / 12 < n) then (none, { steps := 1, depth := lvl }) else
          -- `Clear(true); _entries.EnsureSize(muscleMin(numEntries, cap), true)`: sets the capacity, allocates nothing yet
          let r := decFieldsT cap mx fuel lvl n b [] (presize cap n)
          (match r.1 with
            | none => none
            | some (fs, b) => some (.mk what fs, b),
           { steps := 1, depth := lvl } + r.2)
/-- the entry loop of `Message::Unflatten`: `ReadFlatWithLengthPrefix(entryName)` (the name is copied), type code and
    payload length, `GetOrCreateMessageField`, a read limiter of `eLength` bytes (clamped to what is available),
    `MessageField::Unflatten` -/
def decFieldsT (cap : Option Nat) (mx : Nat) : Nat → Nat → Nat → Bytes → List (Bytes × Field) → Nat →
    Option (List (Bytes × Field) × Bytes) × Tally
  | _, _, 0, b, acc, _ => (some (acc, b), {})
  | 0, _, _+1, _, _, _ => (none, {})
  | fuel+1, lvl, k+1, b, acc, c =>
    match rd32 b with
    | none => (none, { steps := 1 })
    | some (nl, b) =>
      match takeN nl b with
      | none => (none, { steps := 1 })
      | some (np, b) =>
        match cstr np with
        | none => (none, { steps := 1, window := np.length })
        | some nm =>
          match rd32 b with
          | none => (none, { steps := 1, window := np.length, copied := nm.length + 1, reserve := nm.length + 1 })
          | some (tc, b) =>
            match rd32 b with
            | none => (none, { steps := 1, window := np.length, copied := nm.length + 1, reserve := nm.length + 1 })
            | some (el, b) =>
              let tc? : Option Nat :=
                match lookupField nm acc with
                | some f => if tc = tcAny ∨ tc = f.typeCode then some f.typeCode else none
                | none => some tc
              match tc? with
              | none => (none, { steps := 1, window := np.length, copied := nm.length + 1, reserve := nm.length + 1 })
              | some tc =>
                -- `GetOrCreateMessageField`: an existing field is re-used, a new name is stored (`_entries.PutAndGet`)
                let pc : Nat × Nat :=
                  match lookupField nm acc with
                  | some _ => (0, c)
                  | none => putCharge acc.length c
                let r := decPayloadT cap mx fuel lvl tc (b.take el)
                match r.1 with
                | none =>
                  (none, { table := pc.1, steps := 1, window := max np.length (b.take el).length, copied := nm.length + 1,
                           reserve := nm.length + 1 } + r.2)
                | some (f, rest) =>
                  let r' := decFieldsT cap mx fuel lvl k (rest ++ b.drop el) (upsertField nm f acc) pc.2
                  (r'.1, { table := pc.1, steps := 1, window := max np.length (b.take el).length, copied := nm.length + 1,
                           reserve := nm.length + 1 } + r.2 + r'.2)
/-- `MessageField::Unflatten` on the limited view `p` -/
def decPayloadT (cap : Option Nat) (mx : Nat) : Nat → Nat → Nat → Bytes → Option (Field × Bytes) × Tally
  | fuel, lvl, tc, p =>
    if wireItemSize tc ≠ 0 then decFixedT tc (wireItemSize tc) p
    else if tc = tcPointer ∨ tc = tcTag then (none, {})
    else if tc = tcMessage then
      if p.length < 4 then
        ((if p.length = 0 then some (.msgs .arr [], []) else none), {})
      else if leVal (p.take 4) = p.length - 4 then
        -- `SingleUnflatten`: `GetMessageFromPool(ptr, msgSize)` = one Message and a reader of `msgSize` bytes
        let r := decMsgT cap mx fuel (lvl + 1) (p.drop 4)
        (match r.1 with
          | none => none
          | some (m, _) => some (.msgs .inl [m], []),
         { reserve := 1, window := leVal (p.take 4) } + r.2)
      else
        let r := decMsgItemsT cap mx fuel lvl p
        (match r.1 with
          | none => none
          | some ms => some (.msgs .arr ms, []),
         r.2)
    else
      match rd32 p with
      | none => (none, {})
      | some (cnt, q) =>
        if tc = tcString then
          -- one item: `SingleUnflatten` (no array); otherwise `VariableSizeFlatObjectArray::TemplatedUnflatten`:
          -- `numElements > available/4` check, `_data.EnsureSize(numElements, true)`, `ReadFlatsWithLengthPrefixes`
          if cnt ≠ 1 ∧ (strCountGuard && decide (q.length / 4 < cnt)) = true then (none, {}) else
          let r := decStrItemsT cnt q
          (match r.1 with
            | none => none
            | some (xs, rest) => some (.strs (if cnt = 1 then .inl else .arr) xs, rest),
           { reserve := if cnt = 1 then 0 else cnt } + r.2)
        else if cnt = 1 then
          match rd32 q with
          | none => (none, {})
          | some (sz, q) =>
            -- `GetByteBufferFromPool(unflat.GetNumBytesAvailable(), ptr)` after `itemSize != available` was rejected
            if sz = q.length then (some (.raws tc .inl [q], []), { reserve := q.length, copied := q.length })
            else (none, {})
        else
          let r := decRawItemsT cnt q
          (match r.1 with
            | none => none
            | some (xs, rest) => some (.raws tc .arr xs, rest),
           r.2)
/-- `MessageDataArray::TemplatedUnflatten`: length word, `readFS > available` check, `GetMessageFromPool()`, a read
    limiter of `readFS` bytes, the recursive `Unflatten`, `AddDataItem` -/
def decMsgItemsT (cap : Option Nat) (mx : Nat) : Nat → Nat → Bytes → Option (List Msg) × Tally
  | _, _, [] => (some [], {})
  | 0, _, _ :: _ => (none, {})
  | fuel+1, lvl, b@(_ :: _) =>
    match rd32 b with
    | none => (none, { steps := 1 })
    | some (len, b) =>
      if subMsgLenGuard && decide (b.length < len) then (none, { steps := 1 }) else
      let r := decMsgT cap mx fuel (lvl + 1) (b.take len)
      match r.1 with
      | none => (none, { steps := 1, reserve := 1, window := len } + r.2)
      | some (m, rest) =>
        let r' := decMsgItemsT cap mx fuel lvl (rest ++ b.drop len)
        (match r'.1 with
          | none => none
          | some ms => some (m :: ms),
         { steps := 1, reserve := 2, window := len } + r.2 + r'.2)
end

/-- `Message::UnflattenFromBytes` with its tally -/
def decodeT (cap : Option Nat) (mx : Nat) (b : Bytes) : Option Msg × Tally :=
  let r := decMsgT cap mx (b.length + 2) 1 b
  (match r.1 with
    | some (m, _) => some m
    | none => none,
   r.2)

end Muscle.Wire
