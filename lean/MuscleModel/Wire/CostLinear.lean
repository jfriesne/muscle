import MuscleModel.Wire.CostTwin

/-! The linear components of the tally (`reserve`, `copied`, `steps`, `window`, `depth`), by the potential method: what a
reader charged is paid for by the bytes it consumed.  A reader is a sequence of sub-readers, so its invariant is
composed from theirs (`LinS.seq`, `LinS.fail`, `LinS.frame`): the arithmetic of composition is in those lemmas, and what a
header itself charged is checked against the bytes it read where it stands.  `D` is any bound above
the entry level and above `mx + 1`: a parse that entered level `mx + 1` has failed. -/

namespace Muscle.Wire
open Muscle Muscle.Gen

/-- a reader Succeeded on `inp` bytes and left `rest`: every charge is covered by the `inp - rest` bytes consumed -/
def LinS (D inp rest : Nat) (t : Tally) : Prop :=
  t.reserve + rest ≤ inp ∧ t.copied + rest ≤ inp ∧ t.steps + rest ≤ inp ∧ t.window ≤ inp ∧ t.depth + 1 ≤ D

/-- a reader Failed on `inp` bytes.  Nothing is known of how far it got, so a failed sub-reader's charges are bounded by
    its whole view, on top of what was consumed before it: hence `2 * inp` for `reserve` (the string count reservation,
    at most a quarter of the view, on top of the items' is the case that exceeds `inp`) and `inp + 1` for `steps` -/
def LinF (D inp : Nat) (t : Tally) : Prop :=
  t.reserve ≤ 2 * inp ∧ t.copied ≤ inp ∧ t.steps ≤ inp + 1 ∧ t.window ≤ inp ∧ t.depth ≤ D

/-- for Readers that return the unread rest -/
def LinR {α : Type} (D inp : Nat) (r : Option (α × Bytes)) (t : Tally) : Prop :=
  match r with
  | some x => LinS D inp x.2.length t
  | none => LinF D inp t

/-- for the Item loop of sub-Messages, which consumes its whole view -/
def LinI {α : Type} (D inp : Nat) (r : Option α) (t : Tally) : Prop :=
  match r with
  | some _ => LinS D inp 0 t
  | none => LinF D inp t

namespace LinS

theorem seq {D a b c : Nat} {t u : Tally} (h1 : LinS D a b t) (h2 : LinS D b c u) : LinS D a c (t + u) := by
  simp only [LinS, Tally.add_def] at *
  omega

theorem fail {D a b : Nat} {t u : Tally} (h1 : LinS D a b t) (h2 : LinF D b u) : LinF D a (t + u) := by
  simp only [LinS, LinF, Tally.add_def] at *
  omega

theorem frame {D v r n : Nat} {t : Tally} (h : LinS D v r t) (hv : v ≤ n) : LinS D n (r + (n - v)) t := by
  simp only [LinS] at *
  omega

end LinS

namespace LinR

theorem toF {α : Type} {D inp : Nat} {r : Option (α × Bytes)} {t : Tally} (h : LinR D inp r t) : LinF D inp t := by
  cases r with
  | none => exact h
  | some x =>
    simp only [LinR, LinS, LinF] at *
    omega

end LinR

namespace LinF

variable {D inp : Nat} {t : Tally}

theorem reserve_le (h : LinF D inp t) : t.reserve ≤ 2 * inp := h.1
theorem copied_le (h : LinF D inp t) : t.copied ≤ inp := h.2.1
theorem steps_le (h : LinF D inp t) : t.steps ≤ inp + 1 := h.2.2.1
theorem window_le (h : LinF D inp t) : t.window ≤ inp := h.2.2.2.1
theorem depth_le (h : LinF D inp t) : t.depth ≤ D := h.2.2.2.2

theorem mono {D v n : Nat} {t : Tally} (h : LinF D v t) (hv : v ≤ n) : LinF D n t := by
  simp only [LinF] at *
  omega

end LinF

theorem LinF_early (D inp : Nat) {s d : Nat} (hs : s ≤ 1 := by omega) (hd : d ≤ D := by omega) :
    LinF D inp { steps := s, depth := d } := by
  simp only [LinF]
  omega

/-- the string item loop, with the sharper bounds the count reservation needs: every item pays 4 bytes more than what
    is reserved for it, and a failed loop has reserved no more than it read -/
def StrR (k inp : Nat) (r : Option (List Bytes × Bytes)) (t : Tally) : Prop :=
  match r with
  | some x => LinS 1 inp (x.2.length + 4 * k) t
  | none => t.reserve ≤ inp ∧ t.copied ≤ inp ∧ t.steps ≤ inp + 1 ∧ t.window ≤ inp ∧ t.depth = 0

theorem lin_str : ∀ (k : Nat) (b : Bytes), StrR k b.length (decStrItemsT k b).1 (decStrItemsT k b).2 := by
  intro k
  induction k with
  | zero => intro b; simp [decStrItemsT, StrR, LinS]
  | succ k ih =>
    intro b
    simp only [decStrItemsT]
    cases h1 : rd32 b with
    | none => simp [StrR]
    | some v1 =>
      obtain ⟨len, b1⟩ := v1
      have l1 := rd32_length h1
      simp only
      cases h2 : takeN len b1 with
      | none => simp [StrR]
      | some v2 =>
        obtain ⟨p, b2⟩ := v2
        obtain ⟨l2, l2'⟩ := takeN_length h2
        simp only
        cases h3 : cstr p with
        | none => simp [StrR]; omega
        | some s =>
          have l3 := cstr_length h3
          have ih2 := ih b2
          simp only
          generalize decStrItemsT k b2 = r at ih2 ⊢
          obtain ⟨r1, r2⟩ := r
          cases r1 with
          | none => simp only [StrR, Tally.add_def] at ih2 ⊢; omega
          | some x => simp only [StrR, LinS, Tally.add_def] at ih2 ⊢; omega

theorem lin_raw (D : Nat) (hD1 : 1 ≤ D) : ∀ (k : Nat) (b : Bytes), LinR D b.length (decRawItemsT k b).1 (decRawItemsT k b).2 := by
  intro k
  induction k with
  | zero => intro b; simp [decRawItemsT, LinR, LinS]; omega
  | succ k ih =>
    intro b
    simp only [decRawItemsT]
    cases h1 : rd32 b with
    | none => exact LinF_early D _
    | some v1 =>
      obtain ⟨len, b1⟩ := v1
      have l1 := rd32_length h1
      simp only [rawLenGuard, Bool.true_and, decide_eq_true_eq]
      by_cases hlt : b1.length < len
      · rw [if_pos hlt]; exact LinF_early D _
      · rw [if_neg hlt]
        cases h2 : takeN len b1 with
        | none => have := takeN_eq_none.1 h2; omega
        | some v2 =>
          obtain ⟨p, b2⟩ := v2
          obtain ⟨l2, l2'⟩ := takeN_length h2
          have hh : LinS D b.length b2.length { steps := 1, reserve := len + 1, copied := len } := by
            simp only [LinS]; omega
          have ih2 := ih b2
          simp only
          generalize decRawItemsT k b2 = r at ih2 ⊢
          obtain ⟨r1, r2⟩ := r
          cases r1 with
          | none => exact hh.fail ih2
          | some x => obtain ⟨xs, b3⟩ := x; exact hh.seq ih2

theorem lin_fixed (D tc sz : Nat) (p : Bytes) (hD1 : 1 ≤ D) : LinR D p.length (decFixedT tc sz p).1 (decFixedT tc sz p).2 := by
  unfold decFixedT decFixed
  by_cases h1 : p.length / sz = 1
  · rw [if_pos h1, if_pos h1]
    have hsz : 0 < sz ∧ sz ≤ p.length := by
      rcases Nat.eq_zero_or_pos sz with h0 | h0
      · subst h0; simp at h1
      · refine ⟨h0, ?_⟩
        rcases Nat.lt_or_ge p.length sz with hlt | hge
        · rw [Nat.div_eq_of_lt hlt] at h1; omega
        · exact hge
    simp only [LinR, LinS, List.length_drop]
    omega
  · rw [if_neg h1, if_neg h1]
    by_cases h2 : p.length % sz ≠ 0
    · rw [if_pos h2, if_pos h2]; simp [LinR, LinF]
    · rw [if_neg h2, if_neg h2]
      have := Nat.div_le_self p.length sz
      simp only [LinR, LinS, List.length_nil]
      omega

structure LinAt (cap : Option Nat) (mx D fuel : Nat) : Prop where
  msg : ∀ (lvl : Nat) (b : Bytes), lvl ≤ D → LinR D b.length (decMsgT cap mx fuel lvl b).1 (decMsgT cap mx fuel lvl b).2
  fields : ∀ (lvl k : Nat) (b : Bytes) (acc : List (Bytes × Field)) (c : Nat), lvl + 1 ≤ D →
    LinR D b.length (decFieldsT cap mx fuel lvl k b acc c).1 (decFieldsT cap mx fuel lvl k b acc c).2
  payload : ∀ (lvl tc : Nat) (p : Bytes), lvl + 1 ≤ D →
    LinR D p.length (decPayloadT cap mx fuel lvl tc p).1 (decPayloadT cap mx fuel lvl tc p).2
  items : ∀ (lvl : Nat) (b : Bytes), lvl + 1 ≤ D →
    LinI D b.length (decMsgItemsT cap mx fuel lvl b).1 (decMsgItemsT cap mx fuel lvl b).2

theorem lin_payload (cap : Option Nat) (mx D fuel : Nat)
    (hm : ∀ (lvl : Nat) (b : Bytes), lvl ≤ D → LinR D b.length (decMsgT cap mx fuel lvl b).1 (decMsgT cap mx fuel lvl b).2)
    (hi : ∀ (lvl : Nat) (b : Bytes), lvl + 1 ≤ D →
      LinI D b.length (decMsgItemsT cap mx fuel lvl b).1 (decMsgItemsT cap mx fuel lvl b).2) :
    ∀ (lvl tc : Nat) (p : Bytes), lvl + 1 ≤ D →
      LinR D p.length (decPayloadT cap mx fuel lvl tc p).1 (decPayloadT cap mx fuel lvl tc p).2 := by
  intro lvl tc p hlvl
  refine decPayloadT_cases (motive := fun X _ => LinR D p.length X.1 X.2) cap mx fuel lvl tc p
    (lin_fixed D tc _ p (by omega)) (LinF_early D _) ?_ ?_ ?_ ?_ ?_ ?_
  · simp only [LinR, LinS, List.length_nil]; omega
  · intro h4 hlen
    have hh : LinS D p.length (List.drop 4 p).length { reserve := 1, window := leVal (List.take 4 p) } := by
      simp only [LinS, List.length_drop]; omega
    have ih2 := hm (lvl + 1) (List.drop 4 p) hlvl
    generalize decMsgT cap mx fuel (lvl + 1) (List.drop 4 p) = r at ih2 ⊢
    obtain ⟨r1, r2⟩ := r
    cases r1 with
    | none => exact hh.fail ih2
    | some x =>
      obtain ⟨m, rest⟩ := x
      have := hh.seq ih2
      simp only [LinR, LinS, List.length_nil] at this ⊢
      omega
  · have ih2 := hi lvl p hlvl
    generalize decMsgItemsT cap mx fuel lvl p = r at ih2 ⊢
    obtain ⟨r1, r2⟩ := r
    cases r1 with
    | none => exact ih2
    | some x => exact ih2
  · -- the count reservation is covered by the length word each item has (`StrR`)
    intro cnt q l3 hg
    have hc : (if cnt = 1 then 0 else cnt) ≤ cnt ∧ 4 * (if cnt = 1 then 0 else cnt) ≤ q.length := by
      by_cases h6 : cnt = 1
      · rw [if_pos h6]; omega
      · rw [if_neg h6]; omega
    generalize (if cnt = 1 then 0 else cnt) = c0 at hc ⊢
    have ih2 := lin_str cnt q
    generalize decStrItemsT cnt q = r at ih2 ⊢
    obtain ⟨r1, r2⟩ := r
    cases r1 with
    | none => simp only [StrR, LinR, LinF, Tally.add_def] at ih2 ⊢; omega
    | some x => simp only [StrR, LinR, LinS, Tally.add_def] at ih2 ⊢; omega
  · intro q l6
    simp only [LinR, LinS, List.length_nil]; omega
  · intro cnt q l3
    have ih2 := lin_raw D (by omega) cnt q
    generalize decRawItemsT cnt q = r at ih2 ⊢
    obtain ⟨r1, r2⟩ := r
    cases r1 with
    | none => exact LinF.mono ih2 (by omega)
    | some x =>
      simp only [LinR, LinS] at ih2 ⊢
      omega

/-- behind an entry's header (paid by the header bytes: `hh`) the payload reader runs on a view of what is left, and the
    remaining entries on what the view left plus what lies behind it -/
theorem lin_entryRest (cap : Option Nat) (mx D fuel : Nat) (ih : LinAt cap mx D fuel) (lvl k : Nat) (hlvl : lvl + 1 ≤ D)
    (hdr : Tally) (b4 : Bytes) (el : Nat) (nm : Bytes) (acc : List (Bytes × Field)) (tc c' inp : Nat)
    (hh : LinS D inp b4.length hdr) :
    LinR D inp (entryRestT cap mx fuel lvl k hdr (b4.take el) (b4.drop el) nm acc tc c').1
      (entryRestT cap mx fuel lvl k hdr (b4.take el) (b4.drop el) nm acc tc c').2 := by
  unfold entryRestT
  have ih2 := ih.payload lvl tc (b4.take el) hlvl
  generalize decPayloadT cap mx fuel lvl tc (b4.take el) = r at ih2 ⊢
  obtain ⟨r1, r2⟩ := r
  cases r1 with
  | none => exact hh.fail (LinF.mono ih2 (length_limited b4 [] el).2)
  | some x =>
    obtain ⟨f, rest⟩ := x
    obtain ⟨e3, hv⟩ := length_limited b4 rest el
    have ih3 := ih.fields lvl k (rest ++ b4.drop el) (upsertField nm f acc) c' hlvl
    rw [e3] at ih3
    simp only
    generalize decFieldsT cap mx fuel lvl k (rest ++ b4.drop el) (upsertField nm f acc) c' = r' at ih3 ⊢
    obtain ⟨r1', r2'⟩ := r'
    cases r1' with
    | none => exact (hh.seq (LinS.frame ih2 hv)).fail ih3
    | some y => exact (hh.seq (LinS.frame ih2 hv)).seq ih3

theorem linAt (cap : Option Nat) (mx D : Nat) (hD : mx + 1 ≤ D) (fuel : Nat) : LinAt cap mx D fuel := by
  induction fuel using Nat.strongRecOn with
  | ind fuel ih =>
    have hm : ∀ (lvl : Nat) (b : Bytes), lvl ≤ D →
        LinR D b.length (decMsgT cap mx fuel lvl b).1 (decMsgT cap mx fuel lvl b).2 := by
      intro lvl b hlvl
      refine decMsgT_cases (motive := fun X _ => LinR D b.length X.1 X.2) cap mx fuel lvl b (LinF_early D _)
        (LinF_early D _) ?_
      intro fuel' what n b3 hf hl hb
      have hh : LinS D b.length b3.length { steps := 1, depth := lvl } := by
        simp only [LinS]; omega
      have ih2 := (ih fuel' (by omega)).fields lvl n b3 [] (presize cap n) (by omega)
      generalize decFieldsT cap mx fuel' lvl n b3 [] (presize cap n) = r at ih2 ⊢
      obtain ⟨r1, r2⟩ := r
      cases r1 with
      | none => exact hh.fail ih2
      | some x => obtain ⟨fs, b4⟩ := x; exact hh.seq ih2
    have hi : ∀ (lvl : Nat) (b : Bytes), lvl + 1 ≤ D →
        LinI D b.length (decMsgItemsT cap mx fuel lvl b).1 (decMsgItemsT cap mx fuel lvl b).2 := by
      intro lvl b hlvl
      refine decMsgItemsT_cases (motive := fun X _ => LinI D b.length X.1 X.2) cap mx fuel lvl b ?_ (LinF_early D _)
        (LinF_early D _) ?_
      · simp only [LinI, LinS]; omega
      intro fuel' len b1 hf l1 hlen
      unfold itemRestT
      have hv := (length_limited b1 [] len).2
      have ih2 := (ih fuel' (by omega)).msg (lvl + 1) (List.take len b1) hlvl
      generalize decMsgT cap mx fuel' (lvl + 1) (List.take len b1) = r at ih2 ⊢
      obtain ⟨r1, r2⟩ := r
      cases r1 with
      | none =>
        -- the Message was obtained from the pool before its parse failed
        have hh : LinS D b.length b1.length { steps := 1, reserve := 1, window := len } := by
          simp only [LinS]; omega
        exact hh.fail (LinF.mono ih2 hv)
      | some x =>
        obtain ⟨m, rest⟩ := x
        simp only
        -- the Message from the pool and its `AddDataItem` are paid by the 4 bytes of the length word
        have hh : LinS D b.length b1.length { steps := 1, reserve := 2, window := len } := by
          simp only [LinS]; omega
        have ih3 := (ih fuel' (by omega)).items lvl (rest ++ List.drop len b1) hlvl
        rw [(length_limited b1 rest len).1] at ih3
        generalize decMsgItemsT cap mx fuel' lvl (rest ++ List.drop len b1) = r' at ih3 ⊢
        obtain ⟨r1', r2'⟩ := r'
        cases r1' with
        | none => exact (hh.seq (LinS.frame ih2 hv)).fail ih3
        | some ms => exact (hh.seq (LinS.frame ih2 hv)).seq ih3
    refine ⟨hm, ?_, lin_payload cap mx D fuel hm hi, hi⟩
    intro lvl k b acc c hlvl
    refine decFieldsT_cases (motive := fun X _ => LinR D b.length X.1 X.2) cap mx fuel lvl k b acc c ?_ ?_ ?_
    · simp only [LinR, LinS]; omega
    · intro t _ h1 h2 h3 h4 h5
      simp only [LinR, LinF]; omega
    · intro fuel' k' nm np tc el b4 p1 c' hf hb hnm _
      refine lin_entryRest cap mx D fuel' (ih fuel' (by omega)) lvl k' hlvl _ b4 el nm acc tc c' b.length ?_
      simp only [LinS, List.length_take]; omega

end Muscle.Wire
