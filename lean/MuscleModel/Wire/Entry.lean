import MuscleModel.Wire.Canon
import MuscleModel.Base.Adds

/-! Every function on a field list (`encFields`, `tripFields`, `wfFields`, `nodesFields`, …) treats the list entry by
entry and skips the non-flattenable entries.  This file says so (`…_cons`) for the functions of `Wire/Msg.lean` and
`Wire/Canon.lean`, in terms of what the function does to ONE field, and gives the induction principle over a Message, its
field list and the sub-Message lists inside it.  With the two, a statement about all Messages is proved by a plain list
induction plus one lemma per field. -/

namespace Muscle.Wire
open Muscle Muscle.Gen

namespace Field

def subMsgs : Field → List Msg
  | .msgs _ xs => xs
  | _ => []

end Field

/-- `tripFields` on one flattenable field -/
def tripField : Field → Field
  | .fixed tc _ xs => .fixed tc (repOf xs.length) xs
  | .strs _ xs => .strs (repOf xs.length) xs
  | .raws tc _ xs => .raws tc (repOf xs.length) xs
  | .msgs _ xs => .msgs (repOf xs.length) (tripMsgs xs)
  | .opaque tc n => .opaque tc n

/-- what `wfFields` asks of one field, apart from its name -/
def wfField : Field → Prop
  | .fixed tc rp xs =>
      wireItemSize tc ≠ 0 ∧ tc < U32 ∧ (∀ x ∈ xs, x.length = wireItemSize tc) ∧
      (tc = tcBool → ∀ x ∈ xs, normBool x = x) ∧ (rp = .inl → xs.length = 1) ∧ xs.length * wireItemSize tc < U32
  | .strs rp xs =>
      (∀ s ∈ xs, nulFree s ∧ s.length + 1 < U32) ∧ (rp = .inl → xs.length = 1) ∧ (encStrs .arr xs).length < U32
  | .raws tc rp xs =>
      isRawTc tc ∧ (∀ b ∈ xs, b.length < U32) ∧ (rp = .inl → xs.length = 1) ∧ (encRaws .arr xs).length < U32
  | .msgs rp xs => wfMsgs xs ∧ (rp = .inl → xs.length = 1) ∧ (encMsgItems xs).length < U32
  | .opaque _ _ => True

/-- what the `…FlattenedSize` functions take for granted: an inline field holds exactly one item, and the items of a
    fixed-size field have their type's size -/
def Field.Sized : Field → Prop
  | .fixed tc rp xs => (rp = .inl → xs.length = 1) ∧ ∀ x ∈ xs, x.length = wireItemSize tc
  | .strs rp xs => rp = .inl → xs.length = 1
  | .raws _ rp xs => rp = .inl → xs.length = 1
  | .msgs rp xs => rp = .inl → xs.length = 1
  | .opaque _ _ => True

theorem wfField_sized {f : Field} (h : wfField f) : f.Sized := by
  cases f with
  | fixed tc rp xs => exact ⟨h.2.2.2.2.1, h.2.2.1⟩
  | strs rp xs => exact h.2.1
  | raws tc rp xs => exact h.2.2.1
  | msgs rp xs => exact h.2.1
  | «opaque» tc k => trivial

theorem Field.Sized.one {f : Field} (h : f.Sized) : f.rep = .inl → f.count = 1 := by
  cases f with
  | fixed tc rp xs => exact h.1
  | «opaque» tc k =>
    intro e
    by_cases h1 : k = 1
    · exact h1
    · simp [Field.rep, h1] at e
  | _ => exact h

theorem isRawTc_lt {tc : Nat} (h : isRawTc tc) : tc < U32 := h.2.2.2.2.2

theorem wfMsg_fields {w : Nat} {fs : List (Bytes × Field)} (h : wfMsg (.mk w fs)) : wfFields fs := h.2.2

theorem wfMsg_what {w : Nat} {fs : List (Bytes × Field)} (h : wfMsg (.mk w fs)) : w < U32 := h.1

theorem wfMsg_count {w : Nat} {fs : List (Bytes × Field)} (h : wfMsg (.mk w fs)) : countFlat fs < U32 := h.2.1

theorem wfMsgs_len {m : Msg} {r : List Msg} (h : wfMsgs (m :: r)) : (encMsg m).length < U32 := h.1

theorem wfMsgs_head {m : Msg} {r : List Msg} (h : wfMsgs (m :: r)) : wfMsg m := h.2.1

theorem wfMsgs_tail {m : Msg} {r : List Msg} (h : wfMsgs (m :: r)) : wfMsgs r := h.2.2

theorem wfMsgs_mem : ∀ (ms : List Msg), wfMsgs ms → ∀ m ∈ ms, (encMsg m).length < U32 ∧ wfMsg m
  | [], _, m, hm => nomatch hm
  | a :: t, hw, m, hm => by
    rcases List.mem_cons.1 hm with rfl | hm'
    · exact ⟨wfMsgs_len hw, wfMsgs_head hw⟩
    · exact wfMsgs_mem t (wfMsgs_tail hw) m hm'

theorem repOf_inl {n : Nat} (h : repOf n = .inl) : n = 1 := by
  unfold repOf at h
  by_cases h1 : n = 1
  · exact h1
  · rw [if_neg h1] at h; cases h

theorem tripField_flattenable (f : Field) : (tripField f).flattenable = f.flattenable := by
  cases f <;> rfl

theorem tripField_typeCode (f : Field) : (tripField f).typeCode = f.typeCode := by
  cases f <;> rfl

theorem tripMsgs_length : ∀ (l : List Msg), (tripMsgs l).length = l.length
  | [] => by simp [tripMsgs]
  | _ :: t => by simp [tripMsgs, tripMsgs_length t]

/-- payload size of one field, as `MessageField::FlattenedSize` computes it -/
def sizePayload : Field → Nat
  | .fixed tc r xs => sizeFixed tc r xs
  | .strs r xs => sizeStrs r xs
  | .raws _ r xs => sizeRaws r xs
  | .msgs r xs => sizeMsgsF r xs
  | .opaque _ _ => 0

/-- bytes one entry contributes to `Message::FlattenedSize`: name length word, name + NUL, type code,
    payload length word, payload; nothing for a non-flattenable (pointer/tag) field -/
def sizeEntry (n : Bytes) (f : Field) : Nat :=
  if f.flattenable then 4 + (n.length + 1) + 4 + 4 + sizePayload f else 0

theorem sizeFields_cons (n : Bytes) (f : Field) (r : List (Bytes × Field)) :
    sizeFields ((n, f) :: r) = sizeEntry n f + sizeFields r := by
  cases f <;> simp [sizeFields, sizeEntry, sizePayload, Field.flattenable]

theorem adds_sizeFields : Conc.Adds (fun e => sizeEntry e.1 e.2) sizeFields :=
  ⟨by simp [sizeFields], fun e r => sizeFields_cons e.1 e.2 r⟩

theorem wfFields_cons (n : Bytes) (f : Field) (r : List (Bytes × Field)) :
    wfFields ((n, f) :: r) ↔
      (f.flattenable = true → nulFree n ∧ n.length + 1 < U32 ∧ n ∉ flatNames r ∧ wfField f) ∧ wfFields r := by
  cases f <;> simp [wfFields, wfField, Field.flattenable, and_assoc]

theorem wfFields_field {n : Bytes} {f : Field} {r : List (Bytes × Field)} (h : wfFields ((n, f) :: r))
    (hfl : f.flattenable = true) : wfField f :=
  (((wfFields_cons n f r).1 h).1 hfl).2.2.2

theorem wfFields_tail {n : Bytes} {f : Field} {r : List (Bytes × Field)} (h : wfFields ((n, f) :: r)) : wfFields r :=
  ((wfFields_cons n f r).1 h).2

theorem wfField_subMsgs {f : Field} (h : wfField f) : wfMsgs f.subMsgs := by
  cases f <;> simp [Field.subMsgs, wfMsgs]
  exact h.1

theorem countFlat_cons (n : Bytes) (f : Field) (r : List (Bytes × Field)) :
    countFlat ((n, f) :: r) = (if f.flattenable = true then 1 else 0) + countFlat r := by
  cases f <;> simp [countFlat, Field.flattenable]

theorem flatNames_cons (n : Bytes) (f : Field) (r : List (Bytes × Field)) :
    flatNames ((n, f) :: r) = if f.flattenable = true then n :: flatNames r else flatNames r := by
  cases f <;> simp [flatNames, Field.flattenable]

/-- layout of one entry: `le32 (name length + 1)`, the name, a NUL, the type code, the payload length, the payload -/
theorem encFields_cons (n : Bytes) (f : Field) (r : List (Bytes × Field)) :
    encFields ((n, f) :: r) =
      if f.flattenable = true then
        le32 (n.length + 1) ++ (n ++ (0 :: (le32 f.typeCode ++ (le32 (encPayload f).length ++ (encPayload f ++ encFields r)))))
      else encFields r := by
  cases f <;> simp [encFields, encPayload, Field.typeCode, Field.flattenable]

theorem tripFields_cons (n : Bytes) (f : Field) (r : List (Bytes × Field)) :
    tripFields ((n, f) :: r) = if f.flattenable = true then (n, tripField f) :: tripFields r else tripFields r := by
  cases f <;> simp [tripFields, tripField, Field.flattenable]

theorem nodesFields_cons (n : Bytes) (f : Field) (r : List (Bytes × Field)) :
    nodesFields ((n, f) :: r) = (if f.flattenable = true then 1 else 0) + nodesMsgs f.subMsgs + nodesFields r := by
  cases f <;> simp [nodesFields, nodesMsgs, Field.subMsgs, Field.flattenable]

theorem depthFields_cons (n : Bytes) (f : Field) (r : List (Bytes × Field)) :
    depthFields ((n, f) :: r) = max (depthMsgs f.subMsgs) (depthFields r) := by
  cases f <;> simp [depthFields, depthMsgs, Field.subMsgs]

namespace Msg

/-- Induction over a Message (`P`), its field list (`Q`) and the sub-Message lists of its fields (`R`).  Built from
    `Msg.rec`, whose five motives are: a Message (`P`), a field (`P` of each of its sub-Messages and `R` of their list), a field
    list (`Q`), a sub-Message list (the same pair), an entry (that of its field).  The five arguments after `mk` answer the
    constructors of `Field` in the order of their declaration: only `msgs` has sub-Messages, the others get `leaf`. -/
theorem induct {P : Msg → Prop} {Q : List (Bytes × Field) → Prop} {R : List Msg → Prop}
    (mk : ∀ w fs, Q fs → P (.mk w fs))
    (fnil : Q [])
    (fcons : ∀ n f r, (∀ m ∈ f.subMsgs, P m) → R f.subMsgs → Q r → Q ((n, f) :: r))
    (mnil : R [])
    (mcons : ∀ m r, P m → R r → R (m :: r)) :
    (∀ m, P m) ∧ (∀ fs, Q fs) ∧ (∀ ms, R ms) := by
  have leaf : (∀ m ∈ ([] : List Msg), P m) ∧ R [] := ⟨fun _ h => absurd h List.not_mem_nil, mnil⟩
  have hP : ∀ m, P m := fun m =>
    Msg.rec (motive_1 := P) (motive_2 := fun f => (∀ m ∈ f.subMsgs, P m) ∧ R f.subMsgs) (motive_3 := Q)
      (motive_4 := fun ms => (∀ m ∈ ms, P m) ∧ R ms)
      (motive_5 := fun e => (∀ m ∈ e.2.subMsgs, P m) ∧ R e.2.subMsgs)
      mk
      (fun _ _ _ => leaf) (fun _ _ => leaf) (fun _ _ _ => leaf) (fun _ _ h => h) (fun _ _ => leaf)
      fnil (fun e r he hr => fcons e.1 e.2 r he.1 he.2 hr) leaf
      (fun m r hm hr => ⟨fun x hx => by
        rcases List.mem_cons.1 hx with rfl | hx
        · exact hm
        · exact hr.1 x hx, mcons m r hm hr.2⟩)
      (fun _ _ h => h) m
  have hR : ∀ ms, R ms := by
    intro ms
    induction ms with
    | nil => exact mnil
    | cons m r ih => exact mcons m r (hP m) ih
  refine ⟨hP, ?_, hR⟩
  intro fs
  induction fs with
  | nil => exact fnil
  | cons e r ih => exact fcons e.1 e.2 r (fun m _ => hP m) (hR _) ih

end Msg

end Muscle.Wire
