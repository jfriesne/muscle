import MuscleModel.Wire.Decode

/-! The field table of a Message as the parser builds it: `lookupField` and `upsertField` (`Wire/Decode.lean`) by their
equations, and what a lookup or a store does to an appended or a stored entry. -/

namespace Muscle.Wire
open Muscle

theorem lookupField_nil (k : Bytes) : lookupField k [] = none := rfl

theorem lookupField_cons_eq (k : Bytes) (f : Field) (r : List (Bytes × Field)) :
    lookupField k ((k, f) :: r) = some f := by
  rw [lookupField, if_pos rfl]

theorem lookupField_cons_ne (k k' : Bytes) (f : Field) (r : List (Bytes × Field)) (h : k' ≠ k) :
    lookupField k ((k', f) :: r) = lookupField k r := by
  rw [lookupField, if_neg h]

theorem upsertField_nil (k : Bytes) (f : Field) : upsertField k f [] = [(k, f)] := rfl

theorem upsertField_cons_eq (k : Bytes) (f g : Field) (r : List (Bytes × Field)) :
    upsertField k f ((k, g) :: r) = (k, f) :: r := by
  rw [upsertField, if_pos rfl]

theorem upsertField_cons_ne (k k' : Bytes) (f g : Field) (r : List (Bytes × Field)) (h : k' ≠ k) :
    upsertField k f ((k', g) :: r) = (k', g) :: upsertField k f r := by
  rw [upsertField, if_neg h]

theorem lookupField_append (k : Bytes) : ∀ (xs ys : List (Bytes × Field)),
    lookupField k (xs ++ ys) = (lookupField k xs).or (lookupField k ys)
  | [], ys => by rw [List.nil_append, lookupField_nil, Option.none_or]
  | (n, f) :: xs, ys => by
    rw [List.cons_append]
    by_cases h : n = k
    · rw [h, lookupField_cons_eq, lookupField_cons_eq, Option.some_or]
    · rw [lookupField_cons_ne _ _ _ _ h, lookupField_cons_ne _ _ _ _ h, lookupField_append k xs ys]

theorem lookupField_append_none (n n' : Bytes) (f : Field) (acc : List (Bytes × Field))
    (h : lookupField n acc = none) (hne : n' ≠ n) : lookupField n (acc ++ [(n', f)]) = none := by
  rw [lookupField_append, h, Option.none_or, lookupField_cons_ne _ _ _ _ hne, lookupField_nil]

theorem upsertField_new (n : Bytes) (f : Field) (acc : List (Bytes × Field))
    (h : lookupField n acc = none) : upsertField n f acc = acc ++ [(n, f)] := by
  induction acc with
  | nil => rfl
  | cons a t ih =>
    obtain ⟨an, af⟩ := a
    by_cases he : an = n
    · rw [he, lookupField_cons_eq] at h; cases h
    · rw [lookupField_cons_ne _ _ _ _ he] at h
      rw [upsertField_cons_ne _ _ _ _ _ he, ih h, List.cons_append]

/-- a repeated name re-uses its slot -/
theorem upsertField_length_old (nm : Bytes) (f : Field) : ∀ (acc : List (Bytes × Field)) (g : Field),
    lookupField nm acc = some g → (upsertField nm f acc).length = acc.length := by
  intro acc
  induction acc with
  | nil => intro g h; rw [lookupField_nil] at h; cases h
  | cons a t ih =>
    obtain ⟨n, g'⟩ := a
    intro g h
    by_cases he : n = nm
    · rw [he, upsertField_cons_eq]; simp
    · rw [lookupField_cons_ne _ _ _ _ he] at h
      rw [upsertField_cons_ne _ _ _ _ _ he]; simp [ih g h]

theorem mem_upsertField {nm : Bytes} {f : Field} {e : Bytes × Field} : ∀ {acc : List (Bytes × Field)},
    e ∈ upsertField nm f acc → e = (nm, f) ∨ e ∈ acc
  | [], h => .inl (List.mem_singleton.1 h)
  | (n, g) :: t, h => by
    by_cases he : n = nm
    · rw [he, upsertField_cons_eq] at h
      rcases List.mem_cons.1 h with rfl | h
      · exact .inl rfl
      · exact .inr (List.mem_cons_of_mem _ h)
    · rw [upsertField_cons_ne _ _ _ _ _ he] at h
      rcases List.mem_cons.1 h with rfl | h
      · exact .inr List.mem_cons_self
      · exact (mem_upsertField h).imp id (List.mem_cons_of_mem _)

end Muscle.Wire
