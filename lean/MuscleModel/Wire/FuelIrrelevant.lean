import MuscleModel.Wire.ReadPosition

/-! Fuel is irrelevant.  Every recursive call of the mutual block is made behind a header that consumed at least 4 bytes
(or, for `decPayload` → `decMsg`/`decMsgItems`, on no more bytes with the fuel unchanged), so any two fuels above the
input length give the same result. -/

namespace Muscle.Wire
open Muscle Muscle.Gen

structure FuelAt (mx f1 : Nat) : Prop where
  msg : ∀ (f2 lvl : Nat) (b : Bytes), b.length < f1 → b.length < f2 → decMsg mx f1 lvl b = decMsg mx f2 lvl b
  fields : ∀ (f2 lvl k : Nat) (b : Bytes) (acc : List (Bytes × Field)), b.length < f1 → b.length < f2 →
    decFields mx f1 lvl k b acc = decFields mx f2 lvl k b acc
  payload : ∀ (f2 lvl tc : Nat) (p : Bytes), p.length < f1 → p.length < f2 →
    decPayload mx f1 lvl tc p = decPayload mx f2 lvl tc p
  items : ∀ (f2 lvl : Nat) (b : Bytes), b.length < f1 → b.length < f2 → decMsgItems mx f1 lvl b = decMsgItems mx f2 lvl b

theorem fuelAt (mx : Nat) : ∀ f1, FuelAt mx f1 := by
  intro f1
  induction f1 with
  | zero =>
    exact ⟨fun _ _ _ h => by omega, fun _ _ _ _ _ h => by omega, fun _ _ _ _ h => by omega, fun _ _ _ h => by omega⟩
  | succ f1 ih =>
    have hm : ∀ (f2 lvl : Nat) (b : Bytes), b.length < f1 + 1 → b.length < f2 →
        decMsg mx (f1 + 1) lvl b = decMsg mx f2 lvl b := by
      intro f2 lvl b h1 h2
      obtain ⟨f2, rfl⟩ : ∃ g, f2 = g + 1 := ⟨f2 - 1, by omega⟩
      rw [decMsg_succ, decMsg_succ]
      cases hh : msgHeader mx lvl b with
      | none => rfl
      | some v =>
        obtain ⟨what, n, b3⟩ := v
        have := msgHeader_some hh
        simp only [ih.fields f2 lvl n b3 [] (by omega) (by omega)]
    have hi : ∀ (f2 lvl : Nat) (b : Bytes), b.length < f1 + 1 → b.length < f2 →
        decMsgItems mx (f1 + 1) lvl b = decMsgItems mx f2 lvl b := by
      intro f2 lvl b h1 h2
      obtain ⟨f2, rfl⟩ : ∃ g, f2 = g + 1 := ⟨f2 - 1, by omega⟩
      by_cases hb : b = []
      · subst hb; rw [decMsgItems_nil, decMsgItems_nil]
      rw [decMsgItems_succ mx f1 lvl b hb, decMsgItems_succ mx f2 lvl b hb]
      cases hh : itemHeader b with
      | none => rfl
      | some v =>
        obtain ⟨len, b1⟩ := v
        have := itemHeader_some hh
        have lt : (b1.take len).length ≤ b1.length := by rw [List.length_take]; omega
        simp only [ih.msg f2 (lvl + 1) (b1.take len) (by omega) (by omega)]
        cases hd : decMsg mx f2 (lvl + 1) (b1.take len) with
        | none => rfl
        | some v =>
          obtain ⟨m, rest⟩ := v
          have l2 := (posAt mx f2).msg _ _ _ _ hd
          have l3 : (rest ++ b1.drop len).length < b1.length := by
            simp only [List.length_append, List.length_drop, List.length_take] at l2 ⊢
            omega
          simp only [ih.items f2 lvl (rest ++ b1.drop len) (by omega) (by omega)]
    refine ⟨hm, ?_, ?_, hi⟩
    · intro f2 lvl k b acc h1 h2
      obtain ⟨f2, rfl⟩ : ∃ g, f2 = g + 1 := ⟨f2 - 1, by omega⟩
      cases k with
      | zero => rw [decFields_zero, decFields_zero]
      | succ k =>
        rw [decFields_succ, decFields_succ]
        cases hh : entryHeader acc b with
        | none => rfl
        | some v =>
          obtain ⟨nm, tc, el, b4⟩ := v
          have := entryHeader_some hh
          have lt : (b4.take el).length ≤ b4.length := by rw [List.length_take]; omega
          simp only [ih.payload f2 lvl tc (b4.take el) (by omega) (by omega)]
          cases hd : decPayload mx f2 lvl tc (b4.take el) with
          | none => rfl
          | some v =>
            obtain ⟨f, rest⟩ := v
            have l6 := (posAt mx f2).payload _ _ _ _ _ hd
            have l7 : (rest ++ b4.drop el).length ≤ b4.length := by
              simp only [List.length_append, List.length_drop, List.length_take] at l6 ⊢
              omega
            exact ih.fields f2 lvl k _ _ (by omega) (by omega)
    · intro f2 lvl tc p h1 h2
      by_cases hk : tc = tcMessage ∧ 4 ≤ p.length
      · obtain ⟨rfl, h4⟩ := hk
        have : (p.drop 4).length ≤ p.length := by rw [List.length_drop]; omega
        rw [decPayload_msg mx _ lvl p h4, decPayload_msg mx _ lvl p h4, hm f2 (lvl + 1) (p.drop 4) (by omega) (by omega),
          hi f2 lvl p h1 h2]
      · exact decPayload_leaf mx _ lvl mx _ lvl tc p hk

end Muscle.Wire
