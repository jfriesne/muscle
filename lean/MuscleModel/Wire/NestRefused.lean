import MuscleModel.Wire.RoundTrip

/-! The encoder family `nestMsg k m` (`m` wrapped in `k` one-field Messages) and the fact that the
parser refuses it as soon as its innermost frame would sit above the nesting limit. -/

namespace Muscle.Wire
open Muscle Muscle.Gen

/-- `m` inside `k` Messages, each holding it as the single item of the Message field "a" -/
def nestMsg : Nat → Msg → Msg
  | 0, m => m
  | k+1, m => .mk 0 [([0x61], .msgs .inl [nestMsg k m])]

/-- `MessageField::Unflatten` on a view holding exactly one sub-Message whose parse fails -/
theorem decPayload_submsg_fails (mx fuel lvl : Nat) (E : Bytes) (hL : E.length < 4294967296)
    (hrec : decMsg mx fuel (lvl + 1) E = none) :
    decPayload mx fuel lvl tcMessage (le32 E.length ++ E) = none := by
  have e4 : leVal (List.take 4 (le32 E.length ++ E)) = (le32 E.length ++ E).length - 4 := by
    rw [List.take_left' (le32_length _), leVal_le32 _ hL]; simp
  rw [decPayload_msg mx fuel lvl _ (by simp), if_pos e4, List.drop_left' (le32_length _), hrec]

theorem nestMsg_refused (mx : Nat) (m : Msg) : ∀ (k fuel lvl : Nat) (rest : Bytes),
    mx < lvl + k → (encMsg (nestMsg k m)).length < 4294967296 →
    decMsg mx fuel lvl (encMsg (nestMsg k m) ++ rest) = none := by
  intro k
  induction k with
  | zero => intro fuel lvl rest h _; exact decMsg_above_limit mx fuel lvl _ (by omega)
  | succ k ih =>
    intro fuel lvl rest h hlen
    by_cases hl : mx < lvl
    · exact decMsg_above_limit mx fuel lvl _ hl
    cases fuel with
    | zero => exact decMsg_out mx lvl _
    | succ fuel =>
      -- one wrapper: the header, then the single entry "a" whose payload is the inner encoding behind its length word
      have hP : encPayload (.msgs .inl [nestMsg k m]) = le32 (encMsg (nestMsg k m)).length ++ encMsg (nestMsg k m) := by
        simp [encPayload, encMsgsF]
      have h12 := encMsg_length_ge (nestMsg k m)
      have hfl : (Field.msgs .inl [nestMsg k m]).flattenable = true := rfl
      rw [nestMsg, encMsg, countFlat_cons, encFields_cons, if_pos hfl, if_pos hfl] at hlen ⊢
      rw [hP] at hlen
      simp only [countFlat, encFields, Nat.add_zero, List.append_nil] at hlen ⊢
      simp only [List.length_append, List.length_cons, le32_length] at hlen
      rw [List.append_assoc, List.append_assoc, List.append_assoc, decMsg_succ,
        msgHeader_le32 mx lvl 0 1 _ (by omega) (by decide) (by decide)
          (by simp only [List.length_append, List.length_cons, le32_length]; omega)]
      cases fuel with
      | zero => simp [decFields]
      | succ fuel =>
        have hrec := ih fuel (lvl + 1) [] (by omega) (by omega)
        rw [List.append_nil] at hrec
        have he := decFields_enc_entry mx fuel lvl 0 [0x61] (Field.msgs .inl [nestMsg k m]).typeCode
          (encPayload (.msgs .inl [nestMsg k m])) rest [] (by simp [nulFree]) (by decide) (show tcMessage < U32 by decide)
          (by rw [hP, List.length_append, le32_length]; show _ < 4294967296; omega) rfl
        simp only [List.append_assoc, List.cons_append, Nat.zero_add] at he ⊢
        rw [he, hP, show (Field.msgs .inl [nestMsg k m]).typeCode = tcMessage from rfl,
          decPayload_submsg_fails mx fuel lvl _ (by omega) hrec]

end Muscle.Wire
