import MuscleModel.Wire.CostLinear
import MuscleModel.Wire.ReadPosition

/-! The field-table slots requested by `Message::Unflatten` (`Tally.table`) are linear in the input,
with numeral constants that do not depend on the nesting limit — PROVIDED the table is presized for a bounded number of
entries (`presize cap n ≤ 36` for every declared count `n`; true for `cap = some c`, `c ≤ 36`).

Accounting (3 slots per input byte): a frame's 12 header bytes pay for the first allocation of its table (≤ 36 slots);
every entry's 12 own header bytes pay for the amortised cost of doubling (4 slots per stored field: a table of capacity
`c` holding `m` fields has requested `2·(c − c₀)` slots by doubling, and `c ≤ max c₀ (2m)`); payload bytes pay for the
frames nested in them.  Invariant of the entry loop in state (capacity `c`, `m` fields stored), reading `inp` bytes:
`table + 2c (+ 3·rest) ≤ max (2c) (4m) + 3·inp`, plus `c` for the pending first allocation while `m = 0`. -/

namespace Muscle.Wire
open Muscle Muscle.Gen

/-- 3 slots per byte consumed, for Readers that return the unread rest -/
def TabR {α : Type} (inp : Nat) (r : Option (α × Bytes)) (t : Tally) : Prop :=
  match r with
  | some x => t.table + 3 * x.2.length ≤ 3 * inp
  | none => t.table ≤ 3 * inp

set_option linter.unusedVariables false in
/-- the same for the Item loop of sub-Messages, which consumes its whole view (the result is not looked at) -/
def TabI {α : Type} (inp : Nat) (r : Option α) (t : Tally) : Prop := t.table ≤ 3 * inp

/-- the entry loop in table state (capacity `c`, `m` fields stored) -/
def TabF {α : Type} (inp c m : Nat) (r : Option (α × Bytes)) (t : Tally) : Prop :=
  match r with
  | some x => (m = 0 → t.table + 3 * x.2.length ≤ c + 3 * inp) ∧
      (m ≠ 0 → t.table + 2 * c + 3 * x.2.length ≤ max (2 * c) (4 * m) + 3 * inp)
  | none => (m = 0 → t.table ≤ c + 3 * inp) ∧ (m ≠ 0 → t.table + 2 * c ≤ max (2 * c) (4 * m) + 3 * inp)

namespace TabR

theorem le {α : Type} {inp : Nat} {r : Option (α × Bytes)} {t : Tally} (h : TabR inp r t) : t.table ≤ 3 * inp := by
  cases r with
  | none => exact h
  | some x => exact Nat.le_trans (Nat.le_add_right _ _) h

end TabR

theorem decStrItemsT_table : ∀ (k : Nat) (b : Bytes), (decStrItemsT k b).2.table = 0 := by
  intro k
  induction k with
  | zero => intro b; simp [decStrItemsT]
  | succ k ih =>
    intro b
    simp only [decStrItemsT]
    cases h1 : rd32 b with
    | none => rfl
    | some v1 =>
      obtain ⟨len, b1⟩ := v1
      simp only
      cases h2 : takeN len b1 with
      | none => rfl
      | some v2 =>
        obtain ⟨p, b2⟩ := v2
        simp only
        cases h3 : cstr p with
        | none => rfl
        | some s => simp [Tally.add_def, ih]

theorem decRawItemsT_table : ∀ (k : Nat) (b : Bytes), (decRawItemsT k b).2.table = 0 := by
  intro k
  induction k with
  | zero => intro b; simp [decRawItemsT]
  | succ k ih =>
    intro b
    simp only [decRawItemsT]
    cases h1 : rd32 b with
    | none => rfl
    | some v1 =>
      obtain ⟨len, b1⟩ := v1
      simp only
      split
      · rfl
      · cases h2 : takeN len b1 with
        | none => rfl
        | some v2 => simp [Tally.add_def, ih]

theorem decFixedT_table (tc sz : Nat) (p : Bytes) : (decFixedT tc sz p).2.table = 0 := by
  unfold decFixedT
  simp only
  split
  · rfl
  · split <;> rfl

theorem TabR_of_table_zero {α : Type} (inp : Nat) (r : Option (α × Bytes)) (t : Tally) (h0 : t.table = 0)
    (hp : ∀ x, r = some x → x.2.length ≤ inp) : TabR inp r t := by
  cases r with
  | none => simp [TabR, h0]
  | some x =>
    have := hp x rfl
    simp only [TabR, h0]; omega

/-- what the entry loop may still request without reading further, in table state (capacity `c`, `m` fields stored):
    the pending first allocation while the table is empty; afterwards what the stored fields have paid towards the
    doublings (4 slots each) beyond the present capacity -/
def tabPot (c m : Nat) : Nat := if m = 0 then c else max (2 * c) (4 * m) - 2 * c

theorem TabF_some {α : Type} (inp c m : Nat) (x : α × Bytes) (t : Tally) :
    TabF inp c m (some x) t ↔ t.table + 3 * x.2.length ≤ tabPot c m + 3 * inp := by
  unfold TabF tabPot
  by_cases hm : m = 0
  · simp only [hm, if_true, true_implies, ne_eq, not_true_eq_false, false_implies, and_true]
  · simp only [hm, if_false, false_implies, ne_eq, not_false_eq_true, true_implies, true_and]; omega

theorem TabF_none {α : Type} (inp c m : Nat) (t : Tally) :
    TabF inp c m (none : Option (α × Bytes)) t ↔ t.table ≤ tabPot c m + 3 * inp := by
  unfold TabF tabPot
  by_cases hm : m = 0
  · simp only [hm, if_true, true_implies, ne_eq, not_true_eq_false, false_implies, and_true]
  · simp only [hm, if_false, false_implies, ne_eq, not_false_eq_true, true_implies, true_and]; omega

/-- storing a new name costs what `putCharge` says; the 4 slots the entry pays keep the account balanced -/
theorem putCharge_pot (m c : Nat) : (putCharge m c).1 + tabPot (putCharge m c).2 (m + 1) ≤ tabPot c m + 4 := by
  by_cases h0 : m = 0
  · simp only [putCharge, tabPot, h0, if_true, Nat.add_one_ne_zero, if_false]; omega
  · by_cases h1 : m = c
    · subst h1; simp only [putCharge, tabPot, h0, if_false, if_true, Nat.add_one_ne_zero]; omega
    · simp only [putCharge, tabPot, h0, if_false, h1, Nat.add_one_ne_zero]; omega

theorem presize_some_le (c : Nat) (hc : c ≤ 36) (n : Nat) : presize (some c) n ≤ 36 := by
  have h7 : htDefaultCapacity = 7 := by decide
  simp only [presize, h7]
  split <;> omega

structure TabAt (cap : Option Nat) (mx fuel : Nat) : Prop where
  msg : ∀ (lvl : Nat) (b : Bytes), TabR b.length (decMsgT cap mx fuel lvl b).1 (decMsgT cap mx fuel lvl b).2
  fields : ∀ (lvl k : Nat) (b : Bytes) (acc : List (Bytes × Field)) (c : Nat),
    TabF b.length c acc.length (decFieldsT cap mx fuel lvl k b acc c).1 (decFieldsT cap mx fuel lvl k b acc c).2
  payload : ∀ (lvl tc : Nat) (p : Bytes), TabR p.length (decPayloadT cap mx fuel lvl tc p).1 (decPayloadT cap mx fuel lvl tc p).2
  items : ∀ (lvl : Nat) (b : Bytes), TabI b.length (decMsgItemsT cap mx fuel lvl b).1 (decMsgItemsT cap mx fuel lvl b).2

theorem tab_payload (cap : Option Nat) (mx fuel : Nat)
    (hm : ∀ (lvl : Nat) (b : Bytes), TabR b.length (decMsgT cap mx fuel lvl b).1 (decMsgT cap mx fuel lvl b).2)
    (hi : ∀ (lvl : Nat) (b : Bytes), TabI b.length (decMsgItemsT cap mx fuel lvl b).1 (decMsgItemsT cap mx fuel lvl b).2) :
    ∀ (lvl tc : Nat) (p : Bytes), TabR p.length (decPayloadT cap mx fuel lvl tc p).1 (decPayloadT cap mx fuel lvl tc p).2 := by
  intro lvl tc p
  refine decPayloadT_cases (motive := fun X _ => TabR p.length X.1 X.2) cap mx fuel lvl tc p
    (TabR_of_table_zero _ _ _ (decFixedT_table _ _ _) (fun x hx => decFixed_pos _ _ _ _ _ hx)) (Nat.zero_le _) ?_ ?_ ?_ ?_ ?_ ?_
  · simp [TabR]
  · intro _ _
    have ih2 := hm (lvl + 1) (List.drop 4 p)
    generalize decMsgT cap mx fuel (lvl + 1) (List.drop 4 p) = r at ih2 ⊢
    obtain ⟨r1, r2⟩ := r
    cases r1 with
    | none => simp only [TabR, Tally.add_def, List.length_drop] at ih2 ⊢; omega
    | some x => simp only [TabR, Tally.add_def, List.length_nil, List.length_drop] at ih2 ⊢; omega
  · have ih2 := hi lvl p
    generalize decMsgItemsT cap mx fuel lvl p = r at ih2 ⊢
    obtain ⟨r1, r2⟩ := r
    cases r1 with
    | none => exact ih2
    | some x => simp only [TabR, TabI, List.length_nil] at ih2 ⊢; omega
  · intro cnt q l3 _
    have e := decStrItemsT_fst cnt q
    have h0 := decStrItemsT_table cnt q
    generalize decStrItemsT cnt q = r at e h0 ⊢
    obtain ⟨r1, r2⟩ := r
    cases r1 with
    | none => simp only [TabR, Tally.add_def] at h0 ⊢; omega
    | some x =>
      obtain ⟨xs, rest⟩ := x
      have := decStrItems_pos _ _ _ _ e.symm
      simp only [TabR, Tally.add_def] at h0 ⊢; omega
  · intro q _; simp [TabR]
  · intro cnt q l3
    have e := decRawItemsT_fst cnt q
    have h0 := decRawItemsT_table cnt q
    generalize decRawItemsT cnt q = r at e h0 ⊢
    obtain ⟨r1, r2⟩ := r
    cases r1 with
    | none => simp only [TabR] at h0 ⊢; omega
    | some x =>
      obtain ⟨xs, rest⟩ := x
      have := decRawItems_pos _ _ _ _ e.symm
      simp only [TabR] at h0 ⊢; omega

/-- one entry keeps the account: its 12 header bytes pay 36 slots, of which the store needs at most 4 -/
theorem tab_entryRest (cap : Option Nat) (mx fuel : Nat) (ih : TabAt cap mx fuel) (lvl k : Nat) (hdr : Tally)
    (b4 : Bytes) (el : Nat) (nm : Bytes) (acc : List (Bytes × Field)) (tc c' inp c : Nat) (hb : b4.length + 12 ≤ inp)
    (hpc : ∀ f, hdr.table + tabPot c' (upsertField nm f acc).length ≤ tabPot c acc.length + 4) :
    TabF inp c acc.length (entryRestT cap mx fuel lvl k hdr (b4.take el) (b4.drop el) nm acc tc c').1
      (entryRestT cap mx fuel lvl k hdr (b4.take el) (b4.drop el) nm acc tc c').2 := by
  unfold entryRestT
  have ih2 := ih.payload lvl tc (b4.take el)
  generalize decPayloadT cap mx fuel lvl tc (b4.take el) = r at ih2 ⊢
  obtain ⟨r1, r2⟩ := r
  cases r1 with
  | none =>
    -- any field will do: the length of `upsertField nm f acc` does not depend on `f`
    have := hpc (.opaque 0 0)
    simp only [TabF_none, TabR, Tally.add_def, List.length_take] at ih2 ⊢
    omega
  | some x =>
    obtain ⟨f, rest⟩ := x
    have ih3 := ih.fields lvl k (rest ++ b4.drop el) (upsertField nm f acc) c'
    have := hpc f
    simp only
    generalize decFieldsT cap mx fuel lvl k (rest ++ b4.drop el) (upsertField nm f acc) c' = r' at ih3 ⊢
    obtain ⟨r1', r2'⟩ := r'
    cases r1' with
    | none =>
      simp only [TabF_none, TabR, Tally.add_def, List.length_take, List.length_append, List.length_drop] at ih2 ih3 ⊢
      omega
    | some y =>
      simp only [TabF_some, TabR, Tally.add_def, List.length_take, List.length_append, List.length_drop] at ih2 ih3 ⊢
      omega

theorem tabAt (cap : Option Nat) (hcap : ∀ n, presize cap n ≤ 36) (mx fuel : Nat) : TabAt cap mx fuel := by
  induction fuel using Nat.strongRecOn with
  | ind fuel ih =>
    have hm : ∀ (lvl : Nat) (b : Bytes), TabR b.length (decMsgT cap mx fuel lvl b).1 (decMsgT cap mx fuel lvl b).2 := by
      intro lvl b
      refine decMsgT_cases (motive := fun X _ => TabR b.length X.1 X.2) cap mx fuel lvl b (Nat.zero_le _) (Nat.zero_le _) ?_
      intro fuel' what n b3 hf _ hb
      -- the 12 header bytes pay for the pending first allocation of this frame's table
      have ih2 := (ih fuel' (by omega)).fields lvl n b3 [] (presize cap n)
      have hc := hcap n
      generalize decFieldsT cap mx fuel' lvl n b3 [] (presize cap n) = r at ih2 ⊢
      obtain ⟨r1, r2⟩ := r
      cases r1 with
      | none => simp only [TabR, TabF_none, tabPot, Tally.add_def, List.length_nil, if_true] at ih2 ⊢; omega
      | some x => simp only [TabR, TabF_some, tabPot, Tally.add_def, List.length_nil, if_true] at ih2 ⊢; omega
    have hi : ∀ (lvl : Nat) (b : Bytes),
        TabI b.length (decMsgItemsT cap mx fuel lvl b).1 (decMsgItemsT cap mx fuel lvl b).2 := by
      intro lvl b
      refine decMsgItemsT_cases (motive := fun X _ => TabI b.length X.1 X.2) cap mx fuel lvl b (Nat.zero_le _)
        (Nat.zero_le _) (Nat.zero_le _) ?_
      intro fuel' len b1 hf l1 _
      unfold itemRestT
      have ih2 := (ih fuel' (by omega)).msg (lvl + 1) (List.take len b1)
      generalize decMsgT cap mx fuel' (lvl + 1) (List.take len b1) = r at ih2 ⊢
      obtain ⟨r1, r2⟩ := r
      cases r1 with
      | none => simp only [TabI, TabR, Tally.add_def, List.length_take] at ih2 ⊢; omega
      | some x =>
        obtain ⟨m, rest⟩ := x
        simp only
        have ih3 := (ih fuel' (by omega)).items lvl (rest ++ List.drop len b1)
        generalize decMsgItemsT cap mx fuel' lvl (rest ++ List.drop len b1) = r' at ih3 ⊢
        obtain ⟨r1', r2'⟩ := r'
        simp only [TabI, TabR, Tally.add_def, List.length_take, List.length_append, List.length_drop] at ih2 ih3 ⊢
        omega
    refine ⟨hm, ?_, tab_payload cap mx fuel hm hi, hi⟩
    intro lvl k b acc c
    refine decFieldsT_cases (motive := fun X _ => TabF b.length c acc.length X.1 X.2) cap mx fuel lvl k b acc c ?_
      (fun t h0 _ _ _ _ _ => by rw [TabF_none, h0]; exact Nat.zero_le _) ?_
    · simp only [TabF_some]; omega
    intro fuel' k' nm np tc el b4 p1 c' hf hb _ hslot
    refine tab_entryRest cap mx fuel' (ih fuel' (by omega)) lvl k' _ b4 el nm acc tc c' b.length c (by omega) (fun f => ?_)
    show p1 + tabPot c' (upsertField nm f acc).length ≤ tabPot c acc.length + 4
    rcases hslot with ⟨h6, hp⟩ | ⟨g, h6, rfl, rfl⟩
    · rw [upsertField_new nm f acc h6, List.length_append, (Prod.mk.inj hp).1, (Prod.mk.inj hp).2]
      exact putCharge_pot acc.length c
    · rw [upsertField_length_old nm f acc g h6]
      omega

end Muscle.Wire
