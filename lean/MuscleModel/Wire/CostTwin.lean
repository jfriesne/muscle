import MuscleModel.Wire.DecodeCost
import MuscleModel.Wire.Readers

/-! The instrumented twin mirrors the parser check for check.  For each member of the mutual block one case principle
(`dec…T_cases`) walks the twin and the parser together: a property of (twin result, parser result) holds if it holds on
the early failures and on the continuation.  The principles unfold the guard constants of `Generated/ParseGuards.lean`
and fail to check if one of them is `false`. -/

namespace Muscle.Wire
open Muscle Muscle.Gen

theorem Tally.add_def (a b : Tally) : a + b =
    { table := a.table + b.table, reserve := a.reserve + b.reserve, copied := a.copied + b.copied,
      steps := a.steps + b.steps, depth := max a.depth b.depth, window := max a.window b.window } := rfl

theorem decStrItemsT_fst : ∀ (k : Nat) (b : Bytes), (decStrItemsT k b).1 = decStrItems k b := by
  intro k
  induction k with
  | zero => intro b; simp [decStrItemsT, decStrItems]
  | succ k ih =>
    intro b
    simp only [decStrItemsT, decStrItems]
    cases h1 : rd32 b with
    | none => rfl
    | some v1 =>
      obtain ⟨len, b1⟩ := v1
      simp only
      cases h2 : takeN len b1 with
      | none => rfl
      | some v2 =>
        obtain ⟨p, b2⟩ := v2
        simp only
        cases h3 : cstr p with
        | none => simp
        | some s =>
          simp only [ih]
          cases h4 : decStrItems k b2 with
          | none => rfl
          | some v4 => rfl

theorem decRawItemsT_fst : ∀ (k : Nat) (b : Bytes), (decRawItemsT k b).1 = decRawItems k b := by
  intro k
  induction k with
  | zero => intro b; simp [decRawItemsT, decRawItems]
  | succ k ih =>
    intro b
    simp only [decRawItemsT, decRawItems]
    cases h1 : rd32 b with
    | none => rfl
    | some v1 =>
      obtain ⟨len, b1⟩ := v1
      simp only [rawLenGuard, Bool.true_and, decide_eq_true_eq]
      by_cases hlt : b1.length < len
      · simp only [hlt, if_true, takeN_eq_none.2 hlt]
      · simp only [hlt, if_false]
        cases h2 : takeN len b1 with
        | none => rfl
        | some v2 =>
          obtain ⟨p, b2⟩ := v2
          simp only [ih]
          cases h4 : decRawItems k b2 with
          | none => rfl
          | some v4 => rfl

theorem decFixedT_fst (tc sz : Nat) (p : Bytes) : (decFixedT tc sz p).1 = decFixed tc sz p := rfl

/-- `Message::Unflatten`: out of fuel; or the header fails with one step charged at this nest count; or the entry loop
    runs on what is behind the 12 header bytes -/
theorem decMsgT_cases {motive : Option (Msg × Bytes) × Tally → Option (Msg × Bytes) → Prop}
    (cap : Option Nat) (mx fuel lvl : Nat) (b : Bytes)
    (out : motive (none, {}) none)
    (fail : motive (none, { steps := 1, depth := lvl }) none)
    (fields : ∀ (fuel' what n : Nat) (b3 : Bytes), fuel = fuel' + 1 → lvl ≤ mx → b.length = b3.length + 12 →
      motive
        (match (decFieldsT cap mx fuel' lvl n b3 [] (presize cap n)).1 with
          | none => none
          | some (fs, b) => some (.mk what fs, b),
         { steps := 1, depth := lvl } + (decFieldsT cap mx fuel' lvl n b3 [] (presize cap n)).2)
        (match decFields mx fuel' lvl n b3 [] with
          | none => none
          | some (fs, b) => some (.mk what fs, b))) :
    motive (decMsgT cap mx fuel lvl b) (decMsg mx fuel lvl b) := by
  cases fuel with
  | zero => simp only [decMsgT, decMsg]; exact out
  | succ fuel =>
  rw [decMsgT, decMsg]
  simp only [nestGuard, entryCountGuard, Bool.true_and, decide_eq_true_eq]
  by_cases hl : mx < lvl
  · rw [if_pos hl, if_pos hl]; exact fail
  · rw [if_neg hl, if_neg hl]
    cases h1 : rd32 b with
    | none => exact fail
    | some v1 =>
      obtain ⟨ver, b1⟩ := v1
      have l1 := rd32_length h1
      simp only
      by_cases hv : ver < oldestProtocolVersion ∨ protocolVersion < ver
      · rw [if_pos hv, if_pos hv]; exact fail
      · rw [if_neg hv, if_neg hv]
        cases h2 : rd32 b1 with
        | none => exact fail
        | some v2 =>
          obtain ⟨what, b2⟩ := v2
          have l2 := rd32_length h2
          simp only
          cases h3 : rd32 b2 with
          | none => exact fail
          | some v3 =>
            obtain ⟨n, b3⟩ := v3
            have l3 := rd32_length h3
            simp only
            by_cases hn : b3.length / 12 < n
            · rw [if_pos hn, if_pos hn]; exact fail
            · rw [if_neg hn, if_neg hn]
              exact fields fuel what n b3 rfl (by omega) (by omega)

/-- `decMsgItemsT` behind the length word of one item: the sub-Message on the limited view, then the remaining items -/
def itemRestT (cap : Option Nat) (mx fuel lvl len : Nat) (b1 : Bytes) : Option (List Msg) × Tally :=
  let r := decMsgT cap mx fuel (lvl + 1) (b1.take len)
  match r.1 with
  | none => (none, { steps := 1, reserve := 1, window := len } + r.2)
  | some (m, rest) =>
    let r' := decMsgItemsT cap mx fuel lvl (rest ++ b1.drop len)
    (match r'.1 with
      | none => none
      | some ms => some (m :: ms),
     { steps := 1, reserve := 2, window := len } + r.2 + r'.2)

/-- `MessageDataArray::TemplatedUnflatten`: the view is exhausted; out of fuel; the length word is missing or declares
    more than is there; or the item is read from behind it -/
theorem decMsgItemsT_cases {motive : Option (List Msg) × Tally → Option (List Msg) → Prop}
    (cap : Option Nat) (mx fuel lvl : Nat) (b : Bytes)
    (done : motive (some [], {}) (some []))
    (out : motive (none, {}) none)
    (fail : motive (none, { steps := 1 }) none)
    (item : ∀ (fuel' len : Nat) (b1 : Bytes), fuel = fuel' + 1 → b.length = b1.length + 4 → len ≤ b1.length →
      motive (itemRestT cap mx fuel' lvl len b1)
        (match decMsg mx fuel' (lvl + 1) (b1.take len) with
          | none => none
          | some (m, rest) =>
            match decMsgItems mx fuel' lvl (rest ++ b1.drop len) with
            | none => none
            | some ms => some (m :: ms))) :
    motive (decMsgItemsT cap mx fuel lvl b) (decMsgItems mx fuel lvl b) := by
  cases b with
  | nil => cases fuel <;> simp only [decMsgItemsT, decMsgItems] <;> exact done
  | cons a t =>
    cases fuel with
    | zero => simp only [decMsgItemsT, decMsgItems]; exact out
    | succ fuel =>
    rw [decMsgItemsT, decMsgItems]
    simp only [subMsgLenGuard, Bool.true_and, decide_eq_true_eq]
    cases h1 : rd32 (a :: t) with
    | none => exact fail
    | some v1 =>
      obtain ⟨len, b1⟩ := v1
      simp only
      by_cases hlt : b1.length < len
      · rw [if_pos hlt, if_pos hlt]; exact fail
      · rw [if_neg hlt, if_neg hlt]
        exact item fuel len b1 rfl (rd32_length h1) (by omega)

/-- `decFieldsT` behind the header of one entry (tally `hdr`, table capacity `c'` after the store): the payload reader on
    the limited view, then the remaining entries on what it left followed by what lies behind the view -/
def entryRestT (cap : Option Nat) (mx fuel lvl k : Nat) (hdr : Tally) (view behind nm : Bytes) (acc : List (Bytes × Field))
    (tc c' : Nat) : Option (List (Bytes × Field) × Bytes) × Tally :=
  let r := decPayloadT cap mx fuel lvl tc view
  match r.1 with
  | none => (none, hdr + r.2)
  | some (f, rest) =>
    let r' := decFieldsT cap mx fuel lvl k (rest ++ behind) (upsertField nm f acc) c'
    (r'.1, hdr + r.2 + r'.2)

/-- One entry of the entry loop.  The header fails — nothing requested of the table, one step, and what was reserved and
    copied is the name, which lies in the input — or the payload is read from behind it: then the name (`nm`, inside the
    `np` name bytes) has been copied, and storing it cost `p1` slots and left the capacity `c'`: a new name costs
    `putCharge`, a repeated one nothing. -/
theorem decFieldsT_cases {motive : Option (List (Bytes × Field) × Bytes) × Tally → Option (List (Bytes × Field) × Bytes) → Prop}
    (cap : Option Nat) (mx fuel lvl k : Nat) (b : Bytes) (acc : List (Bytes × Field)) (c : Nat)
    (done : motive (some (acc, b), {}) (some (acc, b)))
    (fail : ∀ t : Tally, t.table = 0 → t.depth = 0 → t.steps ≤ 1 → t.reserve = t.copied → t.copied ≤ t.window →
      t.window ≤ b.length → motive (none, t) none)
    (entry : ∀ (fuel' k' : Nat) (nm np : Bytes) (tc el : Nat) (b4 : Bytes) (p1 c' : Nat),
      fuel = fuel' + 1 → b.length = b4.length + np.length + 12 → nm.length + 1 ≤ np.length →
      (lookupField nm acc = none ∧ (p1, c') = putCharge acc.length c ∨
        ∃ g, lookupField nm acc = some g ∧ p1 = 0 ∧ c' = c) →
      motive
        (entryRestT cap mx fuel' lvl k'
          { table := p1, steps := 1, window := max np.length (b4.take el).length, copied := nm.length + 1,
            reserve := nm.length + 1 } (b4.take el) (b4.drop el) nm acc tc c')
        (match decPayload mx fuel' lvl tc (b4.take el) with
          | none => none
          | some (f, rest) => decFields mx fuel' lvl k' (rest ++ b4.drop el) (upsertField nm f acc))) :
    motive (decFieldsT cap mx fuel lvl k b acc c) (decFields mx fuel lvl k b acc) := by
  cases k with
  | zero => cases fuel <;> simp only [decFieldsT, decFields] <;> exact done
  | succ k =>
  cases fuel with
  | zero => simp only [decFieldsT, decFields]; exact fail {} rfl rfl (Nat.zero_le _) rfl (Nat.le_refl _) (Nat.zero_le _)
  | succ fuel =>
  rw [decFieldsT, decFields]
  cases h1 : rd32 b with
  | none => exact fail _ rfl rfl (Nat.le_refl _) rfl (Nat.le_refl _) (Nat.zero_le _)
  | some v1 =>
    obtain ⟨nl, b1⟩ := v1
    have l1 := rd32_length h1
    simp only
    cases h2 : takeN nl b1 with
    | none => exact fail _ rfl rfl (Nat.le_refl _) rfl (Nat.le_refl _) (Nat.zero_le _)
    | some v2 =>
      obtain ⟨np, b2⟩ := v2
      obtain ⟨l2, l2'⟩ := takeN_length h2
      simp only
      cases h3 : cstr np with
      | none =>
        -- the twin (like the C++) rejects the name before it reads type code and length; the parser model reads the two
        -- words first, so its side still has to be walked past them
        have hf := fail { steps := 1, window := np.length } rfl rfl (Nat.le_refl _) rfl (Nat.zero_le _) (by simp only []; omega)
        cases h4 : rd32 b2 with
        | none => exact hf
        | some v4 =>
          obtain ⟨tc, b3⟩ := v4
          simp only
          cases h5 : rd32 b3 with
          | none => exact hf
          | some v5 => exact hf
      | some nm =>
        have l3 := cstr_length h3
        have hf := fail { steps := 1, window := np.length, copied := nm.length + 1, reserve := nm.length + 1 }
          rfl rfl (Nat.le_refl _) rfl l3 (by simp only []; omega)
        simp only
        cases h4 : rd32 b2 with
        | none => exact hf
        | some v4 =>
          obtain ⟨tc, b3⟩ := v4
          have l4 := rd32_length h4
          simp only
          cases h5 : rd32 b3 with
          | none => exact hf
          | some v5 =>
            obtain ⟨el, b4⟩ := v5
            have l5 := rd32_length h5
            simp only
            cases h6 : lookupField nm acc with
            | none => exact entry fuel k nm np tc el b4 _ _ rfl (by omega) l3 (.inl ⟨h6, rfl⟩)
            | some g =>
              simp only
              by_cases hc : tc = tcAny ∨ tc = g.typeCode
              · rw [if_pos hc]
                exact entry fuel k nm np g.typeCode el b4 0 c rfl (by omega) l3 (.inr ⟨g, h6, rfl, rfl⟩)
              · rw [if_neg hc]; exact hf

/-- `MessageField::Unflatten` by the kind of payload: fixed-size items; nothing (pointer/tag types, a short or misdeclared
    view, a count the view cannot hold); an empty Message view; one sub-Message; a sub-Message array; strings; one raw
    item; a raw array -/
theorem decPayloadT_cases {motive : Option (Field × Bytes) × Tally → Option (Field × Bytes) → Prop}
    (cap : Option Nat) (mx fuel lvl tc : Nat) (p : Bytes)
    (fixed : motive (decFixedT tc (wireItemSize tc) p) (decFixed tc (wireItemSize tc) p))
    (fail : motive (none, {}) none)
    (empty : motive (some (.msgs .arr [], []), {}) (some (.msgs .arr [], [])))
    (single : 4 ≤ p.length → leVal (p.take 4) = p.length - 4 →
      motive
        (match (decMsgT cap mx fuel (lvl + 1) (p.drop 4)).1 with
          | none => none
          | some (m, _) => some (.msgs .inl [m], []),
         { reserve := 1, window := leVal (p.take 4) } + (decMsgT cap mx fuel (lvl + 1) (p.drop 4)).2)
        (match decMsg mx fuel (lvl + 1) (p.drop 4) with
          | none => none
          | some (m, _) => some (.msgs .inl [m], [])))
    (array :
      motive
        (match (decMsgItemsT cap mx fuel lvl p).1 with
          | none => none
          | some ms => some (.msgs .arr ms, []),
         (decMsgItemsT cap mx fuel lvl p).2)
        (match decMsgItems mx fuel lvl p with
          | none => none
          | some ms => some (.msgs .arr ms, [])))
    (strs : ∀ (cnt : Nat) (q : Bytes), p.length = q.length + 4 → (cnt = 1 ∨ 4 * cnt ≤ q.length) →
      motive
        (match (decStrItemsT cnt q).1 with
          | none => none
          | some (xs, rest) => some (.strs (if cnt = 1 then .inl else .arr) xs, rest),
         { reserve := if cnt = 1 then 0 else cnt } + (decStrItemsT cnt q).2)
        (match decStrItems cnt q with
          | none => none
          | some (xs, rest) => some (.strs (if cnt = 1 then .inl else .arr) xs, rest)))
    (raw : ∀ (q : Bytes), p.length = q.length + 8 →
      motive (some (.raws tc .inl [q], []), { reserve := q.length, copied := q.length }) (some (.raws tc .inl [q], [])))
    (raws : ∀ (cnt : Nat) (q : Bytes), p.length = q.length + 4 →
      motive
        (match (decRawItemsT cnt q).1 with
          | none => none
          | some (xs, rest) => some (.raws tc .arr xs, rest),
         (decRawItemsT cnt q).2)
        (match decRawItems cnt q with
          | none => none
          | some (xs, rest) => some (.raws tc .arr xs, rest))) :
    motive (decPayloadT cap mx fuel lvl tc p) (decPayload mx fuel lvl tc p) := by
  unfold decPayloadT decPayload
  by_cases h0 : wireItemSize tc ≠ 0
  · rw [if_pos h0, if_pos h0]; exact fixed
  rw [if_neg h0, if_neg h0]
  by_cases h1 : tc = tcPointer ∨ tc = tcTag
  · rw [if_pos h1, if_pos h1]; exact fail
  rw [if_neg h1, if_neg h1]
  by_cases h2 : tc = tcMessage
  · rw [if_pos h2, if_pos h2]
    by_cases h3 : p.length < 4
    · rw [if_pos h3, if_pos h3]
      by_cases h3' : p.length = 0
      · rw [if_pos h3']; exact empty
      · rw [if_neg h3']; exact fail
    rw [if_neg h3, if_neg h3]
    by_cases h4 : leVal (List.take 4 p) = p.length - 4
    · rw [if_pos h4, if_pos h4]; exact single (by omega) h4
    · rw [if_neg h4, if_neg h4]; exact array
  rw [if_neg h2, if_neg h2]
  cases h3 : rd32 p with
  | none => exact fail
  | some v3 =>
    obtain ⟨cnt, q⟩ := v3
    have l3 := rd32_length h3
    simp only
    by_cases h4 : tc = tcString
    · rw [if_pos h4, if_pos h4]
      simp only [strCountGuard, Bool.true_and, decide_eq_true_eq]
      by_cases h5 : cnt ≠ 1 ∧ q.length / 4 < cnt
      · -- the parser model has no such check: its item loop runs out of bytes
        rw [if_pos h5]
        cases h6 : decStrItems cnt q with
        | none => exact fail
        | some v6 =>
          have := (decStrItems_size _ _ _ _ h6).2
          omega
      · rw [if_neg h5]; exact strs cnt q l3 (by omega)
    rw [if_neg h4, if_neg h4]
    by_cases h5 : cnt = 1
    · rw [if_pos h5, if_pos h5]
      cases h6 : rd32 q with
      | none => exact fail
      | some v6 =>
        obtain ⟨sz, q2⟩ := v6
        have l6 := rd32_length h6
        simp only
        by_cases h7 : sz = q2.length
        · rw [if_pos h7, if_pos h7]; exact raw q2 (by omega)
        · rw [if_neg h7, if_neg h7]; exact fail
    · rw [if_neg h5, if_neg h5]; exact raws cnt q l3

structure EraseAt (cap : Option Nat) (mx fuel : Nat) : Prop where
  msg : ∀ (lvl : Nat) (b : Bytes), (decMsgT cap mx fuel lvl b).1 = decMsg mx fuel lvl b
  fields : ∀ (lvl k : Nat) (b : Bytes) (acc : List (Bytes × Field)) (c : Nat),
    (decFieldsT cap mx fuel lvl k b acc c).1 = decFields mx fuel lvl k b acc
  payload : ∀ (lvl tc : Nat) (p : Bytes), (decPayloadT cap mx fuel lvl tc p).1 = decPayload mx fuel lvl tc p
  items : ∀ (lvl : Nat) (b : Bytes), (decMsgItemsT cap mx fuel lvl b).1 = decMsgItems mx fuel lvl b

theorem erase_payload (cap : Option Nat) (mx fuel : Nat)
    (hm : ∀ (lvl : Nat) (b : Bytes), (decMsgT cap mx fuel lvl b).1 = decMsg mx fuel lvl b)
    (hi : ∀ (lvl : Nat) (b : Bytes), (decMsgItemsT cap mx fuel lvl b).1 = decMsgItems mx fuel lvl b)
    (lvl tc : Nat) (p : Bytes) : (decPayloadT cap mx fuel lvl tc p).1 = decPayload mx fuel lvl tc p := by
  refine decPayloadT_cases (motive := fun X y => X.1 = y) cap mx fuel lvl tc p rfl rfl rfl ?_ ?_ ?_
    (fun _ _ => rfl) ?_
  · intro _ _; simp only [hm]
  · simp only [hi]
  · intro cnt q _ _; simp only [decStrItemsT_fst]
  · intro cnt q _; simp only [decRawItemsT_fst]

theorem eraseAt (cap : Option Nat) (mx fuel : Nat) : EraseAt cap mx fuel := by
  induction fuel using Nat.strongRecOn with
  | ind fuel ih =>
    have hm : ∀ (lvl : Nat) (b : Bytes), (decMsgT cap mx fuel lvl b).1 = decMsg mx fuel lvl b := by
      intro lvl b
      refine decMsgT_cases (motive := fun X y => X.1 = y) cap mx fuel lvl b rfl rfl ?_
      intro fuel' what n b3 hf _ _
      simp only [(ih fuel' (by omega)).fields]
    have hi : ∀ (lvl : Nat) (b : Bytes), (decMsgItemsT cap mx fuel lvl b).1 = decMsgItems mx fuel lvl b := by
      intro lvl b
      refine decMsgItemsT_cases (motive := fun X y => X.1 = y) cap mx fuel lvl b rfl rfl rfl ?_
      intro fuel' len b1 hf _ _
      unfold itemRestT
      simp only [(ih fuel' (by omega)).msg]
      cases decMsg mx fuel' (lvl + 1) (List.take len b1) with
      | none => rfl
      | some v => simp only [(ih fuel' (by omega)).items]
    refine ⟨hm, ?_, erase_payload cap mx fuel hm hi, hi⟩
    intro lvl k b acc c
    refine decFieldsT_cases (motive := fun X y => X.1 = y) cap mx fuel lvl k b acc c rfl
      (fun _ _ _ _ _ _ _ => rfl) ?_
    intro fuel' k' nm np tc el b4 p1 c' hf _ _ _
    unfold entryRestT
    simp only [(ih fuel' (by omega)).payload]
    cases decPayload mx fuel' lvl tc (List.take el b4) with
    | none => rfl
    | some v => exact (ih fuel' (by omega)).fields lvl k' _ _ c'

/-- A test vector (a header-only Message followed by one stray byte) run once on the twin, for every fuel from 2 up;
    the non-vacuity examples of `Props/C02.lean` about `decMsgT`, `decMsg` and `decode` on it are read off this run. -/
theorem sample13_run (cap : Option Nat) (fuel : Nat) :
    decMsgT cap 256 (fuel + 2) 1 [0x30, 0x30, 0x4D, 0x50, 0, 0, 0, 0, 0, 0, 0, 0, 7] =
      (some (.mk 0 [], [7]), { steps := 1, depth := 1 }) := by
  simp [decMsgT, decFieldsT, rd32, rdN, takeN, leVal, nestGuard, entryCountGuard, oldestProtocolVersion,
    protocolVersion, Tally.add_def]

end Muscle.Wire
