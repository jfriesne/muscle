import MuscleModel.Wire.Readers
import MuscleModel.Wire.FieldTable
import MuscleModel.Wire.Canon

/-! The parser's mutual block cut into its non-recursive HEADERS (`msgHeader`, `entryHeader`, `itemHeader`) and the
recursive calls behind them: each member of the block is "read the header, then continue" (`…_succ`), and what a header
that succeeded establishes is said once, about the header alone (`…Header_some`).  The three header functions repeat the
heads of `decMsg`, `decFields`, `decMsgItems` word for word and follow them when they change: the `_succ` equations are
the check.  The last section reads the headers on what the writer wrote. -/

namespace Muscle.Wire
open Muscle Muscle.Gen

/-- the 12 header bytes of `Message::Unflatten`: nest count, version window, what-code, plausible entry count.
    The same checks stand in `decMsg`, in `decMsgT` (`Wire/DecodeCost.lean`), in `decMsgT_cases` (`Wire/CostTwin.lean`, which
    walks both) and in `Props.C02.declared_entry_count_harmless`; likewise `entryHeader`: `decFields`, `decFieldsT`,
    `decFieldsT_cases`. -/
def msgHeader (mx lvl : Nat) (b : Bytes) : Option (Nat × Nat × Bytes) :=
  if mx < lvl then none else
  match rd32 b with
  | none => none
  | some (ver, b) =>
    if ver < oldestProtocolVersion ∨ protocolVersion < ver then none else
    match rd32 b with
    | none => none
    | some (what, b) =>
      match rd32 b with
      | none => none
      | some (n, b) => if b.length / 12 < n then none else some (what, n, b)

/-- name, declared type and payload length of one entry, with the type code `GetOrCreateMessageField` settles on -/
def entryHeader (acc : List (Bytes × Field)) (b : Bytes) : Option (Bytes × Nat × Nat × Bytes) :=
  match rd32 b with
  | none => none
  | some (nl, b) =>
    match takeN nl b with
    | none => none
    | some (np, b) =>
      match rd32 b with
      | none => none
      | some (tc, b) =>
        match rd32 b with
        | none => none
        | some (el, b) =>
          match cstr np with
          | none => none
          | some nm =>
            match lookupField nm acc with
            | some f => if tc = tcAny ∨ tc = f.typeCode then some (nm, f.typeCode, el, b) else none
            | none => some (nm, tc, el, b)

def itemHeader (b : Bytes) : Option (Nat × Bytes) :=
  match rd32 b with
  | none => none
  | some (len, b) => if b.length < len then none else some (len, b)

theorem msgHeader_some {mx lvl : Nat} {b : Bytes} {what n : Nat} {b3 : Bytes}
    (h : msgHeader mx lvl b = some (what, n, b3)) : lvl ≤ mx ∧ b.length = b3.length + 12 ∧ n ≤ b3.length / 12 := by
  unfold msgHeader at h
  by_cases hl : mx < lvl
  · rw [if_pos hl] at h; cases h
  rw [if_neg hl] at h
  split at h
  · cases h
  rename_i ver b1 h1
  by_cases hv : ver < oldestProtocolVersion ∨ protocolVersion < ver
  · rw [if_pos hv] at h; cases h
  rw [if_neg hv] at h
  split at h
  · cases h
  rename_i w b2 h2
  split at h
  · cases h
  rename_i n' b3' h3
  by_cases hn : b3'.length / 12 < n'
  · rw [if_pos hn] at h; cases h
  rw [if_neg hn] at h
  cases h
  have l1 := rd32_length h1
  have l2 := rd32_length h2
  have l3 := rd32_length h3
  omega

theorem entryHeader_some {acc : List (Bytes × Field)} {b nm : Bytes} {tc el : Nat} {b4 : Bytes}
    (h : entryHeader acc b = some (nm, tc, el, b4)) : b4.length + (nm.length + 1) + 12 ≤ b.length := by
  unfold entryHeader at h
  split at h
  · cases h
  rename_i nl b1 h1
  split at h
  · cases h
  rename_i np b2 h2
  split at h
  · cases h
  rename_i tc0 b3 h3
  split at h
  · cases h
  rename_i el0 b4' h4
  split at h
  · cases h
  rename_i nm' h5
  have l1 := rd32_length h1
  have l2 := takeN_length h2
  have l3 := rd32_length h3
  have l4 := rd32_length h4
  have l5 := cstr_length h5
  have hb : b4 = b4' ∧ nm = nm' := by
    split at h
    · split at h
      · cases h; exact ⟨rfl, rfl⟩
      · cases h
    · cases h; exact ⟨rfl, rfl⟩
  rw [hb.1, hb.2]
  omega

theorem itemHeader_some {b : Bytes} {len : Nat} {b1 : Bytes} (h : itemHeader b = some (len, b1)) :
    b.length = b1.length + 4 ∧ len ≤ b1.length := by
  unfold itemHeader at h
  split at h
  · cases h
  rename_i len' b1' h1
  by_cases hlt : b1'.length < len'
  · rw [if_pos hlt] at h; cases h
  rw [if_neg hlt] at h
  cases h
  exact ⟨rd32_length h1, by omega⟩

theorem decMsg_succ (mx fuel lvl : Nat) (b : Bytes) :
    decMsg mx (fuel + 1) lvl b =
      match msgHeader mx lvl b with
      | none => none
      | some (what, n, b3) =>
        match decFields mx fuel lvl n b3 [] with
        | none => none
        | some (fs, r) => some (.mk what fs, r) := by
  rw [decMsg, msgHeader]
  by_cases hl : mx < lvl
  · rw [if_pos hl, if_pos hl]
  rw [if_neg hl, if_neg hl]
  cases rd32 b with
  | none => rfl
  | some v1 =>
    obtain ⟨ver, b1⟩ := v1
    simp only
    by_cases hv : ver < oldestProtocolVersion ∨ protocolVersion < ver
    · rw [if_pos hv, if_pos hv]
    rw [if_neg hv, if_neg hv]
    cases rd32 b1 with
    | none => rfl
    | some v2 =>
      obtain ⟨what, b2⟩ := v2
      simp only
      cases rd32 b2 with
      | none => rfl
      | some v3 =>
        obtain ⟨n, b3⟩ := v3
        simp only
        by_cases hn : b3.length / 12 < n
        · rw [if_pos hn, if_pos hn]
        · rw [if_neg hn, if_neg hn]; rfl

theorem decFields_succ (mx fuel lvl k : Nat) (b : Bytes) (acc : List (Bytes × Field)) :
    decFields mx (fuel + 1) lvl (k + 1) b acc =
      match entryHeader acc b with
      | none => none
      | some (nm, tc, el, b4) =>
        match decPayload mx fuel lvl tc (b4.take el) with
        | none => none
        | some (f, rest) => decFields mx fuel lvl k (rest ++ b4.drop el) (upsertField nm f acc) := by
  rw [decFields, entryHeader]
  cases rd32 b with
  | none => rfl
  | some v1 =>
    obtain ⟨nl, b1⟩ := v1
    simp only
    cases takeN nl b1 with
    | none => rfl
    | some v2 =>
      obtain ⟨np, b2⟩ := v2
      simp only
      cases rd32 b2 with
      | none => rfl
      | some v3 =>
        obtain ⟨tc, b3⟩ := v3
        simp only
        cases rd32 b3 with
        | none => rfl
        | some v4 =>
          obtain ⟨el, b4⟩ := v4
          simp only
          cases cstr np with
          | none => rfl
          | some nm =>
            simp only
            cases lookupField nm acc with
            | none => rfl
            | some f =>
              simp only
              by_cases hc : tc = tcAny ∨ tc = f.typeCode
              · rw [if_pos hc, if_pos hc]; rfl
              · rw [if_neg hc, if_neg hc]

theorem decMsgItems_succ (mx fuel lvl : Nat) (b : Bytes) (hb : b ≠ []) :
    decMsgItems mx (fuel + 1) lvl b =
      match itemHeader b with
      | none => none
      | some (len, b1) =>
        match decMsg mx fuel (lvl + 1) (b1.take len) with
        | none => none
        | some (m, rest) =>
          match decMsgItems mx fuel lvl (rest ++ b1.drop len) with
          | none => none
          | some ms => some (m :: ms) := by
  cases b with
  | nil => exact absurd rfl hb
  | cons a t =>
    rw [decMsgItems, itemHeader]
    cases rd32 (a :: t) with
    | none => rfl
    | some v1 =>
      obtain ⟨len, b1⟩ := v1
      simp only
      by_cases hlt : b1.length < len
      · rw [if_pos hlt, if_pos hlt]
      · rw [if_neg hlt, if_neg hlt]; rfl

theorem decMsg_out (mx lvl : Nat) (b : Bytes) : decMsg mx 0 lvl b = none := by simp only [decMsg]

theorem decFields_out (mx lvl k : Nat) (b : Bytes) (acc : List (Bytes × Field)) :
    decFields mx 0 lvl (k + 1) b acc = none := by simp only [decFields]

theorem decMsgItems_out (mx lvl : Nat) (b : Bytes) (hb : b ≠ []) : decMsgItems mx 0 lvl b = none := by
  cases b with
  | nil => exact absurd rfl hb
  | cons a t => simp only [decMsgItems]

/-- A payload is read without recursion unless it is a Message payload of at least 4 bytes; then it is one
    sub-Message filling the view, or the item loop. -/
theorem decPayload_msg (mx fuel lvl : Nat) (p : Bytes) (h : 4 ≤ p.length) :
    decPayload mx fuel lvl tcMessage p =
      if leVal (p.take 4) = p.length - 4 then
        match decMsg mx fuel (lvl + 1) (p.drop 4) with
        | none => none
        | some (m, _) => some (.msgs .inl [m], [])
      else
        match decMsgItems mx fuel lvl p with
        | none => none
        | some ms => some (.msgs .arr ms, []) := by
  have e0 : ¬ (wireItemSize tcMessage ≠ 0) := by decide
  have e1 : ¬ (tcMessage = tcPointer ∨ tcMessage = tcTag) := by decide
  unfold decPayload
  rw [if_neg e0, if_neg e1, if_pos rfl, if_neg (by omega)]
  rfl

theorem decPayload_leaf (mx fuel lvl mx' fuel' lvl' tc : Nat) (p : Bytes) (h : ¬ (tc = tcMessage ∧ 4 ≤ p.length)) :
    decPayload mx fuel lvl tc p = decPayload mx' fuel' lvl' tc p := by
  unfold decPayload
  by_cases h0 : wireItemSize tc ≠ 0
  · rw [if_pos h0, if_pos h0]
  rw [if_neg h0, if_neg h0]
  by_cases h1 : tc = tcPointer ∨ tc = tcTag
  · rw [if_pos h1, if_pos h1]
  rw [if_neg h1, if_neg h1]
  by_cases h2 : tc = tcMessage
  · have h3 : p.length < 4 := by
      rcases Nat.lt_or_ge p.length 4 with h3 | h3
      · exact h3
      · exact absurd ⟨h2, h3⟩ h
    rw [if_pos h2, if_pos h2, if_pos h3, if_pos h3]
  · rw [if_neg h2, if_neg h2]

theorem decFields_zero (mx fuel lvl : Nat) (b : Bytes) (acc : List (Bytes × Field)) :
    decFields mx fuel lvl 0 b acc = some (acc, b) := by
  cases fuel <;> simp [decFields]

theorem decMsgItems_nil (mx fuel lvl : Nat) : decMsgItems mx fuel lvl [] = some [] := by
  cases fuel <;> simp [decMsgItems]

/-- `MessageField::Unflatten` succeeded in one of seven ways, told apart by the type code: a fixed-size payload; for
    `tcMessage` an empty view, one sub-Message filling the view, or a sub-Message array; strings; for any other code
    outside the repertoire one raw item or a raw array -/
theorem decPayload_some {mx fuel lvl tc : Nat} {p : Bytes} {f : Field} {r : Bytes}
    (h : decPayload mx fuel lvl tc p = some (f, r)) :
    (wireItemSize tc ≠ 0 ∧ decFixed tc (wireItemSize tc) p = some (f, r)) ∨
    (tc = tcMessage ∧ p = [] ∧ f = .msgs .arr [] ∧ r = []) ∨
    (tc = tcMessage ∧ ∃ m r', 4 ≤ p.length ∧ decMsg mx fuel (lvl + 1) (p.drop 4) = some (m, r') ∧
      f = .msgs .inl [m] ∧ r = []) ∨
    (tc = tcMessage ∧ ∃ ms, 4 ≤ p.length ∧ decMsgItems mx fuel lvl p = some ms ∧ f = .msgs .arr ms ∧ r = []) ∨
    (tc = tcString ∧ ∃ cnt q xs, rd32 p = some (cnt, q) ∧ decStrItems cnt q = some (xs, r) ∧
      f = .strs (if cnt = 1 then .inl else .arr) xs) ∨
    ((wireItemSize tc = 0 ∧ ¬(tc = tcPointer ∨ tc = tcTag) ∧ tc ≠ tcMessage ∧ tc ≠ tcString) ∧
      ((∃ q q', rd32 p = some (1, q) ∧ rd32 q = some (q'.length, q') ∧ f = .raws tc .inl [q'] ∧ r = []) ∨
       ∃ cnt q xs, rd32 p = some (cnt, q) ∧ decRawItems cnt q = some (xs, r) ∧ f = .raws tc .arr xs)) := by
  unfold decPayload at h
  by_cases h0 : wireItemSize tc ≠ 0
  · rw [if_pos h0] at h; exact .inl ⟨h0, h⟩
  rw [if_neg h0] at h
  by_cases h1 : tc = tcPointer ∨ tc = tcTag
  · rw [if_pos h1] at h; cases h
  rw [if_neg h1] at h
  by_cases h2 : tc = tcMessage
  · rw [if_pos h2] at h
    by_cases h3 : p.length < 4
    · rw [if_pos h3] at h
      by_cases h3' : p.length = 0
      · rw [if_pos h3'] at h; cases h
        exact .inr (.inl ⟨h2, List.length_eq_zero_iff.1 h3', rfl, rfl⟩)
      · rw [if_neg h3'] at h; cases h
    rw [if_neg h3] at h
    by_cases h4 : leVal (p.take 4) = p.length - 4
    · rw [if_pos h4] at h
      split at h
      · cases h
      · rename_i m r' hm
        cases h
        exact .inr (.inr (.inl ⟨h2, m, r', by omega, hm, rfl, rfl⟩))
    · rw [if_neg h4] at h
      split at h
      · cases h
      · rename_i ms hms
        cases h
        exact .inr (.inr (.inr (.inl ⟨h2, ms, by omega, hms, rfl, rfl⟩)))
  rw [if_neg h2] at h
  split at h
  · cases h
  rename_i cnt q hq
  by_cases h4 : tc = tcString
  · rw [if_pos h4] at h
    split at h
    · cases h
    · rename_i xs rest hx
      cases h
      exact .inr (.inr (.inr (.inr (.inl ⟨h4, cnt, q, xs, hq, hx, rfl⟩))))
  rw [if_neg h4] at h
  by_cases h5 : cnt = 1
  · rw [if_pos h5] at h
    subst h5
    split at h
    · cases h
    · rename_i sz q' hq'
      by_cases h6 : sz = q'.length
      · rw [if_pos h6] at h; cases h
        exact .inr (.inr (.inr (.inr (.inr ⟨⟨Decidable.of_not_not h0, h1, h2, h4⟩, .inl ⟨q, q', hq, h6 ▸ hq', rfl, rfl⟩⟩))))
      · rw [if_neg h6] at h; cases h
  · rw [if_neg h5] at h
    split at h
    · cases h
    · rename_i xs rest hx
      cases h
      exact .inr (.inr (.inr (.inr (.inr ⟨⟨Decidable.of_not_not h0, h1, h2, h4⟩, .inr ⟨cnt, q, xs, hq, hx, rfl⟩⟩))))

theorem decMsg_some {mx fuel lvl : Nat} {b : Bytes} {m : Msg} {r : Bytes} (h : decMsg mx fuel lvl b = some (m, r)) :
    ∃ (fuel' what n : Nat) (b3 : Bytes) (fs : List (Bytes × Field)), fuel = fuel' + 1 ∧
      msgHeader mx lvl b = some (what, n, b3) ∧ decFields mx fuel' lvl n b3 [] = some (fs, r) ∧ m = .mk what fs := by
  cases fuel with
  | zero => rw [decMsg_out] at h; cases h
  | succ fuel =>
    rw [decMsg_succ] at h
    split at h
    · cases h
    · rename_i what n b3 hh
      split at h
      · cases h
      · rename_i fs r' hd
        cases h
        exact ⟨fuel, what, n, b3, fs, rfl, hh, hd, rfl⟩

theorem decFields_succ_some {mx fuel lvl k : Nat} {b : Bytes} {acc fs : List (Bytes × Field)} {r : Bytes}
    (h : decFields mx fuel lvl (k + 1) b acc = some (fs, r)) :
    ∃ (fuel' : Nat) (nm : Bytes) (tc el : Nat) (b4 : Bytes) (f : Field) (rest : Bytes), fuel = fuel' + 1 ∧
      entryHeader acc b = some (nm, tc, el, b4) ∧ decPayload mx fuel' lvl tc (b4.take el) = some (f, rest) ∧
      decFields mx fuel' lvl k (rest ++ b4.drop el) (upsertField nm f acc) = some (fs, r) := by
  cases fuel with
  | zero => rw [decFields_out] at h; cases h
  | succ fuel =>
    rw [decFields_succ] at h
    split at h
    · cases h
    · rename_i nm tc el b4 hh
      split at h
      · cases h
      · rename_i f rest hp
        exact ⟨fuel, nm, tc, el, b4, f, rest, rfl, hh, hp, h⟩

theorem decMsgItems_some {mx fuel lvl : Nat} {b : Bytes} {ms : List Msg} (h : decMsgItems mx fuel lvl b = some ms)
    (hb : b ≠ []) :
    ∃ (fuel' len : Nat) (b1 : Bytes) (m : Msg) (rest : Bytes) (ms' : List Msg), fuel = fuel' + 1 ∧
      itemHeader b = some (len, b1) ∧ decMsg mx fuel' (lvl + 1) (b1.take len) = some (m, rest) ∧
      decMsgItems mx fuel' lvl (rest ++ b1.drop len) = some ms' ∧ ms = m :: ms' := by
  cases fuel with
  | zero => rw [decMsgItems_out mx lvl b hb] at h; cases h
  | succ fuel =>
    rw [decMsgItems_succ mx fuel lvl b hb] at h
    split at h
    · cases h
    · rename_i len b1 hh
      split at h
      · cases h
      · rename_i m rest hm
        split at h
        · cases h
        · rename_i ms' hms
          cases h
          exact ⟨fuel, len, b1, m, rest, ms', rfl, hh, hm, hms, rfl⟩

/-! ## the headers on what the writer wrote -/

theorem leVal_le32 (n : Nat) (h : n < U32) : leVal (le32 n) = n :=
  leVal_leN 4 n (by simpa [U32] using h)

theorem cstr_name (n : Bytes) (h : nulFree n) : cstr (n ++ [0]) = some n := by
  have hc : (n ++ [0]).contains 0 = true := by simp
  have ht : ∀ (l : Bytes), (∀ x ∈ l, x ≠ 0) → (l ++ [0]).takeWhile (· != 0) = l := by
    intro l
    induction l with
    | nil => intro _; simp
    | cons a t ih =>
      intro hl
      have ha : a ≠ 0 := hl a (by simp)
      have := ih (fun x hx => hl x (by simp [hx]))
      simp [ha, this]
  simp only [cstr, hc, if_true]
  rw [ht n h]

theorem takeN_name (n X : Bytes) : takeN (n.length + 1) (n ++ 0 :: X) = some (n ++ [0], X) := by
  have := takeN_append' (n ++ [0]) X (n.length + 1) (by simp)
  simpa using this

theorem protocolVersion_ok : ¬ (protocolVersion < oldestProtocolVersion ∨ protocolVersion < protocolVersion) := by decide

theorem protocolVersion_lt : protocolVersion < U32 := by decide

theorem decMsg_above_limit (mx fuel lvl : Nat) (b : Bytes) (h : mx < lvl) : decMsg mx fuel lvl b = none := by
  cases fuel with
  | zero => exact decMsg_out mx lvl b
  | succ fuel => rw [decMsg_succ, msgHeader, if_pos h]

/-- the header of `Message::Flatten` read back: within the nesting limit, with the entry count plausible for what follows -/
theorem msgHeader_le32 (mx lvl w n : Nat) (X : Bytes) (hl : lvl ≤ mx) (hw : w < U32) (hn : n < U32) (hX : n ≤ X.length / 12) :
    msgHeader mx lvl (le32 protocolVersion ++ (le32 w ++ (le32 n ++ X))) = some (w, n, X) := by
  simp only [msgHeader, if_neg (Nat.not_lt.2 hl), rd32_le32 _ _ protocolVersion_lt, protocolVersion_ok, if_false,
    rd32_le32 _ _ hw, rd32_le32 _ _ hn, if_neg (Nat.not_lt.2 hX)]

theorem itemHeader_le32 (len : Nat) (X : Bytes) (hl : len < U32) (hX : len ≤ X.length) :
    itemHeader (le32 len ++ X) = some (len, X) := by
  simp only [itemHeader, rd32_le32 _ _ hl, if_neg (Nat.not_lt.2 hX)]

/-- one iteration of the entry loop of `Message::Unflatten` on a well-formed entry header: name, type code and payload
    length are read back and the payload reader gets exactly the payload -/
theorem decFields_enc_entry (mx fuel lvl k : Nat) (n : Bytes) (tc : Nat) (P X : Bytes) (acc : List (Bytes × Field))
    (hn : nulFree n) (hnl : n.length + 1 < U32) (htc : tc < U32) (hP : P.length < U32)
    (hlook : lookupField n acc = none) :
    decFields mx (fuel + 1) lvl (k + 1)
        (le32 (n.length + 1) ++ (n ++ (0 :: (le32 tc ++ (le32 P.length ++ (P ++ X)))))) acc
      = match decPayload mx fuel lvl tc P with
        | none => none
        | some (f, rest) => decFields mx fuel lvl k (rest ++ X) (upsertField n f acc) := by
  rw [decFields_succ]
  simp only [entryHeader, rd32_le32 _ _ hnl, takeN_name, rd32_le32 _ _ htc, rd32_le32 _ _ hP, cstr_name n hn, hlook,
    List.take_left', List.drop_left']

end Muscle.Wire
