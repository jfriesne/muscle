import MuscleModel.Base.Bytes
import MuscleModel.Generated.Constants

/-!
# The 8-byte stream frame of `MessageIOGateway`

The body is an opaque byte string: what an encoding id does to it (zlib compression) is not modelled.

`frame` mirrors `MessageIOGateway::FlattenHeaderAndMessageAux` (header = little-endian body length, little-endian
encoding id, then the body); `unframeStream` mirrors the receive side: `GetBodySize` (the encoding word must be one
of the known ids), the overflow test on `headerSize + bodySize`, then exactly `bodySize` bytes are collected;
`unframe` is `UnflattenHeaderAndMessage` on a complete buffer (`offset + lhbSize == bufSize`).
The C gateways (`MGAddOutgoingMessage`, `UGOutgoingMessagePrepared`) and `message_transceiver_thread.py` write the
same header with the encoding fixed to `'Enc0'`; that they do is checked by harness `xwire`.
-/

namespace Muscle.Wire
open Muscle Muscle.Gen

/-- `FlattenHeaderAndMessage`: `le32 length ++ le32 encoding ++ body` -/
def frame (enc : Nat) (body : Bytes) : Bytes := le32 body.length ++ (le32 enc ++ body)

/-- is `enc` one of `MUSCLE_MESSAGE_ENCODING_DEFAULT … MUSCLE_MESSAGE_ENCODING_END_MARKER-1` (`GetBodySize`) -/
def validEncoding (enc : Nat) : Bool := encodingDefault ≤ enc && enc < encodingEndMarker

/-- receive side on a byte stream: (encoding, body, rest of the stream); `none` = error or not yet complete -/
def unframeStream (b : Bytes) : Option (Nat × Bytes × Bytes) :=
  match rd32 b with
  | none => none
  | some (len, b) =>
    match rd32 b with
    | none => none
    | some (enc, b) =>
      if !validEncoding enc then none
      else if 4294967296 ≤ gatewayHeaderSize + len then none     -- `WillUnsignedAddOverflow(hs, bodySize)`
      else
        match takeN len b with
        | none => none
        | some (body, rest) => some (enc, body, rest)

/-- `UnflattenHeaderAndMessage` on a buffer that must hold exactly one frame -/
def unframe (b : Bytes) : Option (Nat × Bytes) :=
  match unframeStream b with
  | some (enc, body, []) => some (enc, body)
  | _ => none

theorem unframeStream_frame (enc : Nat) (body rest : Bytes) (he : validEncoding enc = true)
    (hl : gatewayHeaderSize + body.length < 4294967296) :
    unframeStream (frame enc body ++ rest) = some (enc, body, rest) := by
  have hlen : body.length < 4294967296 := by omega
  have henc : enc < 4294967296 := by
    simp only [validEncoding, Bool.and_eq_true, decide_eq_true_eq] at he
    have : encodingEndMarker < 4294967296 := by decide
    omega
  have h1 : rd32 (le32 body.length ++ (le32 enc ++ (body ++ rest))) = some (body.length, le32 enc ++ (body ++ rest)) :=
    rd32_le32 _ _ hlen
  have h2 : rd32 (le32 enc ++ (body ++ rest)) = some (enc, body ++ rest) := rd32_le32 _ _ henc
  have h3 : ¬ (4294967296 ≤ gatewayHeaderSize + body.length) := by omega
  simp only [unframeStream, frame, List.append_assoc, h1, h2, he, Bool.not_true, Bool.false_eq_true, if_false, h3,
    takeN_append]

end Muscle.Wire
