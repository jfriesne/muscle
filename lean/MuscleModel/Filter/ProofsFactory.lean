import MuscleModel.Filter.ProofsNorm

/-!
# The factory on arbitrary Messages: completely initialised results, unknown class codes, failing children

`Archive.lean` writes `fromArchiveF` as one `if`-chain over the class code with the `SetFromArchive` bodies inline.  Here
the bodies get names (`read…`; `rec` is the factory for children) and the chain becomes a table `readerOf` from class code
to reader (`fromArchiveF_run`), so that what holds of every class is a statement about `readerOf`, and the factory is
evaluated at one class code by `fromArchiveF_at`.
-/

namespace Muscle.Filter
open Muscle Muscle.Wire Muscle.Gen

mutual
/-- completely initialised.  Weaker than `wf` (no bound on indices, type codes, operators), and all the factory
    guarantees: an archive item wider than its type code says comes out as a number of 2^32 or more. -/
def shapeOk : Filter → Prop
  | .num ty _ _ _ _ val mask _ => val.length = ty.size ∧ mask.length = ty.size
  | .childCount _ _ _ _ val mask _ => val.length = 4 ∧ mask.length = 4
  | .msgKid _ _ kid _ => shapeOk kid
  | .minMatch _ kids => shapeOkKids kids
  | .maxMatch _ kids => shapeOkKids kids
  | .xor kids => shapeOkKids kids
  | .what _ _ => True | .valueExists _ _ _ => True | .str _ _ _ _ _ => True | .nodeName _ _ _ _ _ => True
  | .raw _ _ _ _ _ _ => True | .msgAny _ _ _ => True
def shapeOkKids : List Filter → Prop
  | [] => True
  | k :: ks => shapeOk k ∧ shapeOkKids ks
end

def readWhat (a : Msg) : Filter := .what (getInt32 kMin 0 a) (getInt32 kMax (getInt32 kMin 0 a) a)

def readValueExists (a : Msg) : Option Filter :=
  match fnIdx a with
  | none => none
  | some (fn, idx) => some (.valueExists fn idx (getInt32 kType tcAny a))

/-- `NumericQueryFilter` and `ChildCountQueryFilter` -/
def readNum (C : Bytes → Nat → Nat → Nat → Bytes → Bytes → Option Bytes → Filter) (tc sz : Nat) (zero : Bytes) (a : Msg) :
    Option Filter :=
  match numFromArchive tc sz zero a with
  | none => none
  | some p => some (C p.fn p.idx p.op p.mop p.val p.mask p.dflt)

/-- `StringQueryFilter` and `NodeNameQueryFilter` -/
def readStr (C : Bytes → Nat → Nat → Bytes → Option Bytes → Filter) (a : Msg) : Option Filter :=
  match strFromArchive a with
  | none => none
  | some (fn, idx, op, v, d) => some (C fn idx op v d)

def readRaw (a : Msg) : Option Filter :=
  match fnIdx a with
  | none => none
  | some (fn, idx) =>
    match findInt8 kOp a with
    | none => none
    | some op => some (.raw fn idx op (getInt32 kType tcAny a) (findData kVal tcRaw 0 a) (findRawBuf kDef a))

def readMsg (rec : Msg → Option Filter) (a : Msg) : Option Filter :=
  match fnIdx a with
  | none => none
  | some (fn, idx) =>
    match findMessage kKid 0 a with
    | none => some (.msgAny fn idx (findMessage kDefmsg 0 a))
    | some k =>
      match rec k with
      | none => none
      | some kid => some (.msgKid fn idx kid (findMessage kDefmsg 0 a))

/-- the three `MultiQueryFilter` classes -/
def readMulti (rec : Msg → Option Filter) (C : List Filter → Filter) (a : Msg) : Option Filter :=
  match mapOpt rec (kidArchives a) with
  | none => none
  | some kids => some (C kids)

/-- a `SetFromArchive` body: the factory for child archives → the archive → the filter -/
abbrev Reader := (Msg → Option Filter) → Msg → Option Filter

/-- `MuscleQueryFilterFactory::CreateQueryFilter(what)`: the class a code stands for, as its reader -/
def readerOf (w : Nat) : Option Reader :=
  if w = qfWhatCode then some fun _ a => some (readWhat a)
  else if w = qfValueExists then some fun _ => readValueExists
  else if w = qfChildCount then some fun _ => readNum .childCount tcInt32 4 (NumTy.dflt .i32)
  else if w = qfString then some fun _ => readStr .str
  else if w = qfNodeName then some fun _ => readStr .nodeName
  else if w = qfRawData then some fun _ => readRaw
  else if w = qfMessage then some readMsg
  else if w = qfMinMatch then some fun rec a => readMulti rec (.minMatch (getInt32 kMin muscleNoLimit a)) a
  else if w = qfMaxMatch then some fun rec a => readMulti rec (.maxMatch (getInt32 kMax 0 a)) a
  else if w = qfXor then some fun rec => readMulti rec .xor
  else match numTyOfQf w with
    | none => none
    | some ty => some fun _ => readNum (.num ty) ty.tc ty.size ty.dflt

def Reader.run (rec : Msg → Option Filter) (a : Msg) : Option Reader → Option Filter
  | none => none
  | some r => r rec a

theorem fromArchiveF_run (n : Nat) (a : Msg) :
    fromArchiveF (n + 1) a = Reader.run (fromArchiveF n) a (readerOf a.what) := by
  simp only [readerOf, apply_ite (Reader.run (fromArchiveF n) a)]
  cases h : numTyOfQf a.what <;> (rw [fromArchiveF]; simp only [h]; rfl)

/-- with `h` by `rfl` where the code is a literal -/
theorem fromArchiveF_at {n w : Nat} {fs : List (Bytes × Field)} {r : Reader} (h : readerOf w = some r) :
    fromArchiveF (n + 1) (.mk w fs) = r (fromArchiveF n) (.mk w fs) := by
  rw [fromArchiveF_run, Msg.what, h]; rfl

theorem readerOf_num (ty : NumTy) : readerOf ty.qf = some fun _ => readNum (.num ty) ty.tc ty.size ty.dflt := by
  cases ty <;> rfl

theorem numFromArchive_len (tc sz : Nat) (zero : Bytes) (a : Msg) (p : NumParts) (hz : zero.length = sz)
    (h : numFromArchive tc sz zero a = some p) : p.val.length = sz ∧ p.mask.length = sz := by
  unfold numFromArchive at h
  split at h
  · cases h
  · split at h
    · cases h
    · split at h
      · cases h
      · rename_i hlen
        cases h
        refine ⟨by simpa using hlen, ?_⟩
        simp only
        split
        · split
          · assumption
          · exact hz
        · exact hz

theorem mapOpt_shape (g : Msg → Option Filter) (hg : ∀ a f, g a = some f → shapeOk f) :
    ∀ (xs : List Msg) (ys : List Filter), mapOpt g xs = some ys → shapeOkKids ys := by
  intro xs
  induction xs with
  | nil => intro ys h; simp [mapOpt] at h; subst h; simp [shapeOkKids]
  | cons x xs ih =>
    intro ys h
    unfold mapOpt at h
    split at h
    · cases h
    · rename_i y hy
      split at h
      · cases h
      · rename_i ys' hys
        cases h
        exact ⟨hg _ _ hy, ih _ hys⟩

theorem mapOpt_none_of_mem (g : Msg → Option Filter) : ∀ (xs : List Msg) (x : Msg), x ∈ xs → g x = none → mapOpt g xs = none := by
  intro xs
  induction xs with
  | nil => intro x h; cases h
  | cons y ys ih =>
    intro x hx hg
    unfold mapOpt
    cases hx with
    | head => simp [hg]
    | tail _ hmem =>
      cases hy : g y with
      | none => rfl
      | some v => simp [ih x hmem hg]

theorem readValueExists_shape {a : Msg} {f : Filter} (h : readValueExists a = some f) : shapeOk f := by
  unfold readValueExists at h
  split at h <;> cases h
  trivial

theorem readStr_shape {a : Msg} {C : Bytes → Nat → Nat → Bytes → Option Bytes → Filter} {f : Filter} (h : readStr C a = some f)
    (hC : ∀ fn idx op v d, shapeOk (C fn idx op v d)) : shapeOk f := by
  unfold readStr at h
  split at h <;> cases h
  exact hC ..

theorem readRaw_shape {a : Msg} {f : Filter} (h : readRaw a = some f) : shapeOk f := by
  unfold readRaw at h
  split at h
  · cases h
  · split at h <;> cases h
    trivial

theorem readNum_shape {a : Msg} {C : Bytes → Nat → Nat → Nat → Bytes → Bytes → Option Bytes → Filter} {tc sz : Nat} {zero : Bytes}
    {f : Filter} (h : readNum C tc sz zero a = some f) (hz : zero.length = sz)
    (hC : ∀ fn idx op mop val mask d, val.length = sz ∧ mask.length = sz → shapeOk (C fn idx op mop val mask d)) :
    shapeOk f := by
  unfold readNum at h
  split at h
  · cases h
  · rename_i p hp
    cases h
    exact hC _ _ _ _ _ _ _ (numFromArchive_len tc sz zero a p hz hp)

theorem readMsg_shape {a : Msg} {rec : Msg → Option Filter} {f : Filter} (h : readMsg rec a = some f)
    (hrec : ∀ k f, rec k = some f → shapeOk f) : shapeOk f := by
  unfold readMsg at h
  split at h
  · cases h
  · split at h
    · cases h; trivial
    · split at h
      · cases h
      · rename_i kid hk
        cases h
        exact hrec _ kid hk

theorem readMulti_shape {a : Msg} {rec : Msg → Option Filter} {C : List Filter → Filter} {f : Filter} (h : readMulti rec C a = some f)
    (hrec : ∀ k f, rec k = some f → shapeOk f) (hC : ∀ ks, shapeOkKids ks → shapeOk (C ks)) : shapeOk f := by
  unfold readMulti at h
  split at h
  · cases h
  · rename_i ks hks
    cases h
    exact hC ks (mapOpt_shape rec hrec _ ks hks)

def Reader.Shapes (r : Reader) : Prop :=
  ∀ rec, (∀ k f, rec k = some f → shapeOk f) → ∀ a f, r rec a = some f → shapeOk f

theorem readerOf_shapes (w : Nat) : ∀ r, readerOf w = some r → Reader.Shapes r := by
  unfold readerOf
  refine ite_some_elim (fun _ _ _ _ => some_elim trivial) ?_
  refine ite_some_elim (fun _ _ _ _ _ => readValueExists_shape) ?_
  refine ite_some_elim (fun _ _ _ _ _ h => readNum_shape h rfl fun _ _ _ _ _ _ _ h => h) ?_
  refine ite_some_elim (fun _ _ _ _ _ h => readStr_shape h fun _ _ _ _ _ => trivial) ?_
  refine ite_some_elim (fun _ _ _ _ _ h => readStr_shape h fun _ _ _ _ _ => trivial) ?_
  refine ite_some_elim (fun _ _ _ _ _ => readRaw_shape) ?_
  refine ite_some_elim (fun _ _ ih _ _ h => readMsg_shape h ih) ?_
  refine ite_some_elim (fun _ _ ih _ _ h => readMulti_shape h ih fun _ h => h) ?_
  refine ite_some_elim (fun _ _ ih _ _ h => readMulti_shape h ih fun _ h => h) ?_
  refine ite_some_elim (fun _ _ ih _ _ h => readMulti_shape h ih fun _ h => h) ?_
  cases numTyOfQf w with
  | none => exact none_elim
  | some ty => exact some_elim fun _ _ _ _ h => readNum_shape h (dflt_len _) fun _ _ _ _ _ _ _ h => h

theorem fromArchiveF_shape : ∀ (fuel : Nat) (a : Msg) (f : Filter), fromArchiveF fuel a = some f → shapeOk f
  | 0, _, _, h => by simp [fromArchiveF] at h
  | n + 1, a, f, h => by
    rw [fromArchiveF_run] at h
    cases hr : readerOf a.what with
    | none => rw [hr] at h; cases h
    | some r => rw [hr] at h; exact readerOf_shapes _ r hr _ (fromArchiveF_shape n) a f h

theorem numTyOfQf_qf (w : Nat) : ∀ ty, numTyOfQf w = some ty → ty.qf = w := by
  unfold numTyOfQf
  iterate 9 refine ite_some_elim Eq.symm ?_
  exact none_elim

theorem qf_range (ty : NumTy) : qfWhatCode ≤ ty.qf ∧ ty.qf ≤ qfNodeName := by cases ty <;> decide

theorem readerOf_unknown {w : Nat} (h : w < qfWhatCode ∨ qfNodeName < w) : readerOf w = none := by
  have out (c : Nat) (h1 : qfWhatCode ≤ c) (h2 : c ≤ qfNodeName) : ¬ w = c := by omega
  unfold readerOf
  iterate 10 rw [if_neg (out _ (by decide) (by decide))]
  cases hty : numTyOfQf w with
  | none => rfl
  | some ty => exact absurd (numTyOfQf_qf _ ty hty).symm (out _ (qf_range ty).1 (qf_range ty).2)

theorem fromArchiveF_unknown (n : Nat) (a : Msg) (h : a.what < qfWhatCode ∨ qfNodeName < a.what) : fromArchiveF (n + 1) a = none := by
  rw [fromArchiveF_run, readerOf_unknown h]; rfl

theorem fromArchiveF_bad_child (fuel : Nat) (a : Msg) (k : Msg) (hk : k ∈ kidArchives a) (hbad : fromArchiveF fuel k = none)
    (hw : a.what = qfMinMatch ∨ a.what = qfMaxMatch ∨ a.what = qfXor) : fromArchiveF (fuel + 1) a = none := by
  have hm := mapOpt_none_of_mem (fromArchiveF fuel) _ k hk hbad
  obtain ⟨w, fs⟩ := a
  rcases hw with h | h | h <;> cases h <;> rw [fromArchiveF_at rfl, readMulti, hm]


/-! structural equality as a Bool (for the computed examples of the property file) -/
def optEq {α} (eq : α → α → Bool) : Option α → Option α → Bool
  | none, none => true
  | some x, some y => eq x y
  | _, _ => false

mutual
def feq : Filter → Filter → Bool
  | .what a b, .what a' b' => a == a' && b == b'
  | .valueExists f i t, .valueExists f' i' t' => f == f' && i == i' && t == t'
  | .num ty f i o mo v mk d, .num ty' f' i' o' mo' v' mk' d' =>
      decide (ty = ty') && f == f' && i == i' && o == o' && mo == mo' && v == v' && mk == mk' && d == d'
  | .childCount f i o mo v mk d, .childCount f' i' o' mo' v' mk' d' =>
      f == f' && i == i' && o == o' && mo == mo' && v == v' && mk == mk' && d == d'
  | .str f i o v d, .str f' i' o' v' d' => f == f' && i == i' && o == o' && v == v' && d == d'
  | .nodeName f i o v d, .nodeName f' i' o' v' d' => f == f' && i == i' && o == o' && v == v' && d == d'
  | .raw f i o t v d, .raw f' i' o' t' v' d' => f == f' && i == i' && o == o' && t == t' && v == v' && d == d'
  | .msgAny f i d, .msgAny f' i' d' => f == f' && i == i' && optEq (fun a b => encode a == encode b) d d'
  | .msgKid f i k d, .msgKid f' i' k' d' => f == f' && i == i' && feq k k' && optEq (fun a b => encode a == encode b) d d'
  | .minMatch n ks, .minMatch n' ks' => n == n' && feqs ks ks'
  | .maxMatch n ks, .maxMatch n' ks' => n == n' && feqs ks ks'
  | .xor ks, .xor ks' => feqs ks ks'
  | _, _ => false
def feqs : List Filter → List Filter → Bool
  | [], [] => true
  | k :: ks, k' :: ks' => feq k k' && feqs ks ks'
  | _, _ => false
end

/-- `= true`: `fromArchive (toArchive f)` succeeds and `feq` finds the result equal to `norm f` (the same constructor with
    equal arguments throughout; Message defaults are compared by their encodings).  For the computed examples only: no theorem
    rests on `feq`, and neither its reflexivity nor its soundness is proved. -/
def roundTripsTo (f : Filter) : Bool :=
  match fromArchive (toArchive f) with
  | some g => feq g (norm f)
  | none => false

end Muscle.Filter
