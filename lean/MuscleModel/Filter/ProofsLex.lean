import MuscleModel.Filter.Parser

/-!
# The lexer: every token consumes input (or is an empty user string)
-/

namespace Muscle.Filter
open Muscle Muscle.Gen

theorem lastMatch_pos (s : Bytes) : ∀ (tbl : List Bytes) (i id n : Nat), lastMatch s tbl i = some (id, n) → 1 ≤ n := by
  intro tbl
  induction tbl with
  | nil => intro i id n h; simp [lastMatch] at h
  | cons t rest ih =>
    intro i id n h
    unfold lastMatch at h
    split at h
    · rename_i r hr; cases h; exact ih _ _ _ hr
    · split at h
      · rename_i hc
        cases h
        cases t with
        | nil => simp at hc
        | cons a b => simp
      · cases h

theorem firstSynonym_pos (s : Bytes) : ∀ (syn : List (Bytes × Nat)) (id n : Nat), (∀ p ∈ syn, p.1 ≠ []) →
    firstSynonym s syn = some (id, n) → 1 ≤ n := by
  intro syn
  induction syn with
  | nil => intro id n _ h; simp [firstSynonym] at h
  | cons p rest ih =>
    intro id n hne h
    obtain ⟨t, tid⟩ := p
    unfold firstSynonym at h
    split at h
    · have hn := hne (t, tid) (List.Mem.head _)
      simp only [Option.some.injEq, Prod.mk.injEq] at h
      obtain ⟨_, h2⟩ := h
      subst h2
      cases t with
      | nil => simp at hn
      | cons a b => simp
    · exact ih id n (fun q hq => hne q (by simp [hq])) h

theorem getMatchingToken_pos (s : Bytes) (id n : Nat) (h : getMatchingToken s = some (id, n)) : 1 ≤ n := by
  unfold getMatchingToken at h
  split at h
  · rename_i r hr; cases h; exact lastMatch_pos s _ _ _ _ hr
  · exact firstSynonym_pos s lexerSynonyms id n (by decide) h

variable (gm : Bytes → Option (Nat × Nat))

theorem scanUserWith_le : ∀ (s : Bytes), (scanUserWith gm s).2.length ≤ s.length := by
  intro s
  induction s with
  | nil => simp [scanUserWith]
  | cons c r ih =>
    unfold scanUserWith
    split
    · simp
    · simp only [List.length_cons]; omega

theorem scanUserWith_lt_or_empty (s : Bytes) : (scanUserWith gm s).2.length < s.length ∨ (scanUserWith gm s).1 = [] := by
  cases s with
  | nil => right; simp [scanUserWith]
  | cons c r =>
    unfold scanUserWith
    split
    · right; rfl
    · left; have := scanUserWith_le gm r; simp only [List.length_cons]; omega

theorem splitQuote_lt : ∀ (s a b : Bytes), splitQuote s = some (a, b) → b.length < s.length := by
  intro s
  induction s with
  | nil => intro a b h; simp [splitQuote] at h
  | cons c r ih =>
    intro a b h
    unfold splitQuote at h
    split at h
    · cases h; simp
    · split at h
      · rename_i a' b' hq; cases h; have := ih _ _ hq; simp only [List.length_cons]; omega
      · cases h

theorem nextTokenWith_progress (hgm : ∀ s id n, gm s = some (id, n) → 1 ≤ n) :
    ∀ (s : Bytes) (t : Tok) (r : Bytes), nextTokenWith gm s = some (t, r) →
    r.length < s.length ∨ (r.length ≤ s.length ∧ t = .user [] false) := by
  intro s
  induction s with
  | nil => intro t r h; simp [nextTokenWith] at h
  | cons c rest ih =>
    intro t r h
    unfold nextTokenWith at h
    split at h
    · rename_i id n hm
      simp only [Option.some.injEq, Prod.mk.injEq] at h
      obtain ⟨ht, hr⟩ := h
      subst ht; subst hr
      have := hgm _ _ _ hm
      left; simp only [List.length_drop, List.length_cons]; omega
    · split at h
      · split at h
        · rename_i v r' hq
          simp only [Option.some.injEq, Prod.mk.injEq] at h
          obtain ⟨ht, hr⟩ := h
          subst ht; subst hr
          have := splitQuote_lt _ _ _ hq; left; simp only [List.length_cons]; omega
        · simp at h
      · split at h
        · rcases ih t r h with h1 | ⟨h1, h2⟩
          · left; simp only [List.length_cons]; omega
          · left; simp only [List.length_cons]; omega
        · simp only [Option.some.injEq, Prod.mk.injEq] at h
          obtain ⟨ht, hr⟩ := h
          subst ht; subst hr
          rcases scanUserWith_lt_or_empty gm (c :: rest) with h1 | h1
          · left; exact h1
          · right; exact ⟨scanUserWith_le gm _, by rw [h1]⟩

end Muscle.Filter
