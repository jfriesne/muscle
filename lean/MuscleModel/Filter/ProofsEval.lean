import MuscleModel.Filter.Archive
import MuscleModel.Base.Lists

/-!
# Evaluation: the combinator loops against counting, the comparison operators per operand type, missing items
-/

namespace Muscle.Filter
open Muscle Muscle.Wire Muscle.Gen

theorem thrLoop_spec (t : Nat) : ∀ (vals : List Bool) (mc : Nat), mc ≤ t →
    thrLoop t mc vals = decide (t < mc + vals.count true) := by
  intro vals
  induction vals with
  | nil => intro mc h; simp [thrLoop, Nat.not_lt.mpr h]
  | cons v rest ih =>
    intro mc h
    -- the early "cannot reach the threshold any more" exit is right because no more than `length` of the rest can match
    have hc : rest.count true ≤ rest.length := List.count_le_length
    rw [thrLoop]
    by_cases hb : 1 + t - mc > (v :: rest).length
    · rw [if_pos hb]; cases v <;> simp at hb ⊢ <;> omega
    · rw [if_neg hb]
      cases v
      · simpa using ih mc h
      · by_cases h2 : mc + 1 > t
        · simp [h2]; omega
        · simp [h2, ih (mc + 1) (by omega)]; omega

theorem thresholdMaxAux_spec (n : Nat) (vals : List Bool) :
    thresholdMaxAux n vals = (vals.isEmpty || decide (min n (vals.length - 1) < vals.count true)) := by
  unfold thresholdMaxAux
  cases vals with
  | nil => simp
  | cons v rest =>
    simp only [List.length_cons, Nat.add_one_ne_zero, if_false, List.isEmpty_cons, Bool.false_or]
    rw [thrLoop_spec _ _ 0 (Nat.zero_le _)]
    simp

theorem xorLoop_spec : ∀ (vals : List Bool) (mc : Nat), xorLoop mc vals = mc + vals.count true := by
  intro vals
  induction vals with
  | nil => intro mc; simp [xorLoop]
  | cons v rest ih =>
    intro mc
    cases v <;> simp [xorLoop, ih] <;> omega

def parity : List Bool → Bool
  | [] => false
  | v :: r => v != parity r

theorem parity_count (vals : List Bool) : parity vals = (vals.count true % 2 != 0) := by
  induction vals with
  | nil => rfl
  | cons v rest ih =>
    rcases Nat.mod_two_eq_zero_or_one (rest.count true) with h | h <;> cases v <;> simp [parity, ih, Nat.add_mod, h]

theorem thr_and (vals : List Bool) (h : vals.length ≤ muscleNoLimit + 1) :
    thresholdMaxAux muscleNoLimit vals = vals.all id := by
  rw [thresholdMaxAux_spec, Bool.eq_iff_iff, ← count_eq_length_iff_all]
  have hc : vals.count true ≤ vals.length := List.count_le_length
  cases vals with
  | nil => simp
  | cons v rest => simp only [List.isEmpty_cons, Bool.false_or, decide_eq_true_eq, List.length_cons] at *; omega

theorem thr_or (vals : List Bool) : thresholdMaxAux 0 vals = (vals.isEmpty || vals.any id) := by
  rw [thresholdMaxAux_spec]
  have hiff := count_pos_iff_any vals
  congr 1
  rw [Bool.eq_iff_iff, ← hiff]
  simp

theorem evalKids_eq_map (sm : Nat → Bytes → Bytes → Bool) (m : Msg) (nd : Option Node) :
    ∀ kids : List Filter, evalKids sm kids m nd = kids.map (fun k => eval sm k m nd) := by
  intro kids
  induction kids with
  | nil => simp [evalKids]
  | cons k ks ih => simp [evalKids, ih]

theorem sval_inj (k x y : Nat) (hx : x < 256 ^ k) (hy : y < 256 ^ k) : sval k x = sval k y ↔ x = y := by
  unfold sval
  rw [Nat.mod_eq_of_lt hx, Nat.mod_eq_of_lt hy]
  generalize 256 ^ k = P at *
  constructor
  · intro h
    split at h <;> split at h <;> omega
  · intro h; subst h; rfl

/-- The frame of every `numeric_spec_*`.  With `rfl` for the six hypotheses: in terms of `valEq`, `valLt`, `valLe` themselves. -/
theorem numCmp_ops {t : NumTy} {a b : Bytes} {E L G Le Ge N : Bool} (hE : valEq t a b = E) (hL : valLt t a b = L)
    (hG : valLt t b a = G) (hLe : valLe t a b = Le) (hGe : valLe t b a = Ge) (hN : (!E) = N) :
    numCmp t nopEq a b = E ∧ numCmp t nopLt a b = L ∧ numCmp t nopGt a b = G ∧
    numCmp t nopLe a b = Le ∧ numCmp t nopGe a b = Ge ∧ numCmp t nopNe a b = N := by
  subst hE hL hG hLe hGe hN
  exact ⟨rfl, rfl, rfl, rfl, rfl, rfl⟩

theorem numCmp_bad_op (t : NumTy) (op : Nat) (a b : Bytes) (h : 6 ≤ op) : numCmp t op a b = false := by
  have ne (c : Nat) (hc : c < 6) : ¬ op = c := by omega
  unfold numCmp
  iterate 6 rw [if_neg (ne _ (by decide))]

theorem decide_lt_or_beq (x y : Nat) : (decide (x < y) || x == y) = decide (x ≤ y) := by
  rw [Bool.eq_iff_iff]; simp only [Bool.or_eq_true, decide_eq_true_eq, beq_iff_eq]; omega

theorem decide_lt_or_eq (x y : Int) : (decide (x < y) || decide (x = y)) = decide (x ≤ y) := by
  rw [Bool.eq_iff_iff]; simp only [Bool.or_eq_true, decide_eq_true_eq]; omega

section
variable {t : NumTy} (ht : t = .i8 ∨ t = .i16 ∨ t = .i32 ∨ t = .i64) {a b : Bytes}
include ht

theorem valLt_int : valLt t a b = decide (sval t.size (leVal a) < sval t.size (leVal b)) := by
  rcases ht with rfl | rfl | rfl | rfl <;> rfl

theorem valEq_int (ha : a.length = t.size) (hb : b.length = t.size) :
    valEq t a b = decide (sval t.size (leVal a) = sval t.size (leVal b)) := by
  have : valEq t a b = (leVal a == leVal b) := by rcases ht with rfl | rfl | rfl | rfl <;> rfl
  rw [this, Bool.eq_iff_iff, beq_iff_eq, decide_eq_true_eq, sval_inj _ _ _ (ha ▸ leVal_lt a) (hb ▸ leVal_lt b)]

theorem valLe_int (ha : a.length = t.size) (hb : b.length = t.size) :
    valLe t a b = decide (sval t.size (leVal a) ≤ sval t.size (leVal b)) := by
  have : valLe t a b = (valLt t a b || valEq t a b) := by rcases ht with rfl | rfl | rfl | rfl <;> rfl
  rw [this, valLt_int ht, valEq_int ht ha hb, decide_lt_or_eq]
end

section
variable {t : NumTy} (ht : t = .f32 ∨ t = .f64) (a b : Bytes)
include ht

theorem valEq_float : valEq t a b = fEq t.size (leVal a) (leVal b) := by rcases ht with rfl | rfl <;> rfl
theorem valLt_float : valLt t a b = fLt t.size (leVal a) (leVal b) := by rcases ht with rfl | rfl <;> rfl
theorem valLe_float : valLe t a b = (fLt t.size (leVal a) (leVal b) || fEq t.size (leVal a) (leVal b)) := by
  rcases ht with rfl | rfl <;> rfl
end

section
variable (k x y : Nat)

theorem fLt_swap : fLt k y x = (!fNaN k x && !fNaN k y && decide (fKey k x > fKey k y)) := by
  rw [fLt, Bool.and_comm (!fNaN k y)]

theorem fLt_or_fEq : (fLt k x y || fEq k x y) = (!fNaN k x && !fNaN k y && decide (fKey k x ≤ fKey k y)) := by
  rw [fLt, fEq, ← Bool.and_or_distrib_left, decide_lt_or_eq]

theorem fLt_or_fEq_swap : (fLt k y x || fEq k y x) = (!fNaN k x && !fNaN k y && decide (fKey k x ≥ fKey k y)) := by
  rw [fLt_or_fEq, Bool.and_comm (!fNaN k y)]

theorem fEq_not : (!fEq k x y) = (!(!fNaN k x && !fNaN k y) || decide (fKey k x ≠ fKey k y)) := by
  rw [fEq, Bool.not_and, decide_not]
end

/-- the `n` float components (bit patterns) of the in-memory bytes of a `Tuple<n,float>` -/
def comps : Nat → Bytes → List Nat
  | 0, _ => []
  | n+1, a => leVal (a.take 4) :: comps n (a.drop 4)

def allEq : List (Nat × Nat) → Bool
  | [] => true
  | (x, y) :: r => fEq 4 x y && allEq r

/-- lexicographic `<` as `Tuple::operator<` defines it: the first component pair that is ordered by `<` or by `>`
    decides; pairs that are equal *or unordered (NaN)* are skipped; nothing left ⇒ false -/
def lexLt : List (Nat × Nat) → Bool
  | [] => false
  | (x, y) :: r => if fLt 4 x y then true else if fLt 4 y x then false else lexLt r

theorem tupEq_comps : ∀ (n : Nat) (a b : Bytes), tupEq n a b = allEq ((comps n a).zip (comps n b)) := by
  intro n
  induction n with
  | zero => intro a b; simp [tupEq, comps, allEq]
  | succ n ih =>
    intro a b
    simp only [tupEq, comps, List.zip_cons_cons, allEq, ih]
    cases fEq 4 (leVal (a.take 4)) (leVal (b.take 4)) <;> simp

theorem tupLt_comps : ∀ (n : Nat) (a b : Bytes), tupLt n a b = lexLt ((comps n a).zip (comps n b)) := by
  intro n
  induction n with
  | zero => intro a b; simp [tupLt, comps, lexLt]
  | succ n ih =>
    intro a b
    simp only [tupLt, comps, List.zip_cons_cons, lexLt, ih]

theorem valEq_tuple {t : NumTy} (ht : t = .pt ∨ t = .rc) (a b : Bytes) :
    valEq t a b = allEq ((comps (t.size / 4) a).zip (comps (t.size / 4) b)) := by
  rcases ht with rfl | rfl <;> exact tupEq_comps _ a b

theorem valLt_tuple {t : NumTy} (ht : t = .pt ∨ t = .rc) (a b : Bytes) :
    valLt t a b = lexLt ((comps (t.size / 4) a).zip (comps (t.size / 4) b)) := by
  rcases ht with rfl | rfl <;> exact tupLt_comps _ a b

theorem valLe_tuple {t : NumTy} (ht : t = .pt ∨ t = .rc) (a b : Bytes) :
    valLe t a b = !lexLt ((comps (t.size / 4) b).zip (comps (t.size / 4) a)) := by
  rw [← valLt_tuple ht]; rcases ht with rfl | rfl <;> rfl

theorem numMatches_none (t : NumTy) (op mop : Nat) (val mask : Bytes) (dflt : Option Bytes) :
    numMatches t op mop val mask dflt none =
      match dflt with
      | some d => numMatches t op mop val mask none (some d)
      | none => false := by
  cases dflt <;> simp [numMatches]

theorem strMatchesOpt_none (sm : Nat → Bytes → Bytes → Bool) (op : Nat) (v : Bytes) (dflt : Option Bytes) :
    strMatchesOpt sm op v dflt none = match dflt with | some d => strMatches sm op v d | none => false := by
  cases dflt <;> simp [strMatchesOpt]

theorem rawMatches_none (op : Nat) (val dflt : Option Bytes) :
    rawMatches op val dflt none = match dflt with | some d => rawMatches op val none (some d) | none => false := by
  cases dflt <;> simp [rawMatches]

theorem dataAt_out_of_range (f : Field) (idx : Nat) (h : f.count ≤ idx) : dataAt f idx = none := by
  cases f with
  | fixed tc r xs => simp only [Field.count] at h; simp [dataAt, h]
  | strs r xs => simp only [Field.count] at h; simp [dataAt, List.getElem?_eq_none h]
  | raws tc r xs => simp only [Field.count] at h; simp [dataAt, List.getElem?_eq_none h]
  | msgs r xs => simp only [Field.count] at h; simp [dataAt, List.getElem?_eq_none h]
  | «opaque» tc n => simp only [Field.count] at h; simp [dataAt]; omega

theorem findData_out_of_range (fn : Bytes) (tc idx : Nat) (m : Msg) (f : Field) (h : lookupField fn m.fields = some f)
    (hi : f.count ≤ idx) : findData fn tc idx m = none := by
  simp only [findData, h, dataAt_out_of_range f idx hi]
  split <;> (try split) <;> rfl

end Muscle.Filter
