import MuscleModel.Filter.ProofsPrint
import MuscleModel.Base.ByteEq

/-!
# Rendering tokens as characters and lexing them back

`renderTok` writes a token followed by one blank; `printableTok` says which tokens read back: every fixed token, a quoted
user string without a `"` inside, an unquoted one that is non-empty, free of white space, does not begin with `"` or with
a token or synonym (`startOk`) and in which no non-letter character starts one (`sufOk`: `a<b`, `p=q` are excluded,
`somewhat`, `notes` are fine, as `GetNextToken` ends a user string at a keyword only where the character is not a letter).

The facts about the concrete token table are closed computations checked by `decide`; a match against
`w ++ " " ++ rest` with blank-free `w` is reduced to the match against `w ++ " "` by `getMatchingToken_cut`, because no table entry
or synonym has a blank anywhere but at its end.
-/

namespace Muscle.Filter
open Muscle Muscle.Wire Muscle.Gen

def noBlank (v : Bytes) : Bool := v.all (· != 32)

def blankOnlyLast : Bytes → Bool
  | [] | [_] => true
  | a :: b :: r => a != 32 && blankOnlyLast (b :: r)

theorem lowerByte_eq_blank (a : UInt8) (h : lowerByte a = 32) : a = 32 := by
  unfold lowerByte at h
  split at h
  · rename_i hc
    have h1 := congrArg UInt8.toNat h
    have h2 : 65 ≤ a.toNat := by have := hc.1; simpa [UInt8.le_iff_toNat_le] using this
    have h3 : a.toNat ≤ 90 := by have := hc.2; simpa [UInt8.le_iff_toNat_le] using this
    simp [UInt8.toNat_add] at h1
    omega
  · exact h

theorem ciPrefix_cut : ∀ (t w rest : Bytes), noBlank w = true → blankOnlyLast t = true →
    ciPrefix t (w ++ 32 :: rest) = ciPrefix t (w ++ [32]) := by
  intro t
  induction t with
  | nil => intro w rest _ _; rfl
  | cons a ts ih =>
    intro w rest hw ht
    cases w with
    | nil =>
      cases ts with
      | nil => simp [ciPrefix]
      | cons b r =>
        -- `a` is not the last character of the entry, hence no blank: the comparison fails on both sides
        have ha : (lowerByte a == lowerByte 32) = false := by
          simp only [blankOnlyLast, Bool.and_eq_true, bne_iff_ne] at ht
          exact beq_eq_false_iff_ne.mpr fun e => ht.1 (lowerByte_eq_blank a e)
        simp [ciPrefix, ha]
    | cons c w' =>
      simp only [noBlank, List.all_cons, Bool.and_eq_true] at hw
      have hts : blankOnlyLast ts = true := by
        cases ts with
        | nil => rfl
        | cons b r => simp only [blankOnlyLast, Bool.and_eq_true] at ht; exact ht.2
      simp only [List.cons_append, ciPrefix, ih w' rest hw.2 hts]

theorem lastMatch_congr {s s' : Bytes} : ∀ (tbl : List Bytes) (i : Nat), (∀ t ∈ tbl, ciPrefix t s = ciPrefix t s') →
    lastMatch s tbl i = lastMatch s' tbl i := by
  intro tbl
  induction tbl with
  | nil => intro i _; rfl
  | cons t r ih =>
    intro i h
    simp only [lastMatch]
    rw [ih (i + 1) (fun x hx => h x (by simp [hx])), h t (by simp)]

theorem firstSynonym_congr {s s' : Bytes} : ∀ (syn : List (Bytes × Nat)), (∀ p ∈ syn, ciPrefix p.1 s = ciPrefix p.1 s') →
    firstSynonym s syn = firstSynonym s' syn := by
  intro syn
  induction syn with
  | nil => intro _; rfl
  | cons p r ih =>
    intro h
    obtain ⟨t, id⟩ := p
    simp only [firstSynonym]
    rw [ih (fun x hx => h x (by simp [hx])), h (t, id) (by simp)]

theorem getMatchingToken_congr {s s' : Bytes} (ht : ∀ t ∈ lexerTable, ciPrefix t s = ciPrefix t s')
    (hs : ∀ p ∈ lexerSynonyms, ciPrefix p.1 s = ciPrefix p.1 s') : getMatchingToken s = getMatchingToken s' := by
  unfold getMatchingToken
  rw [lastMatch_congr lexerTable 0 ht, firstSynonym_congr lexerSynonyms hs]

theorem lexerTable_blank : ∀ t ∈ lexerTable, blankOnlyLast t = true := by decide
theorem lexerSynonyms_blank : ∀ p ∈ lexerSynonyms, blankOnlyLast p.1 = true := by decide

theorem getMatchingToken_cut (w rest : Bytes) (hw : noBlank w = true) :
    getMatchingToken (w ++ 32 :: rest) = getMatchingToken (w ++ [32]) :=
  getMatchingToken_congr (fun t ht => ciPrefix_cut t w rest hw (lexerTable_blank t ht)) fun p hp => ciPrefix_cut p.1 w rest hw (lexerSynonyms_blank p hp)

def tokText (id : Nat) : Bytes := lexerTable.getD id []
def stripBlank (t : Bytes) : Bytes := if t.getLast? = some 32 then t.dropLast else t

def startOk (v : Bytes) : Bool := (getMatchingToken (v ++ [32])).isNone
def sufOk : Bytes → Bool
  | [] => true
  | c :: r => (isAlphaB c || (getMatchingToken (c :: r ++ [32])).isNone) && sufOk r

def renderTok : Tok → Bytes
  | .fixed id => stripBlank (tokText id) ++ [32]
  | .user v true => 34 :: (v ++ [34, 32])
  | .user v false => v ++ [32]

def render : List Tok → Bytes
  | [] => []
  | t :: ts => renderTok t ++ render ts

/-- the `32` of the first case is `lexerTable.length`, not the blank -/
def printableTok : Tok → Bool
  | .fixed id => decide (id < 32)
  | .user v true => !v.contains 34
  | .user v false => !v.isEmpty && v.all (fun c => !isSpaceB c) && !(v.head? == some 34) && startOk v && sufOk v

theorem stripBlank_form (t : Bytes) : t = stripBlank t ∨ t = stripBlank t ++ [32] := by
  unfold stripBlank
  split
  · rename_i h
    obtain ⟨ys, rfl⟩ := List.getLast?_eq_some_iff.1 h
    exact Or.inr (by rw [List.dropLast_concat])
  · exact Or.inl rfl

theorem lexerTable_self : ∀ id, id < lexerTable.length →
    noBlank (stripBlank (tokText id)) = true ∧
    getMatchingToken (stripBlank (tokText id) ++ [32]) = some (id, (tokText id).length) := by decide

theorem getMatchingToken_blank (rest : Bytes) : getMatchingToken (32 :: rest) = none := by
  have := getMatchingToken_cut [] rest rfl
  simp only [List.nil_append] at this
  rw [this]; decide

theorem nextToken_blank (rest : Bytes) : nextToken (32 :: rest) = nextToken rest := by
  rw [nextToken, nextTokenWith]
  simp [getMatchingToken_blank]

theorem Lexes_blank (rest : Bytes) (ts : List Tok) (h : Lexes rest ts) : Lexes (32 :: rest) ts := by
  cases h with
  | nil _ hn => exact Lexes.nil _ (by rw [nextToken_blank]; exact hn)
  | cons _ b' t ts' hn hl => exact Lexes.cons _ b' t ts' (by rw [nextToken_blank]; exact hn) hl

theorem nextToken_of_gm (s : Bytes) (hs : s ≠ []) (id n : Nat) (h : getMatchingToken s = some (id, n)) :
    nextToken s = some (.fixed id, s.drop n) := by
  cases s with
  | nil => exact absurd rfl hs
  | cons c r => rw [nextToken, nextTokenWith]; simp [h]

theorem allNoSpace_noBlank (v : Bytes) (h : v.all (fun c => !isSpaceB c) = true) : noBlank v = true := by
  simp only [noBlank, List.all_eq_true] at h ⊢
  intro c hc
  have := h c hc
  simp only [isSpaceB, Bool.not_eq_true', Bool.or_eq_false_iff, beq_eq_false_iff_ne] at this
  exact bne_iff_ne.mpr this.1

theorem scanUserWith_render (rest : Bytes) : ∀ (v : Bytes), v.all (fun c => !isSpaceB c) = true → sufOk v = true →
    scanUserWith getMatchingToken (v ++ 32 :: rest) = (v, 32 :: rest) := by
  intro v
  induction v with
  | nil => intro _ _; simp [scanUserWith, isSpaceB]
  | cons c r ih =>
    intro hall hsuf
    have hgm := getMatchingToken_cut (c :: r) rest (allNoSpace_noBlank _ hall)
    simp only [List.all_cons, Bool.and_eq_true, Bool.not_eq_true'] at hall
    simp only [sufOk, Bool.and_eq_true, Bool.or_eq_true, Option.isNone_iff_eq_none, List.cons_append] at hsuf hgm
    have hcond : (!isAlphaB c && (getMatchingToken (c :: (r ++ 32 :: rest))).isSome) = false := by
      rw [hgm]; rcases hsuf.1 with h | h <;> simp [h]
    simp [scanUserWith, hall.1, hcond, ih hall.2 hsuf.2]

theorem splitQuote_render (rest : Bytes) : ∀ (v : Bytes), v.contains 34 = false →
    splitQuote (v ++ 34 :: rest) = some (v, rest) := by
  intro v
  induction v with
  | nil => intro _; simp [splitQuote]
  | cons c r ih =>
    intro h
    simp only [List.contains_cons, Bool.or_eq_false_iff] at h
    have hc : c ≠ 34 := by
      intro e; subst e; simp at h
    simp only [List.cons_append, splitQuote, hc, if_false, ih h.2]

def firstNeOrEmpty (c : UInt8) : Bytes → Bool
  | [] => true
  | a :: _ => !(lowerByte a == lowerByte c)

theorem getMatchingToken_quote (r : Bytes) : getMatchingToken (34 :: r) = none := by
  have h (t : Bytes) (ht : firstNeOrEmpty 34 t = true) : ciPrefix t (34 :: r) = ciPrefix t [34] := by
    cases t with
    | nil => rfl
    | cons a ts => simp only [firstNeOrEmpty, Bool.not_eq_true'] at ht; simp [ciPrefix, ht]
  have ht : ∀ t ∈ lexerTable, firstNeOrEmpty 34 t = true := by decide
  have hs : ∀ p ∈ lexerSynonyms, firstNeOrEmpty 34 p.1 = true := by decide
  rw [getMatchingToken_congr (fun t m => h t (ht t m)) fun p m => h p.1 (hs p m)]
  decide

theorem lexes_render : ∀ (ts : List Tok), (∀ t ∈ ts, printableTok t = true) → Lexes (render ts) ts := by
  intro ts
  induction ts with
  | nil => intro _; exact Lexes.nil [] (by simp [nextToken, nextTokenWith])
  | cons t ts ih =>
    intro h
    have ht := h t (by simp)
    have hrest := ih (fun x hx => h x (by simp [hx]))
    cases t with
    | fixed id =>
      simp only [printableTok, decide_eq_true_eq] at ht
      obtain ⟨hnb, hgm⟩ := lexerTable_self id (Nat.lt_of_lt_of_le ht (by decide))
      have hform := stripBlank_form (tokText id)
      simp only [render, renderTok, List.append_assoc, List.singleton_append]
      have hgm' : getMatchingToken (stripBlank (tokText id) ++ 32 :: render ts) = some (id, (tokText id).length) := by
        rw [getMatchingToken_cut _ _ hnb]; exact hgm
      refine Lexes.cons _ _ _ _ (nextToken_of_gm _ (by simp) id _ hgm') ?_
      generalize stripBlank (tokText id) = w at hform ⊢
      generalize tokText id = tt at hform ⊢
      rcases hform with hf | hf
      · subst hf
        rw [List.drop_left]
        exact Lexes_blank _ _ hrest
      · subst hf
        rw [show w ++ 32 :: render ts = (w ++ [32]) ++ render ts by simp, List.drop_left]
        exact hrest
    | user v q =>
      cases q with
      | true =>
        simp only [printableTok, Bool.not_eq_true'] at ht
        simp only [render, renderTok, List.cons_append, List.append_assoc]
        refine Lexes.cons _ (32 :: render ts) _ _ ?_ (Lexes_blank _ _ hrest)
        rw [nextToken, nextTokenWith]
        have := splitQuote_render (32 :: render ts) v ht
        simp [getMatchingToken_quote, this]
      | false =>
        simp only [printableTok, Bool.and_eq_true, Bool.not_eq_true'] at ht
        obtain ⟨⟨⟨⟨hne, hall⟩, hq⟩, hstart⟩, hsuf⟩ := ht
        simp only [render, renderTok, List.append_assoc, List.singleton_append]
        refine Lexes.cons _ (32 :: render ts) _ _ ?_ (Lexes_blank _ _ hrest)
        have hnb := allNoSpace_noBlank v hall
        have hgm : getMatchingToken (v ++ 32 :: render ts) = none := by
          rw [getMatchingToken_cut v _ hnb]; exact Option.isNone_iff_eq_none.mp hstart
        have hscan := scanUserWith_render (render ts) v hall hsuf
        cases v with
        | nil => simp at hne
        | cons c r =>
          simp only [List.cons_append] at hgm hscan ⊢
          rw [nextToken, nextTokenWith]
          have hc34 : c ≠ 34 := by simpa using hq
          simp only [List.all_cons, Bool.and_eq_true] at hall
          have hsp : isSpaceB c = false := by simpa using hall.1
          have hws : ¬ (((c = 32 ∨ c = 9) ∨ c = 13) ∨ c = 10) := by
            intro hcase
            rcases hcase with ((rfl | rfl) | rfl) | rfl <;> simp [isSpaceB] at hsp
          simp [hgm, hc34, hscan, hws]

/-! the parser's own budget `6·(length+1)` covers the canonical spelling -/

mutual
theorem sizeA_le : ∀ (a : Ast), sizeA a ≤ 2 * (printT a).length
  | .leaf toks => by simp only [sizeA, printT, List.length_cons, List.length_append, List.length_nil]; omega
  | .not a => by
    have := sizeA_le a
    simp only [sizeA, printT, List.length_cons, List.length_append, List.length_nil]; omega
  | .conj op kids => by
    have := sizeKids_le op kids
    simp only [sizeA, printT, List.length_cons, List.length_append, List.length_nil]; omega
theorem sizeKids_le : ∀ (op : Nat) (ks : List Ast), sizeKids ks ≤ 2 * (printKids op ks).length + 2
  | _, [] => by simp [sizeKids]
  | op, k :: r => by
    have h1 := sizeA_le k
    have h2 := sizeKids_le op r
    cases r with
    | nil => simp only [sizeKids, printKids, List.length_append, List.length_nil] at *; omega
    | cons k2 r2 => simp only [sizeKids, printKids, List.length_append, List.length_cons] at *; omega
end

theorem renderTok_pos (t : Tok) : 1 ≤ (renderTok t).length := by
  cases t with
  | fixed id => simp [renderTok]
  | user v q => cases q <;> simp [renderTok]

theorem render_len : ∀ (ts : List Tok), ts.length ≤ (render ts).length := by
  intro ts
  induction ts with
  | nil => simp [render]
  | cons t r ih =>
    have := renderTok_pos t
    simp only [render, List.length_cons, List.length_append]; omega

theorem parseExpr_render (a : Ast) (f : Filter) (hok : okAst a) (hpr : ∀ t ∈ printT a, printableTok t = true)
    (hd : denote a = some f) : parseExpr (render (printT a)) = .ok f := by
  unfold parseExpr parseLoop
  apply parse_of_lexes a f hok hd _ (lexes_render _ hpr)
  have h1 := sizeA_le a
  have h2 := render_len (printT a)
  omega

end Muscle.Filter
