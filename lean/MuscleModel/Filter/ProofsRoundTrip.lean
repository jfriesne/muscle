import MuscleModel.Filter.ProofsFactory
import MuscleModel.Filter.LookupAttr
import MuscleModel.Wire.FieldTable

/-!
# The archive round trip `fromArchiveF fuel (toArchive f) = some (norm f)`

An archive's field list is a concatenation of *blocks* with pairwise distinct constant names: single fields and
fields that are written or not (`optField`; `cInt32`, `cInt8`, `aInt8`, `rawOpt`, `rawAll`, `optMsg` are of this form).
The simp set `archive_lookup` turns `lookupField key (archive fields)` into a closed form; one lemma per getter of
`SetFromArchive` is stated over that closed form, which it finds with that simp set unless told otherwise.  The round
trip then rewrites each reader of `ProofsFactory.lean` getter by getter.
-/

namespace Muscle.Filter
open Muscle Muscle.Wire Muscle.Gen

@[archive_lookup] theorem lookup_nil (k : Bytes) : lookupField k [] = none := lookupField_nil k

attribute [archive_lookup] lookupField_cons_eq lookupField_cons_ne lookupField_append

/-- the block every `CAdd…` call and every optional field comes down to: a field that is written or not -/
def optField (k : Bytes) : Option Field → List (Bytes × Field)
  | none => []
  | some f => [(k, f)]

@[archive_lookup] theorem lookup_optField_self (k : Bytes) (o : Option Field) : lookupField k (optField k o) = o := by
  cases o <;> simp [optField, lookupField]

@[archive_lookup] theorem lookup_optField_ne (k k' : Bytes) (o : Option Field) (h : k' ≠ k) :
    lookupField k (optField k' o) = none := by
  cases o <;> simp [optField, lookupField, h]

@[archive_lookup] theorem cInt32_eq (k : Bytes) (v d : Nat) :
    cInt32 k v d = optField k (if v = d then none else some (.fixed tcInt32 .inl [leN 4 v])) := by
  unfold cInt32; split <;> rfl

@[archive_lookup] theorem cInt8_eq (k : Bytes) (v : Nat) :
    cInt8 k v = optField k (if v = 0 then none else some (.fixed tcInt8 .inl [leN 1 v])) := by
  unfold cInt8; split <;> rfl

@[archive_lookup] theorem aInt8_eq (k : Bytes) (v : Nat) : aInt8 k v = optField k (some (.fixed tcInt8 .inl [leN 1 v])) := rfl

@[archive_lookup] theorem rawOpt_eq (k : Bytes) (b : Option Bytes) :
    rawOpt k b = optField k ((normVal b).map fun x => .raws tcRaw .inl [x]) := by
  unfold rawOpt normVal
  cases b with
  | none => rfl
  | some x => by_cases hx : x = [] <;> simp [hx, optField]

@[archive_lookup] theorem rawAll_eq (k : Bytes) (b : Option Bytes) :
    rawAll k b = optField k (b.map fun x => .raws tcRaw .inl [x]) := by
  cases b <;> rfl

@[archive_lookup] theorem optMsg_eq (k : Bytes) (d : Option Msg) : optMsg k d = optField k (d.map fun m => .msgs .inl [m]) := by
  cases d <;> rfl

@[archive_lookup] theorem lookup_kidsField (k : Bytes) (ks : List Filter) (h : kKid ≠ k) : lookupField k (kidsField ks) = none := by
  cases ks <;> simp [kidsField, lookupField, h]

attribute [archive_lookup] Option.none_or Option.or_none Option.some_or Option.map_none Option.map_some valueHdr numFields strFields Msg.fields List.cons_append

theorem getInt32_of (k : Bytes) (d v w : Nat) (fs : List (Bytes × Field)) (hv : v < U32)
    (h : lookupField k fs = if v = d then none else some (.fixed tcInt32 .inl [leN 4 v]) := by simp (disch := decide) only [archive_lookup]) :
    getInt32 k d (.mk w fs) = v := by
  unfold getInt32 findInt32 findFixed
  simp only [Msg.fields, h]
  by_cases hvd : v = d
  · simp [hvd]
  · simp [hvd, leVal_leN 4 v (by simpa [U32] using hv)]

theorem getInt8_of (k : Bytes) (v w : Nat) (fs : List (Bytes × Field)) (hv : v < 256)
    (h : lookupField k fs = if v = 0 then none else some (.fixed tcInt8 .inl [leN 1 v]) := by simp (disch := decide) only [archive_lookup]) :
    getInt8 k (.mk w fs) = v := by
  unfold getInt8 findInt8 findFixed
  simp only [Msg.fields, h]
  by_cases hvd : v = 0
  · simp [hvd]
  · simp [hvd, leVal_leN 1 v hv]

theorem findInt8_of (k : Bytes) (v w : Nat) (fs : List (Bytes × Field)) (hv : v < 256)
    (h : lookupField k fs = some (.fixed tcInt8 .inl [leN 1 v]) := by simp (disch := decide) only [archive_lookup]) :
    findInt8 k (.mk w fs) = some v := by
  unfold findInt8 findFixed
  simp [Msg.fields, h, leVal_leN 1 v hv]

/-- "fn" is found in the header, and so is "idx" unless it is 0 and left out -/
theorem fnIdx_hdr (fn : Bytes) (idx w : Nat) (rest : List (Bytes × Field)) (hv : idx < U32)
    (hr : lookupField kIdx rest = none := by simp (disch := decide) only [archive_lookup]) : fnIdx (.mk w (valueHdr fn idx ++ rest)) = some (fn, idx) := by
  have h1 : lookupField kFn (valueHdr fn idx ++ rest) = some (.strs .inl [fn]) := by simp (disch := decide) only [archive_lookup]
  have h2 : lookupField kIdx (valueHdr fn idx ++ rest) = if idx = 0 then none else some (.fixed tcInt32 .inl [leN 4 idx]) := by
    simp (disch := decide) only [archive_lookup, hr]
  unfold fnIdx findString
  simp only [Msg.fields, h1]
  simp [getInt32_of kIdx 0 idx w _ hv h2]

theorem findData_fixed_of (k : Bytes) (tc idx w : Nat) (r : Rep) (xs : List Bytes) (fs : List (Bytes × Field))
    (hany : tc ≠ tcAny) (h : lookupField k fs = some (.fixed tc r xs) := by simp (disch := decide) only [archive_lookup]) :
    findData k tc idx (.mk w fs) = xs[idx]? := by
  unfold findData
  simp [Msg.fields, h, hany, Field.typeCode, dataAt]

theorem findString_of (k : Bytes) (idx w : Nat) (r : Rep) (xs : List Bytes) (fs : List (Bytes × Field))
    (h : lookupField k fs = some (.strs r xs) := by simp (disch := decide) only [archive_lookup]) : findString k idx (.mk w fs) = xs[idx]? := by
  unfold findString
  simp [Msg.fields, h]

theorem findData_raw_of (k : Bytes) (w : Nat) (b : Option Bytes) (fs : List (Bytes × Field))
    (h : lookupField k fs = (normVal b).map fun x => .raws tcRaw .inl [x] := by simp (disch := decide) only [archive_lookup]) :
    findData k tcRaw 0 (.mk w fs) = normVal b := by
  unfold findData
  simp only [Msg.fields, h]
  cases hb : normVal b with
  | none => rfl
  | some x =>
    have hx : x ≠ [] := by
      unfold normVal at hb
      cases b with
      | none => cases hb
      | some y => by_cases hy : y = [] <;> simp [hy] at hb; subst hb; exact hy
    have : tcRaw ≠ tcAny := by decide
    simp [this, Field.typeCode, dataAt, hx]

theorem findRawBuf_of (k : Bytes) (w : Nat) (b : Option Bytes) (fs : List (Bytes × Field))
    (h : lookupField k fs = b.map fun x => .raws tcRaw .inl [x] := by simp (disch := decide) only [archive_lookup]) :
    findRawBuf k (.mk w fs) = b := by
  unfold findRawBuf
  cases b <;> simp [Msg.fields, h]

theorem normVal_of_ne (d : Option Bytes) (h : d ≠ some []) : normVal d = d := by
  unfold normVal
  cases d with
  | none => rfl
  | some x => by_cases hx : x = [] <;> simp_all

theorem findMessage_of (k : Bytes) (w : Nat) (d : Option Msg) (fs : List (Bytes × Field))
    (h : lookupField k fs = d.map fun m => .msgs .inl [m] := by simp (disch := decide) only [archive_lookup]) :
    findMessage k 0 (.mk w fs) = d := by
  unfold findMessage
  cases d <;> simp [Msg.fields, h]

theorem kidArchives_of (w : Nat) (ks : List Filter) (rest : List (Bytes × Field)) (h : lookupField kKid rest = none := by simp (disch := decide) only [archive_lookup]) :
    kidArchives (.mk w (kidsField ks ++ rest)) = toArchives ks := by
  unfold kidArchives
  cases ks with
  | nil => simp [kidsField, Msg.fields, h, toArchives]
  | cons k ks => simp [kidsField, Msg.fields, lookupField, toArchives]

theorem numFromArchive_of (tc sz w : Nat) (zero fn : Bytes) (idx op mop : Nat) (val mask : Bytes) (dflt : Option Bytes)
    (hany : tc ≠ tcAny) (hidx : idx < U32) (hop : op < 256) (hmop : mop < 256) (hv : val.length = sz) (hm : mask.length = sz) :
    numFromArchive tc sz zero (.mk w (numFields tc fn idx op mop val mask dflt)) =
      some { fn := fn, idx := idx, op := op, mop := mop, val := val, mask := mask, dflt := dflt } := by
  unfold numFromArchive
  simp only [numFields, List.append_assoc]
  rw [fnIdx_hdr fn idx _ _ hidx, getInt8_of kOp op _ _ hop, getInt8_of kMop mop _ _ hmop,
    findData_fixed_of kMsk tc 0 w .inl [mask] _ hany,
    findData_fixed_of kVal tc 0 w (rep12 dflt) (val :: dflt.toList) _ hany,
    findData_fixed_of kVal tc 1 w (rep12 dflt) (val :: dflt.toList) _ hany]
  cases dflt <;> simp [hv, hm]

theorem strFromArchive_of (w : Nat) (fn : Bytes) (idx op : Nat) (val : Bytes) (dflt : Option Bytes)
    (hidx : idx < U32) (hop : op < 256) :
    strFromArchive (.mk w (strFields fn idx op val dflt)) = some (fn, idx, op, val, dflt) := by
  unfold strFromArchive
  simp only [strFields, List.append_assoc]
  rw [fnIdx_hdr fn idx _ _ hidx, findInt8_of kOp op _ _ hop,
    findString_of kVal 0 w (rep12 dflt) (val :: dflt.toList) _,
    findString_of kVal 1 w (rep12 dflt) (val :: dflt.toList) _]
  cases dflt <;> rfl

theorem tc_ne_any (ty : NumTy) : ty.tc ≠ tcAny := by cases ty <;> decide

theorem fdepth_pos (f : Filter) : 0 < fdepth f := by
  cases f <;> simp only [fdepth] <;> omega

mutual
theorem roundtripF : ∀ (f : Filter) (fuel : Nat), wf f → fdepth f ≤ fuel → fromArchiveF fuel (toArchive f) = some (norm f)
  | f, 0, _, hd => absurd hd (Nat.not_le_of_gt (fdepth_pos f))
  | .what lo hi, n+1, h, _ => by
    simp only [toArchive, norm]
    rw [fromArchiveF_at rfl, readWhat, getInt32_of kMin 0 lo _ _ h.1, getInt32_of kMax lo hi _ _ h.2]
  | .valueExists fn idx tc, n+1, h, _ => by
    simp only [toArchive, norm]
    rw [fromArchiveF_at rfl, readValueExists, getInt32_of kType tcAny tc _ _ h.2,
      fnIdx_hdr fn idx _ _ h.1]
  | .num ty fn idx op mop val mask d, n+1, ⟨hidx, hop, hmop, hval, hmask⟩, _ => by
    simp only [toArchive, norm]
    rw [fromArchiveF_at (readerOf_num ty), readNum,
      numFromArchive_of _ _ _ _ _ _ _ _ _ _ _ (tc_ne_any ty) hidx hop hmop hval hmask]
  | .childCount fn idx op mop val mask d, n+1, ⟨hidx, hop, hmop, hval, hmask⟩, _ => by
    simp only [toArchive, norm]
    rw [fromArchiveF_at rfl, readNum,
      numFromArchive_of _ _ _ _ _ _ _ _ _ _ _ (by decide) hidx hop hmop hval hmask]
  | .str fn idx op val d, n+1, h, _ => by
    simp only [toArchive, norm]
    rw [fromArchiveF_at rfl, readStr, strFromArchive_of _ _ _ _ _ _ h.1 h.2]
  | .nodeName fn idx op val d, n+1, h, _ => by
    simp only [toArchive, norm]
    rw [fromArchiveF_at rfl, readStr, strFromArchive_of _ _ _ _ _ _ h.1 h.2]
  | .raw fn idx op tc val d, n+1, ⟨hidx, hop, htc⟩, _ => by
    simp only [toArchive, norm, List.append_assoc]
    rw [fromArchiveF_at rfl, readRaw, getInt32_of kType tcAny tc _ _ htc, findData_raw_of kVal _ val _,
      findRawBuf_of kDef _ d _, findInt8_of kOp op _ _ hop, fnIdx_hdr fn idx _ _ hidx]
  | .msgAny fn idx d, n+1, h, _ => by
    simp only [toArchive, norm]
    rw [fromArchiveF_at rfl, readMsg, findMessage_of kDefmsg _ d _, findMessage_of kKid _ none _,
      fnIdx_hdr fn idx _ _ h]
  | .msgKid fn idx kid d, n+1, h, hd => by
    simp only [fdepth] at hd
    simp only [toArchive, norm]
    rw [fromArchiveF_at rfl, readMsg, findMessage_of kDefmsg _ d _,
      findMessage_of kKid _ (some (toArchive kid)) _, fnIdx_hdr fn idx _ _ h.1]
    simp only [roundtripF kid n h.2 (by omega)]
  | .minMatch m kids, n+1, h, hd => by
    simp only [fdepth] at hd
    simp only [toArchive, norm]
    rw [fromArchiveF_at rfl, readMulti, getInt32_of kMin muscleNoLimit m _ _ h.1, kidArchives_of _ _ _,
      roundtripKids kids n h.2 (by omega)]
  | .maxMatch m kids, n+1, h, hd => by
    simp only [fdepth] at hd
    simp only [toArchive, norm]
    rw [fromArchiveF_at rfl, readMulti, getInt32_of kMax 0 m _ _ h.1, kidArchives_of _ _ _,
      roundtripKids kids n h.2 (by omega)]
  | .xor kids, n+1, h, hd => by
    simp only [fdepth] at hd
    simp only [toArchive, norm]
    rw [fromArchiveF_at rfl, readMulti, ← List.append_nil (kidsField kids), kidArchives_of _ _ _,
      roundtripKids kids n h (by omega)]
theorem roundtripKids : ∀ (ks : List Filter) (fuel : Nat), wfKids ks → fdepthKids ks ≤ fuel →
    mapOpt (fromArchiveF fuel) (toArchives ks) = some (normKids ks)
  | [], _, _, _ => by simp [toArchives, mapOpt, normKids]
  | k :: ks, fuel, h, hd => by
    simp only [fdepthKids] at hd
    simp only [toArchives, mapOpt, normKids]
    rw [roundtripF k fuel h.1 (by omega), roundtripKids ks fuel h.2 (by omega)]
end

/-! the fuel `fromArchive` supplies (nesting depth of the archive + 1) is enough -/

theorem depthFields_append : ∀ (xs ys : List (Bytes × Field)),
    depthFields (xs ++ ys) = max (depthFields xs) (depthFields ys) := by
  intro xs
  induction xs with
  | nil => intro ys; simp [depthFields]
  | cons x xs ih =>
    intro ys
    obtain ⟨n, f⟩ := x
    cases f <;> simp only [List.cons_append, depthFields, ih] <;> omega

theorem depthFields_kids_ge (ks : List Filter) (rest : List (Bytes × Field)) :
    depthMsgs (toArchives ks) ≤ depthFields (kidsField ks ++ rest) := by
  rw [depthFields_append]
  cases ks with
  | nil => simp [toArchives, depthMsgs]
  | cons k ks => simp only [kidsField, depthFields, toArchives]; omega

mutual
theorem fdepth_le : ∀ (f : Filter), fdepth f ≤ depthMsg (toArchive f)
  | .what _ _ | .valueExists _ _ _ | .num _ _ _ _ _ _ _ _ | .childCount _ _ _ _ _ _ _ | .str _ _ _ _ _ | .nodeName _ _ _ _ _
  | .raw _ _ _ _ _ _ | .msgAny _ _ _ => by simp only [fdepth, toArchive, depthMsg]; omega
  | .msgKid fn idx kid d => by
    have ih := fdepth_le kid
    simp only [fdepth, toArchive, depthMsg, depthFields_append, depthFields, depthMsgs]
    omega
  | .minMatch n kids => by
    have ih := fdepthKids_le kids
    have := depthFields_kids_ge kids (cInt32 kMin n muscleNoLimit)
    simp only [fdepth, toArchive, depthMsg]; omega
  | .maxMatch n kids => by
    have ih := fdepthKids_le kids
    have := depthFields_kids_ge kids (cInt32 kMax n 0)
    simp only [fdepth, toArchive, depthMsg]; omega
  | .xor kids => by
    have ih := fdepthKids_le kids
    have := depthFields_kids_ge kids []
    simp only [List.append_nil] at this
    simp only [fdepth, toArchive, depthMsg]; omega
theorem fdepthKids_le : ∀ (ks : List Filter), fdepthKids ks ≤ depthMsgs (toArchives ks)
  | [] => by simp [fdepthKids]
  | k :: ks => by
    have h1 := fdepth_le k
    have h2 := fdepthKids_le ks
    simp only [fdepthKids, toArchives, depthMsgs]; omega
end

theorem fromArchive_toArchive (f : Filter) (h : wf f) : fromArchive (toArchive f) = some (norm f) := by
  unfold fromArchive
  exact roundtripF f _ h (by have := fdepth_le f; omega)

end Muscle.Filter
