import Lean.Meta.Tactic.Simp.RegisterCommand

/-- rewrite rules that evaluate `lookupField key fields` for the field list of an archived filter
    (`Filter/ProofsRoundTrip.lean`); the side conditions `key' ≠ key` are closed by `decide` -/
register_simp_attr archive_lookup
