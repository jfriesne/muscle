import MuscleModel.Filter.ProofsParse

/-!
# Parsing the canonical (fully parenthesised) token spelling of an expression tree

`Ast` is the abstract syntax of the documented grammar, `printT` spells a tree as tokens with every term in its own
parentheses, `denote` is the filter the grammar assigns to it.  The parser, run on the token list or on any character
string that lexes to it, returns exactly that filter; that the rendered tokens do lex back is `ProofsRender.lean`.
-/

namespace Muscle.Filter
open Muscle Muscle.Wire Muscle.Gen

inductive Ast where
  | leaf (toks : List Tok)
  | not (a : Ast)
  | conj (op : Nat) (kids : List Ast)

def unconsT : List Tok → Option (Tok × List Tok)
  | [] => none
  | t :: r => some (t, r)

/-- tokens that the loop of the parser simply collects -/
def plainTok : Tok → Bool
  | .user _ _ => true
  | .fixed id => !(id = ltNot || id = ltLparen || id = ltRparen || id = ltAnd || id = ltOr || id = ltXor)

mutual
def printT : Ast → List Tok
  | .leaf toks => .fixed ltLparen :: (toks ++ [.fixed ltRparen])
  | .not a => .fixed ltLparen :: .fixed ltNot :: (printT a ++ [.fixed ltRparen])
  | .conj op kids => .fixed ltLparen :: (printKids op kids ++ [.fixed ltRparen])
def printKids (op : Nat) : List Ast → List Tok
  | [] => []
  | k :: r => printT k ++ (match r with | [] => [] | _ :: _ => .fixed op :: printKids op r)
end

mutual
def denote : Ast → Option Filter
  | .leaf toks => match leafOf toks with | .ok f => some f | _ => none
  | .not a => match denote a with | some f => some (negF f) | none => none
  | .conj op kids => match denoteKids kids with | some fs => some (mkConj op fs) | none => none
def denoteKids : List Ast → Option (List Filter)
  | [] => some []
  | k :: r => match denote k, denoteKids r with
    | some f, some fs => some (f :: fs)
    | _, _ => none
end

mutual
/-- the trees the parser can produce -/
def okAst : Ast → Prop
  | .leaf toks => toks.length ≤ 4 ∧ toks ≠ [] ∧ (∀ t ∈ toks, plainTok t = true)
  | .not a => okAst a
  | .conj op kids => (op = ltAnd ∨ op = ltOr ∨ op = ltXor) ∧ 2 ≤ kids.length ∧ okKids kids
def okKids : List Ast → Prop
  | [] => True
  | k :: r => okAst k ∧ okKids r
end

mutual
/-- the fuel `parse_ast` needs to read the tree's canonical spelling back (not a size of the tree; `sizeA_le` bounds it by the
    spelling's length) -/
def sizeA : Ast → Nat
  | .leaf toks => toks.length + 2
  | .not a => sizeA a + 3
  | .conj _ kids => sizeKids kids + 2
def sizeKids : List Ast → Nat
  | [] => 0
  | k :: r => sizeA k + 1 + sizeKids r
end

abbrev PL := parseLoopWith unconsT

theorem PL_cons (fuel : Nat) (st : PState) (t : Tok) (r : List Tok) :
    PL (fuel + 1) st (t :: r) = runStep (PL fuel) st r (step st t) :=
  parseLoopWith_succ unconsT fuel st (t :: r)

theorem PL_sub {fuel : Nat} {st : PState} {t : Tok} {r r2 : List Tok} {f : Filter} (h : step st t = .sub)
    (hin : PL fuel {} r = (.ok f, r2)) : PL (fuel + 1) st (t :: r) = PL fuel { st with sub := some f } r2 := by
  rw [PL_cons, h, runStep, hin]

theorem step_plain (st : PState) (t : Tok) (ht : plainTok t = true) (hc : st.conj = none) (hs : st.sub = none)
    (hl : st.toks.length + 1 ≤ 4) : step st t = .next { st with toks := st.toks ++ [t] } := by
  have hl' : ¬ (st.toks.length + 1 > 4) := by omega
  cases t with
  | user v q => simp [step, plainStep, hc, hs, hl']
  | fixed id =>
    simp only [plainTok, Bool.not_eq_true', Bool.or_eq_false_iff, decide_eq_false_iff_not] at ht
    obtain ⟨⟨⟨⟨⟨h1, h2⟩, h3⟩, h4⟩, h5⟩, h6⟩ := ht
    simp [step, plainStep, hc, hs, hl', h1, h2, h3, h4, h5, h6]

theorem steps_plain : ∀ (toks : List Tok) (fuel : Nat) (st : PState) (r : List Tok), (∀ t ∈ toks, plainTok t = true) →
    st.conj = none → st.sub = none → st.toks.length + toks.length ≤ 4 →
    PL (fuel + toks.length) st (toks ++ r) = PL fuel { st with toks := st.toks ++ toks } r := by
  intro toks
  induction toks with
  | nil => intro fuel st r _ _ _ _; simp
  | cons t ts ih =>
    intro fuel st r hp hc hs hl
    simp only [List.length_cons] at hl ⊢
    rw [show fuel + (ts.length + 1) = fuel + ts.length + 1 by omega, List.cons_append,
      PL_cons, step_plain st t (hp t (by simp)) hc hs (by omega), runStep,
      ih fuel { st with toks := st.toks ++ [t] } r (fun x hx => hp x (by simp [hx])) hc hs
        (by simp only [List.length_append, List.length_cons, List.length_nil]; omega)]
    simp

theorem step_rparen (st : PState) (h : st.sub ≠ none ∨ st.conj ≠ none ∨ st.toks ≠ []) :
    step st (.fixed ltRparen) = .stop (finish st) := by
  have hc : ¬ ((st.sub = none ∧ st.conj = none) ∧ st.toks = []) :=
    fun ⟨⟨a, b⟩, c⟩ => by rcases h with h | h | h <;> contradiction
  simp [step, ltRparen, ltNot, ltLparen, hc]

theorem step_not (st : PState) (hs : st.sub = none) (ht : st.toks = []) :
    step st (.fixed ltNot) = .next { st with neg := !st.neg } := by
  simp [step, hs, ht]

theorem step_lparen (st : PState) (hs : st.sub = none) (ht : st.toks = []) : step st (.fixed ltLparen) = .sub := by
  simp [step, ltLparen, ltNot, hs, ht]

/-- `acc`: the terms collected so far, none yet at the first conjunction token -/
theorem step_conj (st : PState) (op : Nat) (hop : op = ltAnd ∨ op = ltOr ∨ op = ltXor) (f : Filter)
    (acc : List Filter) (hs : st.sub = some f) (hc : st.conj = none ∧ acc = [] ∨ st.conj = some (op, acc)) :
    step st (.fixed op) =
      .next { st with conj := some (op, acc ++ [maybeNegate st.neg f]), neg := false, sub := none } := by
  rcases hc with ⟨hc, rfl⟩ | hc <;> rcases hop with h | h | h <;> subst h <;>
    simp [step, ltAnd, ltOr, ltXor, ltNot, ltLparen, ltRparen, hs, hc]

theorem sizeA_ge (a : Ast) : 2 ≤ sizeA a := by
  cases a <;> simp only [sizeA] <;> omega

theorem denote_leaf {toks : List Tok} {f : Filter} (h : denote (.leaf toks) = some f) : leafOf toks = .ok f := by
  simp only [denote] at h
  split at h <;> cases h
  assumption

theorem denote_not {a : Ast} {f : Filter} (h : denote (.not a) = some f) : ∃ fa, denote a = some fa ∧ f = negF fa := by
  simp only [denote] at h
  split at h <;> cases h
  exact ⟨_, ‹_›, rfl⟩

theorem denote_conj {op : Nat} {kids : List Ast} {f : Filter} (h : denote (.conj op kids) = some f) :
    ∃ fs, denoteKids kids = some fs ∧ f = mkConj op fs := by
  simp only [denote] at h
  split at h <;> cases h
  exact ⟨_, ‹_›, rfl⟩

theorem denoteKids_cons {k : Ast} {r : List Ast} {fs : List Filter} (h : denoteKids (k :: r) = some fs) :
    ∃ f fr, denote k = some f ∧ denoteKids r = some fr ∧ fs = f :: fr := by
  simp only [denoteKids] at h
  split at h <;> cases h
  exact ⟨_, _, ‹_›, ‹_›, rfl⟩

mutual
theorem parse_ast : ∀ (a : Ast) (f : Filter), okAst a → denote a = some f → ∀ (fuel : Nat), sizeA a ≤ fuel →
    ∀ (st : PState) (rest : List Tok), st.sub = none → st.toks = [] →
    PL (fuel + 1) st (printT a ++ rest) = PL fuel { st with sub := some f } rest
  | .leaf toks, f, hok, hd, fuel, hf, st, rest, hs, ht => by
    obtain ⟨hlen, hne, hplain⟩ := hok
    simp only [sizeA] at hf
    obtain ⟨k, rfl⟩ : ∃ k, fuel = k + 1 + toks.length := ⟨fuel - 1 - toks.length, by omega⟩
    simp only [printT, List.cons_append, List.append_assoc, List.nil_append]
    apply PL_sub (f := f) (r2 := rest) (step_lparen st hs ht)
    rw [steps_plain toks (k + 1) {} (.fixed ltRparen :: rest) hplain rfl rfl (by simpa using hlen),
      PL_cons, step_rparen _ (Or.inr (Or.inr (by simpa using hne))), runStep]
    simp [finish, denote_leaf hd, maybeNegate]
  | .not a, f, hok, hd, fuel, hf, st, rest, hs, ht => by
    simp only [sizeA] at hf
    obtain ⟨fa, hda, rfl⟩ := denote_not hd
    obtain ⟨k, rfl⟩ : ∃ k, fuel = k + 3 := ⟨fuel - 3, by omega⟩
    simp only [printT, List.cons_append, List.append_assoc, List.nil_append]
    apply PL_sub (f := negF fa) (r2 := rest) (step_lparen st hs ht)
    rw [PL_cons, step_not {} rfl rfl, runStep, parse_ast a fa hok hda (k + 1) (by omega) _ _ rfl rfl,
      PL_cons, step_rparen _ (Or.inl (by simp)), runStep]
    simp [finish, maybeNegate]
  | .conj op (k1 :: k2 :: r), f, hok, hd, fuel, hf, st, rest, hs, ht => by
    obtain ⟨hop, _, hk1, hk2r⟩ := hok
    simp only [sizeA, sizeKids] at hf
    obtain ⟨fs, hdk, rfl⟩ := denote_conj hd
    obtain ⟨f1, fs2, hd1, hd2, rfl⟩ := denoteKids_cons hdk
    have := sizeA_ge k1
    obtain ⟨m, rfl⟩ : ∃ m, fuel = m + 2 := ⟨fuel - 2, by omega⟩
    simp only [printT, printKids, List.cons_append, List.append_assoc, List.nil_append]
    apply PL_sub (f := mkConj op (f1 :: fs2)) (r2 := rest) (step_lparen st hs ht)
    rw [parse_ast k1 f1 hk1 hd1 (m + 1) (by omega) {} _ rfl rfl,
      PL_cons, step_conj _ op hop f1 [] rfl (Or.inl ⟨rfl, rfl⟩), runStep]
    have h3 := parse_kids (k2 :: r) fs2 (by simp) hk2r hd2 op hop m (by simp only [sizeKids]; omega) [f1]
      { ({ ({} : PState) with sub := some f1 } : PState) with conj := some (op, [maybeNegate false f1]), neg := false, sub := none }
      rest (by simp [maybeNegate]) rfl rfl rfl
    simp only [printKids, List.append_assoc, List.nil_append, List.cons_append] at h3 ⊢
    exact h3
  | .conj _ [], _, hok, _, _, _, _, _, _, _ => by simp [okAst] at hok
  | .conj _ [_], _, hok, _, _, _, _, _, _, _ => by simp [okAst] at hok

/-- Inside `( K₁ op … op Kₙ )` after an `op`: `st` is the loop's state there, with the denotations of the terms read so far
    in `acc`; the remaining terms `kids` and the closing parenthesis complete the conjunction. -/
theorem parse_kids : ∀ (kids : List Ast) (fs : List Filter), kids ≠ [] → okKids kids → denoteKids kids = some fs →
    ∀ (op : Nat), (op = ltAnd ∨ op = ltOr ∨ op = ltXor) → ∀ (fuel : Nat), sizeKids kids ≤ fuel →
    ∀ (acc : List Filter) (st : PState) (rest : List Tok), st.conj = some (op, acc) → st.sub = none → st.toks = [] → st.neg = false →
    PL fuel st (printKids op kids ++ (.fixed ltRparen :: rest)) = (.ok (mkConj op (acc ++ fs)), rest)
  | [], _, hne, _, _, _, _, _, _, _, _, _, _, _, _, _ => absurd rfl hne
  | k :: r, fs, _, hok, hd, op, hop, fuel, hf, acc, st, rest, hc, hs, ht, hn => by
    obtain ⟨hk, hr⟩ := hok
    simp only [sizeKids] at hf
    obtain ⟨fk, fr, hd1, hd2, rfl⟩ := denoteKids_cons hd
    have := sizeA_ge k
    obtain ⟨m, rfl⟩ : ∃ m, fuel = m + 2 := ⟨fuel - 2, by omega⟩
    simp only [printKids, List.append_assoc]
    rw [parse_ast k fk hk hd1 (m + 1) (by omega) st _ hs ht]
    cases r with
    | nil =>
      cases hd2
      rw [List.nil_append, PL_cons, step_rparen _ (Or.inl (by simp)), runStep]
      simp [finish, hc, hn, maybeNegate]
    | cons k2 r2 =>
      rw [List.cons_append, PL_cons, step_conj _ op hop fk acc rfl (Or.inr (by simpa using hc)), runStep,
        parse_kids (k2 :: r2) fr (by simp) hr hd2 op hop m (by omega) (acc ++ [fk]) _ rest (by simp [hn, maybeNegate]) rfl
          (by simpa using ht) rfl]
      simp
end

theorem parse_printT (a : Ast) (f : Filter) (hok : okAst a) (hd : denote a = some f) (fuel : Nat) (hf : sizeA a + 2 ≤ fuel) :
    (PL fuel {} (printT a)).1 = .ok f := by
  obtain ⟨k, hk⟩ : ∃ k, fuel = k + 1 + 1 := ⟨fuel - 2, by omega⟩
  subst hk
  have h := parse_ast a f hok hd (k + 1) (by omega) {} [] rfl rfl
  simp only [List.append_nil] at h
  rw [h, PL, parseLoopWith]
  simp [unconsT, finish, maybeNegate]

/-! the parser sees a character string only through the tokens it lexes to -/

/-- `Lexes b ts`: repeated `Lexer::GetNextToken` on `b` yields exactly the tokens `ts`, then an error/end -/
inductive Lexes : Bytes → List Tok → Prop
  | nil (b : Bytes) : nextToken b = none → Lexes b []
  | cons (b b' : Bytes) (t : Tok) (ts : List Tok) : nextToken b = some (t, b') → Lexes b' ts → Lexes b (t :: ts)

def SimRes (p : PRes × Bytes) (q : PRes × List Tok) : Prop := p.1 = q.1 ∧ Lexes p.2 q.2

theorem parse_sim : ∀ (fuel : Nat) (st : PState) (b : Bytes) (ts : List Tok), Lexes b ts →
    SimRes (parseLoopWith nextToken fuel st b) (PL fuel st ts) := by
  intro fuel
  induction fuel with
  | zero => intro st b ts h; exact ⟨rfl, h⟩
  | succ fuel ih =>
    intro st b ts h
    rw [PL, parseLoopWith_succ, parseLoopWith_succ]
    cases h with
    | nil _ hn => rw [hn]; exact ⟨rfl, Lexes.nil b hn⟩
    | cons _ b' t ts' hn hl =>
      rw [hn]
      -- the same step on both sides
      show SimRes (runStep (parseLoopWith nextToken fuel) st b' (step st t)) (runStep (PL fuel) st ts' (step st t))
      cases step st t with
      | stop r => exact ⟨rfl, hl⟩
      | next st' => exact ih st' b' ts' hl
      | sub =>
        obtain ⟨he, hle⟩ := ih {} b' ts' hl
        simp only [runStep]
        cases hp1 : parseLoopWith nextToken fuel {} b' with
        | mk r1 b1 =>
          cases hp2 : PL fuel {} ts' with
          | mk r2 t2 =>
            rw [hp1, hp2] at he hle
            cases he
            cases r1 with
            | ok f => exact ih _ _ _ hle
            | err => exact ⟨rfl, hle⟩
            | unk => exact ⟨rfl, hle⟩

theorem parse_of_lexes (a : Ast) (f : Filter) (hok : okAst a) (hd : denote a = some f) (b : Bytes) (hl : Lexes b (printT a))
    (fuel : Nat) (hf : sizeA a + 2 ≤ fuel) : (parseLoopWith nextToken fuel {} b).1 = .ok f := by
  have h := parse_sim fuel {} b (printT a) hl
  rw [h.1]
  exact parse_printT a f hok hd fuel hf

end Muscle.Filter
