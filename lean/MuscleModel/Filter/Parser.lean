import MuscleModel.Filter.Lexer
import MuscleModel.Filter.Archive

/-!
# The expression parser (`CreateQueryFilterFromExpressionAux`, `DefaultSubexpressionFactory::CreateSubexpression`,
`LexerToken::GetValueStringType / ParseFieldNameAux`, `GetValueAs<T>`)

`parseExpr s` mirrors `CreateQueryFilterFromExpression(s)`; `.err` = a NULL reference (error).
Numbers: `atol` / `Atoll` / `Atoull` / `ParseBool` are modelled exactly; `atof` only on plain decimal
literals whose value is exactly representable (`decToFloat`), otherwise the *value* is unknown
(`PVal.unknown`: the driver prints no prediction).
-/

namespace Muscle.Filter
open Muscle Muscle.Wire Muscle.Gen

/-! ## number parsing -/

def isDigitB (c : UInt8) : Bool := 48 ≤ c && c ≤ 57
def decVal (ds : Bytes) : Nat := ds.foldl (fun a d => a * 10 + (d.toNat - 48)) 0
def two64 : Nat := 18446744073709551616
def two63 : Nat := 9223372036854775808

/-- `Atoull`: the leading decimal digits, arithmetic modulo 2^64 -/
def atoull (s : Bytes) : Nat := decVal (s.takeWhile isDigitB) % two64
/-- `Atoll`: every leading `-` toggles the sign; result as a 64-bit pattern -/
def atoll (s : Bytes) : Nat :=
  let v := atoull (s.dropWhile (· == 45))
  if (s.takeWhile (· == 45)).length % 2 = 1 then (two64 - v) % two64 else v
/-- `atol` (64-bit `long`, glibc): blanks, one optional sign, digits; saturating; result as a 64-bit pattern -/
def atol (s : Bytes) : Nat :=
  let s := s.dropWhile isSpaceB
  let neg := s.head? == some 45
  let s := if s.head? == some 45 || s.head? == some 43 then s.drop 1 else s
  let v := decVal (s.takeWhile isDigitB)
  if neg then (if v ≥ two63 then two63 else (two64 - v) % two64) else (if v ≥ two63 then two63 - 1 else v)

/-- `String::Trimmed()`, except that this trims VT and FF as well (`isSpaceB`; the C++ `IsSpaceChar` is blank, TAB, CR, LF) -/
def trimB (s : Bytes) : Bytes := ((s.dropWhile isSpaceB).reverse.dropWhile isSpaceB).reverse
/-- `ParseBool(s)` with its default `true` -/
def parseBool (s : Bytes) : Bool :=
  let w := lower (trimB s)
  if parseBoolOnWords.contains w then true else if parseBoolOffWords.contains w then false else true

def isPow2 : Nat → Nat → Bool
  | 0, _ => false
  | fuel+1, n => if n = 1 then true else if n % 2 = 0 && n ≠ 0 then isPow2 fuel (n / 2) else false

/-- IEEE bits (`k` = 4 or 8 bytes) of `±p/q` when that is exactly representable as a normal number (or zero) -/
def ratToFloat (k : Nat) (neg : Bool) (p q : Nat) : Option Nat :=
  let mbits := if k = 4 then 23 else 52
  let bias := if k = 4 then 127 else 1023
  let sign := if neg then 256 ^ k / 2 else 0
  if p = 0 then some sign else
  let g := Nat.gcd p q
  let p := p / g; let q := q / g
  if !isPow2 200 q then none else
  let j := Nat.log2 q
  let l := Nat.log2 p          -- bit length - 1
  if l > mbits || l + bias < j + 1 || l + bias - j ≥ 2 * bias + 1 then none else
  some (sign + (l + bias - j) * 2 ^ mbits + (p * 2 ^ (mbits - l) - 2 ^ mbits))

/-- `atof` / `(float) atof` on `[+-]digits[.digits]`; `none` = not in the modelled subset (exponent, hex, inf/nan,
    or a value that needs rounding) -/
def decToFloat (k : Nat) (s : Bytes) : Option Nat :=
  let s := s.dropWhile isSpaceB
  let neg := s.head? == some 45
  let s := if s.head? == some 45 || s.head? == some 43 then s.drop 1 else s
  let ip := s.takeWhile isDigitB
  let r := s.dropWhile isDigitB
  let fp := if r.head? == some 46 then (r.drop 1).takeWhile isDigitB else []
  let r := if r.head? == some 46 then (r.drop 1).dropWhile isDigitB else r
  let c := (r.head?.map lowerByte).getD 0
  if ip.isEmpty && fp.isEmpty then
    (if c = 105 || c = 110 then none else some 0)          -- "inf"/"nan" are numbers for strtod; anything else: no conversion, +0.0
  else if c = 101 || c = 120 || c = 112 then none          -- exponent / hex float
  else ratToFloat k neg (decVal (ip ++ fp)) (10 ^ fp.length)

/-- `StringTokenizer(v, ",")`: a comma that appears once in the separator list is a *soft* separator — empty pieces vanish -/
def splitComma (s : Bytes) : List Bytes :=
  (s.foldr (fun (c : UInt8) (acc : List Bytes) => if c = 44 then [] :: acc else match acc with | h :: t => (c :: h) :: t | [] => [[c]]) [[]]).filter (!·.isEmpty)

/-- a parsed operand: its in-memory bytes, or unknown (see the header) -/
inductive PVal where
  | bytes (b : Bytes)
  | unknown

def floatsVal (n : Nat) (s : Bytes) : PVal :=
  let parts := (splitComma s).take n
  let vals := (parts.map (decToFloat 4)) ++ List.replicate (n - parts.length) (some 0)
  if vals.all Option.isSome then .bytes (vals.foldr (fun v acc => leN 4 (v.getD 0) ++ acc) []) else .unknown

/-- `GetValueAs<T>(valueString)` -/
def valueAs (ty : NumTy) (s : Bytes) : PVal :=
  match ty with
  | .bool => .bytes [if parseBool s then 1 else 0]
  | .i64 => .bytes (leN 8 (atoll s))
  | .i32 => .bytes (leN 4 (atol s))
  | .i16 => .bytes (leN 2 (atol s))
  | .i8 => .bytes (leN 1 (atol s))
  | .f64 => match decToFloat 8 s with | some v => .bytes (leN 8 v) | none => .unknown
  | .f32 => match decToFloat 4 s with | some v => .bytes (leN 4 v) | none => .unknown
  | .pt => floatsVal 2 s
  | .rc => floatsVal 4 s

/-! ## tokens → leaf filters -/

/-- `LexerToken::GetExplicitCastTypeCode` (`none` stands for "not a cast") -/
def castType : Tok → Option Nat
  | .fixed id =>
    if id = ltInt64 then some tcInt64 else if id = ltInt32 then some tcInt32 else if id = ltInt16 then some tcInt16
    else if id = ltInt8 then some tcInt8 else if id = ltBool then some tcBool else if id = ltFloat then some tcFloat
    else if id = ltDouble then some tcDouble else if id = ltString then some tcString else if id = ltPoint then some tcPoint
    else if id = ltRect then some tcRect else none
  | .user _ _ => none

def lastIndexOf (c : UInt8) (s : Bytes) : Option Nat :=
  match s.reverse.idxOf? c with
  | some i => some (s.length - 1 - i)
  | none => none

/-- `ParseFieldNameAux` without the default part: (field name, value index), or an error -/
def fieldIdx (quoted : Bool) (v : Bytes) : Option (Bytes × Nat) :=
  if !quoted && v.isEmpty then none else
  match (if quoted then none else lastIndexOf 58 v) with
  | some ci =>
    if ci > 0 then
      let idx := atol (v.drop (ci + 1))
      if idx ≥ two63 then none else some (v.take ci, idx % 4294967296)
    else some (v, 0)
  | none => some (v, 0)

/-- `LexerToken::ParseFieldName(name, idx, &optDefault)`: (field name, value index, default token text) -/
def parseFieldName (t : Tok) (wantDefault : Bool) : Option (Bytes × Nat × Option Bytes) :=
  match t with
  | .fixed _ => none
  | .user v quoted =>
    if !quoted && v.isEmpty then none else
    match (if !quoted && wantDefault then lastIndexOf 124 v else none) with
    | some bi =>
      match fieldIdx quoted (v.take bi) with
      | some (nm, idx) => some (nm, idx, some (v.drop (bi + 1)))
      | none => none
    | none =>
      match fieldIdx quoted v with
      | some (nm, idx) => some (nm, idx, none)
      | none => none

/-- `LexerToken::GetValueStringType(explicitCastType)`; `none` = B_ANY_TYPE (undetermined) -/
def valueStringType (t : Tok) (cast : Option Nat) : Option Nat :=
  match t with
  | .fixed _ => none
  | .user v quoted =>
    if quoted then (if cast.isNone then some tcString else none)
    else match cast with
      | some c => some c
      | none =>
        if lower v == [116, 114, 117, 101] || lower v == [102, 97, 108, 115, 101] then some tcBool else
        match v with
        | [] => none
        | c :: _ =>
          if isDigitB c || c = 45 || c = 46 || c = 43 then
            match v.count 44 with
            | 0 => if v.getLast? == some 102 then some tcFloat else if v.contains 46 then some tcDouble else some tcInt32
            | 1 => some tcPoint
            | 3 => some tcRect
            | _ => none
          else some tcString

def numTyOfTc (tc : Nat) : Option NumTy :=
  if tc = tcBool then some .bool else if tc = tcDouble then some .f64 else if tc = tcFloat then some .f32
  else if tc = tcInt64 then some .i64 else if tc = tcInt32 then some .i32 else if tc = tcInt16 then some .i16
  else if tc = tcInt8 then some .i8 else if tc = tcPoint then some .pt else if tc = tcRect then some .rc else none

/-- `GetNumericQueryFilterOp` -/
def numOpOfTok : Tok → Option Nat
  | .fixed id =>
    if id = ltEq then some nopEq else if id = ltLt then some nopLt else if id = ltGt then some nopGt
    else if id = ltLeq then some nopLe else if id = ltGeq then some nopGe else if id = ltNeq then some nopNe else none
  | _ => none

/-- `GetStringQueryFilterOp(isCaseSensitive = true)`: infix token → `StringQueryFilter::OP_*` -/
def strOpTable : List (Nat × Nat) :=
  [(ltEq, sopEq), (ltLt, sopLt), (ltGt, sopGt), (ltLeq, sopLe), (ltGeq, sopGe), (ltNeq, sopNe),
   (ltStartswith, sopStartsWith), (ltEndswith, sopEndsWith), (ltContains, sopContains), (ltIsstartof, sopStartOf),
   (ltIsendof, sopEndOf), (ltIssubstringof, sopSubstringOf), (ltMatches, sopWild), (ltMatchesregex, sopRegex)]
def strOpOfTok : Tok → Option Nat
  | .fixed id => strOpTable.lookup id
  | _ => none

/-- result of building a leaf: error, a filter, or a filter with an operand outside the modelled `atof` subset -/
inductive PRes where
  | err
  | ok (f : Filter)
  | unk

def Tok.text : Tok → Bytes
  | .user v _ => v
  | .fixed _ => []

/-- `NorQueryFilter(qf)` -/
def negF (f : Filter) : Filter := .maxMatch 0 [f]
def maybeNegate (neg : Bool) (f : Filter) : Filter := if neg then negF f else f

/-- `DefaultSubexpressionFactory::CreateSubexpression` for the three-token form.  `fieldTok` is the token the parser
    hands over: the `what` token itself, or a user-string token holding the parsed field NAME (without the `:index`
    and `|default` suffixes). -/
def createSub (fieldTok : Tok) (idx : Nat) (opTok valTok : Tok) (valueType : Nat) (dflt : Option Bytes) : PRes :=
  if opTok = .fixed ltExists then .ok (.valueExists fieldTok.text idx valueType) else
  match fieldTok with
  | .fixed id =>
    if id ≠ ltWhat then .err else
    if valueType ≠ tcInt32 then .err else
    let v := atoull valTok.text % 4294967296
    if opTok = .fixed ltEq then .ok (.what v v)
    else if opTok = .fixed ltNeq then .ok (negF (.what v v))
    else if opTok = .fixed ltLt then (if v = 0 then .ok (.what 1 0) else .ok (.what 0 (v - 1)))
    else if opTok = .fixed ltGt then (if v = muscleNoLimit then .ok (.what 1 0) else .ok (.what (v + 1) muscleNoLimit))
    else if opTok = .fixed ltLeq then .ok (.what 0 v)
    else if opTok = .fixed ltGeq then .ok (.what v muscleNoLimit)
    else .ok (.what 0 muscleNoLimit)
  | .user fn _ =>
    if valueType = tcString then
      match strOpOfTok opTok with
      | none => .err
      | some op => .ok (.str fn idx op valTok.text dflt)
    else
      match numTyOfTc valueType with
      | none => .err
      | some ty =>
        match numOpOfTok opTok with
        | none => .err
        | some op =>
          match valueAs ty valTok.text, (match dflt with | some d => some (valueAs ty d) | none => none) with
          | .bytes v, none => .ok (.num ty fn idx op mopNone v ty.dflt none)
          | .bytes v, some (.bytes d) => .ok (.num ty fn idx op mopNone v ty.dflt (some d))
          | _, _ => .unk

/-- the `switch(localToks.GetNumItems())` after the explicit cast (if any) has been noted and removed -/
def leafCore (cast : Option Nat) (toks : List Tok) : PRes :=
  if toks.length ≥ 4 then .err else
  match toks with
  | [first, nameTok] =>
    if first ≠ .fixed ltExists then .err else
    match parseFieldName nameTok false with
    | none => .err
    | some (nm, idx, _) => .ok (.valueExists nm idx (cast.getD tcAny))
  | [fieldTok, opTok, valTok] =>
    match (if fieldTok = .fixed ltWhat then some ([], 0, none) else parseFieldName fieldTok true) with
    | none => .err
    | some (nm, idx, dflt) =>
      match valueStringType valTok cast with
      | none => .err
      | some vt =>
        -- `(fieldNameTok.GetToken() == LTOKEN_WHAT) ? fieldNameTok : LexerToken(fieldName, fieldNameTok.WasQuoted())`
        createSub (if fieldTok = .fixed ltWhat then fieldTok else .user nm false) idx opTok valTok vt dflt
  | _ => .err

/-- the explicit cast of a token list: position 1 after `exists`, else position 2 -/
def castOf (toks : List Tok) : Option Nat :=
  match toks[if toks.head? = some (.fixed ltExists) then 1 else 2]? with
  | some t => castType t
  | none => none

/-- the tail of `CreateQueryFilterFromExpressionAux`: two to four plain tokens → a leaf filter -/
def leafOf (toks : List Tok) : PRes :=
  if toks.length < 2 then .err else
  leafCore (castOf toks)
    (if (castOf toks).isSome then toks.eraseIdx (if toks.head? = some (.fixed ltExists) then 1 else 2) else toks)

/-! ## the recursive-descent loop -/

structure PState where
  toks : List Tok := []
  conj : Option (Nat × List Filter) := none
  sub : Option Filter := none
  neg : Bool := false

def mkConj (id : Nat) (kids : List Filter) : Filter :=
  if id = ltAnd then Filter.and kids else if id = ltOr then Filter.or kids else .xor kids

/-- what `CreateQueryFilterFromExpressionAux` returns once its token loop has ended -/
def finish (st : PState) : PRes :=
  match st.conj with
  | some (id, kids) =>
    match st.sub with
    | some f => .ok (mkConj id (kids ++ [maybeNegate st.neg f]))
    | none => .err
  | none =>
    match st.sub with
    | some f => .ok (maybeNegate st.neg f)
    | none =>
      match leafOf st.toks with
      | .ok f => .ok (maybeNegate st.neg f)
      | r => r

/-- `CreateQueryFilterFromExpressionAux(lexer, sef)`: result and the input left in the (shared) lexer.
    One unit of fuel per loop iteration / recursive call. -/
def parseLoopWith {α : Type} (nt : α → Option (Tok × α)) : Nat → PState → α → PRes × α
  | 0, _, inp => (.err, inp)
  | fuel+1, st, inp =>
    match nt inp with
    | none => (finish st, inp)
    | some (tok, rest) =>
      let plain : Unit → PRes × α := fun _ =>
        if st.conj.isSome || st.sub.isSome then (.err, rest)
        else if st.toks.length + 1 > 4 then (.err, rest)
        else parseLoopWith nt fuel { st with toks := st.toks ++ [tok] } rest
      match tok with
      | .user _ _ => plain ()
      | .fixed id =>
        if id = ltNot then
          if st.sub.isSome || !st.toks.isEmpty then (.err, rest) else parseLoopWith nt fuel { st with neg := !st.neg } rest
        else if id = ltLparen then
          if st.sub.isSome || !st.toks.isEmpty then (.err, rest) else
          match parseLoopWith nt fuel {} rest with
          | (.ok f, r2) => parseLoopWith nt fuel { st with sub := some f } r2
          | (r, r2) => (r, r2)
        else if id = ltRparen then
          -- "')' must not be the first token in a subexpression"
          if st.sub.isNone && st.conj.isNone && st.toks.isEmpty then (.err, rest) else (finish st, rest)
        else if id = ltAnd || id = ltOr || id = ltXor then
          match st.sub with
          | none => (.err, rest)
          | some f =>
            match st.conj with
            | some (cid, kids) =>
              if cid ≠ id then (.err, rest)
              else parseLoopWith nt fuel { st with conj := some (cid, kids ++ [maybeNegate st.neg f]), neg := false, sub := none } rest
            | none => parseLoopWith nt fuel { st with conj := some (id, [maybeNegate st.neg f]), neg := false, sub := none } rest
        else plain ()

/-- the parser over the real lexer (the token source is a parameter of `parseLoopWith` so that theorems about the
    grammar can be stated over token lists as well) -/
def parseLoop : Nat → PState → Bytes → PRes × Bytes := parseLoopWith nextToken

/-- `CreateQueryFilterFromExpression(expression)`.  Fuel: every iteration of a token loop either consumes at least
    one byte of the expression or appends a plain token to a list that may hold at most four, and every recursive
    call is preceded by the consumption of a `(`: `6·(length+1)` iterations should therefore suffice (no theorem says so for every input; out of fuel the answer is `.err`). -/
def parseExpr (s : Bytes) : PRes := (parseLoop (6 * (s.length + 1)) {} s).1

end Muscle.Filter
