import MuscleModel.Filter.Parser
import MuscleModel.Filter.ProofsNorm
import MuscleModel.Base.Lists

/-!
# The parser: every filter it builds is well-formed (`wf`)

`Parser.lean` writes the body of the token loop inline in `parseLoopWith`.  What one iteration does with a token depends on
the parser state and the token only, not on where tokens come from: it returns, continues in a new state, or first parses
a parenthesised subexpression.  `step` names that decision and `parseLoopWith_succ` states the loop through it; the
invariant `stWf` and the token-level proofs of `ProofsPrint.lean` then speak about `step` alone.
-/

namespace Muscle.Filter
open Muscle Muscle.Wire Muscle.Gen

theorem foldr_leN4_len : ∀ (vals : List (Option Nat)),
    (vals.foldr (fun v acc => leN 4 (v.getD 0) ++ acc) []).length = 4 * vals.length := by
  intro vals
  induction vals with
  | nil => rfl
  | cons v r ih => simp only [List.foldr_cons, List.length_append, leN_length, ih, List.length_cons]; omega

theorem floatsVal_len (n : Nat) (s b : Bytes) (h : floatsVal n s = .bytes b) : b.length = 4 * n := by
  unfold floatsVal at h
  simp only at h
  split at h
  · cases h
    rw [foldr_leN4_len]
    simp only [List.length_append, List.length_map, List.length_replicate, List.length_take]
    omega
  · cases h

theorem valueAs_len (ty : NumTy) (s b : Bytes) (h : valueAs ty s = .bytes b) : b.length = ty.size := by
  cases ty <;> simp only [valueAs] at h
  · cases h; rfl
  · split at h <;> cases h; simp [NumTy.size]
  · split at h <;> cases h; simp [NumTy.size]
  · cases h; simp [NumTy.size]
  · cases h; simp [NumTy.size]
  · cases h; simp [NumTy.size]
  · cases h; simp [NumTy.size]
  · have := floatsVal_len 2 s b h; simpa [NumTy.size] using this
  · have := floatsVal_len 4 s b h; simpa [NumTy.size] using this

theorem numOpOfTok_lt (t : Tok) (op : Nat) (h : numOpOfTok t = some op) : op < 256 := by
  cases t with
  | user _ _ => nomatch h
  | fixed id =>
    revert op
    simp only [numOpOfTok]
    iterate 6 refine ite_some_elim (fun _ => by decide) ?_
    exact none_elim

theorem strOpOfTok_lt (t : Tok) (op : Nat) (h : strOpOfTok t = some op) : op < 256 := by
  cases t with
  | user _ _ => simp [strOpOfTok] at h
  | fixed id =>
    have hm := lookup_mem_snd strOpTable id op h
    have hall : ∀ v ∈ strOpTable.map Prod.snd, v < 256 := by decide
    exact hall op hm

theorem castType_lt (t : Tok) (c : Nat) (h : castType t = some c) : c < U32 := by
  cases t with
  | user _ _ => nomatch h
  | fixed id =>
    revert c
    simp only [castType]
    iterate 10 refine ite_some_elim (fun _ => by decide) ?_
    exact none_elim

theorem numTyOfTc_tc (tc : Nat) : ∀ ty, numTyOfTc tc = some ty → ty.tc = tc := by
  unfold numTyOfTc
  iterate 9 refine ite_some_elim Eq.symm ?_
  exact none_elim

theorem tc_lt (ty : NumTy) : ty.tc < U32 := by cases ty <;> decide

theorem numTyOfTc_lt (tc : Nat) (ty : NumTy) (h : numTyOfTc tc = some ty) : tc < U32 :=
  numTyOfTc_tc tc ty h ▸ tc_lt ty

theorem valueStringType_lt (t : Tok) (cast : Option Nat) (hc : ∀ c, cast = some c → c < U32) (vt : Nat)
    (h : valueStringType t cast = some vt) : vt < U32 := by
  cases t with
  | fixed _ => nomatch h
  | user v q =>
    revert vt
    simp only [valueStringType]
    refine ite_opt_elim (fun _ => ite_some_elim (fun _ => by decide) none_elim) fun _ => ?_
    cases cast with
    | some c => exact some_elim (hc c rfl)
    | none =>
      refine ite_some_elim (fun _ => by decide) ?_
      cases v with
      | nil => exact none_elim
      | cons c r =>
        refine ite_opt_elim (fun _ => ?_) fun _ => some_elim (by decide)
        split
        · exact ite_some_elim (fun _ => by decide) (ite_some_elim (fun _ => by decide) (some_elim (by decide)))
        · exact some_elim (by decide)
        · exact some_elim (by decide)
        · exact none_elim

theorem fieldIdx_lt (q : Bool) (v nm : Bytes) (idx : Nat) (h : fieldIdx q v = some (nm, idx)) : idx < U32 := by
  have key : ∀ p, fieldIdx q v = some p → p.2 < U32 := by
    unfold fieldIdx
    refine ite_opt_elim (fun _ => none_elim) fun _ => ?_
    split
    · exact ite_opt_elim (fun _ => ite_opt_elim (fun _ => none_elim) fun _ => some_elim (Nat.mod_lt _ (by decide)))
        fun _ => some_elim (show 0 < U32 by decide)
    · exact some_elim (show 0 < U32 by decide)
  exact key _ h

theorem parseFieldName_lt (t : Tok) (w : Bool) (nm : Bytes) (idx : Nat) (d : Option Bytes)
    (h : parseFieldName t w = some (nm, idx, d)) : idx < U32 := by
  cases t with
  | fixed _ => nomatch h
  | user v q =>
    -- with or without a `|default` part, name and index are what `fieldIdx` returns
    simp only [parseFieldName] at h
    split at h
    · cases h
    · split at h <;> split at h <;> cases h <;> exact fieldIdx_lt _ _ _ _ ‹_›

def resWf : PRes → Prop
  | .ok f => wf f
  | _ => True

theorem wf_negF (f : Filter) (h : wf f) : wf (negF f) := by
  simp only [negF, wf, wfKids, U32]; exact ⟨by omega, h, trivial⟩

theorem wf_maybeNegate (b : Bool) (f : Filter) (h : wf f) : wf (maybeNegate b f) := by
  cases b
  · simpa [maybeNegate] using h
  · simpa [maybeNegate] using wf_negF f h

theorem createSub_wf (fieldTok : Tok) (idx : Nat) (opTok valTok : Tok) (vt : Nat) (d : Option Bytes)
    (hidx : idx < U32) (hvt : vt < U32) : resWf (createSub fieldTok idx opTok valTok vt d) := by
  unfold createSub
  refine iteInduction (fun _ => ⟨hidx, hvt⟩) fun _ => ?_
  cases fieldTok with
  | fixed id =>
    -- `what`: every bound is the operand `v < 2^32`, its neighbour `v ∓ 1` (guarded), 0, 1 or MUSCLE_NO_LIMIT
    have hv : atoull valTok.text % 4294967296 < U32 := Nat.mod_lt _ (by decide)
    have hlim : muscleNoLimit + 1 = U32 := rfl
    have W {lo hi : Nat} (h1 : lo < U32) (h2 : hi < U32) : resWf (.ok (.what lo hi)) := ⟨h1, h2⟩
    simp only
    refine iteInduction (fun _ => trivial) fun _ => iteInduction (fun _ => trivial) fun _ => ?_
    refine iteInduction (fun _ => W hv hv) fun _ => ?_
    refine iteInduction (fun _ => wf_negF _ (W hv hv)) fun _ => ?_
    refine iteInduction (fun _ => iteInduction (fun _ => W (by decide) (by decide)) fun _ => W (by decide) (by omega)) fun _ => ?_
    refine iteInduction (fun _ => iteInduction (fun _ => W (by decide) (by decide)) fun _ => W (by omega) (by decide)) fun _ => ?_
    refine iteInduction (fun _ => W (by decide) hv) fun _ => ?_
    exact iteInduction (fun _ => W hv (by decide)) fun _ => W (by decide) (by decide)
  | user fn q =>
    simp only
    split
    · split
      · trivial
      · rename_i op hop
        exact ⟨hidx, strOpOfTok_lt _ _ hop⟩
    · split
      · trivial
      · rename_i ty hty
        split
        · trivial
        · rename_i op hop
          have hop' := numOpOfTok_lt _ _ hop
          split
          · rename_i v hv _
            exact ⟨hidx, hop', by decide, valueAs_len _ _ _ hv, dflt_len ty⟩
          · rename_i v dd hv _
            exact ⟨hidx, hop', by decide, valueAs_len _ _ _ hv, dflt_len ty⟩
          · trivial

theorem castOf_lt (toks : List Tok) (c : Nat) (h : castOf toks = some c) : c < U32 := by
  unfold castOf at h
  split at h
  · exact castType_lt _ _ h
  · cases h

theorem leafCore_wf (cast : Option Nat) (hc : ∀ c, cast = some c → c < U32) (toks : List Tok) : resWf (leafCore cast toks) := by
  unfold leafCore
  split
  · trivial
  · split
    · split
      · trivial
      · split
        · trivial
        · rename_i nm idx d hp
          simp only [resWf, wf]
          refine ⟨parseFieldName_lt _ _ _ _ _ hp, ?_⟩
          cases cast with
          | none => simp only [Option.getD]; decide
          | some c => exact hc c rfl
    · split
      · trivial
      · rename_i nm idx d hp
        split
        · trivial
        · rename_i vt hvt
          have hidx : idx < U32 := by
            split at hp
            · simp only [Option.some.injEq, Prod.mk.injEq] at hp; obtain ⟨_, rfl, _⟩ := hp; decide
            · exact parseFieldName_lt _ _ _ _ _ hp
          exact createSub_wf _ _ _ _ _ _ hidx (valueStringType_lt _ _ hc _ hvt)
    · trivial

theorem leafOf_wf (toks : List Tok) : resWf (leafOf toks) := by
  unfold leafOf
  split
  · trivial
  · exact leafCore_wf _ (castOf_lt toks) _

def stWf (st : PState) : Prop :=
  (∀ id kids, st.conj = some (id, kids) → wfKids kids) ∧ (∀ f, st.sub = some f → wf f)

theorem wfKids_append : ∀ (a b : List Filter), wfKids a → wfKids b → wfKids (a ++ b) := by
  intro a
  induction a with
  | nil => intro b _ hb; simpa using hb
  | cons x r ih => intro b ha hb; simp only [List.cons_append, wfKids] at ha ⊢; exact ⟨ha.1, ih b ha.2 hb⟩

theorem mkConj_wf (id : Nat) (kids : List Filter) (h : wfKids kids) : wf (mkConj id kids) := by
  unfold mkConj
  split
  · simp only [Filter.and, wf]; exact ⟨by decide, h⟩
  · split
    · simp only [Filter.or, wf]; exact ⟨by decide, h⟩
    · simp only [wf]; exact h

theorem finish_wf (st : PState) (h : stWf st) : resWf (finish st) := by
  unfold finish
  split
  · rename_i id kids hc
    split
    · rename_i f hs
      exact mkConj_wf _ _ (wfKids_append _ _ (h.1 _ _ hc) ⟨wf_maybeNegate _ _ (h.2 _ hs), trivial⟩)
    · trivial
  · split
    · rename_i f hs
      exact wf_maybeNegate _ _ (h.2 _ hs)
    · have hl := leafOf_wf st.toks
      cases hlf : leafOf st.toks with
      | ok f => rw [hlf] at hl; exact wf_maybeNegate _ _ hl
      | err | unk => trivial

theorem stWf_empty : stWf {} := ⟨fun _ _ h => (nomatch h), fun _ h => nomatch h⟩

inductive Step where
  | stop (r : PRes)
  | next (st : PState)
  | sub

def plainStep (st : PState) (tok : Tok) : Step :=
  if st.conj.isSome || st.sub.isSome then .stop .err
  else if st.toks.length + 1 > 4 then .stop .err
  else .next { st with toks := st.toks ++ [tok] }

def step (st : PState) : Tok → Step
  | .user v q => plainStep st (.user v q)
  | .fixed id =>
    if id = ltNot then
      if st.sub.isSome || !st.toks.isEmpty then .stop .err else .next { st with neg := !st.neg }
    else if id = ltLparen then
      if st.sub.isSome || !st.toks.isEmpty then .stop .err else .sub
    else if id = ltRparen then
      if st.sub.isNone && st.conj.isNone && st.toks.isEmpty then .stop .err else .stop (finish st)
    else if id = ltAnd || id = ltOr || id = ltXor then
      match st.sub with
      | none => .stop .err
      | some f =>
        match st.conj with
        | some (cid, kids) =>
          if cid ≠ id then .stop .err
          else .next { st with conj := some (cid, kids ++ [maybeNegate st.neg f]), neg := false, sub := none }
        | none => .next { st with conj := some (id, [maybeNegate st.neg f]), neg := false, sub := none }
    else plainStep st (.fixed id)

/-- `loop` = the loop with the remaining fuel, `rest` = the input after the token -/
def runStep {α} (loop : PState → α → PRes × α) (st : PState) (rest : α) : Step → PRes × α
  | .stop r => (r, rest)
  | .next st' => loop st' rest
  | .sub =>
    match loop {} rest with
    | (.ok f, r2) => loop { st with sub := some f } r2
    | (r, r2) => (r, r2)

theorem parseLoopWith_succ {α} (nt : α → Option (Tok × α)) (fuel : Nat) (st : PState) (inp : α) :
    parseLoopWith nt (fuel + 1) st inp =
      match nt inp with
      | none => (finish st, inp)
      | some (tok, rest) => runStep (parseLoopWith nt fuel) st rest (step st tok) := by
  rw [parseLoopWith]
  cases nt inp with
  | none => rfl
  | some p =>
    obtain ⟨tok, rest⟩ := p
    -- both sides are the same `if`-chain once `runStep` is pushed through the `if`s of `step`
    cases tok with
    | user v q => simp only [step, plainStep, apply_ite (runStep _ _ _), runStep.eq_1, runStep.eq_2]
    | fixed id =>
      obtain ⟨toks, conj, sub, neg⟩ := st
      simp only [step, plainStep, apply_ite (runStep _ _ _), runStep.eq_1, runStep.eq_2, runStep.eq_3]
      -- what is left is the `&&` / `||` / `^` branch, where `step` matches on `sub` and `conj`
      congr 4
      cases sub <;> cases conj <;> simp only [apply_ite (runStep _ _ _), runStep.eq_1, runStep.eq_2] <;> rfl

def Step.Wf : Step → Prop
  | .stop r => resWf r
  | .next st => stWf st
  | .sub => True

theorem plainStep_wf (st : PState) (tok : Tok) (h : stWf st) : (plainStep st tok).Wf :=
  iteInduction (fun _ => trivial) fun _ => iteInduction (fun _ => trivial) fun _ => h

theorem step_wf (st : PState) (tok : Tok) (h : stWf st) : (step st tok).Wf := by
  cases tok with
  | user v q => exact plainStep_wf st _ h
  | fixed id =>
    have push {f : Filter} (hs : st.sub = some f) {kids : List Filter} (hk : wfKids kids) {id : Nat} :
        stWf { st with conj := some (id, kids ++ [maybeNegate st.neg f]), neg := false, sub := none } :=
      ⟨fun _ _ e => by cases e; exact wfKids_append _ _ hk ⟨wf_maybeNegate _ _ (h.2 f hs), trivial⟩, fun _ e => nomatch e⟩
    unfold step
    refine iteInduction (fun _ => iteInduction (fun _ => trivial) fun _ => h) fun _ => ?_
    refine iteInduction (fun _ => iteInduction (fun _ => trivial) fun _ => trivial) fun _ => ?_
    refine iteInduction (fun _ => iteInduction (fun _ => trivial) fun _ => finish_wf st h) fun _ => ?_
    refine iteInduction (fun _ => ?_) fun _ => plainStep_wf st _ h
    split
    · trivial
    · rename_i f hs
      split
      · rename_i cid kids hc
        exact iteInduction (fun _ => trivial) fun _ => push hs (h.1 _ _ hc)
      · exact push hs (kids := []) trivial

theorem parseLoopWith_wf {α : Type} (nt : α → Option (Tok × α)) :
    ∀ (fuel : Nat) (st : PState) (inp : α), stWf st → resWf (parseLoopWith nt fuel st inp).1 := by
  intro fuel
  induction fuel with
  | zero => intro st inp _; trivial
  | succ fuel ih =>
    intro st inp hst
    rw [parseLoopWith_succ]
    split
    · exact finish_wf st hst
    · rename_i tok rest _
      have hw := step_wf st tok hst
      cases hs : step st tok with
      | stop r => rw [hs] at hw; exact hw
      | next st' => rw [hs] at hw; exact ih st' rest hw
      | sub =>
        have hin := ih {} rest stWf_empty
        simp only [runStep]
        split
        · rename_i f r2 heq
          rw [heq] at hin
          exact ih _ _ ⟨hst.1, fun g hg => by cases hg; exact hin⟩
        · rename_i r r2 _ heq
          rw [heq] at hin; exact hin

theorem parseExpr_wf (s : Bytes) (f : Filter) (h : parseExpr s = .ok f) : wf f := by
  have := parseLoopWith_wf nextToken (6 * (s.length + 1)) {} s stWf_empty
  unfold parseExpr parseLoop at h
  rwa [h] at this

end Muscle.Filter
