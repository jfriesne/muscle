import MuscleModel.Filter.Archive

/-! Vocabulary of the archive round trip and of parser soundness (`wf`, `norm`, `fdepth`); `norm` does not change what a
filter decides (`eval_norm`). -/

namespace Muscle.Filter
open Muscle Muscle.Wire Muscle.Gen

/-! ## if-chains

`split` on a chain `if c₁ then a₁ else if c₂ then a₂ else …` re-simplifies every nested `ite` in both directions and
costs 2^depth; `iteInduction` peels one level at a time instead.  These are its instances for chains that compute an
`Option`, where the motive is not found by unification. -/

theorem ite_opt_elim {α} {P : α → Prop} {p : Prop} [Decidable p] {a r : Option α}
    (ha : p → ∀ c, a = some c → P c) (hr : ¬p → ∀ c, r = some c → P c) :
    ∀ c, (if p then a else r) = some c → P c :=
  iteInduction (motive := fun o => ∀ c, o = some c → P c) ha hr

theorem none_elim {α} {P : α → Prop} : ∀ c, (none : Option α) = some c → P c := fun _ h => nomatch h

theorem some_elim {α} {P : α → Prop} {x : α} (hx : P x) : ∀ c, some x = some c → P c := fun _ h => Option.some.inj h ▸ hx

theorem ite_some_elim {α} {P : α → Prop} {p : Prop} [Decidable p] {x : α} {r : Option α}
    (hx : p → P x) (hr : ∀ c, r = some c → P c) : ∀ c, (if p then some x else r) = some c → P c :=
  ite_opt_elim (fun hp => some_elim (hx hp)) fun _ => hr

/-! ## the vocabulary -/

def U32 : Nat := 4294967296

mutual
/-- what the public API can build and the archive format can carry -/
def wf : Filter → Prop
  | .what lo hi => lo < U32 ∧ hi < U32
  | .valueExists _ idx tc => idx < U32 ∧ tc < U32
  | .num ty _ idx op mop val mask _ => idx < U32 ∧ op < 256 ∧ mop < 256 ∧ val.length = ty.size ∧ mask.length = ty.size
  | .childCount _ idx op mop val mask _ => idx < U32 ∧ op < 256 ∧ mop < 256 ∧ val.length = 4 ∧ mask.length = 4
  | .str _ idx op _ _ => idx < U32 ∧ op < 256
  | .nodeName _ idx op _ _ => idx < U32 ∧ op < 256
  | .raw _ idx op tc _ _ => idx < U32 ∧ op < 256 ∧ tc < U32
  | .msgAny _ idx _ => idx < U32
  | .msgKid _ idx kid _ => idx < U32 ∧ wf kid
  | .minMatch n kids => n < U32 ∧ wfKids kids
  | .maxMatch n kids => n < U32 ∧ wfKids kids
  | .xor kids => wfKids kids
def wfKids : List Filter → Prop
  | [] => True
  | k :: ks => wf k ∧ wfKids ks
end

/-- a zero-length `_value` buffer is not archived and comes back as a NULL reference -/
def normVal (v : Option Bytes) : Option Bytes :=
  match v with
  | some x => if x = [] then none else some x
  | none => none

mutual
/-- the filter that comes back from the archive -/
def norm : Filter → Filter
  | .what lo hi => .what lo hi
  | .valueExists fn idx tc => .valueExists fn idx tc
  | .num ty fn idx op mop val mask d => .num ty fn idx op mop val mask d
  | .childCount fn idx op mop val mask d => .childCount fn idx op mop val mask d
  | .str fn idx op val d => .str fn idx op val d
  | .nodeName fn idx op val d => .nodeName fn idx op val d
  | .raw fn idx op tc val d => .raw fn idx op tc (normVal val) d
  | .msgAny fn idx d => .msgAny fn idx d
  | .msgKid fn idx kid d => .msgKid fn idx (norm kid) d
  | .minMatch n kids => .minMatch n (normKids kids)
  | .maxMatch n kids => .maxMatch n (normKids kids)
  | .xor kids => .xor (normKids kids)
def normKids : List Filter → List Filter
  | [] => []
  | k :: ks => norm k :: normKids ks
end

mutual
/-- fuel needed by the factory -/
def fdepth : Filter → Nat
  | .msgKid _ _ kid _ => 1 + fdepth kid
  | .minMatch _ kids => 1 + fdepthKids kids
  | .maxMatch _ kids => 1 + fdepthKids kids
  | .xor kids => 1 + fdepthKids kids
  | .what _ _ => 1 | .valueExists _ _ _ => 1 | .num _ _ _ _ _ _ _ _ => 1 | .childCount _ _ _ _ _ _ _ => 1
  | .str _ _ _ _ _ => 1 | .nodeName _ _ _ _ _ => 1 | .raw _ _ _ _ _ _ => 1 | .msgAny _ _ _ => 1
def fdepthKids : List Filter → Nat
  | [] => 0
  | k :: ks => max (fdepth k) (fdepthKids ks)
end

theorem rawMatches_normVal (op : Nat) (val dflt found : Option Bytes) :
    rawMatches op (normVal val) dflt found = rawMatches op val dflt found := by
  unfold rawMatches normVal
  cases val with
  | none => rfl
  | some x =>
    by_cases hx : x = []
    · subst hx; simp
    · simp [hx]

mutual
theorem eval_norm (sm : Nat → Bytes → Bytes → Bool) : ∀ (f : Filter) (m : Msg) (nd : Option Node),
    eval sm (norm f) m nd = eval sm f m nd
  | .what _ _, _, _ | .valueExists _ _ _, _, _ | .num _ _ _ _ _ _ _ _, _, _ | .childCount _ _ _ _ _ _ _, _, _
  | .str _ _ _ _ _, _, _ | .nodeName _ _ _ _ _, _, _ | .msgAny _ _ _, _, _ => by simp only [norm]
  | .raw fn idx op tc val d, m, nd => by simp only [norm, eval, rawMatches_normVal]
  | .msgKid fn idx kid d, m, nd => by
      simp only [norm, eval]
      cases orElse' (findMessage fn idx m) d with
      | none => rfl
      | some sub => exact eval_norm sm kid sub nd
  | .minMatch n kids, m, nd => by simp only [norm, eval, evalKids_norm sm kids m nd]
  | .maxMatch n kids, m, nd => by simp only [norm, eval, evalKids_norm sm kids m nd]
  | .xor kids, m, nd => by simp only [norm, eval, evalKids_norm sm kids m nd]
theorem evalKids_norm (sm : Nat → Bytes → Bytes → Bool) : ∀ (ks : List Filter) (m : Msg) (nd : Option Node),
    evalKids sm (normKids ks) m nd = evalKids sm ks m nd
  | [], _, _ => by simp only [normKids]
  | k :: ks, m, nd => by simp only [normKids, evalKids, eval_norm sm k m nd, evalKids_norm sm ks m nd]
end

theorem dflt_len (ty : NumTy) : ty.dflt.length = ty.size := by cases ty <;> rfl

end Muscle.Filter
