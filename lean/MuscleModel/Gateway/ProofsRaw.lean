import MuscleModel.Gateway.Raw
import MuscleModel.Gateway.ProofsStream
import MuscleModel.Base.Lists


/-! Proofs for the raw and SLIP gateways: the instances of `RxRefines` / `TxRefines` / `Decodes`, and the SLIP round trip. -/

namespace Muscle.Gateway
open Muscle

def rawEff (m : List Bytes) : Bytes := m.flatten

def rawQueueBytes : List (List Bytes) → Bytes
  | [] => []
  | m :: r => rawEff m ++ rawQueueBytes r

theorem rawQueueBytes_eq_streamOf : ∀ ms : List (List Bytes), rawQueueBytes ms = streamOf rawEff ms
  | [] => rfl
  | m :: r => by rw [rawQueueBytes, streamOf, rawQueueBytes_eq_streamOf r]

/-- `hasOut` may still be true when `rawPending t = []`: a current Message of which only empty chunks are left -/
def rawPending (t : RawTx) : Bytes :=
  (if t.hasMsg then t.cur ++ rawEff t.chunks else []) ++ rawQueueBytes t.queue

theorem rawSettle_chunks (chunks : List Bytes) :
    (match chunks.dropWhile (fun c => c.isEmpty) with
      | c :: cs => c ++ rawEff cs
      | [] => []) = rawEff chunks := by
  have h := flatten_dropWhile_empty chunks
  unfold rawEff
  cases hd : chunks.dropWhile (fun c => c.isEmpty) with
  | nil => rw [hd] at h; simpa using h
  | cons c cs => rw [hd] at h; simpa using h

theorem rawSettle_pending (t : RawTx) : rawPending (rawSettle t).1 = rawPending t := by
  obtain ⟨hm, chunks, cur, queue⟩ := t
  cases hm
  · -- no current Message
    cases queue with
    | nil => simp [rawSettle, rawPending]
    | cons m r =>
      have h := rawSettle_chunks m
      cases hd : m.dropWhile (fun c => c.isEmpty) with
      | nil =>
        rw [hd] at h
        have h' : rawEff m = [] := h.symm
        simp [rawSettle, rawPending, rawQueueBytes, hd, h']
      | cons c cs => rw [hd] at h; simp [rawSettle, rawPending, rawQueueBytes, hd, ← h]
  · cases hcur : cur.isEmpty
    · simp [rawSettle, rawPending, hcur]
    · cases List.isEmpty_iff.mp hcur
      have h := rawSettle_chunks chunks
      cases hd : chunks.dropWhile (fun c => c.isEmpty) with
      | nil =>
        rw [hd] at h
        have h' : rawEff chunks = [] := h.symm
        simp [rawSettle, rawPending, hd, h']
      | cons c cs => rw [hd] at h; simp [rawSettle, rawPending, hd, ← h]

theorem rawTx_refines (enc : List Bytes → List Bytes) :
    TxRefines rawTx (fun t m => { t with queue := t.queue ++ [enc m] }) rawPending (fun m => rawEff (enc m)) where
  settle := rawSettle_pending
  cur := fun t => pending_cur_split t.hasMsg t.cur (rawEff t.chunks) (rawQueueBytes t.queue)
  enqueue := by
    intro t x
    simp [rawPending, rawQueueBytes_eq_streamOf, streamOf_append, streamOf]

/-! raw receiver: the delivered chunks, concatenated, are the bytes consumed -/

def rawStep (readSize minChunk : Nat) (s : RawRx) (b : UInt8) : RawRx × List UInt8 :=
  (((rawRx readSize minChunk).onRead s [b]).1, ((rawRx readSize minChunk).onRead s [b]).2.flatten)

def rawInv (minChunk : Nat) (s : RawRx) : Prop := minChunk ≠ 0 → s.buf.length < minChunk

theorem rawOnRead_eq_feedBy_zero (readSize : Nat) (s : RawRx) (c : Bytes) :
    feedBy (rawStep readSize 0) s c = (s, c) := by
  induction c with
  | nil => simp [feedBy]
  | cons b r ih => simp [feedBy, rawStep, rawRx, ih]

section MinChunk
variable {readSize minChunk : Nat} (hm : minChunk ≠ 0)
include hm

theorem rawOnRead_eq (s : RawRx) (c : Bytes) :
    (rawRx readSize minChunk).onRead s c =
      if (!c.isEmpty && (s.buf ++ c).length == minChunk) = true then ({ buf := [] }, [s.buf ++ c])
      else ({ buf := s.buf ++ c }, []) := by
  simp only [rawRx, hm, if_false]

theorem rawOnRead_fill (s : RawRx) (c : Bytes) (h : (s.buf ++ c).length < minChunk) :
    (rawRx readSize minChunk).onRead s c = ({ buf := s.buf ++ c }, []) := by
  rw [rawOnRead_eq hm, beq_eq_false_iff_ne.mpr (Nat.ne_of_lt h), Bool.and_false,
    if_neg Bool.false_ne_true]

theorem rawOnRead_peel (s : RawRx) (b b2 : UInt8) (r : Bytes) :
    (rawRx readSize minChunk).onRead s (b :: b2 :: r) = (rawRx readSize minChunk).onRead { buf := s.buf ++ [b] } (b2 :: r) := by
  rw [rawOnRead_eq hm, rawOnRead_eq hm]
  simp only [List.append_assoc, List.singleton_append, List.isEmpty_cons]

theorem rawOnRead_inv (s : RawRx) (c : Bytes) (hs : s.buf.length < minChunk) (hc : c.length ≤ minChunk - s.buf.length) :
    rawInv minChunk ((rawRx readSize minChunk).onRead s c).1 := by
  intro _
  rw [rawOnRead_eq hm]
  split
  · exact Nat.pos_of_ne_zero hm
  · rename_i hcond
    rw [List.length_append] at hcond ⊢
    by_cases hc0 : c = []
    · rw [hc0]; exact hs
    · have : c.isEmpty = false := by cases c with | nil => exact absurd rfl hc0 | cons _ _ => rfl
      simp only [this, Bool.not_false, Bool.true_and, beq_iff_eq] at hcond
      omega

theorem rawOnRead_eq_feedBy_min (c : Bytes) (s : RawRx) (hs : s.buf.length < minChunk) (hc : c.length ≤ minChunk - s.buf.length) :
    ((rawRx readSize minChunk).onRead s c).1 = (feedBy (rawStep readSize minChunk) s c).1 ∧
    ((rawRx readSize minChunk).onRead s c).2.flatten = (feedBy (rawStep readSize minChunk) s c).2 := by
  refine onRead_eq_feedBy (rawRx readSize minChunk).onRead List.flatten rfl (rawStep readSize minChunk) (fun _ _ => rfl)
    (fun s c => s.buf.length < minChunk ∧ c.length ≤ minChunk - s.buf.length)
    (fun s h => by rw [rawOnRead_fill hm s [] (by rw [List.append_nil]; exact h.1), List.append_nil]) ?_ c s ⟨hs, hc⟩
  intro s b b2 r ⟨_, hc⟩
  have h1 : (s.buf ++ [b]).length < minChunk := by
    simp only [List.length_cons, List.length_append, List.length_nil] at hc ⊢; omega
  rw [rawOnRead_fill hm s [b] h1, rawOnRead_peel hm s b b2 r]
  refine ⟨rfl, rfl, h1, ?_⟩
  simp only [List.length_cons, List.length_append, List.length_nil] at hc ⊢; omega

end MinChunk

theorem rawRx_refines (readSize minChunk : Nat) :
    RxRefines (rawRx readSize minChunk) (rawStep readSize minChunk) List.flatten (rawInv minChunk) (fun _ => True) where
  proj_nil := rfl
  proj_append := fun _ _ => List.flatten_append
  read := by
    intro s c mb hi hc _
    by_cases hm : minChunk = 0
    · subst hm
      rw [rawOnRead_eq_feedBy_zero]
      cases c <;> simp [rawRx, rawInv]
    · have hroom : c.length ≤ minChunk - s.buf.length := by
        simp only [rawRx, hm, if_false] at hc
        exact Nat.le_trans hc (Nat.min_le_right _ _)
      exact ⟨(rawOnRead_eq_feedBy_min hm c s (hi hm) hroom).1, (rawOnRead_eq_feedBy_min hm c s (hi hm) hroom).2,
        rawOnRead_inv hm s c (hi hm) hroom⟩

/-- what the decoder needs of the four constants: an END byte is sent as ESC ESC_END, and the decoder must take the ESC
    for an escape (`esc_ne_end`) and the ESC_END for the escaped END, not for a frame end (`escEnd_ne_end`); an ESC byte is
    sent as ESC ESC_ESC, and the ESC_ESC must be neither a frame end nor read as ESC_END (`escEsc_ne_end`,
    `escEsc_ne_escEnd`) -/
structure SlipK.WF (K : SlipK) : Prop where
  esc_ne_end : K.ESC ≠ K.END
  escEnd_ne_end : K.ESC_END ≠ K.END
  escEsc_ne_end : K.ESC_ESC ≠ K.END
  escEsc_ne_escEnd : K.ESC_ESC ≠ K.ESC_END

theorem slipFeed_eq (K : SlipK) : ∀ (c : Bytes) (s : SlipRx) (acc : List Bytes),
    slipFeed K s c acc = ((feedBy (slipByte K) s c).1, acc ++ (feedBy (slipByte K) s c).2) := by
  intro c
  induction c with
  | nil => intro s acc; simp [slipFeed, feedBy]
  | cons b r ih => intro s acc; simp [slipFeed, feedBy, ih, List.append_assoc]

theorem slipRx_refines (K : SlipK) (readSize : Nat) :
    RxRefines (slipRx K readSize) (slipByte K) id (fun _ => True) (fun _ => True) where
  proj_nil := rfl
  proj_append := by intro a b; rfl
  read := by
    intro s c mb _ _ _
    simp [slipRx, slipFeed_eq]

theorem slip_unescape (K : SlipK) (hK : K.WF) : ∀ (x p rest : Bytes),
    feedBy (slipByte K) { pending := p, esc := false } (slipEsc K x ++ rest) =
      feedBy (slipByte K) { pending := p ++ x, esc := false } rest := by
  intro x
  induction x with
  | nil => intro p rest; simp [slipEsc]
  | cons b r ih =>
    intro p rest
    have h1 := hK.esc_ne_end; have h2 := hK.escEnd_ne_end; have h3 := hK.escEsc_ne_end; have h4 := hK.escEsc_ne_escEnd
    by_cases hb : b = K.END
    · subst hb
      simp only [slipEsc, if_true, List.cons_append, feedBy, slipByte]
      simp [h1, h2, ih, List.append_assoc]
    · by_cases hb2 : b = K.ESC
      · subst hb2
        simp only [slipEsc, hb, if_false, if_true, List.cons_append, feedBy, slipByte]
        simp [h3, h4, ih, List.append_assoc]
      · simp only [slipEsc, hb, hb2, if_false, List.cons_append, feedBy, slipByte]
        simp [ih, List.append_assoc]

/-- the receiver's start state under the name the statements about input alone use -/
def slipIdle : SlipRx := { pending := [], esc := false }

/-- decoding `SLIPEncodeBytes x` from the idle state yields exactly the frame `x` (nothing for the empty chunk) and
    returns to the idle state -/
theorem slip_roundtrip_append (K : SlipK) (hK : K.WF) (x rest : Bytes) :
    feedBy (slipByte K) slipInitRx (slipEncode K x ++ rest) =
      ((feedBy (slipByte K) slipInitRx rest).1, (if x.isEmpty then [] else [x]) ++ (feedBy (slipByte K) slipInitRx rest).2) := by
  have h : slipEncode K x ++ rest = K.END :: (slipEsc K x ++ (K.END :: rest)) := by simp [slipEncode]
  rw [h]
  simp only [feedBy]
  have e1 : slipByte K slipInitRx K.END = (slipInitRx, []) := by simp [slipByte, slipInitRx, slipFlush]
  rw [e1]
  simp only [slipInitRx, List.nil_append]
  rw [slip_unescape K hK x [] (K.END :: rest)]
  simp only [feedBy, List.nil_append]
  cases x with
  | nil => simp [slipByte, slipFlush]
  | cons a r => simp [slipByte, slipFlush]

theorem slipChunk_decodes (K : SlipK) (hK : K.WF) :
    Decodes (slipByte K) (· = slipInitRx) (slipEncode K) (fun x => [x]) (fun x => x.isEmpty = false) :=
  fun x hx _ hs rest => ⟨_, rfl, by rw [hs, slip_roundtrip_append K hK x rest, hx]; rfl⟩

theorem slipMsg_decodes (K : SlipK) (hK : K.WF) :
    Decodes (slipByte K) (· = slipInitRx) (fun m => rawEff (slipMsg K m)) (fun m => m.filter (fun c => !c.isEmpty))
      (fun _ => True) := by
  intro m _ s hs rest
  obtain ⟨s', hs', e⟩ := feedBy_streamOf (slipChunk_decodes K hK) (m.filter (fun c => !c.isEmpty))
    (fun x hx => by simpa using (List.mem_filter.mp hx).2) s hs rest
  rw [streamOf_eq_flatMap, List.flatMap_singleton'] at e
  exact ⟨s', hs', e⟩

/-- raw, immediate-forward mode: every byte is a delivery of its own -/
theorem raw_decodes (readSize : Nat) : Decodes (rawStep readSize 0) (fun _ => True) rawEff rawEff (fun _ => True) :=
  fun _ _ s _ _ => ⟨s, trivial, by simp only [rawOnRead_eq_feedBy_zero]⟩

end Muscle.Gateway
