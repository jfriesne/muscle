import MuscleModel.Gateway.Stream
import MuscleModel.Wire.Decode

/-!
# `MessageIOGateway` (default encoding) over a stream transport

Frame = 8-byte header {body length, encoding id}, little-endian, then the flattened Message.
Sender: `DoOutputImplementation` + `SendMoreData`.  Receiver: `DoInputImplementation` +
`ReceiveMoreData` + `GetBodySize` + `UnflattenHeaderAndMessage`, including the scratch-buffer
branch: a frame whose body fits the scratch buffer is received in place (the buffer is truncated
to header+body), a bigger one gets a new buffer into which the header bytes are copied.

`P.hs`, `P.scratch`, `P.maxIn`, `P.mx` are the compiled values of `GetHeaderSize()`, the scratch
buffer size, `_maxIncomingMessageSize` and `MUSCLE_MAX_MESSAGE_NESTING_DEPTH` (parameters: the
refinement holds for all values with `0 < hs < scratch`, the frame round trip for `hs = 8 < scratch`).  `P.deflate`/`P.inflate` stand for zlib (an opaque
pair of functions; the theorems assume only `inflate (deflate x) = x`): the body of a frame whose encoding id
is one of the zlib ids goes through `inflate` (`none` = error).
-/

namespace Muscle.Gateway
open Muscle Muscle.Wire Muscle.Gen

structure BinParams where
  hs : Nat
  scratch : Nat
  maxIn : Nat
  mx : Nat
  /-- zlib, sending side: compression level 1..9 → flattened Message → what `ZLibCodec::Deflate` returns -/
  deflate : Nat → Bytes → Bytes
  /-- zlib, receiving side: encoding id → frame body → the inflated bytes (`none` = error) -/
  inflate : Nat → Bytes → Option Bytes

/-- header {body length, encoding id} + body -/
def frameOf (enc : Nat) (body : Bytes) : Bytes :=
  le32 body.length ++ (le32 enc ++ body)

/-- `FlattenHeaderAndMessage`, default encoding -/
def frame (m : Msg) : Bytes := frameOf encodingDefault (encode m)

/-- `FlattenHeaderAndMessage` with `_outgoingEncoding = MUSCLE_MESSAGE_ENCODING_DEFAULT + lvl`: a buffer of at least 32 bytes
    (header included) goes through the codec and is flagged with the zlib encoding id, a smaller one is sent plain -/
def frameZ (P : BinParams) (lvl : Nat) (m : Msg) : Bytes :=
  if lvl ≠ 0 ∧ 32 ≤ P.hs + (encode m).length then frameOf (encodingDefault + lvl) (P.deflate lvl (encode m))
  else frame m

structure BinTx where
  cur : Bytes          -- `_sendBuffer`: the bytes from `_offset` on ([] = no buffer)
  queue : List Msg     -- `_outgoingMessages`

/-- top of the `DoOutputImplementation` loop: no buffer ⇒ pop the next Message and flatten it -/
def binSettle (P : BinParams) (lvl : Nat) (t : BinTx) : BinTx × Bool :=
  match t.cur, t.queue with
  | [], m :: r => ({ cur := frameZ P lvl m, queue := r }, false)
  | _, _ => (t, false)

def binTx (P : BinParams) (lvl : Nat) : TxM BinTx where
  zeroStops := true
  settle := binSettle P lvl
  cur := fun t => t.cur
  advance := fun t n => { t with cur := t.cur.drop n }
  again := fun a n => n == a      -- `SendMoreData` returns B_ERROR on a short write

structure BinRx where
  buf : Bytes        -- received so far of the current frame (`length = _recvBuffer._offset`)
  cap : Nat          -- `_recvBuffer._buffer()->GetNumBytes()`
  err : Bool         -- `GetUnrecoverableErrorStatus().IsError()`

/-- `ReceiveMoreData`'s attempt size for the header phase resp. the body phase -/
def binAttempt (P : BinParams) (s : BinRx) (mb : Nat) : Nat :=
  if s.err then 0 else min mb ((if s.buf.length < P.hs then P.hs else s.cap) - s.buf.length)

/-- `GetBodySize` -/
def bodySizeOf (hdr : Bytes) : Option Nat :=
  let enc := leVal ((hdr.drop 4).take 4)
  if encodingDefault ≤ enc ∧ enc < encodingEndMarker then some (leVal (hdr.take 4)) else none

/-- `UnflattenHeaderAndMessage` on a complete buffer -/
def unframe (P : BinParams) (b : Bytes) : Option Msg :=
  let enc := leVal ((b.drop 4).take 4)
  if enc = encodingDefault then decode P.mx (b.drop P.hs)
  else match P.inflate enc (b.drop P.hs) with
    | some raw => decode P.mx raw
    | none => none

/-- the buffer is full ⇒ parse it, hand the Message over, start afresh -/
def binComplete (P : BinParams) (s : BinRx) : BinRx × List Msg :=
  if s.buf.length = s.cap then
    match unframe P s.buf with
    | some m => ({ buf := [], cap := P.scratch, err := false }, [m])
    | none => ({ buf := [], cap := P.scratch, err := true }, [])
  else (s, [])

/-- one `Read` result and the rest of that loop iteration -/
def binOnRead (P : BinParams) (s : BinRx) (c : Bytes) : BinRx × List Msg :=
  let buf := s.buf ++ c
  if s.buf.length < P.hs then
    if buf.length < P.hs then ({ s with buf := buf }, [])
    else
      match bodySizeOf buf with
      | none => ({ s with buf := buf, err := true }, [])
      | some bodySize =>
        if P.maxIn < bodySize ∨ 4294967296 ≤ P.hs + bodySize then ({ s with buf := buf, err := true }, [])
        else if bodySize ≤ s.cap - P.hs then
          binComplete P { buf := buf, cap := P.hs + bodySize, err := false }               -- TruncateToLength
        else
          binComplete P { buf := buf.take P.hs, cap := P.hs + bodySize, err := false }     -- bigger buffer, header copied
  else binComplete P { s with buf := buf }

def binRx (P : BinParams) : RxM BinRx Msg where
  attempt := binAttempt P
  onRead := binOnRead P
  again := fun s a n => n == a && !s.err   -- `ReceiveMoreData` returns B_ERROR on a short read; an error ends the loop

def binGw (P : BinParams) (lvl : Nat) : Gw BinTx BinRx Msg Msg where
  tx := binTx P lvl
  rx := binRx P
  enqueue := fun t m => { t with queue := t.queue ++ [m] }
  txFuel := fun t c => callFuel c.grants (t.queue.length + 1)
  hasOut := fun t => !t.cur.isEmpty || !t.queue.isEmpty

def binInitTx : BinTx := { cur := [], queue := [] }
def binInitRx (P : BinParams) : BinRx := { buf := [], cap := P.scratch, err := false }

end Muscle.Gateway
