import MuscleModel.Gateway.Text
import MuscleModel.Gateway.ProofsStream

/-! Proofs for the plain-text gateway: sender conservation, the line splitter (chunk-wise scan =
byte-wise feeding for NUL-free input, whatever the chunking), and the round trip of clean lines
for the three terminators CR LF, LF, CR. -/

namespace Muscle.Gateway
open Muscle

def textLinesBytes (eol : Bytes) : List Bytes → Bytes
  | [] => []
  | l :: r => (l ++ eol) ++ textLinesBytes eol r

def textQueueBytes (eol : Bytes) : List (List Bytes) → Bytes
  | [] => []
  | m :: r => textLinesBytes eol m ++ textQueueBytes eol r

theorem textLinesBytes_eq_streamOf (eol : Bytes) : ∀ ls : List Bytes, textLinesBytes eol ls = streamOf (fun l => l ++ eol) ls
  | [] => rfl
  | l :: r => by rw [textLinesBytes, streamOf, textLinesBytes_eq_streamOf eol r]

theorem textQueueBytes_eq_streamOf (eol : Bytes) : ∀ ms : List (List Bytes),
    textQueueBytes eol ms = streamOf (textLinesBytes eol) ms
  | [] => rfl
  | m :: r => by rw [textQueueBytes, streamOf, textQueueBytes_eq_streamOf eol r]

def textPending (eol : Bytes) (t : TextTx) : Bytes :=
  (if t.hasMsg then t.cur ++ textLinesBytes eol t.lines else []) ++ textQueueBytes eol t.queue

theorem textSettle_pending (eol : Bytes) (t : TextTx) : textPending eol (textSettle eol t).1 = textPending eol t := by
  obtain ⟨hm, lines, cur, queue⟩ := t
  cases hm
  · cases queue with
    | nil => simp [textSettle, textPending]
    | cons m r =>
      cases m with
      | nil => simp [textSettle, textPending, textQueueBytes, textLinesBytes]
      | cons l ls => simp [textSettle, textPending, textQueueBytes, textLinesBytes, List.append_assoc]
  · cases hcur : cur.isEmpty
    · simp [textSettle, textPending, hcur]
    · cases List.isEmpty_iff.mp hcur
      cases lines with
      | nil => simp [textSettle, textPending, textLinesBytes]
      | cons l ls => simp [textSettle, textPending, textLinesBytes, List.append_assoc]

theorem textTx_refines (eol : Bytes) :
    TxRefines (textTx eol) (fun t m => { t with queue := t.queue ++ [m] }) (textPending eol) (textLinesBytes eol) where
  settle := textSettle_pending eol
  cur := fun t => pending_cur_split t.hasMsg t.cur (textLinesBytes eol t.lines) (textQueueBytes eol t.queue)
  enqueue := by
    intro t x
    simp [textPending, textQueueBytes_eq_streamOf, streamOf_append, streamOf]

def textStep (s : TextRx) (b : UInt8) : TextRx × List Bytes := textScan [b] [] s []

theorem cstrOf_clean (p : Bytes) (h : ∀ b ∈ p, b ≠ 0) : cstrOf p = p := by
  induction p with
  | nil => rfl
  | cons a r ih =>
    have ha : a ≠ 0 := h a (by simp)
    have hr : ∀ b ∈ r, b ≠ 0 := fun b hb => h b (by simp [hb])
    have hne : (a != 0) = true := by simp [ha]
    simp only [cstrOf] at ih ⊢
    rw [List.takeWhile_cons, hne]
    simp [ih hr]

theorem textStep_eol (s : TextRx) (b : UInt8) (hb : b = 13 ∨ b = 10) (hp : b = 13 ∨ s.prevCR = false) :
    textStep s b = ({ carry := [], prevCR := decide (b = 13) }, [s.carry]) := by
  simp [textStep, textScan, hb, hp, cstrOf]

theorem textStep_skip (s : TextRx) (hp : s.prevCR = true) :
    textStep s 10 = ({ s with prevCR := false }, []) := by
  simp [textStep, textScan, hp, cstrOf]

theorem textStep_char (s : TextRx) (b : UInt8) (h1 : b ≠ 13) (h2 : b ≠ 10) (h0 : b ≠ 0) :
    textStep s b = ({ carry := s.carry ++ [b], prevCR := false }, []) := by
  simp [textStep, textScan, h1, h2, cstrOf, List.takeWhile, h0]

/-- the scan loop over a NUL-free buffer = feeding its bytes one at a time, from the state in which the
    piece scanned so far has already been moved to the carry-over text -/
theorem textScan_eq : ∀ (r piece : Bytes) (s : TextRx) (acc : List Bytes),
    (∀ b ∈ r, b ≠ 0) → (∀ b ∈ piece, b ≠ 0) → (s.prevCR = true → piece = []) →
    textScan r piece s acc =
      ((feedBy textStep { carry := s.carry ++ piece, prevCR := s.prevCR } r).1,
       acc ++ (feedBy textStep { carry := s.carry ++ piece, prevCR := s.prevCR } r).2) := by
  intro r
  induction r with
  | nil =>
    intro piece s acc _ hp _
    simp [textScan, feedBy, cstrOf_clean piece hp]
  | cons c r ih =>
    intro piece s acc hr hp hinv
    have hc0 : c ≠ 0 := hr c (by simp)
    have hr' : ∀ b ∈ r, b ≠ 0 := fun b hb => hr b (by simp [hb])
    by_cases hc : c = 13 ∨ c = 10
    · by_cases hemit : c = 13 ∨ s.prevCR = false
      · have := textStep_eol { carry := s.carry ++ piece, prevCR := s.prevCR } c hc hemit
        simp only [feedBy, this]
        simp only [textScan, hc, hemit, if_true]
        rw [ih [] _ _ hr' (by simp) (by simp)]
        simp [cstrOf_clean piece hp, List.append_assoc]
      · have hc10 : c = 10 := by
          cases hc with
          | inl h => exact absurd (Or.inl h) hemit
          | inr h => exact h
        have hpcr : s.prevCR = true := by
          cases h : s.prevCR with
          | false => exact absurd (Or.inr h) hemit
          | true => rfl
        have hpiece := hinv hpcr
        subst hc10 hpiece
        have := textStep_skip { carry := s.carry ++ [], prevCR := s.prevCR } hpcr
        simp only [feedBy, this]
        simp only [textScan, hemit, if_false]
        rw [ih [] _ _ hr' (by simp) (by simp)]
        simp
    · have h13 : c ≠ 13 := fun h => hc (Or.inl h)
      have h10 : c ≠ 10 := fun h => hc (Or.inr h)
      have := textStep_char { carry := s.carry ++ piece, prevCR := s.prevCR } c h13 h10 hc0
      simp only [feedBy, this]
      simp only [textScan, hc, if_false]
      rw [ih (piece ++ [c]) _ _ hr' (by
        intro b hb
        simp only [List.mem_append, List.mem_singleton] at hb
        cases hb with
        | inl h => exact hp b h
        | inr h => exact h ▸ hc0) (by simp)]
      simp [List.append_assoc]

theorem textRx_refines (readSize : Nat) :
    RxRefines (textRx readSize) textStep id (fun _ => True) (fun b => b ≠ 0) where
  proj_nil := rfl
  proj_append := by intro a b; rfl
  read := by
    intro s c mb _ _ hok
    have := textScan_eq c [] s [] hok (by simp) (by simp)
    simp [textRx, this]

def cleanLine (l : Bytes) : Prop := ∀ b ∈ l, b ≠ 13 ∧ b ≠ 10 ∧ b ≠ 0

theorem feed_cleanLine : ∀ (l : Bytes) (c0 : Bytes) (p : Bool) (rest : Bytes), cleanLine l →
    feedBy textStep { carry := c0, prevCR := p } (l ++ rest) =
      feedBy textStep { carry := c0 ++ l, prevCR := if l.isEmpty then p else false } rest := by
  intro l
  induction l with
  | nil => intro c0 p rest _; simp
  | cons a r ih =>
    intro c0 p rest h
    obtain ⟨h13, h10, h0⟩ := h a (by simp)
    have hr : cleanLine r := fun b hb => h b (by simp [hb])
    simp only [List.cons_append, feedBy, textStep_char _ a h13 h10 h0, List.nil_append]
    rw [ih (c0 ++ [a]) false rest hr]
    cases r <;> simp [List.append_assoc]

inductive IsEol : Bytes → Prop where
  | crlf : IsEol [13, 10]
  | lf : IsEol [10]
  | cr : IsEol [13]

def textIdle (eol : Bytes) (s : TextRx) : Prop := s.carry = [] ∧ (eol = [10] → s.prevCR = false)

theorem textIdle_init (eol : Bytes) : textIdle eol textInitRx := ⟨rfl, fun _ => rfl⟩

theorem textLine_decodes (eol : Bytes) (he : IsEol eol) :
    Decodes textStep (textIdle eol) (fun l => l ++ eol) (fun l => [l]) cleanLine := by
  intro l hl s hs rest
  obtain ⟨c, p⟩ := s
  obtain ⟨rfl, hp⟩ := hs
  rw [List.append_assoc, feed_cleanLine l [] p (eol ++ rest) hl]
  cases he with
  | crlf =>
    refine ⟨{ carry := [], prevCR := false }, textIdle_init _, ?_⟩
    simp only [List.cons_append, List.nil_append, feedBy]
    rw [textStep_eol _ 13 (Or.inl rfl) (Or.inl rfl)]
    simp only [decide_true]
    rw [textStep_skip _ rfl]
    simp
  | lf =>
    have hpf : p = false := hp rfl
    subst hpf
    refine ⟨{ carry := [], prevCR := false }, textIdle_init _, ?_⟩
    simp only [List.cons_append, List.nil_append, feedBy]
    rw [textStep_eol _ 10 (Or.inr rfl) (Or.inr (by cases l <;> simp))]
    simp
  | cr =>
    refine ⟨{ carry := [], prevCR := true }, ⟨rfl, fun h => by cases h⟩, ?_⟩
    simp only [List.cons_append, List.nil_append, feedBy]
    rw [textStep_eol _ 13 (Or.inl rfl) (Or.inl rfl)]
    simp

theorem textMsg_decodes (eol : Bytes) (he : IsEol eol) :
    Decodes textStep (textIdle eol) (textLinesBytes eol) (fun m => m) (fun m => ∀ l ∈ m, cleanLine l) := by
  intro m hm s hs rest
  obtain ⟨s', hs', e⟩ := feedBy_streamOf (textLine_decodes eol he) m hm s hs rest
  rw [← textLinesBytes_eq_streamOf, List.flatMap_singleton'] at e
  exact ⟨s', hs', e⟩

theorem eol_nonzero (eol : Bytes) (he : IsEol eol) : ∀ b ∈ eol, b ≠ 0 := by
  cases he with
  | crlf => intro b hb; simp at hb; rcases hb with h | h <;> subst h <;> decide
  | lf => intro b hb; simp at hb; subst hb; decide
  | cr => intro b hb; simp at hb; subst hb; decide

theorem textLinesBytes_nonzero (eol : Bytes) (he : IsEol eol) (ls : List Bytes) (h : ∀ l ∈ ls, cleanLine l) :
    ∀ b ∈ textLinesBytes eol ls, b ≠ 0 := by
  intro b hb
  rw [textLinesBytes_eq_streamOf, streamOf_mem] at hb
  obtain ⟨l, hl, hb⟩ := hb
  rcases List.mem_append.mp hb with hb | hb
  · exact (h l hl b hb).2.2
  · exact eol_nonzero eol he b hb

end Muscle.Gateway
