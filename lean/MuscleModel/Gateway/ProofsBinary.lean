import MuscleModel.Gateway.Binary
import MuscleModel.Gateway.ProofsStream


/-! The binary gateway: sender conservation, and the receiver refinement — a `Read` result of any size that
fits what `ReceiveMoreData` asked for does what its bytes do one at a time. -/

namespace Muscle.Gateway
open Muscle Muscle.Wire Muscle.Gen

def binQueueBytes (P : BinParams) (lvl : Nat) : List Msg → Bytes
  | [] => []
  | m :: r => frameZ P lvl m ++ binQueueBytes P lvl r

theorem binQueueBytes_eq_streamOf (P : BinParams) (lvl : Nat) : ∀ ms : List Msg,
    binQueueBytes P lvl ms = streamOf (frameZ P lvl) ms
  | [] => rfl
  | m :: r => by rw [binQueueBytes, streamOf, binQueueBytes_eq_streamOf P lvl r]

def binPending (P : BinParams) (lvl : Nat) (t : BinTx) : Bytes := t.cur ++ binQueueBytes P lvl t.queue

theorem binTx_refines (P : BinParams) (lvl : Nat) :
    TxRefines (binTx P lvl) (fun t m => { t with queue := t.queue ++ [m] }) (binPending P lvl) (frameZ P lvl) where
  settle := by
    intro t
    obtain ⟨cur, queue⟩ := t
    cases cur with
    | nil => cases queue <;> simp [binTx, binSettle, binPending, binQueueBytes]
    | cons a r => simp [binTx, binSettle, binPending]
  cur := by
    intro t
    exact ⟨binQueueBytes P lvl t.queue, rfl, by intro n _; simp [binTx, binPending]⟩
  enqueue := by
    intro t x
    simp [binPending, binQueueBytes_eq_streamOf, streamOf_append, streamOf]

def binStep (P : BinParams) (s : BinRx) (b : UInt8) : BinRx × List Msg := binOnRead P s [b]

/-- before the header is complete the buffer is the scratch buffer; afterwards the frame is incomplete -/
def binInv (P : BinParams) (s : BinRx) : Prop :=
  (s.buf.length < P.hs → s.cap = P.scratch) ∧ (P.hs ≤ s.buf.length → s.buf.length < s.cap)

def binTarget (P : BinParams) (s : BinRx) : Nat := if s.buf.length < P.hs then P.hs else s.cap

theorem binTarget_of_lt {P : BinParams} {s : BinRx} (h : s.buf.length < P.hs) : binTarget P s = P.hs := if_pos h

theorem binTarget_of_ge {P : BinParams} {s : BinRx} (h : ¬ s.buf.length < P.hs) : binTarget P s = s.cap := if_neg h

/-- the room `ReceiveMoreData` computes -/
def binRoom (P : BinParams) (s : BinRx) : Nat := binTarget P s - s.buf.length

section Rx
variable {P : BinParams}

theorem binInv_init (h : 0 < P.hs) : binInv P (binInitRx P) :=
  ⟨fun _ => rfl, fun h' => absurd h (Nat.not_lt.mpr h')⟩

theorem binInv_lt_target (s : BinRx) (hi : binInv P s) : s.buf.length < binTarget P s := by
  by_cases hh : s.buf.length < P.hs
  · rw [binTarget_of_lt hh]; exact hh
  · rw [binTarget_of_ge hh]; exact hi.2 (Nat.le_of_not_lt hh)

theorem binOnRead_fill (s : BinRx) (c : Bytes) (h : (s.buf ++ c).length < binTarget P s) :
    binOnRead P s c = ({ s with buf := s.buf ++ c }, []) := by
  by_cases hh : s.buf.length < P.hs
  · rw [binTarget_of_lt hh] at h
    simp only [binOnRead, hh, h, if_true]
  · rw [binTarget_of_ge hh] at h
    simp only [binOnRead, hh, if_false, binComplete, Nat.ne_of_lt h]

theorem binOnRead_peel (s : BinRx) (b : UInt8) (r : Bytes) (h : (s.buf ++ [b]).length < binTarget P s) :
    binOnRead P s (b :: r) = binOnRead P { s with buf := s.buf ++ [b] } r := by
  by_cases hh : s.buf.length < P.hs
  · rw [binTarget_of_lt hh] at h
    simp only [binOnRead, hh, h, if_true, List.append_assoc, List.singleton_append]
  · have h1 : ¬ (s.buf ++ [b]).length < P.hs := fun h' =>
      hh (Nat.lt_of_le_of_lt (by rw [List.length_append]; exact Nat.le_add_right _ _) h')
    simp only [binOnRead, hh, h1, if_false, List.append_assoc, List.singleton_append]

theorem binTarget_fill (s : BinRx) (c : Bytes) (h : (s.buf ++ c).length < binTarget P s) :
    binTarget P { s with buf := s.buf ++ c } = binTarget P s := by
  have hle : s.buf.length ≤ (s.buf ++ c).length := by rw [List.length_append]; exact Nat.le_add_right _ _
  by_cases hh : s.buf.length < P.hs
  · rw [binTarget_of_lt hh] at h ⊢; exact binTarget_of_lt h
  · rw [binTarget_of_ge hh]; exact binTarget_of_ge (fun h' => hh (Nat.lt_of_le_of_lt hle h'))

theorem binInv_fill (s : BinRx) (c : Bytes) (hi : binInv P s) (h : (s.buf ++ c).length < binTarget P s) :
    binInv P { s with buf := s.buf ++ c } := by
  have hle : s.buf.length ≤ (s.buf ++ c).length := by rw [List.length_append]; exact Nat.le_add_right _ _
  by_cases hh : s.buf.length < P.hs
  · rw [binTarget_of_lt hh] at h
    exact ⟨fun _ => hi.1 hh, fun h' => absurd h (Nat.not_lt.mpr h')⟩
  · rw [binTarget_of_ge hh] at h
    exact ⟨fun h' => absurd (Nat.lt_of_le_of_lt hle h') hh, fun _ => h⟩

theorem binInv_header (buf : Bytes) (cap : Nat) (err : Bool) (hlen : buf.length = P.hs) (hcap : P.hs < cap) :
    binInv P { buf := buf, cap := cap, err := err } :=
  ⟨fun h => absurd h (by rw [hlen]; exact Nat.lt_irrefl _), fun _ => by rw [hlen]; exact hcap⟩

theorem binComplete_inv (hP : 0 < P.hs) (s : BinRx)
    (h : s.buf.length ≠ s.cap → binInv P s) : binInv P (binComplete P s).1 := by
  unfold binComplete
  by_cases hf : s.buf.length = s.cap
  · rw [if_pos hf]
    split <;> exact ⟨fun _ => rfl, fun h => absurd h (Nat.not_le.mpr hP)⟩
  · rw [if_neg hf]; exact h hf

theorem binOnRead_inv (hP : 0 < P.hs ∧ P.hs < P.scratch) (s : BinRx) (c : Bytes)
    (hi : binInv P s) (hc : c.length ≤ binRoom P s) : binInv P (binOnRead P s c).1 := by
  by_cases hfill : (s.buf ++ c).length < binTarget P s
  · rw [binOnRead_fill s c hfill]; exact binInv_fill s c hi hfill
  -- the chunk fills the buffer up to the target: the header, or the frame, is complete
  have hfull : (s.buf ++ c).length = binTarget P s := by
    have := binInv_lt_target s hi
    rw [List.length_append] at hfill ⊢
    unfold binRoom at hc
    omega
  unfold binOnRead
  by_cases hh : s.buf.length < P.hs
  · rw [binTarget_of_lt hh] at hfull
    have htake : ((s.buf ++ c).take P.hs).length = P.hs := by rw [List.length_take, hfull, Nat.min_self]
    simp only [hh, if_true, hfull, Nat.lt_irrefl, if_false]
    split
    · exact binInv_header _ _ _ hfull (hi.1 hh ▸ hP.2)
    · split
      · exact binInv_header _ _ _ hfull (hi.1 hh ▸ hP.2)
      · split <;> refine binComplete_inv hP.1 _ (fun hne => binInv_header _ _ _ (by assumption) ?_) <;>
          exact Nat.lt_of_le_of_ne (Nat.le_add_right _ _) (by simpa only [hfull, htake] using hne)
  · rw [binTarget_of_ge hh] at hfull
    simp only [hh, if_false]
    exact binComplete_inv hP.1 _ (fun hne => absurd hfull hne)

theorem binOnRead_eq_feedBy (c : Bytes) (s : BinRx) (hi : binInv P s) (hc : c.length ≤ binRoom P s) :
    (binOnRead P s c).1 = (feedBy (binStep P) s c).1 ∧ (binOnRead P s c).2 = (feedBy (binStep P) s c).2 := by
  refine onRead_eq_feedBy (binOnRead P) id rfl (binStep P) (fun _ _ => rfl)
    (fun s c => binInv P s ∧ c.length ≤ binRoom P s) (fun s h => by rw [binOnRead_fill s [] (by rw [List.append_nil]; exact binInv_lt_target s h.1), List.append_nil]) ?_ c s ⟨hi, hc⟩
  intro s b b2 r ⟨hi, hc⟩
  -- two or more bytes fit the room: the first one completes nothing
  have h1 : (s.buf ++ [b]).length < binTarget P s := by
    simp only [binRoom, List.length_cons, List.length_append, List.length_nil] at hc ⊢
    omega
  rw [binOnRead_fill s [b] h1, binOnRead_peel s b _ h1]
  refine ⟨rfl, rfl, binInv_fill s [b] hi h1, ?_⟩
  rw [binRoom, binTarget_fill s [b] h1]
  simp only [binRoom, List.length_cons, List.length_append, List.length_nil] at hc ⊢
  omega

end Rx

theorem binRx_refines (P : BinParams) (hP : 0 < P.hs ∧ P.hs < P.scratch) :
    RxRefines (binRx P) (binStep P) id (binInv P) (fun _ => True) where
  proj_nil := rfl
  proj_append := fun _ _ => rfl
  read := by
    intro s c mb hi hc _
    have hroom : c.length ≤ binRoom P s := by
      by_cases he : s.err = true
      · simp only [binRx, binAttempt, he, if_true, Nat.le_zero] at hc
        rw [hc]; exact Nat.zero_le _
      · simp only [binRx, binAttempt, he] at hc
        exact Nat.le_trans hc (Nat.min_le_right _ _)
    exact ⟨(binOnRead_eq_feedBy c s hi hroom).1, (binOnRead_eq_feedBy c s hi hroom).2, binOnRead_inv hP s c hi hroom⟩

end Muscle.Gateway
