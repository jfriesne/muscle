import MuscleModel.Gateway.ProofsBinary
import MuscleModel.Props.C01

/-! The frame round trip of the binary gateway: feeding a frame (8-byte header, then the body) to the
receiver — byte by byte, hence by `binRx_refines` in ANY segmentation — delivers exactly the Message
the body stands for and returns the receiver to its initial state.  Plain frames: C01
(`decode (encode m) = tripMsg m`).  zlib-flagged frames: the codec is an opaque pair of functions of
which only `inflate (deflate x) = x` is assumed (`CodecOK`). -/

namespace Muscle.Gateway
open Muscle Muscle.Wire Muscle.Gen

/-- the 8-byte header {length, encoding id}, and a scratch buffer with room beyond a header -/
structure BinParams.OK (P : BinParams) : Prop where
  hs8 : P.hs = 8
  scratch : 8 < P.scratch

theorem BinParams.OK.pos {P : BinParams} (hP : P.OK) : 0 < P.hs ∧ P.hs < P.scratch := by
  rw [hP.hs8]; exact ⟨by decide, hP.scratch⟩

/-- the only thing assumed of zlib: what `Deflate` at level 1..9 produces, `Inflate` (selected by the encoding id) restores -/
def CodecOK (P : BinParams) : Prop :=
  ∀ (lvl : Nat) (x : Bytes), 1 ≤ lvl → lvl ≤ 9 → P.inflate (encodingDefault + lvl) (P.deflate lvl x) = some x

def bodyZ (P : BinParams) (lvl : Nat) (m : Msg) : Bytes :=
  if lvl ≠ 0 ∧ 32 ≤ P.hs + (encode m).length then P.deflate lvl (encode m) else encode m

/-- Messages the link is specified for -/
def frameOKZ (P : BinParams) (lvl : Nat) (m : Msg) : Prop :=
  wfMsg m ∧ depthMsg m ≤ P.mx ∧ 0 < (bodyZ P lvl m).length ∧ (bodyZ P lvl m).length ≤ P.maxIn ∧
    8 + (bodyZ P lvl m).length < 4294967296

/-- Messages the link is specified for, default encoding (no `0 < length` conjunct: an encoded Message has at least
    12 bytes, `encMsg_length_ge`) -/
def frameOK (P : BinParams) (m : Msg) : Prop :=
  wfMsg m ∧ depthMsg m ≤ P.mx ∧ (encode m).length ≤ P.maxIn ∧ 8 + (encode m).length < 4294967296

theorem hdr_take (a b : Nat) (x : Bytes) : (le32 a ++ (le32 b ++ x)).take 4 = le32 a :=
  List.take_left' (by simp)

theorem hdr_drop_take (a b : Nat) (x : Bytes) : ((le32 a ++ (le32 b ++ x)).drop 4).take 4 = le32 b := by
  rw [List.drop_left' (by simp)]
  exact List.take_left' (by simp)

theorem hdr_drop8 (a b : Nat) (x : Bytes) : (le32 a ++ (le32 b ++ x)).drop 8 = x := by
  have : le32 a ++ (le32 b ++ x) = (le32 a ++ le32 b) ++ x := by simp
  rw [this]
  exact List.drop_left' (by simp)

theorem encEnd_lt : encodingEndMarker < 4294967296 := by decide

/-- a valid encoding id: `MUSCLE_MESSAGE_ENCODING_DEFAULT ≤ e < MUSCLE_MESSAGE_ENCODING_END_MARKER` -/
def encValid (e : Nat) : Prop := encodingDefault ≤ e ∧ e < encodingEndMarker

theorem hdr_bodySize (n e : Nat) (hl32 : n < 4294967296) (he : encValid e) :
    bodySizeOf (le32 n ++ le32 e) = some n := by
  have h1 := hdr_take n e []
  have h2 := hdr_drop_take n e []
  have he32 : e < 4294967296 := Nat.lt_trans he.2 encEnd_lt
  simp only [List.append_nil] at h1 h2
  simp only [bodySizeOf, h1, h2, leVal_le32 _ hl32, leVal_le32 _ he32]
  simp only [he.1, he.2, and_self, if_true]

def afterHeader (e : Nat) (body : Bytes) : BinRx :=
  { buf := le32 body.length ++ le32 e, cap := 8 + body.length, err := false }

theorem onRead_header (P : BinParams) (hP : P.OK) (e : Nat) (body : Bytes) (he : encValid e)
    (hpos : 0 < body.length) (hmax : body.length ≤ P.maxIn) (h32 : 8 + body.length < 4294967296) :
    binOnRead P (binInitRx P) (le32 body.length ++ le32 e) = (afterHeader e body, []) := by
  have hbody := hdr_bodySize body.length e (Nat.lt_of_le_of_lt (Nat.le_add_left _ 8) h32) he
  have hl8 : (le32 body.length ++ le32 e).length = 8 := by simp
  have hc : ¬ (P.maxIn < body.length ∨ 4294967296 ≤ 8 + body.length) := by omega
  have hne : ¬ 8 = 8 + body.length := by omega
  simp only [binOnRead, binInitRx, List.nil_append, List.length_nil, hP.hs8, hl8, hbody, hc, binComplete, hne,
    List.take_of_length_le (Nat.le_of_eq hl8), Nat.lt_irrefl, Nat.zero_lt_succ, if_true, if_false, ite_self, afterHeader]

/-- what `UnflattenHeaderAndMessage` makes of a complete frame -/
theorem unframe_frameOf (P : BinParams) (hP : P.OK) (e : Nat) (body : Bytes) (he : e < 4294967296) :
    unframe P (frameOf e body) =
      if e = encodingDefault then decode P.mx body
      else match P.inflate e body with
        | some raw => decode P.mx raw
        | none => none := by
  have h2 := hdr_drop_take body.length e body
  have h3 := hdr_drop8 body.length e body
  unfold unframe frameOf
  simp only [h2, leVal_le32 _ he, hP.hs8, h3]
  rfl

theorem onRead_body (P : BinParams) (hP : P.OK) (e : Nat) (body : Bytes) (m : Msg)
    (hu : unframe P (frameOf e body) = some m) :
    binOnRead P (afterHeader e body) body = (binInitRx P, [m]) := by
  have hl8 : (le32 body.length ++ le32 e).length = 8 := by simp
  have hu' : unframe P ((le32 body.length ++ le32 e) ++ body) = some m := by
    rw [List.append_assoc]; exact hu
  simp only [binOnRead, afterHeader, hl8, hP.hs8, Nat.lt_irrefl, if_false, binComplete, List.length_append, if_true, hu', binInitRx]

theorem bin_frameOf_roundtrip (P : BinParams) (hP : P.OK) (e : Nat) (body : Bytes) (m : Msg) (he : encValid e)
    (hpos : 0 < body.length) (hmax : body.length ≤ P.maxIn) (h32 : 8 + body.length < 4294967296)
    (hu : unframe P (frameOf e body) = some m) (rest : Bytes) :
    feedBy (binStep P) (binInitRx P) (frameOf e body ++ rest) =
      ((feedBy (binStep P) (binInitRx P) rest).1, m :: (feedBy (binStep P) (binInitRx P) rest).2) := by
  have hinit := binInv_init hP.pos.1
  have hroom1 : (le32 body.length ++ le32 e).length ≤ binRoom P (binInitRx P) := by
    simp [binRoom, binTarget, binInitRx, hP.hs8]
  obtain ⟨a1, a2⟩ := binOnRead_eq_feedBy _ _ hinit hroom1
  rw [onRead_header P hP e body he hpos hmax h32] at a1 a2
  have hinv2 : binInv P (afterHeader e body) := by
    have := binOnRead_inv hP.pos _ _ hinit hroom1
    rw [onRead_header P hP e body he hpos hmax h32] at this
    exact this
  have hroom2 : body.length ≤ binRoom P (afterHeader e body) := by
    simp [binRoom, binTarget, afterHeader, hP.hs8]
  obtain ⟨b1, b2⟩ := binOnRead_eq_feedBy _ _ hinv2 hroom2
  rw [onRead_body P hP e body m hu] at b1 b2
  have hsplit : frameOf e body ++ rest = (le32 body.length ++ le32 e) ++ (body ++ rest) := by
    simp [frameOf]
  rw [hsplit, feedBy_append, ← a1, ← a2, feedBy_append, ← b1, ← b2]
  simp

theorem encValid_level (lvl : Nat) (h : lvl ≤ 9) : encValid (encodingDefault + lvl) := by
  have : encodingEndMarker = encodingDefault + 10 := by decide
  unfold encValid; rw [this]; omega

theorem bin_frame_roundtrip (P : BinParams) (hP : P.OK) (m : Msg) (hm : frameOK P m) (rest : Bytes) :
    feedBy (binStep P) (binInitRx P) (frame m ++ rest) =
      ((feedBy (binStep P) (binInitRx P) rest).1, tripMsg m :: (feedBy (binStep P) (binInitRx P) rest).2) := by
  obtain ⟨hwf, hd, hmax, h32⟩ := hm
  have hlen : 12 ≤ (encode m).length := encMsg_length_ge m
  have hu : unframe P (frameOf encodingDefault (encode m)) = some (tripMsg m) := by
    rw [unframe_frameOf P hP _ _ (by decide)]
    simp only [if_true]
    exact Muscle.Props.C01.decode_encode P.mx m hwf hd
  exact bin_frameOf_roundtrip P hP encodingDefault (encode m) (tripMsg m) (by unfold encValid; decide) (Nat.lt_of_lt_of_le (by decide) hlen) hmax h32 hu rest

/-- the frame `FlattenHeaderAndMessage` builds for outgoing level `lvl` (0 = default, 1..9 = zlib), compressed or not -/
theorem bin_frameZ_roundtrip (P : BinParams) (hP : P.OK) (hC : CodecOK P) (lvl : Nat) (hl : lvl ≤ 9) (m : Msg)
    (hm : frameOKZ P lvl m) (rest : Bytes) :
    feedBy (binStep P) (binInitRx P) (frameZ P lvl m ++ rest) =
      ((feedBy (binStep P) (binInitRx P) rest).1, tripMsg m :: (feedBy (binStep P) (binInitRx P) rest).2) := by
  obtain ⟨hwf, hd, hpos, hmax, h32⟩ := hm
  have hdec := Muscle.Props.C01.decode_encode P.mx m hwf hd
  by_cases hz : lvl ≠ 0 ∧ 32 ≤ P.hs + (encode m).length
  · have hb : bodyZ P lvl m = P.deflate lvl (encode m) := by unfold bodyZ; rw [if_pos hz]
    have hf : frameZ P lvl m = frameOf (encodingDefault + lvl) (P.deflate lvl (encode m)) := by unfold frameZ; rw [if_pos hz]
    rw [hb] at hpos hmax h32
    have he := encValid_level lvl hl
    have hne : ¬ (encodingDefault + lvl = encodingDefault) := by omega
    have hu : unframe P (frameOf (encodingDefault + lvl) (P.deflate lvl (encode m))) = some (tripMsg m) := by
      rw [unframe_frameOf P hP _ _ (Nat.lt_trans he.2 encEnd_lt)]
      simp only [hne, if_false, hC lvl (encode m) (by omega) hl]
      exact hdec
    rw [hf]
    exact bin_frameOf_roundtrip P hP _ _ (tripMsg m) he hpos hmax h32 hu rest
  · have hb : bodyZ P lvl m = encode m := by unfold bodyZ; rw [if_neg hz]
    have hf : frameZ P lvl m = frame m := by unfold frameZ; rw [if_neg hz]
    rw [hb] at hpos hmax h32
    rw [hf]
    exact bin_frame_roundtrip P hP m ⟨hwf, hd, hmax, h32⟩ rest

theorem bin_decodes (P : BinParams) (hP : P.OK) (hC : CodecOK P) (lvl : Nat) (hl : lvl ≤ 9) :
    Decodes (binStep P) (· = binInitRx P) (frameZ P lvl) (fun m => [tripMsg m]) (frameOKZ P lvl) :=
  fun m hm _ hs rest => ⟨_, rfl, hs ▸ bin_frameZ_roundtrip P hP hC lvl hl m hm rest⟩

end Muscle.Gateway
