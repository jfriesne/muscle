import MuscleModel.Gateway.WebSocket


/-! WebSocket frame kernels: masking is an involution for every key; the length field round-trips in its 7-bit, 16-bit
and 64-bit form; a frame built by `CreateReplyFrame` (server: unmasked; client: masked with any 4-byte key) is taken
apart by the receiver's header logic into exactly its opcode and payload. -/

namespace Muscle.Gateway
open Muscle

theorem wsMask_involutive (key : Bytes) : ∀ (i : Nat) (p : Bytes), wsMask key i (wsMask key i p) = p := by
  intro i p
  induction p generalizing i with
  | nil => rfl
  | cons b r ih =>
    simp only [wsMask, ih]
    rw [UInt8.xor_assoc, UInt8.xor_self, UInt8.xor_zero]

theorem wsMask_length (key : Bytes) : ∀ (i : Nat) (p : Bytes), (wsMask key i p).length = p.length := by
  intro i p
  induction p generalizing i with
  | nil => rfl
  | cons b r ih => simp [wsMask, ih]

theorem beN_length (k n : Nat) : (beN k n).length = k := by simp [beN]

theorem beVal_beN (k n : Nat) (h : n < 256 ^ k) : beVal (beN k n) = n := by
  simp [beVal, beN, leVal_leN k n h]

/-- the byte in front of the length: low seven bits the length code, top bit the mask flag -/
theorem ws_lenByte (mask l : Nat) (hm : mask = 0 ∨ mask = 128) (hl : l < 128) :
    (UInt8.ofNat (mask + l)).toNat % 128 = l ∧
    decide (128 ≤ (UInt8.ofNat (mask + l)).toNat) = decide (mask = 128) := by
  rcases hm with rfl | rfl
  · rw [Nat.zero_add, UInt8.toNat_ofNat_of_lt' (Nat.lt_trans hl (by decide)), Nat.mod_eq_of_lt hl]
    exact ⟨rfl, by rw [decide_eq_false (Nat.not_le.mpr hl)]; rfl⟩
  · rw [UInt8.toNat_ofNat_of_lt' (show 128 + l < 256 by omega), Nat.add_mod_left, Nat.mod_eq_of_lt hl]
    exact ⟨rfl, by rw [decide_eq_true (Nat.le_add_right 128 l)]; rfl⟩

theorem wsReadLen_lenField (mask : Nat) (hm : mask = 0 ∨ mask = 128) (n : Nat) (hn : n < 9223372036854775808) (rest : Bytes) :
    ∃ b1 ext, wsLenField mask n = b1 :: ext ∧ wsReadLen b1 (ext ++ rest) = some (n, rest) ∧
      decide (128 ≤ b1.toNat) = decide (mask = 128) := by
  by_cases h1 : 65535 < n
  · obtain ⟨ht, hb⟩ := ws_lenByte mask 127 hm (by decide)
    refine ⟨UInt8.ofNat (mask + 127), beN 8 n, by rw [wsLenField, if_pos h1], ?_, hb⟩
    have hlen : ¬ ((beN 8 n ++ rest).length < 8) := by
      rw [List.length_append, beN_length]; exact Nat.not_lt.mpr (Nat.le_add_right 8 _)
    simp only [wsReadLen, ht, hlen, List.take_left' (beN_length 8 n), List.drop_left' (beN_length 8 n),
      beVal_beN 8 n (Nat.lt_trans hn (by decide)), Nat.not_le.mpr hn]
    simp
  · by_cases h2 : 125 < n
    · obtain ⟨ht, hb⟩ := ws_lenByte mask 126 hm (by decide)
      refine ⟨UInt8.ofNat (mask + 126), beN 2 n, by rw [wsLenField, if_neg h1, if_pos h2], ?_, hb⟩
      have hlen : ¬ ((beN 2 n ++ rest).length < 2) := by
        rw [List.length_append, beN_length]; exact Nat.not_lt.mpr (Nat.le_add_right 2 _)
      simp only [wsReadLen, ht, hlen, List.take_left' (beN_length 2 n), List.drop_left' (beN_length 2 n),
        beVal_beN 2 n (Nat.lt_of_le_of_lt (Nat.le_of_not_lt h1) (by decide))]
      simp
    · have hn' : n < 126 := Nat.lt_succ_of_le (Nat.le_of_not_lt h2)
      obtain ⟨ht, hb⟩ := ws_lenByte mask n hm (Nat.lt_trans hn' (by decide))
      refine ⟨UInt8.ofNat (mask + n), [], by rw [wsLenField, if_neg h1, if_neg h2], ?_, hb⟩
      simp only [wsReadLen, ht, Nat.ne_of_lt hn', Nat.ne_of_lt (Nat.lt_succ_of_lt hn'), if_false, List.nil_append]

theorem ws_b0 (op : Nat) (h : op < 16) :
    (UInt8.ofNat (128 + op)).toNat / 16 % 8 = 0 ∧ (UInt8.ofNat (128 + op)).toNat % 16 = op ∧
      decide (128 ≤ (UInt8.ofNat (128 + op)).toNat) = true := by
  rw [UInt8.toNat_ofNat_of_lt' (show 128 + op < 256 by omega)]
  exact ⟨by omega, by omega, by simp⟩

theorem ws_header_decode (em : Bool) (op : Nat) (hop : op < 16) (n : Nat) (hn : n ≤ 10485760) (r : Bytes) :
    wsDecodeFrame em (UInt8.ofNat (128 + op) :: (wsLenField (if em then 128 else 0) n ++ r)) =
      if em then (if r.length < 4 + n then none
                  else some (op, true, wsMask (r.take 4) 0 ((r.drop 4).take n), (r.drop 4).drop n))
      else (if r.length < n then none else some (op, true, r.take n, r.drop n)) := by
  obtain ⟨b1, ext, hf, hr, hmask⟩ := wsReadLen_lenField (if em then 128 else 0) (by cases em <;> simp) n (by omega) r
  obtain ⟨c1, c2, c3⟩ := ws_b0 op hop
  have hm : decide (128 ≤ b1.toNat) = em := by rw [hmask]; cases em <;> rfl
  have hbig : ¬ (b1.toNat % 128 = 127 ∧ 10485760 < n) := by omega
  rw [hf, List.cons_append]
  simp only [wsDecodeFrame, c1, c2, c3, hm, hr, hbig]
  simp

/-- what `CreateReplyFrame` of a server builds, a client's header logic takes apart exactly -/
theorem ws_server_frame_decode (op : Nat) (hop : op < 16) (p : Bytes) (hp : p.length ≤ 10485760) (rest : Bytes) :
    wsDecodeFrame false (wsServerFrame op p ++ rest) = some (op, true, p, rest) := by
  rw [wsServerFrame, List.cons_append, List.append_assoc]
  refine (ws_header_decode false op hop _ hp _).trans ?_
  simp

theorem ws_client_frame_decode (op : Nat) (hop : op < 16) (key : Bytes) (hk : key.length = 4) (p : Bytes)
    (hp : p.length ≤ 10485760) (rest : Bytes) :
    wsDecodeFrame true (wsClientFrame op key p ++ rest) = some (op, true, p, rest) := by
  rw [wsClientFrame, List.cons_append, List.append_assoc, List.append_assoc]
  refine (ws_header_decode true op hop _ hp _).trans ?_
  have hn := wsMask_length key 0 p
  simp [hk, hn, List.take_left' hk, List.drop_left' hk, List.take_left' hn, List.drop_left' hn, wsMask_involutive]

end Muscle.Gateway
