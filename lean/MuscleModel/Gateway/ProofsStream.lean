import MuscleModel.Gateway.Stream

/-!
Segmentation independence, once for all framings.  A receiver that *refines* a byte-wise machine `step` (`RxRefines`)
ends every `DoInput` call — whatever `maxBytes`, whatever grants, however short the reads — in `feedBy step s c` for
the prefix `c` of the transport it consumed; hence after ANY interleaving of queueing, output and input calls its state
and deliveries are a function of the consumed prefix alone, and every sent byte is consumed, in transit or pending in
the sender.  If `step` also *decodes* the framing (`Decodes`), a drained link has delivered exactly the units queued.
-/

namespace Muscle.Gateway
open Muscle

def feedBy {σ ω : Type} (step : σ → UInt8 → σ × List ω) : σ → Bytes → σ × List ω
  | s, [] => (s, [])
  | s, b :: r => ((feedBy step (step s b).1 r).1, (step s b).2 ++ (feedBy step (step s b).1 r).2)

theorem feedBy_append {σ ω : Type} (step : σ → UInt8 → σ × List ω) (s : σ) (a b : Bytes) :
    feedBy step s (a ++ b) =
      ((feedBy step (feedBy step s a).1 b).1, (feedBy step s a).2 ++ (feedBy step (feedBy step s a).1 b).2) := by
  induction a generalizing s with
  | nil => simp [feedBy]
  | cons x r ih => simp [feedBy, ih, List.append_assoc]

/-- A receiver that fills a buffer.  If, of a chunk of two or more bytes that fits (`fits s c`), the first byte alone
    delivers nothing and the rest is handled from the state after it, and an empty chunk changes nothing, then every
    chunk that fits is handled as its bytes one at a time. -/
theorem onRead_eq_feedBy {σ υ ω : Type} (onRead : σ → Bytes → σ × List υ) (proj : List υ → List ω) (hproj : proj [] = [])
    (step : σ → UInt8 → σ × List ω) (hstep : ∀ s b, step s b = ((onRead s [b]).1, proj (onRead s [b]).2))
    (fits : σ → Bytes → Prop) (hnil : ∀ s, fits s [] → onRead s [] = (s, []))
    (hpeel : ∀ s b b2 r, fits s (b :: b2 :: r) → (onRead s [b]).2 = [] ∧
      onRead s (b :: b2 :: r) = onRead (onRead s [b]).1 (b2 :: r) ∧ fits (onRead s [b]).1 (b2 :: r)) :
    ∀ (c : Bytes) (s : σ), fits s c →
      (onRead s c).1 = (feedBy step s c).1 ∧ proj (onRead s c).2 = (feedBy step s c).2
  | [], s, h => by rw [hnil s h]; exact ⟨rfl, hproj⟩
  | [b], s, _ => by rw [feedBy, hstep]; exact ⟨rfl, (List.append_nil _).symm⟩
  | b :: b2 :: r, s, h => by
    obtain ⟨h1, h2, h3⟩ := hpeel s b b2 r h
    rw [h2, feedBy, hstep, h1, hproj, List.nil_append]
    exact onRead_eq_feedBy onRead proj hproj step hstep fits hnil hpeel (b2 :: r) _ h3

/-- The receiver `R` refines the byte machine `step`: a `Read` result `c` that fits the room `R` asked for, from a state
    in `Inv`, does to the state and delivers (seen through `proj`) what feeding the bytes of `c` one at a time does.
    `ok` restricts the bytes for which this is claimed (the text receiver: no NUL; elsewhere `True`). -/
structure RxRefines {σ υ ω : Type} (R : RxM σ υ) (step : σ → UInt8 → σ × List ω) (proj : List υ → List ω)
    (Inv : σ → Prop) (ok : UInt8 → Prop) : Prop where
  proj_nil : proj [] = []
  proj_append : ∀ a b, proj (a ++ b) = proj a ++ proj b
  read : ∀ s c mb, Inv s → c.length ≤ R.attempt s mb → (∀ b ∈ c, ok b) →
    (R.onRead s c).1 = (feedBy step s c).1 ∧ proj (R.onRead s c).2 = (feedBy step s c).2 ∧ Inv (R.onRead s c).1

/-- The sender `T` conserves bytes: `pending t` is every byte accepted from the user and not yet written (`cur`: the
    `rest` behind the current buffer is what a partial write of `n` bytes leaves alone). -/
structure TxRefines {τ ι} (T : TxM τ) (enqueue : τ → ι → τ) (pending : τ → Bytes) (enc : ι → Bytes) : Prop where
  settle : ∀ t, pending (T.settle t).1 = pending t
  cur : ∀ t, ∃ rest, pending t = T.cur t ++ rest ∧
    ∀ n, n ≤ (T.cur t).length → pending (T.advance t n) = (T.cur t).drop n ++ rest
  enqueue : ∀ t x, pending (enqueue t x) = pending t ++ enc x

/-- senders whose current buffer counts only while a Message is being sent (`hasMsg`): what is pending splits into
    that buffer and a rest that a partial write leaves alone -/
theorem pending_cur_split (hasMsg : Bool) (cur a b : Bytes) :
    ∃ rest, (if hasMsg then cur ++ a else []) ++ b = (if hasMsg then cur else []) ++ rest ∧
      ∀ n, n ≤ (if hasMsg then cur else []).length →
        (if hasMsg then cur.drop n ++ a else []) ++ b = (if hasMsg then cur else []).drop n ++ rest := by
  cases hasMsg
  · exact ⟨b, rfl, fun n _ => by simp⟩
  · exact ⟨a ++ b, by simp, fun n _ => by simp⟩

section Rx
variable {σ υ ω : Type} {R : RxM σ υ} {step : σ → UInt8 → σ × List ω} {proj : List υ → List ω}
  {Inv : σ → Prop} {ok : UInt8 → Prop} (H : RxRefines R step proj Inv ok)
include H

theorem rxLoop_refines :
    ∀ (fuel : Nat) (s : σ) (mb : Nat) (g : Option (List Nat)) (q : Bytes) (acc : List υ),
      Inv s → (∀ b ∈ q, ok b) →
      ∃ c, q = c ++ (rxLoop R fuel s mb g q acc).2.1 ∧
        (rxLoop R fuel s mb g q acc).1 = (feedBy step s c).1 ∧
        proj (rxLoop R fuel s mb g q acc).2.2 = proj acc ++ (feedBy step s c).2 ∧
        Inv (rxLoop R fuel s mb g q acc).1 := by
  intro fuel
  induction fuel with
  | zero =>
    intro s mb g q acc hi _
    exact ⟨[], by simp [rxLoop, feedBy, hi]⟩
  | succ fuel ih =>
    intro s mb g q acc hi hq
    rw [rxLoop]
    have hread := fun c => H.read s c mb hi
    generalize R.attempt s mb = a at hread ⊢
    by_cases ha : a = 0
    · rw [if_pos ha]
      exact ⟨[], by simp [feedBy, hi]⟩
    rw [if_neg ha]
    dsimp only
    generalize hn : min a (min (nextGrant g a).1 q.length) = n
    obtain ⟨h1, h2, h3⟩ := hread (q.take n)
      (Nat.le_trans (List.length_take_le n q) (hn ▸ Nat.min_le_left _ _)) (fun b hb => hq b (List.mem_of_mem_take hb))
    generalize R.onRead s (q.take n) = r at h1 h2 h3 ⊢
    by_cases hag : R.again r.1 a n = true
    · rw [if_pos hag]
      obtain ⟨c2, e1, e2, e3, e4⟩ := ih r.1 (mb - n) (nextGrant g a).2 (q.drop n) (acc ++ r.2) h3
        (fun b hb => hq b (List.mem_of_mem_drop hb))
      refine ⟨q.take n ++ c2, ?_, ?_, ?_, e4⟩
      · rw [List.append_assoc, ← e1, List.take_append_drop]
      · rw [e2, feedBy_append, h1]
      · rw [e3, feedBy_append, H.proj_append, h2, h1, List.append_assoc]
    · rw [if_neg hag]
      exact ⟨q.take n, (List.take_append_drop n q).symm, h1, by rw [H.proj_append, h2], h3⟩

/-- **A `DoInput` call consumes a prefix `c` of the transport and ends where feeding `c` byte by byte ends**,
    for every `maxBytes` and every grant list. -/
theorem rxCall_refines (s : σ) (c : Call) (q : Bytes) (hi : Inv s) (hq : ∀ b ∈ q, ok b) :
    ∃ x, q = x ++ (rxCall R s c q).2.1 ∧ (rxCall R s c q).1 = (feedBy step s x).1 ∧
      proj (rxCall R s c q).2.2 = (feedBy step s x).2 ∧ Inv (rxCall R s c q).1 := by
  obtain ⟨x, h1, h2, h3, h4⟩ := rxLoop_refines H (callFuel c.grants q.length) s c.maxBytes c.grants q [] hi hq
  unfold rxCall
  exact ⟨x, h1, h2, by rw [h3, H.proj_nil]; simp, h4⟩

theorem rxCalls_refines :
    ∀ (cs : List Call) (s : σ) (q : Bytes) (acc : List υ), Inv s → (∀ b ∈ q, ok b) →
      ∃ x, q = x ++ (rxCalls R s cs q acc).2.1 ∧ (rxCalls R s cs q acc).1 = (feedBy step s x).1 ∧
        proj (rxCalls R s cs q acc).2.2 = proj acc ++ (feedBy step s x).2 := by
  intro cs
  induction cs with
  | nil => intro s q acc _ _; exact ⟨[], by simp [rxCalls, feedBy]⟩
  | cons c cs ih =>
    intro s q acc hi hq
    obtain ⟨x, h1, h2, h3, h4⟩ := rxCall_refines H s c q hi hq
    have hq2 : ∀ b ∈ (rxCall R s c q).2.1, ok b := fun b hb => hq b (by rw [h1]; simp [hb])
    obtain ⟨y, e1, e2, e3⟩ := ih (rxCall R s c q).1 (rxCall R s c q).2.1 (acc ++ (rxCall R s c q).2.2) h4 hq2
    refine ⟨x ++ y, ?_, ?_, ?_⟩
    · simp only [rxCalls]; rw [List.append_assoc, ← e1, ← h1]
    · simp only [rxCalls]; rw [e2, feedBy_append, h2]
    · simp only [rxCalls]; rw [e3, feedBy_append, H.proj_append, h3, h2, List.append_assoc]

/-- Whatever the list of `DoInput` calls (number of calls, `maxBytes`, bytes returned by each `Read`, would-blocks),
    once the transport is empty the receiver is in the state, and has delivered the units, that feeding the whole byte
    string byte by byte gives. -/
theorem input_any_chunking (cs : List Call) (s : σ) (q : Bytes) (hi : Inv s) (hq : ∀ b ∈ q, ok b)
    (hall : (rxCalls R s cs q []).2.1 = []) :
    (rxCalls R s cs q []).1 = (feedBy step s q).1 ∧ proj (rxCalls R s cs q []).2.2 = (feedBy step s q).2 := by
  obtain ⟨x, h1, h2, h3⟩ := rxCalls_refines H cs s q [] hi hq
  rw [hall, List.append_nil] at h1
  subst h1
  exact ⟨h2, by rw [h3, H.proj_nil]; simp⟩

end Rx

/-! senders: what a call appends to the transport is exactly what leaves `pending` -/

section Tx
variable {τ ι : Type} {T : TxM τ} {enqueue : τ → ι → τ} {pending : τ → Bytes} {enc : ι → Bytes}
  (H : TxRefines T enqueue pending enc)
include H

theorem txLoop_conserves :
    ∀ (fuel : Nat) (t : τ) (mb : Nat) (g : Option (List Nat)) (q : Bytes),
      ∃ w, (txLoop T fuel t mb g q).2 = q ++ w ∧ w ++ pending (txLoop T fuel t mb g q).1 = pending t := by
  intro fuel
  induction fuel with
  | zero => intro t mb g q; exact ⟨[], by simp [txLoop]⟩
  | succ fuel ih =>
    intro t mb g q
    rw [txLoop]
    by_cases hz : (T.zeroStops && mb == 0) = true
    · rw [if_pos hz]
      exact ⟨[], (List.append_nil q).symm, rfl⟩
    rw [if_neg hz]
    have hset := H.settle t
    rcases hst : T.settle t with ⟨t1, dropped⟩
    rw [hst] at hset
    dsimp only at hset ⊢
    by_cases hs : dropped = true
    · rw [if_pos hs]
      obtain ⟨w, h1, h2⟩ := ih t1 mb g q
      exact ⟨w, h1, by rw [h2, hset]⟩
    rw [if_neg hs]
    generalize hla : min mb (T.cur t1).length = a
    by_cases ha : a = 0
    · rw [if_pos ha]
      exact ⟨[], (List.append_nil q).symm, hset⟩
    rw [if_neg ha]
    obtain ⟨rest, hp, hadv⟩ := H.cur t1
    generalize hn : min a (nextGrant g a).1 = n
    have hsplit : (T.cur t1).take n ++ pending (T.advance t1 n) = pending t := by
      rw [hadv n (hn ▸ hla ▸ Nat.le_trans (Nat.min_le_left _ _) (Nat.min_le_right _ _)), ← List.append_assoc,
        List.take_append_drop, ← hp, hset]
    by_cases hag : T.again a n = true
    · rw [if_pos hag]
      obtain ⟨w, h1, h2⟩ := ih (T.advance t1 n) (mb - n) (nextGrant g a).2 (q ++ (T.cur t1).take n)
      exact ⟨(T.cur t1).take n ++ w, by rw [h1, List.append_assoc], by rw [List.append_assoc, h2, hsplit]⟩
    · rw [if_neg hag]
      exact ⟨(T.cur t1).take n, rfl, hsplit⟩

theorem txCalls_conserves (fuel : τ → Call → Nat) :
    ∀ (cs : List Call) (t : τ) (q : Bytes),
      ∃ w, (txCalls T fuel t cs q).2 = q ++ w ∧ w ++ pending (txCalls T fuel t cs q).1 = pending t := by
  intro cs
  induction cs with
  | nil => intro t q; exact ⟨[], by simp [txCalls]⟩
  | cons c cs ih =>
    intro t q
    obtain ⟨w, h1, h2⟩ := txLoop_conserves H (fuel t c) t c.maxBytes c.grants q
    obtain ⟨v, e1, e2⟩ := ih (txLoop T (fuel t c) t c.maxBytes c.grants q).1 (txLoop T (fuel t c) t c.maxBytes c.grants q).2
    refine ⟨w ++ v, ?_, ?_⟩
    · simp only [txCalls]; rw [e1, h1, List.append_assoc]
    · simp only [txCalls]; rw [List.append_assoc, e2, h2]

/-- Whatever the list of `DoOutput` calls (`maxBytes`, bytes accepted by each `Write`, would-blocks), what has been
    written is a prefix of the pending bytes, and once nothing is pending it is exactly them. -/
theorem output_any_schedule (fuel : τ → Call → Nat) (cs : List Call) (t : τ) :
    (∃ rest, pending t = (txCalls T fuel t cs []).2 ++ rest) ∧
    (pending (txCalls T fuel t cs []).1 = [] → (txCalls T fuel t cs []).2 = pending t) := by
  obtain ⟨w, h1, h2⟩ := txCalls_conserves H fuel cs t []
  simp only [List.nil_append] at h1
  constructor
  · exact ⟨pending (txCalls T fuel t cs []).1, by rw [h1, h2]⟩
  · intro hp
    rw [hp, List.append_nil] at h2
    rw [h1, h2]

end Tx

def addsOf {ι} : List (Ev ι) → List ι
  | [] => []
  | .add x :: r => x :: addsOf r
  | .output _ :: r => addsOf r
  | .input _ :: r => addsOf r

theorem addsOf_append {ι} (a b : List (Ev ι)) : addsOf (a ++ b) = addsOf a ++ addsOf b := by
  induction a with
  | nil => rfl
  | cons x r ih => cases x <;> simp [addsOf, ih]

def streamOf {ι} (enc : ι → Bytes) : List ι → Bytes
  | [] => []
  | x :: r => enc x ++ streamOf enc r

theorem streamOf_append {ι} (enc : ι → Bytes) (a b : List ι) : streamOf enc
    (a ++ b) = streamOf enc a ++ streamOf enc b := by
  induction a with
  | nil => rfl
  | cons x r ih => simp [streamOf, ih, List.append_assoc]

theorem streamOf_eq_flatMap {ι} (enc : ι → Bytes) : ∀ us : List ι, streamOf enc us = us.flatMap enc
  | [] => rfl
  | x :: r => by rw [streamOf, streamOf_eq_flatMap enc r, List.flatMap_cons]

theorem streamOf_mem {ι} (enc : ι → Bytes) (us : List ι) (b : UInt8) : b ∈ streamOf enc us ↔ ∃ x ∈ us, b ∈ enc x := by
  rw [streamOf_eq_flatMap, List.mem_flatMap]

theorem streamOf_ok {ι} (enc : ι → Bytes) (ok : UInt8 → Prop) (hok : ∀ x b, b ∈ enc x → ok b) (us : List ι) :
    ∀ b ∈ streamOf enc us, ok b := fun b hb =>
  have ⟨x, _, hx⟩ := (streamOf_mem enc us b).mp hb
  hok x b hx

/-- The byte machine `step` decodes the framing `enc`: from any state in `Idle` (between two units), the bytes of a
    unit satisfying `ok` deliver `dec` of it and lead back into `Idle`, whatever follows.  `Idle` is a set of states
    because the text receiver is idle with either value of its previous-char-was-CR flag. -/
def Decodes {σ ι ω : Type} (step : σ → UInt8 → σ × List ω) (Idle : σ → Prop) (enc : ι → Bytes) (dec : ι → List ω)
    (ok : ι → Prop) : Prop :=
  ∀ x, ok x → ∀ s, Idle s → ∀ rest, ∃ s', Idle s' ∧
    feedBy step s (enc x ++ rest) = ((feedBy step s' rest).1, dec x ++ (feedBy step s' rest).2)

theorem feedBy_streamOf {σ ι ω : Type} {step : σ → UInt8 → σ × List ω} {Idle : σ → Prop} {enc : ι → Bytes}
    {dec : ι → List ω} {ok : ι → Prop} (H : Decodes step Idle enc dec ok) :
    ∀ us : List ι, (∀ x ∈ us, ok x) → ∀ s, Idle s → ∀ rest, ∃ s', Idle s' ∧
      feedBy step s (streamOf enc us ++ rest) = ((feedBy step s' rest).1, us.flatMap dec ++ (feedBy step s' rest).2)
  | [], _, s, hs, rest => ⟨s, hs, rfl⟩
  | x :: r, h, s, hs, rest => by
    obtain ⟨s1, hs1, e1⟩ := H x (h x List.mem_cons_self) s hs (streamOf enc r ++ rest)
    obtain ⟨s2, hs2, e2⟩ := feedBy_streamOf H r (fun y hy => h y (List.mem_cons_of_mem _ hy)) s1 hs1 rest
    exact ⟨s2, hs2, by rw [streamOf, List.append_assoc, e1, e2, List.flatMap_cons, List.append_assoc]⟩

theorem Decodes.stream {σ ι ω : Type} {step : σ → UInt8 → σ × List ω} {Idle : σ → Prop} {enc : ι → Bytes}
    {dec : ι → List ω} {ok : ι → Prop} (H : Decodes step Idle enc dec ok) (us : List ι) (hok : ∀ x ∈ us, ok x)
    (s : σ) (hs : Idle s) : ∃ s', Idle s' ∧ feedBy step s (streamOf enc us) = (s', us.flatMap dec) := by
  obtain ⟨s', hs', e⟩ := feedBy_streamOf H us hok s hs []
  rw [List.append_nil] at e
  exact ⟨s', hs', by rw [e, feedBy, List.append_nil]⟩

/-- the state of a link after some history, described by the units queued so far (`us`) alone:
    every byte of their encoding is consumed, in transit or pending, in this order; the receiver is
    where feeding the consumed prefix byte by byte leads, and has delivered what that delivers -/
def Accounted {τ σ ι υ ω : Type} (step : σ → UInt8 → σ × List ω) (proj : List υ → List ω) (Inv : σ → Prop)
    (ok : UInt8 → Prop) (pending : τ → Bytes) (enc : ι → Bytes) (r0 : σ) (s : Sys τ σ υ) (us : List ι) : Prop :=
  ∃ consumed, streamOf enc us = consumed ++ (s.q ++ pending s.t) ∧
    s.r = (feedBy step r0 consumed).1 ∧ proj s.out = (feedBy step r0 consumed).2 ∧ Inv s.r ∧
    (∀ b ∈ streamOf enc us, ok b)

/-! The gateway theorems take a `Gw` and the two refinements stated over its parts, `G.rx`, `G.tx`, `G.enqueue`.  The instances
(`binTx_refines`, `rawTx_refines`, `textTx_refines`, `*Rx_refines`) are stated over those parts written out — one sender serves several
gateways (`rawTx`: `rawGw`, `slipGw`, with different `enc`), and a gateway has parameters its sender does not depend on (`textGw`:
`readSize`, `limit`) — and apply because the fields of `binGw`, `rawGw`, `slipGw`, `textGw` unfold to exactly these terms. -/

section Sys
variable {τ σ ι υ ω : Type} (G : Gw τ σ ι υ) {step : σ → UInt8 → σ × List ω} {proj : List υ → List ω}
  {Inv : σ → Prop} {ok : UInt8 → Prop} {pending : τ → Bytes} {enc : ι → Bytes}
  (HR : RxRefines G.rx step proj Inv ok) (HT : TxRefines G.tx G.enqueue pending enc)
include HR HT

theorem step_accounted (r0 : σ) (s : Sys τ σ υ) (us : List ι) (e : Ev ι) (hok : ∀ x ∈ addsOf [e], ∀ b ∈ enc x, ok b)
    (h : Accounted step proj Inv ok pending enc r0 s us) :
    Accounted step proj Inv ok pending enc r0 (stepSys G s e) (us ++ addsOf [e]) := by
  obtain ⟨consumed, h1, h2, h3, h4, h5⟩ := h
  cases e with
  | add x =>
    refine ⟨consumed, ?_, h2, h3, h4, ?_⟩
    · simp only [stepSys, addsOf, streamOf_append, streamOf, List.append_nil, h1, HT.enqueue, List.append_assoc]
    · intro b hb
      simp only [addsOf, streamOf_append, streamOf, List.append_nil, List.mem_append] at hb
      rcases hb with hb | hb
      · exact h5 b hb
      · exact hok x (by simp [addsOf]) b hb
  | output c =>
    obtain ⟨w, e1, e2⟩ := txLoop_conserves HT (G.txFuel s.t c) s.t c.maxBytes c.grants s.q
    refine ⟨consumed, ?_, h2, h3, h4, by simpa [addsOf] using h5⟩
    simp only [stepSys, addsOf, List.append_nil, h1, e1, List.append_assoc, e2]
  | input c =>
    have hq : ∀ b ∈ s.q, ok b := fun b hb => h5 b (by rw [h1]; simp [hb])
    obtain ⟨x, e1, e2, e3, e4⟩ := rxCall_refines HR s.r c s.q h4 hq
    refine ⟨consumed ++ x, ?_, ?_, ?_, e4, by simpa [addsOf] using h5⟩
    · simp only [stepSys, addsOf, List.append_nil, h1, List.append_assoc]
      rw [← List.append_assoc x, ← e1]
    · simp only [stepSys]; rw [e2, feedBy_append, h2]
    · simp only [stepSys]; rw [HR.proj_append, e3, feedBy_append, h3, h2]

theorem run_accounted (r0 : σ) (evs : List (Ev ι)) (hok : ∀ x ∈ addsOf evs, ∀ b ∈ enc x, ok b) (s : Sys τ σ υ)
    (us : List ι) (h : Accounted step proj Inv ok pending enc r0 s us) :
    Accounted step proj Inv ok pending enc r0 (run G s evs) (us ++ addsOf evs) := by
  induction evs generalizing s us with
  | nil => simpa [run, addsOf] using h
  | cons e r ih =>
    have hsplit : addsOf (e :: r) = addsOf [e] ++ addsOf r := by
      rw [← addsOf_append]; rfl
    have h1 : ∀ x ∈ addsOf [e], ∀ b ∈ enc x, ok b := fun x hx => hok x (by rw [hsplit]; simp [hx])
    have h2 : ∀ x ∈ addsOf r, ∀ b ∈ enc x, ok b := fun x hx => hok x (by rw [hsplit]; simp [hx])
    have := ih h2 (stepSys G s e) (us ++ addsOf [e]) (step_accounted G HR HT r0 s us e h1 h)
    have e2 : us ++ addsOf (e :: r) = us ++ addsOf [e] ++ addsOf r := by
      rw [List.append_assoc, hsplit]
    rw [e2]
    simpa [run] using this

/-- **Segmentation independence (generic).**  Start from an idle link.  After ANY list of events — units queued
    at any time, output and input calls in any interleaving, each with any `maxBytes` and any grants — the
    delivered units are exactly those that feeding a PREFIX of the sent stream byte by byte delivers: the prefix
    that is neither in transit nor pending. -/
theorem deliveries_are_prefix_fn (t0 : τ) (r0 : σ) (h0 : pending t0 = []) (hi : Inv r0) (evs : List (Ev ι))
    (hok : ∀ x ∈ addsOf evs, ∀ b ∈ enc x, ok b) :
    let s := run G { t := t0, q := [], r := r0, out := [] } evs
    ∃ consumed, streamOf enc (addsOf evs) = consumed ++ (s.q ++ pending s.t) ∧
      s.r = (feedBy step r0 consumed).1 ∧ proj s.out = (feedBy step r0 consumed).2 := by
  have h : Accounted step proj Inv ok pending enc r0 { t := t0, q := [], r := r0, out := [] } [] :=
    ⟨[], by simp [streamOf, h0], by simp [feedBy], by simp [feedBy, HR.proj_nil], hi, by intro b hb; simp [streamOf] at hb⟩
  obtain ⟨c, h1, h2, h3, _⟩ := run_accounted G HR HT r0 evs hok _ [] h
  exact ⟨c, by simpa using h1, h2, h3⟩

/-- **Segmentation independence, every framing.**  A link whose two ends refine `step` and `pending` and whose byte
    machine decodes the framing: drained after ANY history, it has delivered `dec` of every unit queued, in order,
    and the receiver is idle again.  `okU` says which units the decoding is claimed for, `ok` which bytes the refinement is
    claimed for; a caller shows `hok` (the bytes of the queued units are `ok`) from `hokU` where `ok` is not `True`. -/
theorem drained_decodes {Idle : σ → Prop} {dec : ι → List ω} {okU : ι → Prop} (HD : Decodes step Idle enc dec okU)
    (t0 : τ) (r0 : σ) (h0 : pending t0 = []) (hi : Inv r0) (hidle : Idle r0) (evs : List (Ev ι))
    (hokU : ∀ x ∈ addsOf evs, okU x) (hok : ∀ x ∈ addsOf evs, ∀ b ∈ enc x, ok b)
    (hq : (run G { t := t0, q := [], r := r0, out := [] } evs).q = [])
    (hp : pending (run G { t := t0, q := [], r := r0, out := [] } evs).t = []) :
    proj (run G { t := t0, q := [], r := r0, out := [] } evs).out = (addsOf evs).flatMap dec ∧
    Idle (run G { t := t0, q := [], r := r0, out := [] } evs).r := by
  obtain ⟨c, h1, h2, h3⟩ := deliveries_are_prefix_fn G HR HT t0 r0 h0 hi evs hok
  rw [hq, hp, List.append_nil, List.append_nil] at h1
  obtain ⟨s', hs', e⟩ := HD.stream (addsOf evs) hokU r0 hidle
  rw [h2, h3, ← h1, e]
  exact ⟨rfl, hs'⟩

end Sys

end Muscle.Gateway
