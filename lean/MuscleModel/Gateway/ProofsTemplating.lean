import MuscleModel.Gateway.Templating

/-! Lock-step of the two template caches: from equal caches, one Message through sender and receiver leaves equal
caches again, the receiver does not fail and delivers that Message; hence for every Message sequence. -/

namespace Muscle.Gateway
open Muscle

theorem tRemove_of_lookup_none (id : Nat) : ∀ (es : List TEntry), tLookup id es = none → tRemove id es = es := by
  intro es
  induction es with
  | nil => intro _; rfl
  | cons e r ih =>
    intro h
    simp only [tLookup] at h
    by_cases he : e.id = id
    · simp [he] at h
    · simp only [he, if_false] at h
      simp [tRemove, he, ih h]

theorem tStep_lockstep (max : Nat) (c : TCache) (u : TUnit) :
    tRx max c (tTx max c u).2 = some ((tTx max c u).1, u) := by
  unfold tTx
  by_cases ht : u.trivial
  · simp [ht, tRx]
  · simp only [ht]
    cases hl : tLookup u.id c.entries with
    | none => simp [tRx, hl]
    | some e =>
      by_cases hs : e.layout = u.layout
      · simp [hs, tRx, hl]
      · simp [hs, tRx]

theorem tPayload_finds_template (max : Nat) (c : TCache) (u v : TUnit) (h : (tTx max c u).2 = .payload v) :
    ∃ e, tLookup v.id c.entries = some e ∧ e.layout = v.layout ∧ tRx max c (.payload v) ≠ none := by
  unfold tTx at h
  by_cases ht : u.trivial
  · simp [ht] at h
  · simp only [ht] at h
    cases hl : tLookup u.id c.entries with
    | none => simp [hl] at h
    | some e =>
      rw [hl] at h
      by_cases hs : e.layout = u.layout
      · simp [hs] at h
        subst h
        exact ⟨e, hl, hs, by simp [tRx, hl, hs]⟩
      · simp [hs] at h

theorem tRun_lockstep (max : Nat) : ∀ (us : List TUnit) (c : TCache),
    ∃ c', tRun max c c us = some (c', c', us) := by
  intro us
  induction us with
  | nil => intro c; exact ⟨c, rfl⟩
  | cons u r ih =>
    intro c
    obtain ⟨c', h⟩ := ih (tTx max c u).1
    refine ⟨c', ?_⟩
    simp only [tRun, tStep_lockstep max c u, h]

theorem tRun_append (max : Nat) : ∀ (a b : List TUnit) (ct cr : TCache),
    tRun max ct cr (a ++ b) =
      match tRun max ct cr a with
      | none => none
      | some (ct1, cr1, da) =>
        match tRun max ct1 cr1 b with
        | none => none
        | some (ct2, cr2, db) => some (ct2, cr2, da ++ db) := by
  intro a
  induction a with
  | nil =>
    intro b ct cr
    simp only [List.nil_append, tRun]
    cases tRun max ct cr b with
    | none => rfl
    | some x => obtain ⟨x1, x2, x3⟩ := x; rfl
  | cons u r ih =>
    intro b ct cr
    simp only [List.cons_append, tRun]
    cases h1 : tRx max cr (tTx max ct u).2 with
    | none => rfl
    | some x =>
      obtain ⟨cr', d⟩ := x
      simp only [ih b (tTx max ct u).1 cr']
      cases tRun max (tTx max ct u).1 cr' r with
      | none => rfl
      | some y =>
        obtain ⟨y1, y2, y3⟩ := y
        simp only
        cases tRun max y1 y2 b with
        | none => rfl
        | some z => obtain ⟨z1, z2, z3⟩ := z; rfl

end Muscle.Gateway
