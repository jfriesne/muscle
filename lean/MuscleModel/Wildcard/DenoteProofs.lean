import MuscleModel.Wildcard.Ere
import MuscleModel.Wildcard.SyntaxProofs
import MuscleModel.Base.ByteEq

/-!
# C15 — the executable matcher equals the relation; the intended ERE means the same as the pattern and lies in the
fragment for which glibc is trusted.
-/


namespace Muscle.Wildcard
open Muscle

theorem anySuffix_of (k : Bytes → Bool) (s₁ s₂ : Bytes) (hk : k s₂ = true) : Pat.anySuffix k (s₁ ++ s₂) = true := by
  induction s₁ with
  | nil => cases s₂ <;> simp [Pat.anySuffix, hk]
  | cons x r ih => simp [Pat.anySuffix, ih]

theorem anySuffix_split (k : Bytes → Bool) (s : Bytes) (h : Pat.anySuffix k s = true) :
    ∃ s₁ s₂, s = s₁ ++ s₂ ∧ k s₂ = true := by
  induction s with
  | nil => exact ⟨[], [], rfl, h⟩
  | cons x r ih =>
    rcases Bool.or_eq_true_iff.1 h with h | h
    · exact ⟨[], x :: r, rfl, h⟩
    · obtain ⟨s₁, s₂, e, hk⟩ := ih h
      exact ⟨x :: s₁, s₂, by rw [e]; rfl, hk⟩

theorem matchK_complete {p : Pat} {s₁ : Bytes} (hm : Pat.Matches p s₁) :
    ∀ (k : Bytes → Bool) (s₂ : Bytes), k s₂ = true → p.matchK (s₁ ++ s₂) k = true := by
  induction hm with
  | eps => intro k s₂ hk; exact hk
  | lit esc c => intro k s₂ hk; simp [Pat.matchK, hk]
  | any c => intro k s₂ hk; exact hk
  | star s => intro k s₂ hk; exact anySuffix_of k s s₂ hk
  | cls neg items c hc => intro k s₂ hk; simp [Pat.matchK, hc, hk]
  | seq _ _ iha ihb => intro k s₂ hk; rw [List.append_assoc]; exact iha _ _ (ihb k s₂ hk)
  | altL _ ih => intro k s₂ hk; simp [Pat.matchK, ih k s₂ hk]
  | altR _ ih => intro k s₂ hk; simp [Pat.matchK, ih k s₂ hk]
  | grp _ ih => exact ih

theorem matchK_sound (p : Pat) : ∀ (s : Bytes) (k : Bytes → Bool), p.matchK s k = true →
    ∃ s₁ s₂, s = s₁ ++ s₂ ∧ Pat.Matches p s₁ ∧ k s₂ = true := by
  induction p with
  | eps => intro s k h; exact ⟨[], s, rfl, .eps, h⟩
  | lit esc c =>
    intro s k h
    cases s with
    | nil => cases h
    | cons x r =>
      simp only [Pat.matchK, Bool.and_eq_true, beq_iff_eq] at h
      exact ⟨[x], r, rfl, h.1 ▸ .lit esc x, h.2⟩
  | any =>
    intro s k h
    cases s with
    | nil => cases h
    | cons x r => exact ⟨[x], r, rfl, .any x, h⟩
  | star =>
    intro s k h
    obtain ⟨s₁, s₂, e, hk⟩ := anySuffix_split k s h
    exact ⟨s₁, s₂, e, .star s₁, hk⟩
  | cls neg items =>
    intro s k h
    cases s with
    | nil => cases h
    | cons x r =>
      simp only [Pat.matchK, Bool.and_eq_true] at h
      exact ⟨[x], r, rfl, .cls neg items x h.1, h.2⟩
  | seq a b iha ihb =>
    intro s k h
    obtain ⟨s₁, t, e, ha, h'⟩ := iha s _ h
    obtain ⟨t₁, t₂, e', hb, hk⟩ := ihb t k h'
    exact ⟨s₁ ++ t₁, t₂, by rw [e, e', List.append_assoc], .seq ha hb, hk⟩
  | alt bar a b iha ihb =>
    intro s k h
    rcases Bool.or_eq_true_iff.1 h with h | h
    · obtain ⟨s₁, s₂, e, hm, hk⟩ := iha s k h
      exact ⟨s₁, s₂, e, .altL hm, hk⟩
    · obtain ⟨s₁, s₂, e, hm, hk⟩ := ihb s k h
      exact ⟨s₁, s₂, e, .altR hm, hk⟩
  | grp a iha =>
    intro s k h
    obtain ⟨s₁, s₂, e, hm, hk⟩ := iha s k h
    exact ⟨s₁, s₂, e, .grp hm, hk⟩

theorem denote_iff (p : Pat) (s : Bytes) : p.denote s = true ↔ Pat.Matches p s := by
  constructor
  · intro h
    obtain ⟨s₁, s₂, e, hm, hk⟩ := matchK_sound p s _ h
    rw [List.isEmpty_iff.1 hk, List.append_nil] at e
    exact e ▸ hm
  · intro hm
    simpa [Pat.denote] using matchK_complete hm List.isEmpty [] rfl

theorem star_dot_all (s : Bytes) : Ere.Matches (.star .dot) s := by
  induction s with
  | nil => exact .starNil
  | cons c r ih => exact Ere.Matches.starCons (s₁ := [c]) (.dot c) ih

theorem toEre_complete {p : Pat} {s : Bytes} (h : Pat.Matches p s) : Ere.Matches (toEre p) s := by
  induction h with
  | eps => exact .eps
  | lit esc c => exact .chr c
  | any c => exact .dot c
  | star s => exact star_dot_all s
  | cls neg items c hc => exact .bracket neg items c hc
  | seq _ _ iha ihb => exact .cat iha ihb
  | altL _ ih => exact .altL ih
  | altR _ ih => exact .altR ih
  | grp _ ih => exact .grp ih

theorem toEre_sound (p : Pat) : ∀ s : Bytes, Ere.Matches (toEre p) s → Pat.Matches p s := by
  induction p with
  | eps => intro s h; cases h; exact .eps
  | lit esc c => intro s h; cases h; exact .lit esc c
  | any => intro s h; cases h; exact .any _
  | star => intro s _; exact .star s
  | cls neg items => intro s h; cases h with | bracket _ _ c hc => exact .cls neg items c hc
  | seq a b iha ihb => intro s h; cases h with | cat ha hb => exact .seq (iha _ ha) (ihb _ hb)
  | alt bar a b iha ihb =>
    intro s h
    cases h with
    | altL h => exact .altL (iha _ h)
    | altR h => exact .altR (ihb _ h)
  | grp a iha => intro s h; cases h with | grp h => exact .grp (iha _ h)

theorem toEre_matches (p : Pat) (s : Bytes) : Ere.Matches (toEre p) s ↔ Pat.Matches p s :=
  ⟨toEre_sound p s, toEre_complete⟩

theorem toEre_isAlt (p : Pat) : (toEre p).isAlt = p.isAlt := by
  cases p <;> rfl

theorem toEre_WF (p : Pat) (h : p.WF = true) : (toEre p).WF = true := by
  induction p with
  | eps => rfl
  | lit esc c => simp [toEre, Ere.WF, (Pat.WF_lit.mp h).1]
  | any => rfl
  | star => rfl
  | cls neg items => simpa [toEre, Ere.WF, Pat.WF] using h
  | seq a b iha ihb =>
    obtain ⟨ha, hb, na, nb⟩ := Pat.WF_seq.mp h
    simp [toEre, Ere.WF, iha ha, ihb hb, toEre_isAlt, na, nb]
  | alt bar a b iha ihb =>
    obtain ⟨ha, hb⟩ := Pat.WF_alt.mp h
    simp [toEre, Ere.WF, iha ha, ihb hb]
  | grp a iha =>
    simp [toEre, Ere.WF, iha (Pat.WF_grp.mp h)]

end Muscle.Wildcard
