import MuscleModel.Base.Bytes

/-!
# C15 — the documented wildcard ("simple pattern") syntax of `StringMatcher`, as an AST with a meaning

`Pat` is the documented syntax (regex/StringMatcher.h class comment, html/muscle-by-example/docs/stringmatcher.md):
literals, `\c` (next character literal), `?`, `*`, classes `[..]` / `[^..]` with ranges, groups `( .. )`,
alternatives separated by `|` or `,`; `Top` adds the leading `~` (negation) and the numeric range list
`<a-b,c->`.  `Pat.Matches` is the meaning as an inductive relation (the *specification*), `Pat.denote` the
executable matcher the model driver runs (proved equal to the relation in `DenoteProofs.lean`), `Pat.render` the
concrete syntax.  Nothing in this file mirrors C++ code: it is what the code is measured against.
-/

namespace Muscle.Wildcard
open Muscle

/-! ## characters -/
abbrev cBs : UInt8 := 92       -- \
abbrev cComma : UInt8 := 44    -- ,
abbrev cBar : UInt8 := 124     -- |
abbrev cDot : UInt8 := 46      -- .
abbrev cPlus : UInt8 := 43     -- +
abbrev cStar : UInt8 := 42     -- *
abbrev cQm : UInt8 := 63       -- ?
abbrev cLBr : UInt8 := 91      -- [
abbrev cRBr : UInt8 := 93      -- ]
abbrev cLPar : UInt8 := 40     -- (
abbrev cRPar : UInt8 := 41     -- )
abbrev cCaret : UInt8 := 94    -- ^
abbrev cDollar : UInt8 := 36   -- $
abbrev cLBrace : UInt8 := 123  -- {
abbrev cRBrace : UInt8 := 125  -- }
abbrev cTilde : UInt8 := 126   -- ~
abbrev cTick : UInt8 := 96     -- `
abbrev cLt : UInt8 := 60       -- <
abbrev cGt : UInt8 := 62       -- >
abbrev cDash : UInt8 := 45     -- -
abbrev cEq : UInt8 := 61       -- =

/-- a character that stands for itself when written without a backslash (outside a class) -/
def plain (c : UInt8) : Bool :=
  !(c == 0 || c == cStar || c == cQm || c == cLBr || c == cRBr || c == cLPar || c == cRPar || c == cComma
    || c == cBar || c == cBs || c == cCaret || c == cDollar || c == cLBrace || c == cRBrace)

/-- a character that stands for itself inside `[..]`: anything but the class syntax itself (`]`, `[`, `^`, `-`) and
    the backslash.  (`, . + * ?` are ordinary members: `SetPattern` copies the inside of a class untranslated.) -/
def clsChar (c : UInt8) : Bool :=
  !(c == 0 || c == cRBr || c == cLBr || c == cCaret || c == cDash || c == cBs)

/-! ## character classes -/
inductive ClsItem where
  | ch (c : UInt8)
  | rng (lo hi : UInt8)
deriving DecidableEq, Repr

def ClsItem.has : ClsItem → UInt8 → Bool
  | .ch c, x => x == c
  | .rng lo hi, x => decide (lo ≤ x) && decide (x ≤ hi)

def ClsItem.render : ClsItem → Bytes
  | .ch c => [c]
  | .rng lo hi => [lo, cDash, hi]

def ClsItem.WF : ClsItem → Bool
  | .ch c => clsChar c
  | .rng lo hi => clsChar lo && clsChar hi && decide (lo ≤ hi)

/-- `[items]` contains `x`; `[^items]` does not -/
def clsHas (neg : Bool) (items : List ClsItem) (x : UInt8) : Bool := (items.any (·.has x)) != neg

def renderItems (items : List ClsItem) : Bytes := items.flatMap ClsItem.render

/-! ## patterns -/
inductive Pat where
  | eps
  | lit (esc : Bool) (c : UInt8)      -- `c` or `\c`
  | any                               -- `?`
  | star                              -- `*`
  | cls (neg : Bool) (items : List ClsItem)
  | seq (a b : Pat)
  | alt (bar : Bool) (a b : Pat)      -- `a|b` (bar) or `a,b`
  | grp (a : Pat)                     -- `(a)`
deriving DecidableEq, Repr

namespace Pat

/-- concrete syntax -/
def render : Pat → Bytes
  | .eps => []
  | .lit esc c => if esc then [cBs, c] else [c]
  | .any => [cQm]
  | .star => [cStar]
  | .cls neg items => cLBr :: ((if neg then [cCaret] else []) ++ (renderItems items ++ [cRBr]))
  | .seq a b => a.render ++ b.render
  | .alt bar a b => a.render ++ (if bar then cBar else cComma) :: b.render
  | .grp a => cLPar :: (a.render ++ [cRPar])

def isAlt : Pat → Bool
  | .alt _ _ _ => true
  | _ => false

/-- inside the documented grammar: unescaped literals are plain, classes are non-empty and use class-safe
    characters with `lo ≤ hi`, and a sequence never has a bare alternative as a child (precedence: the
    rendering then parses back to the same tree) -/
def WF : Pat → Bool
  | .eps => true
  | .lit esc c => c != 0 && (esc || plain c)
  | .any => true
  | .star => true
  | .cls _ items => !items.isEmpty && items.all ClsItem.WF
  | .seq a b => a.WF && b.WF && !a.isAlt && !b.isAlt
  | .alt _ a b => a.WF && b.WF
  | .grp a => a.WF

/-- the meaning of a pattern: the set of strings it denotes (the specification) -/
inductive Matches : Pat → Bytes → Prop where
  | eps : Matches .eps []
  | lit (esc : Bool) (c : UInt8) : Matches (.lit esc c) [c]
  | any (c : UInt8) : Matches .any [c]
  | star (s : Bytes) : Matches .star s
  | cls (neg : Bool) (items : List ClsItem) (c : UInt8) : clsHas neg items c = true → Matches (.cls neg items) [c]
  | seq {a b : Pat} {s₁ s₂ : Bytes} : Matches a s₁ → Matches b s₂ → Matches (.seq a b) (s₁ ++ s₂)
  | altL {bar : Bool} {a b : Pat} {s : Bytes} : Matches a s → Matches (.alt bar a b) s
  | altR {bar : Bool} {a b : Pat} {s : Bytes} : Matches b s → Matches (.alt bar a b) s
  | grp {a : Pat} {s : Bytes} : Matches a s → Matches (.grp a) s

/-- `k` holds for some suffix of `s` -/
def anySuffix (k : Bytes → Bool) : Bytes → Bool
  | [] => k []
  | x :: r => k (x :: r) || anySuffix k r

/-- backtracking matcher in continuation-passing style: some prefix of `s` is denoted by the pattern and
    the continuation accepts the rest -/
def matchK : Pat → Bytes → (Bytes → Bool) → Bool
  | .eps, s, k => k s
  | .lit _ c, s, k => match s with
    | x :: r => x == c && k r
    | [] => false
  | .any, s, k => match s with
    | _ :: r => k r
    | [] => false
  | .star, s, k => anySuffix k s
  | .cls neg items, s, k => match s with
    | x :: r => clsHas neg items x && k r
    | [] => false
  | .seq a b, s, k => a.matchK s (fun r => b.matchK r k)
  | .alt _ a b, s, k => a.matchK s k || b.matchK s k
  | .grp a, s, k => a.matchK s k

/-- the whole string must match -/
def denote (p : Pat) (s : Bytes) : Bool := p.matchK s List.isEmpty

end Pat

/-! ## numeric range lists `<a-b,c->` (documented meaning) -/
inductive RangeSpec where
  | one (n : Nat)                      -- `25`
  | span (lo hi : Option Nat)          -- `19-21`, `-19`, `21-`, `-`
deriving DecidableEq, Repr

def RangeSpec.has : RangeSpec → Nat → Bool
  | .one n, v => v == n
  | .span lo hi, v => decide (lo.getD 0 ≤ v) && (match hi with | some h => decide (v ≤ h) | none => true)

def isDigit (c : UInt8) : Bool := decide (48 ≤ c) && decide (c ≤ 57)

/-- value of a string of decimal digits -/
def decVal (s : Bytes) : Nat := s.foldl (fun acc c => acc * 10 + (c.toNat - 48)) 0

/-- "an ASCII representation of an integer": a non-empty string of decimal digits (of any length; leading zeros
    are allowed: `007` represents 7) -/
def isDecimal (s : Bytes) : Bool := !s.isEmpty && s.all isDigit

/-- documented meaning of a range list: the string represents an integer lying in one of the ranges -/
def rangeDenote (rs : List RangeSpec) (s : Bytes) : Bool :=
  isDecimal s && rs.any (·.has (decVal s))

/-- decimal representation (`%u`) -/
def decimal (n : Nat) : Bytes :=
  if n < 10 then [UInt8.ofNat (48 + n)] else decimal (n / 10) ++ [UInt8.ofNat (48 + n % 10)]
termination_by n
decreasing_by omega

def RangeSpec.render : RangeSpec → Bytes
  | .one n => decimal n
  | .span lo hi => (match lo with | some l => decimal l | none => []) ++ cDash :: (match hi with | some h => decimal h | none => [])

def renderRanges : List RangeSpec → Bytes
  | [] => []
  | [r] => r.render
  | r :: rest => r.render ++ cComma :: renderRanges rest

/-! ## a complete pattern -/
inductive Top where
  | pat (neg : Bool) (p : Pat)
  | ranges (neg : Bool) (rs : List RangeSpec)
deriving DecidableEq, Repr

def Top.render : Top → Bytes
  | .pat neg p => (if neg then [cTilde] else []) ++ p.render
  | .ranges neg rs => (if neg then [cTilde] else []) ++ cLt :: (renderRanges rs ++ [cGt])

/-- a leading `~` negates -/
def Top.denote : Top → Bytes → Bool
  | .pat neg p, s => p.denote s != neg
  | .ranges neg rs, s => rangeDenote rs s != neg

/-- the first character of the body must not be one of the three prefix characters (`~`, backtick, `<`):
    written unescaped there they are not literals -/
def firstOK (body : Bytes) : Bool :=
  match body with
  | c :: _ => !(c == cTilde || c == cTick || c == cLt)
  | [] => true

/-- bounds are in order and every number written in the pattern is below `MUSCLE_NO_LIMIT` = 2^32-1 (which the
    code uses for "no upper bound") -/
def RangeSpec.WF : RangeSpec → Bool
  | .one n => decide (n < 4294967295)
  | .span lo hi => decide (lo.getD 0 ≤ hi.getD 4294967295) && decide (hi.getD 0 < 4294967295)

def Top.WF : Top → Bool
  | .pat _ p => p.WF && firstOK p.render
  | .ranges _ rs => !rs.isEmpty && rs.all RangeSpec.WF

end Muscle.Wildcard
