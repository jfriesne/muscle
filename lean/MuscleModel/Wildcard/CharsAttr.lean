import Lean.Meta.Tactic.Simp.RegisterCommand

/-- the names of the characters with a meaning in patterns (`cBs`, `cStar`, …), unfolded to their numerals: a `simp` that has
    to compare two characters, or a character with a literal, takes this set; what it leaves is stated in numerals -/
register_simp_attr wc_chars
