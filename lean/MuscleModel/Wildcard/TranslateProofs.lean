import MuscleModel.Wildcard.Tables

/-!
# C15 — the character loop of `SetPattern` emits the rendering of the intended ERE; `SetPattern` as a whole
-/


namespace Muscle.Wildcard
open Muscle

/-- characters that `translateLoop` copies unchanged inside a bracket class -/
def inCls (c : UInt8) : Bool := !(c == cRBr || c == cBs)

theorem translateLoop_inside (st : Nat × Bool) (c : UInt8) (r : Bytes) (hb : c ≠ cBs) :
    translateLoop false (some st) (c :: r) = c :: translateLoop false (clsEmit (clsClose (some st) c) [c]) r := by
  simp only [translateLoop, beq_eq_false_iff_ne.2 hb, Bool.false_eq_true, if_false]

theorem clsStep_member (n : Nat) (k : Bool) {c : UInt8} (hc : c ≠ cRBr) :
    clsEmit (clsClose (some (n, k)) c) [c] = some (n + 1, k || (n == 0 && c == cCaret)) := by
  simp [clsClose, clsEmit, hc]

/-- a `]` ends the class once the class has a member (`n ≥ 1` characters after the `[`, or `n ≥ 2` when the first is `^`) -/
theorem clsStep_close {n : Nat} {k : Bool} (h : (if k then 1 else 0) < n) :
    clsEmit (clsClose (some (n, k)) cRBr) [cRBr] = none := by
  simp [clsClose, clsEmit, h]

theorem translateLoop_members (x : Bytes) : ∀ (n : Nat) (k : Bool) (rest : Bytes),
    (if k then 1 else 0) < n → x.all inCls = true →
    translateLoop false (some (n, k)) (x ++ cRBr :: rest) = x ++ cRBr :: translateLoop false none rest := by
  induction x with
  | nil =>
    intro n k rest hn _
    rw [List.nil_append, translateLoop_inside _ _ _ (by decide), clsStep_close hn]; rfl
  | cons c r ih =>
    intro n k rest hn hall
    simp only [List.all_cons, Bool.and_eq_true] at hall
    have hc := hall.1
    simp only [inCls, Bool.not_eq_true', Bool.or_eq_false_iff, beq_eq_false_iff_ne, ne_eq] at hc
    have hn0 : (n == 0) = false := by cases n <;> simp at hn ⊢
    rw [List.cons_append, translateLoop_inside _ _ _ hc.2, clsStep_member n k hc.1, hn0, Bool.false_and,
      Bool.or_false, ih (n + 1) k rest (Nat.lt_succ_of_lt hn) hall.2]
    rfl

theorem clsChar_inCls (c : UInt8) (h : clsChar c = true) : inCls c = true ∧ c ≠ cCaret := by
  simp only [clsChar, Bool.not_eq_true', Bool.or_eq_false_iff, beq_eq_false_iff_ne, ne_eq] at h
  refine ⟨by simp [inCls, h], ?_⟩
  simpa using h.1.1.2

theorem renderItems_inCls (items : List ClsItem) (h : items.all ClsItem.WF = true) :
    (renderItems items).all inCls = true := by
  induction items with
  | nil => rfl
  | cons it r ih =>
    simp only [List.all_cons, Bool.and_eq_true] at h
    simp only [renderItems, List.flatMap_cons, List.all_append, Bool.and_eq_true]
    refine ⟨?_, ih h.2⟩
    cases it with
    | ch c => simpa [ClsItem.render] using (clsChar_inCls c (by simpa [ClsItem.WF] using h.1)).1
    | rng lo hi =>
      have h1 := h.1
      simp only [ClsItem.WF, Bool.and_eq_true] at h1
      simp [ClsItem.render, (clsChar_inCls lo h1.1.1).1, (clsChar_inCls hi h1.1.2).1]
      decide

theorem renderItems_head (items : List ClsItem) (hne : items ≠ []) (h : items.all ClsItem.WF = true) :
    ∃ c x, renderItems items = c :: x ∧ clsChar c = true := by
  cases items with
  | nil => exact absurd rfl hne
  | cons it r =>
    simp only [List.all_cons, Bool.and_eq_true] at h
    cases it with
    | ch c => exact ⟨c, renderItems r, by simp [renderItems, ClsItem.render], by simpa [ClsItem.WF] using h.1⟩
    | rng lo hi =>
      have h1 := h.1
      simp only [ClsItem.WF, Bool.and_eq_true] at h1
      exact ⟨lo, cDash :: hi :: renderItems r, by simp [renderItems, ClsItem.render], h1.1.1⟩

theorem translateLoop_class (neg : Bool) (items : List ClsItem) (rest : Bytes)
    (h : (Pat.cls neg items).WF = true) :
    translateLoop false none ((Pat.cls neg items).render ++ rest)
      = (Pat.cls neg items).render ++ translateLoop false none rest := by
  obtain ⟨hne, hwf⟩ := Pat.WF_cls.mp h
  obtain ⟨c, x, hx, hc⟩ := renderItems_head items hne hwf
  have hall := renderItems_inCls items hwf
  rw [hx, List.all_cons, Bool.and_eq_true] at hall
  obtain ⟨hin, hcar⟩ := clsChar_inCls c hc
  simp only [inCls, Bool.not_eq_true', Bool.or_eq_false_iff, beq_eq_false_iff_ne, ne_eq] at hin
  have hcar' : (c == cCaret) = false := beq_eq_false_iff_ne.2 hcar
  have hopen : ∀ r, translateLoop false none (cLBr :: r) = cLBr :: translateLoop false (some (0, false)) r :=
    fun _ => rfl
  -- `[`, a `^` (which is no member), the first member, then the rest up to `]`
  cases neg with
  | false =>
    simp only [Pat.render, hx, Bool.false_eq_true, if_false, List.nil_append, List.cons_append, List.append_assoc]
    rw [hopen, translateLoop_inside _ _ _ hin.2, clsStep_member 0 false hin.1, hcar', Bool.and_false, Bool.or_false,
      translateLoop_members x 1 false rest (by decide) hall.2]
  | true =>
    simp only [Pat.render, hx, if_true, List.nil_append, List.cons_append, List.append_assoc]
    rw [hopen, translateLoop_inside _ _ _ (by decide), clsStep_member 0 false (by decide),
      translateLoop_inside _ _ _ hin.2, clsStep_member _ _ hin.1]
    show cLBr :: cCaret :: c :: translateLoop false (some (2, true)) (x ++ cRBr :: rest) = _
    rw [translateLoop_members x 2 true rest (by decide) hall.2]

def passThru (c : UInt8) : Bool :=
  !(c == cLBr || c == cComma || c == cDot || c == cPlus || c == cStar || c == cQm || c == cBs)

theorem translateLoop_pass (c : UInt8) (r : Bytes) (h : passThru c = true) :
    translateLoop false none (c :: r) = c :: translateLoop false none r := by
  simp only [passThru, Bool.not_eq_true', Bool.or_eq_false_iff] at h
  simp only [translateLoop, h, Bool.false_eq_true, if_false]

theorem translateLoop_lit_plain (c : UInt8) (rest : Bytes) (h : plain c = true) :
    translateLoop false none (c :: rest) = (if ereSpecial c then [cBs, c] else [c]) ++ translateLoop false none rest := by
  by_cases hd : c = cDot
  · subst hd; rfl
  by_cases hp : c = cPlus
  · subst hp; rfl
  simp only [plain, Bool.not_eq_true', Bool.or_eq_false_iff] at h
  have hd' : (c == cDot) = false := beq_eq_false_iff_ne.2 hd
  have hp' : (c == cPlus) = false := beq_eq_false_iff_ne.2 hp
  have hs : ereSpecial c = false := by simp only [ereSpecial, h, hd', hp', Bool.or_self]
  have hpass : passThru c = true := by simp only [passThru, h, hd', hp', Bool.or_self, Bool.not_false]
  rw [translateLoop_pass c rest hpass, hs]; rfl

theorem translateLoop_esc (c : UInt8) (rest : Bytes) :
    translateLoop false none (cBs :: c :: rest)
      = (if ereSpecial c then [cBs, c] else [c]) ++ translateLoop false none rest := by
  cases h : ereSpecial c <;> simp [translateLoop, keepsBackslash_eq, h, clsEmit, clsClose, wc_chars]

/-- the loop is a string homomorphism on rendered patterns: at every token boundary it is neither in escape mode
    nor inside a class -/
theorem translateLoop_render (p : Pat) : ∀ (rest : Bytes), p.WF = true →
    translateLoop false none (p.render ++ rest) = (toEre p).render ++ translateLoop false none rest := by
  induction p with
  | eps => intro rest _; rfl
  | lit esc c =>
    intro rest h
    cases esc with
    | true => exact translateLoop_esc c rest
    | false =>
      exact translateLoop_lit_plain c rest (Pat.plain_of_WF h)
  | any => intro rest _; rfl
  | star => intro rest _; rfl
  | cls neg items => intro rest h; exact translateLoop_class neg items rest h
  | seq a b iha ihb =>
    intro rest h
    obtain ⟨ha, hb, _, _⟩ := Pat.WF_seq.mp h
    simp only [Pat.render, toEre, Ere.render, List.append_assoc]
    rw [iha _ ha, ihb _ hb]
  | alt bar a b iha ihb =>
    intro rest h
    obtain ⟨ha, hb⟩ := Pat.WF_alt.mp h
    simp only [Pat.render, toEre, Ere.render, List.append_assoc, List.cons_append]
    -- `|` is copied, `,` becomes `|`
    have hsep : ∀ r, translateLoop false none ((if bar then cBar else cComma) :: r)
        = cBar :: translateLoop false none r := by cases bar <;> exact fun _ => rfl
    rw [iha _ ha, hsep, ihb _ hb]
  | grp a iha =>
    intro rest h
    simp only [Pat.render, toEre, Ere.render, List.append_assoc, List.cons_append, List.nil_append]
    rw [translateLoop_pass _ _ (by decide), iha _ h, translateLoop_pass _ _ (by decide)]

/-- `if ((str[0] == '\\')&&(str[1] == '<')) str++` changes nothing: the loop drops that backslash anyway -/
theorem translate_skipEscapedLt (str : Bytes) : translate (skipEscapedLt str) = translate str := by
  unfold skipEscapedLt
  split
  · rename_i a b t
    split
    · rename_i hb
      simp only [Bool.and_eq_true, beq_iff_eq] at hb
      obtain ⟨rfl, rfl⟩ := hb
      rw [translate, translate, translateLoop_esc, translateLoop_pass _ _ (by decide)]; rfl
    · rfl
  · rfl

/-- `SetPattern` takes one leading `~` off and then knows three kinds of body: a raw regex after a backtick, a simple
    pattern (what does not parse as a range list), a range list -/
theorem setPattern_prefix (neg : Bool) (str : Bytes) (h : neg = false → str.head? ≠ some cTilde) :
    setPattern ((if neg then [cTilde] else []) ++ str) =
      (let cm := canMatchMultipleAux ((if neg then [cTilde] else []) ++ str)
       let c : Compiled := { pattern := (if neg then [cTilde] else []) ++ str, negate := neg, canMulti := cm.1 }
       if str.head? = some cTick then
         { c with regex := if str.tail.isEmpty then none else some str.tail, uvList := cm.2 && !neg }
       else if (parseRanges str).isEmpty then { c with regex := some (translate str), uvList := cm.2 && !neg }
       else { c with ranges := parseRanges str }) := by
  rcases str with _ | ⟨c, r⟩
  · cases neg <;> simp [setPattern, parseRanges]
  · have hc : neg = false → (c == cTilde) = false := fun hn => by simpa using h hn
    by_cases ht : c = cTick
    · subst ht; cases neg <;> simp [setPattern, wc_chars]
    · by_cases hr : (parseRanges (c :: r)).isEmpty = true <;> cases neg <;>
        simp [setPattern, hc, ht, hr, translate_skipEscapedLt]

theorem exists_prefix (pat : Bytes) :
    ∃ neg str, pat = (if neg then [cTilde] else []) ++ str ∧ (neg = false → str.head? ≠ some cTilde) := by
  rcases pat with _ | ⟨c, r⟩
  · exact ⟨false, [], rfl, fun _ => by simp⟩
  · by_cases hc : c = cTilde
    · exact ⟨true, r, by simp [hc], fun h => by cases h⟩
    · exact ⟨false, c :: r, rfl, fun _ => by simpa using hc⟩

theorem setPattern_canMulti (pat : Bytes) : (setPattern pat).canMulti = canMatchMultiple pat := by
  obtain ⟨neg, str, rfl, h⟩ := exists_prefix pat
  rw [setPattern_prefix neg str h]
  -- all three kinds of body store the same flag
  simp only [apply_ite Compiled.canMulti, ite_self]
  rfl

theorem setPattern_body (neg : Bool) (body : Bytes) (h : firstOK body = true) :
    let c := setPattern ((if neg then [cTilde] else []) ++ body)
    c.negate = neg ∧ c.ranges = [] ∧ c.regex = some (translate body) := by
  have hh : body.head? ≠ some cTilde ∧ body.head? ≠ some cTick ∧ (parseRanges body).isEmpty = true := by
    rcases body with _ | ⟨c, r⟩
    · simp [parseRanges]
    · simp only [firstOK, Bool.not_eq_true', Bool.or_eq_false_iff, beq_eq_false_iff_ne] at h
      simp [parseRanges, h]
  simp [setPattern_prefix neg body fun _ => hh.1, hh.2.1, hh.2.2]

end Muscle.Wildcard
