import MuscleModel.Wildcard.Tables

/-!
# C15 — escape / unescape and the single-valued test

Both rest on the patterns made of literals only: `EscapeRegexTokens` writes one, and a documented pattern that
`CanWildcardStringMatchMultipleValues` lets through is one.
-/


namespace Muscle.Wildcard
open Muscle

def Pat.litOnly : Pat → Bool
  | .eps => true
  | .lit _ _ => true
  | .seq a b => a.litOnly && b.litOnly
  | _ => false

def Pat.chars : Pat → Bytes
  | .lit _ c => [c]
  | .seq a b => a.chars ++ b.chars
  | _ => []

theorem litOnly_matches (p : Pat) (h : p.litOnly = true) : ∀ s : Bytes, Pat.Matches p s ↔ s = p.chars := by
  induction p with
  | eps =>
    intro s; simp only [Pat.chars]
    constructor
    · intro hm; cases hm; rfl
    · rintro rfl; exact .eps
  | lit esc c =>
    intro s; simp only [Pat.chars]
    constructor
    · intro hm; cases hm; rfl
    · rintro rfl; exact .lit esc c
  | seq a b iha ihb =>
    intro s
    simp only [Pat.litOnly, Bool.and_eq_true] at h
    simp only [Pat.chars]
    constructor
    · intro hm
      cases hm with
      | seq ha hb => rw [(iha h.1 _).1 ha, (ihb h.2 _).1 hb]
    · rintro rfl
      exact .seq ((iha h.1 _).2 rfl) ((ihb h.2 _).2 rfl)
  | any => cases h
  | star => cases h
  | cls _ _ => cases h
  | alt _ _ _ => cases h
  | grp _ => cases h

theorem beq_bs_of_plain {c : UInt8} (h : plain c = true) : (c == cBs) = false := by
  cases hc : c == cBs
  · rfl
  · rw [eq_of_beq hc] at h; exact absurd h (by decide)

theorem unescapeAux_render (p : Pat) (hl : p.litOnly = true) : ∀ (rest : Bytes), p.WF = true →
    unescapeAux false (p.render ++ rest) = p.chars ++ unescapeAux false rest := by
  induction p with
  | eps => intro rest _; rfl
  | lit esc c =>
    intro rest hwf
    cases esc with
    | true => simp [Pat.render, Pat.chars, unescapeAux]
    | false =>
      have hb := beq_bs_of_plain (c := c) (Pat.plain_of_WF hwf)
      simp [Pat.render, Pat.chars, unescapeAux, hb]
  | seq a b iha ihb =>
    intro rest hwf
    simp only [Pat.litOnly, Bool.and_eq_true] at hl
    obtain ⟨ha, hb, _, _⟩ := Pat.WF_seq.mp hwf
    simp only [Pat.render, Pat.chars, List.append_assoc]
    rw [iha hl.1 _ ha, ihb hl.2 _ hb]
  | any => cases hl
  | star => cases hl
  | cls _ _ => cases hl
  | alt _ _ _ => cases hl
  | grp _ => cases hl

theorem beq_bs_of_not_token {c : UInt8} {f : Bool} (h : isRegexToken c f = false) : (c == cBs) = false := by
  cases hc : c == cBs
  · rfl
  · rw [eq_of_beq hc, tokens_everywhere cBs (by decide)] at h; cases h

theorem unescapeAux_escapeAux (s : Bytes) : ∀ f : Bool, unescapeAux false (escapeAux f s) = s := by
  induction s with
  | nil => intro f; rfl
  | cons c r ih =>
    intro f
    cases ht : isRegexToken c f
    · have hc := beq_bs_of_not_token ht
      simp [escapeAux, ht, unescapeAux, ih, hc]
    · simp [escapeAux, ht, unescapeAux, ih]

def litsOf : Bool → Bytes → Pat
  | _, [] => .eps
  | first, c :: r => .seq (.lit (isRegexToken c first) c) (litsOf false r)

theorem litsOf_render (s : Bytes) : ∀ f : Bool, (litsOf f s).render = escapeAux f s := by
  induction s with
  | nil => intro f; rfl
  | cons c r ih =>
    intro f
    simp only [litsOf, Pat.render, escapeAux, ih]

theorem litsOf_litOnly (s : Bytes) : ∀ f : Bool, (litsOf f s).litOnly = true := by
  induction s with
  | nil => intro f; rfl
  | cons c r ih => intro f; simp only [litsOf, Pat.litOnly, ih, Bool.and_self]

theorem litsOf_chars (s : Bytes) : ∀ f : Bool, (litsOf f s).chars = s := by
  induction s with
  | nil => intro f; rfl
  | cons c r ih => intro f; simp only [litsOf, Pat.chars, ih, List.cons_append, List.nil_append]

theorem litsOf_isAlt (f : Bool) (s : Bytes) : (litsOf f s).isAlt = false := by
  cases s <;> rfl

theorem litsOf_WF (s : Bytes) (h0 : ∀ c ∈ s, c ≠ 0) : ∀ f : Bool, (litsOf f s).WF = true := by
  induction s with
  | nil => intro f; rfl
  | cons c r ih =>
    intro f
    have hc : c ≠ 0 := h0 c (by simp)
    have hr := ih (fun x hx => h0 x (by simp [hx])) false
    -- a character that `IsRegexToken` lets through unescaped is plain
    have hl : (isRegexToken c f || plain c) = true := by
      cases hp : plain c
      · simp [isRegexToken_of_not_plain hc hp f]
      · simp
    have h1 : (Pat.lit (isRegexToken c f) c).isAlt = false := rfl
    simp [litsOf, Pat.WF, hr, litsOf_isAlt, h1, hc, hl]

theorem escape_firstOK (s : Bytes) : firstOK (escape s) = true := by
  cases s with
  | nil => rfl
  | cons c r =>
    cases ht : isRegexToken c true
    · obtain ⟨h1, h2, h3⟩ := not_token_first c ht
      simp [escape, escapeAux, ht, firstOK, h1, h2, h3]
    · simp [escape, escapeAux, ht, firstOK, wc_chars]

theorem cwsScan_saw (s : Bytes) : ∀ f pe : Bool, (cwsScan f pe true s).1 = true := by
  induction s with
  | nil => intro f pe; rfl
  | cons c r ih =>
    intro f pe
    simp only [cwsScan]
    split
    · split
      · exact ih _ _
      · rfl
    · exact ih _ _

/-- the scan, started at a token boundary (no escape pending, no comma seen), answers "single-valued" -/
abbrev Single (f : Bool) (s : Bytes) : Prop := (cwsScan f false false s).1 = false

/-- the characters a documented pattern writes for anything but a literal make the scan answer yes -/
theorem not_single_token (c : UInt8) (hc : c ∈ ([cQm, cStar, cLBr, cLPar, cBar, cComma] : List UInt8)) (f : Bool)
    (rest : Bytes) : ¬ Single f (c :: rest) := by
  have h : ∀ x ∈ ([cQm, cStar, cLBr, cLPar, cBar, cComma] : List UInt8),
      x ∈ ([cStar, cQm, cLBr, cRBr, cLPar, cRPar, cComma, cBar, cBs, cCaret, cDollar, cLBrace, cRBrace] : List UInt8) ∧
        (x == cBs) = false ∧ (x != cDash) = true := by decide
  obtain ⟨hm, hb, hd⟩ := h c hc
  simp only [Single, cwsScan, tokens_everywhere c hm f, hb, hd, Bool.false_and, Bool.not_false, Bool.and_self, if_true]
  split
  · rw [cwsScan_saw]; exact Bool.noConfusion
  · exact Bool.noConfusion

theorem single_esc (f : Bool) (c : UInt8) (rest : Bytes) : Single f (cBs :: c :: rest) → Single false rest := by
  simp [Single, cwsScan]

theorem single_plain (f : Bool) (c : UInt8) (rest : Bytes) (hb : (c == cBs) = false) :
    Single f (c :: rest) → Single false rest := by
  simp only [Single, cwsScan, hb, Bool.not_false, Bool.true_and, Bool.and_true]
  split
  · split
    · rw [cwsScan_saw]; exact Bool.noConfusion
    · exact Bool.noConfusion
  · exact id

theorem single_render (p : Pat) : ∀ (f : Bool) (rest : Bytes), p.WF = true →
    Single f (p.render ++ rest) → p.litOnly = true ∧ ∃ f', Single f' rest := by
  induction p with
  | eps => intro f rest _ h; exact ⟨rfl, f, h⟩
  | lit esc c =>
    intro f rest hwf h
    refine ⟨rfl, false, ?_⟩
    cases esc with
    | true => exact single_esc f c rest h
    | false =>
      exact single_plain f c rest (beq_bs_of_plain (Pat.plain_of_WF hwf)) h
  | any => intro f rest _ h; exact absurd h (not_single_token _ (by decide) f _)
  | star => intro f rest _ h; exact absurd h (not_single_token _ (by decide) f _)
  | cls neg items => intro f rest _ h; exact absurd h (not_single_token _ (by decide) f _)
  | seq a b iha ihb =>
    intro f rest hwf h
    obtain ⟨wa, wb, _, _⟩ := Pat.WF_seq.mp hwf
    simp only [Pat.render, List.append_assoc] at h
    obtain ⟨ha, f', h'⟩ := iha f _ wa h
    obtain ⟨hb, f'', h''⟩ := ihb f' _ wb h'
    exact ⟨by simp [Pat.litOnly, ha, hb], f'', h''⟩
  | alt bar a b iha ihb =>
    intro f rest hwf h
    simp only [Pat.render, List.append_assoc, List.cons_append] at h
    obtain ⟨_, f', h'⟩ := iha f _ (Pat.WF_alt.mp hwf).1 h
    exact absurd h' (not_single_token _ (by cases bar <;> decide) f' _)
  | grp a iha => intro f rest _ h; exact absurd h (not_single_token _ (by decide) f _)

/-- the backtick test of `CanWildcardStringMatchMultipleValues` is idle on a body that does not start with a
    prefix character -/
theorem canMatchMultipleAux_of_firstOK {s : Bytes} (h : firstOK s = true) :
    canMatchMultipleAux s = cwsScan true false false s := by
  cases s with
  | nil => rfl
  | cons c r =>
    have hc : (c == cTick) = false := by simp [firstOK] at h; simp [h]
    simp [canMatchMultipleAux, hc]

theorem canMatchMultiple_false_litOnly (p : Pat) (hwf : p.WF = true) (hf : firstOK p.render = true)
    (h : canMatchMultiple p.render = false) : p.litOnly = true := by
  rw [canMatchMultiple, canMatchMultipleAux_of_firstOK hf] at h
  exact (single_render p true [] hwf (by simpa using h)).1

theorem canMatchMultiple_tilde (r : Bytes) : canMatchMultiple (cTilde :: r) = true := by
  simp [canMatchMultiple, canMatchMultipleAux, cwsScan, tokens_first, wc_chars]

theorem canMatchMultiple_lt (r : Bytes) : canMatchMultiple (cLt :: r) = true := by
  simp [canMatchMultiple, canMatchMultipleAux, cwsScan, tokens_first, wc_chars]

theorem cwsScan_escapeAux (s : Bytes) : ∀ f : Bool, cwsScan f false false (escapeAux f s) = (false, false) := by
  induction s with
  | nil => intro f; rfl
  | cons c r ih =>
    intro f
    cases ht : isRegexToken c f
    · have hc := beq_bs_of_not_token ht
      simp [escapeAux, ht, cwsScan, ih, hc]
    · simp [escapeAux, ht, cwsScan, ih]

end Muscle.Wildcard
