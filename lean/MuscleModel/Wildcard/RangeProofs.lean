import MuscleModel.Wildcard.Code
import MuscleModel.Wildcard.SyntaxProofs
import MuscleModel.Base.ByteEq

/-!
# C15 — numeric ranges: what `Match` computes on stored ranges, and that `SetPattern` reads a documented range list
`<a-b,c->` as the ranges it denotes
-/


namespace Muscle.Wildcard
open Muscle

theorem u32_atoull (s : Bytes) : u32 (atoull s) = decVal (s.takeWhile isDigit) % 4294967296 :=
  Nat.mod_mod_of_dvd _ (by decide)

theorem takeWhile_all (s : Bytes) (h : s.all isDigit = true) : s.takeWhile isDigit = s := by
  induction s with
  | nil => rfl
  | cons c r ih =>
    simp only [List.all_cons, Bool.and_eq_true] at h
    simp [List.takeWhile, h.1, ih h.2]

theorem dropWhile_nil_iff (s : Bytes) : (s.dropWhile isDigit).isEmpty = true ↔ s.all isDigit = true := by
  induction s with
  | nil => simp
  | cons c r ih =>
    by_cases hc : isDigit c = true
    · simp [List.dropWhile, hc, ih]
    · simp [List.dropWhile, hc]

theorem foldl_clamp (L : Nat) (s : Bytes) : ∀ A : Nat,
    s.foldl (fun acc c => min (acc * 10 + (c.toNat - 48)) L) (min A L)
      = min (s.foldl (fun acc c => acc * 10 + (c.toNat - 48)) A) L := by
  induction s with
  | nil => intro A; rfl
  | cons c r ih =>
    intro A
    have : min (min A L * 10 + (c.toNat - 48)) L = min (A * 10 + (c.toNat - 48)) L := by
      rcases Nat.le_total A L with h | h
      · rw [Nat.min_eq_left h]
      · rw [Nat.min_eq_right h, Nat.min_eq_right (by omega), Nat.min_eq_right (by omega)]
    rw [List.foldl_cons, List.foldl_cons, this, ih]

theorem satVal_eq (s : Bytes) : satVal s = min (decVal s) noLimit :=
  foldl_clamp noLimit s 0

theorem matchRange_eq (rs : List (Nat × Nat)) (s : Bytes) :
    matchRange rs s = (isDecimal s &&
      rs.any (fun r => decide (r.1 ≤ min (decVal s) noLimit) && decide (min (decVal s) noLimit ≤ r.2))) := by
  by_cases hall : s.all isDigit = true
  · simp only [matchRange, takeWhile_all s hall, (dropWhile_nil_iff s).2 hall, Bool.and_true, satVal_eq, isDecimal,
      hall]
    cases s.isEmpty <;> rfl
  · have hd : (s.dropWhile isDigit).isEmpty = false := by
      rw [← Bool.not_eq_true, dropWhile_nil_iff]; exact hall
    simp [matchRange, hd, isDecimal, hall]

theorem le_clamp {b L : Nat} (h : b ≤ L) (v : Nat) : b ≤ min v L ↔ b ≤ v := by
  rw [Nat.le_min]; exact and_iff_left h
theorem clamp_le {b L : Nat} (h : b < L) (v : Nat) : min v L ≤ b ↔ v ≤ b := by
  omega

theorem toId_has (q : RangeSpec) (hq : q.WF = true) (v : Nat) :
    (decide (q.toId.1 ≤ min v noLimit) && decide (min v noLimit ≤ q.toId.2)) = q.has v := by
  rw [Bool.eq_iff_iff, Bool.and_eq_true, decide_eq_true_eq, decide_eq_true_eq]
  cases q with
  | one n =>
    have hn : n < noLimit := by simpa [RangeSpec.WF, noLimit] using hq
    rw [RangeSpec.toId, idRange, Nat.min_self, Nat.max_self, le_clamp (Nat.le_of_lt hn), clamp_le hn,
      RangeSpec.has, beq_iff_eq]
    omega
  | span lo hi =>
    simp only [RangeSpec.WF, Bool.and_eq_true, decide_eq_true_eq] at hq
    cases hi with
    | none =>
      have hl : lo.getD 0 ≤ noLimit := hq.1
      simp only [RangeSpec.toId, idRange, Option.getD_none, Nat.min_eq_left hl, Nat.max_eq_right hl, le_clamp hl,
        Nat.min_le_right, RangeSpec.has, Bool.and_true, decide_eq_true_eq, and_true]
    | some h =>
      have hl : lo.getD 0 ≤ h := hq.1
      have hh : h < noLimit := hq.2
      simp only [RangeSpec.toId, idRange, Option.getD_some, Nat.min_eq_left hl, Nat.max_eq_right hl,
        le_clamp (Nat.le_trans hl (Nat.le_of_lt hh)), clamp_le hh, RangeSpec.has, Bool.and_eq_true, decide_eq_true_eq]

theorem matchRange_toId (neg : Bool) (rs : List RangeSpec) (hwf : (Top.ranges neg rs).WF = true) (s : Bytes) :
    matchRange (rs.map RangeSpec.toId) s = rangeDenote rs s := by
  have hall := List.all_eq_true.mp (Top.WF_ranges.mp hwf).2
  rw [matchRange_eq, rangeDenote, List.any_map]
  congr 1
  rw [Bool.eq_iff_iff, List.any_eq_true, List.any_eq_true]
  exact exists_congr fun q => and_congr_right fun hq => by rw [Function.comp_apply, toId_has q (hall q hq)]

theorem isDigit_iff (c : UInt8) : isDigit c = true ↔ 48 ≤ c.toNat ∧ c.toNat ≤ 57 := by
  simp only [isDigit, Bool.and_eq_true, decide_eq_true_eq, UInt8.le_iff_toNat_le]
  rfl

theorem digit_toNat (d : Nat) (h : d < 10) : (UInt8.ofNat (48 + d)).toNat = 48 + d :=
  UInt8.toNat_ofNat_of_lt' (show 48 + d < 256 by omega)

theorem isDigit_digit (d : Nat) (h : d < 10) : isDigit (UInt8.ofNat (48 + d)) = true := by
  rw [isDigit_iff, digit_toNat d h]; omega

theorem decVal_snoc (a : Bytes) (d : UInt8) : decVal (a ++ [d]) = decVal a * 10 + (d.toNat - 48) := by
  simp [decVal, List.foldl_append]

theorem decimal_spec (n : Nat) :
    decimal n ≠ [] ∧ (decimal n).all isDigit = true ∧ decVal (decimal n) = n := by
  induction n using Nat.strongRecOn with
  | ind n ih =>
    rw [decimal]
    split
    · rename_i h
      refine ⟨by simp, ?_, ?_⟩
      · simp only [List.all_cons, List.all_nil, Bool.and_true]; exact isDigit_digit n h
      · simp only [decVal, List.foldl_cons, List.foldl_nil, digit_toNat n h]; omega
    · rename_i h
      obtain ⟨h1, h2, h3⟩ := ih (n / 10) (by omega)
      have hd : n % 10 < 10 := Nat.mod_lt _ (by omega)
      refine ⟨by simp, ?_, ?_⟩
      · simp only [List.all_append, h2, List.all_cons, List.all_nil, Bool.and_true, Bool.true_and]
        exact isDigit_digit _ hd
      · rw [decVal_snoc, h3, digit_toNat _ hd]; omega

theorem all_digit_mem {x : Bytes} (h : x.all isDigit = true) {c : UInt8} (hc : c ∈ x) : isDigit c = true := by
  simp only [List.all_eq_true] at h; exact h c hc

theorem splitAtFirst_append (c : UInt8) (x y : Bytes) (h : c ∉ x) : splitAtFirst c (x ++ c :: y) = some (x, y) := by
  induction x with
  | nil => simp [splitAtFirst]
  | cons a r ih =>
    simp only [List.mem_cons, not_or] at h
    have ha : (a == c) = false := beq_eq_false_iff_ne.mpr (fun e => h.1 e.symm)
    simp [splitAtFirst, ha, ih h.2]

theorem splitAtFirst_none (c : UInt8) (x : Bytes) (h : c ∉ x) : splitAtFirst c x = none := by
  induction x with
  | nil => rfl
  | cons a r ih =>
    simp only [List.mem_cons, not_or] at h
    have ha : (a == c) = false := beq_eq_false_iff_ne.mpr (fun e => h.1 e.symm)
    simp [splitAtFirst, ha, ih h.2]

theorem splitOnByte_ne_nil (sep : UInt8) (x : Bytes) : splitOnByte sep x ≠ [] := by
  cases x with
  | nil => simp [splitOnByte]
  | cons c r =>
    simp only [splitOnByte]
    split
    · simp
    · split <;> simp

theorem splitOnByte_noSep (sep : UInt8) (x : Bytes) (h : sep ∉ x) : splitOnByte sep x = [x] := by
  induction x with
  | nil => rfl
  | cons a r ih =>
    simp only [List.mem_cons, not_or] at h
    have ha : (a == sep) = false := beq_eq_false_iff_ne.mpr (fun e => h.1 e.symm)
    simp [splitOnByte, ha, ih h.2]

theorem splitOnByte_append (sep : UInt8) (x y : Bytes) (h : sep ∉ x) :
    splitOnByte sep (x ++ sep :: y) = x :: splitOnByte sep y := by
  induction x with
  | nil => simp [splitOnByte]
  | cons a r ih =>
    simp only [List.mem_cons, not_or] at h
    have ha : (a == sep) = false := beq_eq_false_iff_ne.mpr (fun e => h.1 e.symm)
    simp [splitOnByte, ha, ih h.2]

theorem digitsOnly_digits (x : Bytes) (h : x.all isDigit = true) : digitsOnly x = x := by
  simp only [digitsOnly]
  exact List.filter_eq_self.2 (fun c hc => all_digit_mem h hc)

theorem digitsOnly_append_gt (x tail : Bytes) (h : x.all isDigit = true) (ht : tail = [] ∨ tail = [cGt]) :
    digitsOnly (x ++ tail) = x := by
  rcases ht with rfl | rfl
  · simpa using digitsOnly_digits x h
  · simp only [digitsOnly, List.filter_append]
    have : List.filter isDigit [cGt] = [] := by decide
    rw [this, List.append_nil]
    exact List.filter_eq_self.2 (fun c hc => all_digit_mem h hc)

theorem atoull_digits (x tail : Bytes) (h : x.all isDigit = true) (ht : tail = [] ∨ tail = [cGt])
    (hv : decVal x < 4294967296) : u32 (atoull (x ++ tail)) = decVal x := by
  rw [u32_atoull]
  have : (x ++ tail).takeWhile isDigit = x := by
    rcases ht with rfl | rfl
    · simpa using takeWhile_all x h
    · rw [List.takeWhile_append_of_pos (fun c hc => all_digit_mem h hc)]
      have : List.takeWhile isDigit [cGt] = [] := by decide
      rw [this, List.append_nil]
  rw [this, Nat.mod_eq_of_lt hv]

theorem digit_not_space (c : UInt8) (h : isDigit c = true) : isSpace c = false := by
  rw [isDigit_iff] at h
  simp only [isSpace, Bool.or_eq_false_iff, beq_eq_false_iff_ne, ne_eq]
  refine ⟨⟨⟨?_, ?_⟩, ?_⟩, ?_⟩ <;> (intro e; subst e; simp at h)

theorem dropWhile_noSpace (s : Bytes) (h : ∀ c ∈ s, isSpace c = false) : s.dropWhile isSpace = s := by
  cases s with
  | nil => rfl
  | cons a r => exact List.dropWhile_cons_of_neg (by simp [h a (by simp)])

theorem trimmed_noSpace (s : Bytes) (h : ∀ c ∈ s, isSpace c = false) : trimmed s = s := by
  rw [trimmed, dropWhile_noSpace s h, dropWhile_noSpace s.reverse fun c hc => h c (List.mem_reverse.1 hc),
    List.reverse_reverse]

theorem trimmed_digits (x tail : Bytes) (h : x.all isDigit = true) (ht : tail = [] ∨ tail = [cGt]) :
    trimmed (x ++ tail) = x ++ tail :=
  trimmed_noSpace _ fun c hc => by
    rcases List.mem_append.1 hc with hc | hc
    · exact digit_not_space c (all_digit_mem h hc)
    · rcases ht with rfl | rfl
      · cases hc
      · rw [List.mem_singleton.1 hc]; rfl

theorem not_mem_digits {c : UInt8} (hc : isDigit c = false) {x : Bytes} (h : x.all isDigit = true) : c ∉ x :=
  fun hm => Bool.noConfusion ((all_digit_mem h hm).symm.trans hc)

theorem parseClause_span (L H tail : Bytes) (hL : L.all isDigit = true) (hH : H.all isDigit = true)
    (ht : tail = [] ∨ tail = [cGt]) :
    parseClause (L ++ cDash :: (H ++ tail)) =
      idRange (if L.isEmpty then 0 else u32 (atoull L)) (if H.isEmpty then noLimit else u32 (atoull H)) := by
  simp only [parseClause, splitAtFirst_append _ _ _ (not_mem_digits (c := cDash) (by decide) hL), digitsOnly_digits _ hL,
    digitsOnly_append_gt _ _ hH ht]

def optText (o : Option Nat) : Bytes :=
  match o with
  | some l => decimal l
  | none => []

theorem render_span (lo hi : Option Nat) : (RangeSpec.span lo hi).render = optText lo ++ cDash :: optText hi := rfl

theorem optText_digits (o : Option Nat) : (optText o).all isDigit = true := by
  cases o with
  | none => rfl
  | some l => exact (decimal_spec l).2.1

theorem optText_value (o : Option Nat) (dflt : Nat) (h : o.getD 0 < 4294967296) :
    (if (optText o).isEmpty then dflt else u32 (atoull (optText o))) = o.getD dflt := by
  cases o with
  | none => rfl
  | some l =>
    obtain ⟨hne, hall, hval⟩ := decimal_spec l
    have e := atoull_digits _ [] hall (Or.inl rfl) (by rw [hval]; exact h)
    rw [List.append_nil, hval] at e
    simp only [optText, List.isEmpty_eq_false_iff.2 hne, Bool.false_eq_true, if_false, e, Option.getD_some]

theorem parseClause_render (r : RangeSpec) (hwf : r.WF = true) (tail : Bytes) (ht : tail = [] ∨ tail = [cGt]) :
    parseClause (r.render ++ tail) = r.toId := by
  cases r with
  | one n =>
    simp only [RangeSpec.WF, decide_eq_true_eq] at hwf
    obtain ⟨hne, hall, hval⟩ := decimal_spec n
    have hnd : cDash ∉ decimal n ++ tail := by
      rcases ht with rfl | rfl
      · simpa using not_mem_digits (by decide) hall
      · simp only [List.mem_append, not_or]; exact ⟨not_mem_digits (by decide) hall, by decide⟩
    have hhead : (decimal n ++ tail).head? ≠ some cGt := by
      cases hd : decimal n with
      | nil => exact absurd hd hne
      | cons a t =>
        have : isDigit a = true := all_digit_mem hall (by rw [hd]; simp)
        simp only [List.cons_append, List.head?_cons, ne_eq, Option.some.injEq]
        intro e; subst e; simp [isDigit, wc_chars] at this
    simp only [parseClause, RangeSpec.render, splitAtFirst_none _ _ hnd, hhead, bne_iff_ne, ne_eq,
      not_false_eq_true, if_true, trimmed_digits _ _ hall ht, atoull_digits _ _ hall ht (by omega), hval,
      RangeSpec.toId]
  | span lo hi =>
    simp only [RangeSpec.WF, Bool.and_eq_true, decide_eq_true_eq] at hwf
    have hlo : lo.getD 0 < 4294967296 := by
      cases hi <;> simp only [Option.getD_none, Option.getD_some] at hwf <;> omega
    rw [render_span, List.append_assoc, List.cons_append,
      parseClause_span _ _ tail (optText_digits lo) (optText_digits hi) ht,
      optText_value lo 0 hlo, optText_value hi noLimit (by omega), RangeSpec.toId]

theorem not_mem_render (r : RangeSpec) {c : UInt8} (hd : isDigit c = false) (hc : c ≠ cDash) : c ∉ r.render := by
  cases r with
  | one n => exact not_mem_digits hd (decimal_spec n).2.1
  | span lo hi =>
    simp only [render_span, List.mem_append, List.mem_cons, not_or]
    exact ⟨not_mem_digits hd (optText_digits lo), hc, not_mem_digits hd (optText_digits hi)⟩

theorem renderRanges_noGt (rs : List RangeSpec) : cGt ∉ renderRanges rs := by
  induction rs with
  | nil => simp [renderRanges]
  | cons r rest ih =>
    cases rest with
    | nil => exact not_mem_render r (by decide) (by decide)
    | cons r' rest' =>
      simp only [renderRanges, List.mem_append, List.mem_cons, not_or]
      exact ⟨not_mem_render r (by decide) (by decide), by decide, ih⟩

theorem split_renderRanges (rs : List RangeSpec) (hne : rs ≠ []) (hwf : rs.all RangeSpec.WF = true) :
    (splitOnByte cComma (renderRanges rs ++ [cGt])).map parseClause = rs.map RangeSpec.toId := by
  induction rs with
  | nil => exact absurd rfl hne
  | cons r rest ih =>
    simp only [List.all_cons, Bool.and_eq_true] at hwf
    have hcomma : cComma ∉ r.render := not_mem_render r (by decide) (by decide)
    cases rest with
    | nil =>
      have hc : cComma ∉ r.render ++ [cGt] := by
        simp only [List.mem_append, not_or]; exact ⟨hcomma, by decide⟩
      simp only [renderRanges, splitOnByte_noSep _ _ hc, List.map_cons, List.map_nil,
        parseClause_render r hwf.1 [cGt] (Or.inr rfl)]
    | cons r' rest' =>
      have e : renderRanges (r :: r' :: rest') ++ [cGt] = r.render ++ cComma :: (renderRanges (r' :: rest') ++ [cGt]) := by
        simp [renderRanges]
      have h1 := parseClause_render r hwf.1 [] (Or.inl rfl)
      simp only [List.append_nil] at h1
      rw [e, splitOnByte_append _ _ _ hcomma]
      simp only [List.map_cons, h1, ih (by simp) hwf.2]

end Muscle.Wildcard
