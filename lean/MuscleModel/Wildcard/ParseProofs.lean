import MuscleModel.Wildcard.Parse
import MuscleModel.Wildcard.SyntaxProofs
import MuscleModel.Base.ByteEq

/-!
# C15 — the driver's pattern parser is sound: whatever it returns renders back to its input, and the pattern inside is
well-formed (`Pat.WF`).  `Top.WF` — the first-character condition `firstOK` that `match_spec` needs — comes only from the
run-time re-check in `inGrammar`.
-/


namespace Muscle.Wildcard
open Muscle

theorem parseItemsF_sound : ∀ (f : Nat) (inp : Bytes) items rest,
    parseItemsF f inp = some (items, rest) →
      inp = renderItems items ++ cRBr :: rest ∧ items.all ClsItem.WF = true := by
  intro f
  induction f with
  | zero => intro inp items rest h; unfold parseItemsF at h; cases h
  | succ f ih =>
    intro inp items rest h
    -- one well-formed item in front of what the recursive call returns
    have step : ∀ (it : ClsItem) (r : Bytes), it.WF = true →
        (parseItemsF f r).map (fun p => (it :: p.1, p.2)) = some (items, rest) →
        it.render ++ r = renderItems items ++ cRBr :: rest ∧ items.all ClsItem.WF = true := by
      intro it r hw hs
      obtain ⟨⟨its, rst⟩, hp, he⟩ := Option.map_eq_some_iff.1 hs
      cases he
      obtain ⟨e, w⟩ := ih r its rst hp
      exact ⟨by rw [e]; simp [renderItems], by simp [hw, w]⟩
    unfold parseItemsF at h
    cases inp with
    | nil => cases h
    | cons c r =>
      dsimp only at h
      by_cases hc : (c == cRBr) = true
      · rw [if_pos hc] at h; cases h; rw [eq_of_beq hc]; exact ⟨rfl, rfl⟩
      rw [if_neg hc] at h
      by_cases hcc : (!clsChar c) = true
      · rw [if_pos hcc] at h; cases h
      rw [if_neg hcc] at h
      have hcc' : clsChar c = true := by simpa using hcc
      split at h
      · rename_i d hi r2
        by_cases hd : (d == cDash) = true
        · rw [if_pos hd] at h
          by_cases hr : (clsChar hi && decide (c ≤ hi)) = true
          · rw [if_pos hr] at h; rw [eq_of_beq hd]
            exact step (.rng c hi) r2 (by simpa [ClsItem.WF, hcc'] using hr) h
          · rw [if_neg hr] at h; cases h
        · rw [if_neg hd] at h; exact step (.ch c) _ hcc' h
      · exact step (.ch c) r hcc' h

theorem finishClass_sound (neg : Bool) (r : Bytes) (p : Pat) (rest : Bytes) (h : finishClass neg r = some (p, rest)) :
    cLBr :: ((if neg then [cCaret] else []) ++ r) = p.render ++ rest ∧ p.WF = true ∧ p.isAlt = false := by
  unfold finishClass at h
  split at h
  · rename_i its rst hp
    split at h
    · cases h
    · rename_i hne
      simp only [Option.some.injEq, Prod.mk.injEq] at h
      obtain ⟨rfl, rfl⟩ := h
      obtain ⟨e, w⟩ := parseItemsF_sound _ r its rst hp
      refine ⟨?_, ?_, rfl⟩
      · rw [e]; cases neg <;> simp [Pat.render]
      · exact Pat.WF_cls.mpr ⟨by simpa using hne, w⟩
  · cases h

theorem parseClass_sound (inp : Bytes) (p : Pat) (rest : Bytes) (h : parseClass inp = some (p, rest)) :
    cLBr :: inp = p.render ++ rest ∧ p.WF = true ∧ p.isAlt = false := by
  unfold parseClass at h
  split at h
  · rename_i c r
    split at h
    · rename_i hc
      simp only [beq_iff_eq] at hc
      subst hc
      simpa using finishClass_sound true r p rest h
    · simpa using finishClass_sound false (c :: r) p rest h
  · simpa using finishClass_sound false [] p rest h

theorem parseAtomWith_sound (sub : Bytes → Option (Pat × Bytes))
    (hsub : ∀ inp p rest, sub inp = some (p, rest) → inp = p.render ++ rest ∧ p.WF = true)
    (c : UInt8) (r : Bytes) (a : Pat) (r1 : Bytes) (ha : parseAtomWith sub c r = some (a, r1)) :
    c :: r = a.render ++ r1 ∧ a.WF = true ∧ a.isAlt = false := by
  unfold parseAtomWith at ha
  by_cases h : (c == cStar) = true
  · rw [if_pos h] at ha; cases ha; rw [eq_of_beq h]; exact ⟨rfl, rfl, rfl⟩
  rw [if_neg h] at ha; clear h
  by_cases h : (c == cQm) = true
  · rw [if_pos h] at ha; cases ha; rw [eq_of_beq h]; exact ⟨rfl, rfl, rfl⟩
  rw [if_neg h] at ha; clear h
  by_cases h : (c == cLBr) = true
  · rw [if_pos h] at ha; rw [eq_of_beq h]; exact parseClass_sound r a r1 ha
  rw [if_neg h] at ha; clear h
  by_cases h : (c == cLPar) = true
  · rw [if_pos h] at ha; rw [eq_of_beq h]
    split at ha
    · rename_i a' d r' hp
      by_cases hd : (d == cRPar) = true
      · rw [if_pos hd] at ha; cases ha
        obtain ⟨e, w⟩ := hsub _ _ _ hp
        rw [e, eq_of_beq hd]
        exact ⟨by simp [Pat.render], w, rfl⟩
      · rw [if_neg hd] at ha; cases ha
    · cases ha
  rw [if_neg h] at ha; clear h
  by_cases h : (c == cBs) = true
  · rw [if_pos h] at ha; rw [eq_of_beq h]
    cases r with
    | nil => cases ha
    | cons x r' =>
      dsimp only at ha
      by_cases hx : (x != 0) = true
      · rw [if_pos hx] at ha; cases ha; exact ⟨rfl, Pat.WF_lit.mpr ⟨by simpa using hx, Or.inl rfl⟩, rfl⟩
      · rw [if_neg hx] at ha; cases ha
  rw [if_neg h] at ha; clear h
  by_cases hp : plain c = true
  · rw [if_pos hp] at ha; cases ha
    have h0 : c ≠ 0 := by rintro rfl; exact absurd hp (by decide)
    exact ⟨rfl, Pat.WF_lit.mpr ⟨h0, Or.inr hp⟩, rfl⟩
  · rw [if_neg hp] at ha; cases ha

theorem parse_sound : ∀ f : Nat,
    (∀ inp p rest, parseAlts f inp = some (p, rest) → inp = p.render ++ rest ∧ p.WF = true) ∧
    (∀ inp p rest, parseSeq f inp = some (p, rest) → inp = p.render ++ rest ∧ p.WF = true ∧ p.isAlt = false) := by
  intro f
  induction f with
  | zero =>
    refine ⟨?_, ?_⟩
    · intro inp p rest h; unfold parseAlts at h; cases h
    · intro inp p rest h; unfold parseSeq at h; cases h
  | succ f ih =>
    obtain ⟨ihA, ihS⟩ := ih
    constructor
    · -- a sequence, then either a separator and more alternatives, or the end of this level
      intro inp p rest h
      unfold parseAlts at h
      split at h
      · rename_i a c r hs
        obtain ⟨e, w, _⟩ := ihS _ _ _ hs
        by_cases hc : (c == cBar || c == cComma) = true
        · rw [if_pos hc] at h
          split at h
          · rename_i b r' hb
            obtain ⟨e2, w2⟩ := ihA _ _ _ hb
            cases h
            refine ⟨?_, Pat.WF_alt.mpr ⟨w, w2⟩⟩
            rw [e, e2]
            simp only [Bool.or_eq_true, beq_iff_eq] at hc
            rcases hc with rfl | rfl <;> simp [Pat.render]
          · cases h
        · rw [if_neg hc] at h; cases h; exact ⟨e, w⟩
      · rename_i a hs
        obtain ⟨e, w, _⟩ := ihS _ _ _ hs
        cases h; exact ⟨e, w⟩
      · cases h
    · -- nothing in front of a separator, a `)` or the end; otherwise an atom and the rest of the sequence
      intro inp p rest h
      unfold parseSeq at h
      cases inp with
      | nil => cases h; exact ⟨rfl, rfl, rfl⟩
      | cons c r =>
        dsimp only at h
        by_cases hc : (c == cBar || c == cComma || c == cRPar) = true
        · rw [if_pos hc] at h; cases h; exact ⟨rfl, rfl, rfl⟩
        rw [if_neg hc] at h
        split at h
        · rename_i a r1 hatom
          obtain ⟨e, w, na⟩ := parseAtomWith_sound _ (fun i p r h => ihA i p r h) c r a r1 hatom
          split at h
          · rename_i b r2 hb
            obtain ⟨e2, w2, nb⟩ := ihS _ _ _ hb
            cases h
            exact ⟨by rw [e, e2]; simp [Pat.render], Pat.WF_seq.mpr ⟨w, w2, na, nb⟩, rfl⟩
          · cases h
        · cases h

theorem parseBody_sound (neg : Bool) (body : Bytes) (t : Top) (h : parseBody neg body = some t) :
    t.render = (if neg then [cTilde] else []) ++ body ∧ ∃ p, t = .pat neg p ∧ p.WF = true := by
  unfold parseBody at h
  split at h
  · rename_i p hp
    obtain ⟨e, w⟩ := (parse_sound _).1 _ _ _ hp
    cases h
    exact ⟨by simp [Top.render, e], p, rfl, w⟩
  · cases h

end Muscle.Wildcard
