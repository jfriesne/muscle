import MuscleModel.Wildcard.Syntax
import MuscleModel.Wildcard.CharsAttr

/-! What `Pat.WF` and `Top.WF` say, constructor by constructor: the proofs of C15 read well-formedness through these.
Also the simp set `wc_chars` (the character names as numerals). -/

namespace Muscle.Wildcard
open Muscle

attribute [wc_chars] cBs cComma cBar cDot cPlus cStar cQm cLBr cRBr cLPar cRPar cCaret cDollar cLBrace cRBrace
  cTilde cTick cLt cGt cDash cEq

theorem Pat.WF_lit {esc : Bool} {c : UInt8} : (Pat.lit esc c).WF = true ↔ c ≠ 0 ∧ (esc = true ∨ plain c = true) := by
  simp [Pat.WF]

theorem Pat.plain_of_WF {c : UInt8} (h : (Pat.lit false c).WF = true) : plain c = true :=
  (Pat.WF_lit.mp h).2.resolve_left (by decide)

theorem Pat.WF_cls {neg : Bool} {items : List ClsItem} :
    (Pat.cls neg items).WF = true ↔ items ≠ [] ∧ items.all ClsItem.WF = true := by
  simp only [Pat.WF, Bool.and_eq_true, Bool.not_eq_true', List.isEmpty_eq_false_iff]

theorem Pat.WF_seq {a b : Pat} :
    (Pat.seq a b).WF = true ↔ a.WF = true ∧ b.WF = true ∧ a.isAlt = false ∧ b.isAlt = false := by
  simp only [Pat.WF, Bool.and_eq_true, Bool.not_eq_true', and_assoc]

theorem Pat.WF_alt {bar : Bool} {a b : Pat} : (Pat.alt bar a b).WF = true ↔ a.WF = true ∧ b.WF = true := by
  simp only [Pat.WF, Bool.and_eq_true]

theorem Pat.WF_grp {a : Pat} : (Pat.grp a).WF = true ↔ a.WF = true := Iff.rfl

theorem Top.WF_pat {neg : Bool} {p : Pat} : (Top.pat neg p).WF = true ↔ p.WF = true ∧ firstOK p.render = true := by
  simp only [Top.WF, Bool.and_eq_true]

theorem Top.WF_ranges {neg : Bool} {rs : List RangeSpec} :
    (Top.ranges neg rs).WF = true ↔ rs ≠ [] ∧ rs.all RangeSpec.WF = true := by
  simp only [Top.WF, Bool.and_eq_true, Bool.not_eq_true', List.isEmpty_eq_false_iff]

end Muscle.Wildcard
