import MuscleModel.Wildcard.Code
import MuscleModel.Wildcard.SyntaxProofs
import MuscleModel.Base.ByteEq

/-!
C15: what the theorems need to know about `IsRegexToken` and the backslash-keeping list of `SetPattern`, derived by
evaluation from the generated tables (`Muscle.Gen.regexTokensFirst/Rest`, `Muscle.Gen.setPatternKeepsBackslash`).
Each fact says that certain characters are (or are not) entries of a table, so it is checked entry by entry, not
byte by byte.
-/

namespace Muscle.Wildcard
open Muscle

/-- `SetPattern` keeps the backslash in front of exactly the ERE special characters -/
theorem keepsBackslash_eq (c : UInt8) : keepsBackslash c = ereSpecial c := by
  have sub : ∀ n ∈ Gen.setPatternKeepsBackslash, ereSpecial (UInt8.ofNat n) = true := by decide
  have sup : ∀ x ∈ ([cDot, cLBr, cRBr, cLPar, cRPar, cStar, cPlus, cQm, cLBrace, cRBrace, cBar, cCaret, cDollar, cBs]
      : List UInt8), keepsBackslash x = true := by decide
  rw [Bool.eq_iff_iff]
  constructor
  · intro h
    simpa using sub c.toNat (List.contains_iff_mem.1 h)
  · intro h
    simp only [ereSpecial, Bool.or_eq_true, beq_iff_eq, or_assoc] at h
    exact sup c (by simpa only [List.mem_cons, List.mem_nil_iff, or_false] using h)

theorem tokens_everywhere : ∀ c ∈ ([cStar, cQm, cLBr, cRBr, cLPar, cRPar, cComma, cBar, cBs, cCaret, cDollar, cLBrace,
    cRBrace] : List UInt8), ∀ f : Bool, isRegexToken c f = true := by decide

theorem tokens_first : ∀ c ∈ ([cTilde, cTick, cLt] : List UInt8), isRegexToken c true = true := by decide

@[simp] theorem isRegexToken_dash (f : Bool) : isRegexToken cDash f = false := by cases f <;> decide

@[simp] theorem tok_tick_first : isRegexToken 96 true = true := tokens_first _ (by decide)

theorem isRegexToken_of_not_plain {c : UInt8} (h0 : c ≠ 0) (hp : plain c = false) (f : Bool) :
    isRegexToken c f = true := by
  simp only [plain, Bool.not_eq_false', Bool.or_eq_true, beq_iff_eq, or_assoc] at hp
  exact tokens_everywhere c (by simpa only [List.mem_cons, List.mem_nil_iff, or_false] using hp.resolve_left h0) f

theorem not_token_first (c : UInt8) (h : isRegexToken c true = false) : c ≠ cTilde ∧ c ≠ cTick ∧ c ≠ cLt := by
  refine ⟨?_, ?_, ?_⟩ <;> (rintro rfl; exact absurd h (by simp [tokens_first]))

end Muscle.Wildcard
