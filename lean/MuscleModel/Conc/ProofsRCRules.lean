import MuscleModel.Conc.ProofsRCBasic

/-!
# The joint invariant of the reference-count / pool machine and its update rules (lemmas for C10)

`Inv` is the invariant all C10 theorems are read off from.  `inv_update` reduces its preservation by a step of thread `t`
to conditions on thread `t`'s own record and the objects the step touched.
-/

namespace Muscle.Conc.RC
open Muscle.Conc Muscle.Conc.Pool

/-- Every hand-out is matched by a release but the one outstanding while it is alive.  A heap
identity is handed out at most once (`new Obj` takes the next serial number) and has no manager; identities from `nextHeap`
on are untouched, which is what makes the next `new Obj` fresh.  A pool node has its manager exactly while alive, and
one that is not alive is in the default state (`ReleaseObject` resets it before it parks). -/
def ObjOK (nextHeap : Nat) : Oid → Obj → Prop
  | .heap k, v => v.acq = v.rel + b2n v.alive ∧ v.mgr = false ∧ v.acq ≤ 1 ∧ (nextHeap ≤ k → v.alive = false ∧ v.acq = 0)
  | .node _ _, v => v.acq = v.rel + b2n v.alive ∧ (v.alive = true → v.mgr = true) ∧ (v.alive = false → v.val = 0 ∧ v.mgr = false)

theorem ObjOK.mono {n n' : Nat} (hn : n ≤ n') {o : Oid} {v : Obj} (h : ObjOK n o v) : ObjOK n' o v := by
  cases o with
  | heap k => exact ⟨h.1, h.2.1, h.2.2.1, fun hk => h.2.2.2 (Nat.le_trans hn hk)⟩
  | node s i => exact h

theorem ObjOK.count {n : Nat} {o : Oid} {v : Obj} (h : ObjOK n o v) (k : Nat) : ObjOK n o { v with count := k } := by
  cases o <;> exact h

theorem ObjOK.val {n : Nat} {o : Oid} {v : Obj} (h : ObjOK n o v) (ha : v.alive = true) (k : Nat) : ObjOK n o { v with val := k } := by
  cases o with
  | heap _ => exact h
  | node s i => exact ⟨h.1, h.2.1, fun hd => by rw [ha] at hd; cases hd⟩

structure Inv (c : Cfg) : Prop where
  pool : PoolInv c.pool
  cnt : ∀ o, (c.obj o).count = refs c o
  alive : ∀ o, 0 < refs c o → (c.obj o).alive = true
  /-- a raw pointer — the result of `new` / `ObtainObject()` not yet in a `Ref` — points to an alive object nobody counts … -/
  rawAlive : ∀ {t : Nat} {th : Th} {o : Oid}, c.ths[t]? = some th → th.raw = some o → (c.obj o).alive = true ∧ (c.obj o).count = 0
  /-- … and is one thread's alone -/
  rawUnique : ∀ {t u : Nat} {th tu : Th} {o : Oid}, c.ths[t]? = some th → c.ths[u]? = some tu → th.raw = some o → tu.raw = some o → t = u
  objs : ∀ o, ObjOK c.nextHeap o (c.obj o)
  /-- a pool node is marked handed-out iff it is alive or awaits its `ReleaseObjectAux`: one of the two, and once -/
  handedOut : ∀ o, aliveN c.obj o + pendRel c o = b2n (outBitO c.pool o)
  /-- a slab that a thread is about to delete has no node in use and is off the slab list for good -/
  delSlab : ∀ {t : Nat} {th : Th} {s : Slab}, c.ths[t]? = some th → Act.delSlab s ∈ th.todo → s.inUse = 0 ∧ Unlisted c.pool s.id
  /-- an object has at most one `next` member … -/
  linksND : (c.links.map (·.1)).Nodup
  /-- … and only while it is alive -/
  linkAlive : ∀ x n, (x, n) ∈ c.links → (c.obj x).alive = true
  /-- `Act.incOld` belongs to `Mode.old`: `machine` never queues it (it counts a reference to an object that may be gone) -/
  noOld : ∀ {t : Nat} {th : Th} {a : Nat} {n : Oid}, c.ths[t]? = some th → Act.incOld a n ∉ th.todo

section
variable {c : Cfg} (h : Inv c)
include h

theorem Inv.acq (o : Oid) : (c.obj o).acq = (c.obj o).rel + b2n (c.obj o).alive := by
  have := h.objs o; cases o <;> exact this.1
theorem Inv.heapFresh (k : Nat) (hk : c.nextHeap ≤ k) : (c.obj (.heap k)).alive = false ∧ (c.obj (.heap k)).acq = 0 :=
  (h.objs (.heap k)).2.2.2 hk
theorem Inv.heapMgr (k : Nat) : (c.obj (.heap k)).mgr = false := (h.objs (.heap k)).2.1
theorem Inv.heapAcq (k : Nat) : (c.obj (.heap k)).acq ≤ 1 := (h.objs (.heap k)).2.2.1
theorem Inv.nodeMgr (s i : Nat) : (c.obj (.node s i)).alive = true → (c.obj (.node s i)).mgr = true := (h.objs (.node s i)).2.1
theorem Inv.deadNode_default (s i : Nat) : (c.obj (.node s i)).alive = false → (c.obj (.node s i)).val = 0 ∧ (c.obj (.node s i)).mgr = false :=
  (h.objs (.node s i)).2.2

theorem Inv.ne_fresh {o : Oid} (ha : (c.obj o).alive = true) {k : Nat} (hk : c.nextHeap ≤ k) : o ≠ .heap k := by
  rintro rfl; have := (h.heapFresh k hk).1; rw [ha] at this; cases this

end

/-- the pending actions the invariant speaks of one by one: a slab deletion (clause `delSlab`), and the action of `Mode.old`
(clause `noOld`) -/
def Special : Act → Prop
  | .delSlab _ => True
  | .incOld _ _ => True
  | _ => False

theorem special_not_mem_decOld (x : Slot) (a : Act) (ha : Special a) : a ∉ decOld x := by
  unfold decOld; split
  · intro hm; simp at hm; subst hm; exact ha
  · simp

theorem special_not_mem_decNext (x : Option Oid) (a : Act) (ha : Special a) : a ∉ decNext x := by
  cases x with
  | none => simp [decNext]
  | some o => intro hm; simp [decNext] at hm; subst hm; exact ha

/-- a pending action that holds no reference, awaits no `ReleaseObjectAux` and is none of the `Special` ones -/
def Act.plain : Act → Bool
  | .dec _ | .decNoDel _ | .release _ | .delSlab _ | .incOld _ _ => false
  | _ => true

theorem of_all_plain {l : List Act} (h : l.all Act.plain = true) :
    (∀ o, cntDec l o = 0) ∧ (∀ o, cntRel l o = 0) ∧ ∀ a, Special a → a ∉ l := by
  induction l with
  | nil => exact ⟨fun _ => rfl, fun _ => rfl, fun _ _ => List.not_mem_nil⟩
  | cons a l ih =>
    rw [List.all_cons, Bool.and_eq_true] at h
    obtain ⟨h1, h2, h3⟩ := ih h.2
    refine ⟨fun o => ?_, fun o => ?_, fun b hb hm => ?_⟩
    · cases a <;> first | exact h1 o | cases h.1
    · cases a <;> first | exact h2 o | cases h.1
    · rcases List.mem_cons.mp hm with rfl | hm
      · cases b <;> first | exact hb | cases h.1
      · exact h3 b hb hm

/-- in the shape of the hypothesis `hsub` of `inv_local` and `inv_inc`; `Special x` plays no part -/
theorem special_mem_tail {th : Th} {act : Act} {more : List Act} (htodo : th.todo = act :: more) :
    ∀ x, Special x → x ∈ more → x ∈ th.todo := fun x _ hs => by rw [htodo]; exact List.mem_cons_of_mem _ hs

theorem Inv.count_zero_of_dead {c : Cfg} (h : Inv c) {o : Oid} (hd : (c.obj o).alive = false) : (c.obj o).count = 0 := by
  rw [h.cnt o]
  rcases Nat.eq_zero_or_pos (refs c o) with h0 | h0
  · exact h0
  · have := h.alive o h0; rw [hd] at this; cases this

theorem Inv.alive_or {c : Cfg} (h : Inv c) (o : Oid) : (c.obj o).alive = true ∨ (c.obj o).count = 0 := by
  cases ha : (c.obj o).alive with
  | true => exact Or.inl rfl
  | false => exact Or.inr (h.count_zero_of_dead ha)

theorem Inv.aliveN_of_alive {c : Cfg} (h : Inv c) {o : Oid} (ha : (c.obj o).alive = true) : aliveN c.obj o = b2n (c.obj o).mgr := by
  cases o with
  | heap k => rw [h.heapMgr k]; rfl
  | node s i => simp only [aliveN, ha, h.nodeMgr s i ha]

theorem th_refs_le {c : Cfg} {t : Nat} {th : Th} (ht : c.ths[t]? = some th) (o : Oid) : th.refs o ≤ refs c o := by
  have := sumT_ge_mem (f := fun th => th.refs o) (List.mem_of_getElem? ht)
  simp only [refs]; omega

theorem cntL_le_refs (c : Cfg) (o : Oid) : cntL c.links o ≤ refs c o := by simp only [refs]; omega

theorem Inv.slot_alive {c : Cfg} {t : Nat} {th : Th} {b : Nat} {o : Oid} (h : Inv c) (ht : c.ths[t]? = some th) (hs : slotOf th b = some (o, true)) :
    (c.obj o).alive = true ∧ 0 < (c.obj o).count := by
  have hp : 0 < refs c o := by
    have := cntS_pos (slot_get hs); have := th_refs_le ht o; simp only [Th.refs] at *; omega
  exact ⟨h.alive o hp, by rw [h.cnt o]; exact hp⟩

theorem Inv.alive_of_cntDec_pos {c : Cfg} {t : Nat} {th : Th} {o : Oid} (h : Inv c) (ht : c.ths[t]? = some th)
    (hpos : 0 < cntDec th.todo o) :
    (c.obj o).alive = true ∧ 0 < (c.obj o).count ∧ ∀ k, c.nextHeap ≤ k → o ≠ .heap k := by
  have h1 : 0 < th.refs o := by simp only [Th.refs]; omega
  have h2 := th_refs_le ht o
  have hal := h.alive o (by omega)
  have hc : 0 < (c.obj o).count := by rw [h.cnt o]; omega
  exact ⟨hal, hc, fun k hk => h.ne_fresh hal hk⟩

theorem Inv.outBitO_of_release {c : Cfg} {t : Nat} {th : Th} {o : Oid} {more : List Act} (h : Inv c) (ht : c.ths[t]? = some th)
    (htodo : th.todo = .release o :: more) : outBitO c.pool o = true := by
  have h1 : 0 < cntRel th.todo o := by simp [htodo, cntRel]; omega
  have h2 := sumT_ge_mem (f := fun th => cntRel th.todo o) (List.mem_of_getElem? ht)
  have h3 := h.handedOut o
  simp only [pendRel] at h3
  cases hb : outBitO c.pool o with
  | true => rfl
  | false => rw [hb] at h3; simp only [b2n_false] at h3; omega

theorem Inv.dead_of_outBit_false {c : Cfg} (h : Inv c) {s i : Nat} (hb : outBit c.pool s i = false) :
    (c.obj (.node s i)).alive = false ∧ pendRel c (.node s i) = 0 := by
  have := h.handedOut (.node s i)
  simp only [aliveN, outBitO, hb, b2n_false] at this
  constructor
  · cases ha : (c.obj (.node s i)).alive with
    | false => rfl
    | true => rw [ha] at this; simp at this
  · omega

/-- `Inv` of the configuration `step` builds from what `startOp` / `doAct` return: the shared part `r.1` with thread `t`'s
record replaced by `r.2.1` (the events play no part) -/
def Keeps (t : Nat) (r : Cfg × Th × List Evt) : Prop := Inv { r.1 with ths := r.1.ths.set t r.2.1 }

/-- `hrawO`, `hrawN` protect the raw pointers of the other threads: an alive object that nobody counts stays so unless it
is `t`'s raw pointer, and a new raw pointer of `t` is its old one or was not alive. -/
theorem inv_update {c c1 : Cfg} {t : Nat} {th th' : Th} {evs : List Evt} (h : Inv c) (ht : c.ths[t]? = some th) (hths : c1.ths = c.ths)
    (hpool : PoolInv c1.pool)
    (hcnt : ∀ o, (c1.obj o).count + th.refs o + cntS c.glob o + cntL c.links o = (c.obj o).count + th'.refs o + cntS c1.glob o + cntL c1.links o)
    (halive : ∀ o, (c1.obj o).alive = true ∨ (c1.obj o).count = 0)
    (hraw : ∀ o, th'.raw = some o → (c1.obj o).alive = true ∧ (c1.obj o).count = 0)
    (hrawO : ∀ o, (c.obj o).alive = true → (c.obj o).count = 0 → ((c1.obj o).alive = true ∧ (c1.obj o).count = 0) ∨ th.raw = some o)
    (hrawN : ∀ o, th'.raw = some o → th.raw = some o ∨ (c.obj o).alive = false)
    (hobjs : ∀ o, ObjOK c1.nextHeap o (c1.obj o))
    (hout : ∀ o, aliveN c1.obj o + cntRel th'.todo o + b2n (outBitO c.pool o) =
                 aliveN c.obj o + cntRel th.todo o + b2n (outBitO c1.pool o))
    (hsub : ∀ x, Special x → x ∈ th'.todo → x ∈ th.todo ∨ ∃ s, x = .delSlab s ∧ s.inUse = 0 ∧ Unlisted c1.pool s.id)
    (hmono : ∀ sid, Unlisted c.pool sid → Unlisted c1.pool sid)
    (hlnd : (c1.links.map (·.1)).Nodup)
    (hla : ∀ x n, (x, n) ∈ c1.links → (c1.obj x).alive = true) :
    Keeps t (c1, th', evs) := by
  have hrefs : ∀ o, refs { c1 with ths := c1.ths.set t th' } o + th.refs o + cntS c.glob o + cntL c.links o = refs c o + th'.refs o + cntS c1.glob o + cntL c1.links o := by
    intro o
    have := sumT_set (f := fun th => th.refs o) (th' := th') ht
    simp only [refs, hths]; omega
  have hpr : ∀ o, pendRel { c1 with ths := c1.ths.set t th' } o + cntRel th.todo o = pendRel c o + cntRel th'.todo o := by
    intro o
    have := sumT_set (f := fun th => cntRel th.todo o) (th' := th') ht
    simp only [pendRel, hths]; omega
  have hcnt' : ∀ o, (c1.obj o).count = refs { c1 with ths := c1.ths.set t th' } o := by
    intro o; have := hrefs o; have := hcnt o; have := h.cnt o; omega
  have htlt : t < c.ths.length := by
    rcases List.getElem?_eq_some_iff.mp ht with ⟨hl, _⟩; exact hl
  have hlook : ∀ u tu, (c1.ths.set t th')[u]? = some tu → (u = t ∧ tu = th') ∨ (u ≠ t ∧ c.ths[u]? = some tu) := by
    intro u tu hu
    rw [hths, List.getElem?_set] at hu
    by_cases htu : t = u
    · subst htu; simp [htlt] at hu; exact Or.inl ⟨rfl, hu.symm⟩
    · simp [htu] at hu; exact Or.inr ⟨fun e => htu e.symm, hu⟩
  show Inv { c1 with ths := c1.ths.set t th' }
  refine ⟨hpool, hcnt', ?_, ?_, ?_, hobjs, ?_, ?_, hlnd, hla, ?_⟩
  · intro o hpos
    have hc := hcnt' o
    rcases halive o with h1 | h1
    · exact h1
    · omega
  · intro u tu o hu hr
    rcases hlook u tu hu with ⟨_, rfl⟩ | ⟨hne, hu'⟩
    · exact hraw o hr
    · have ⟨ha, hc⟩ := h.rawAlive hu' hr
      rcases hrawO o ha hc with h1 | h1
      · exact h1
      · exact absurd (h.rawUnique hu' ht hr h1) hne
  · intro u v tu tv o hu hv hru hrv
    rcases hlook u tu hu with ⟨rfl, rfl⟩ | ⟨hne, hu'⟩
    · rcases hlook v tv hv with ⟨rfl, _⟩ | ⟨hne2, hv'⟩
      · rfl
      · rcases hrawN o hru with h1 | h1
        · exact h.rawUnique ht hv' h1 hrv
        · have := (h.rawAlive hv' hrv).1; rw [h1] at this; cases this
    · rcases hlook v tv hv with ⟨rfl, rfl⟩ | ⟨hne2, hv'⟩
      · rcases hrawN o hrv with h1 | h1
        · exact h.rawUnique hu' ht hru h1
        · have := (h.rawAlive hu' hru).1; rw [h1] at this; cases this
      · exact h.rawUnique hu' hv' hru hrv
  · intro o
    have := hpr o; have := hout o; have := h.handedOut o
    show aliveN c1.obj o + pendRel { c1 with ths := c1.ths.set t th' } o = b2n (outBitO c1.pool o)
    omega
  · intro u tu s hu hs
    rcases hlook u tu hu with ⟨_, rfl⟩ | ⟨hne, hu'⟩
    · rcases hsub (.delSlab s) trivial hs with h1 | ⟨s', he, h1⟩
      · exact ⟨(h.delSlab ht h1).1, hmono _ (h.delSlab ht h1).2⟩
      · cases he; exact h1
    · exact ⟨(h.delSlab hu' hs).1, hmono _ (h.delSlab hu' hs).2⟩
  · intro u tu a n hu hs
    rcases hlook u tu hu with ⟨_, rfl⟩ | ⟨hne, hu'⟩
    · rcases hsub (.incOld a n) trivial hs with h1 | ⟨s', he, _⟩
      · exact h.noOld ht h1
      · cases he
    · exact h.noOld hu' hs

theorem inv_local {c : Cfg} {t : Nat} {th th' : Th} {g' : List Slot} {evs : List Evt} (h : Inv c) (ht : c.ths[t]? = some th)
    (hcnt : ∀ o, th.refs o + cntS c.glob o = th'.refs o + cntS g' o)
    (hraw : th'.raw = th.raw)
    (hrel : ∀ o, cntRel th'.todo o = cntRel th.todo o)
    (hsub : ∀ x, Special x → x ∈ th'.todo → x ∈ th.todo) :
    Keeps t ({ c with glob := g' }, th', evs) := by
  exact inv_update (c1 := { c with glob := g' }) h ht rfl h.pool
    (by intro o; have := hcnt o; simp only; omega)
    h.alive_or
    (by intro o hr; rw [hraw] at hr; exact h.rawAlive ht hr)
    (fun o ha hc => Or.inl ⟨ha, hc⟩)
    (by intro o hr; rw [hraw] at hr; exact Or.inl hr)
    h.objs
    (by intro o; have := hrel o; simp only; omega)
    (fun x hx hs => Or.inl (hsub x hx hs))
    (fun _ hs => hs)
    h.linksND h.linkAlive

/-- `hraws`: the thread's raw pointer stays and `o` is nobody's raw pointer, or it is `o` and goes into a `Ref`, or `o` was
not alive and becomes the thread's raw pointer. -/
theorem inv_obj1 {c : Cfg} {t : Nat} {th th' : Th} {o : Oid} {ob' : Obj} {p' : PoolSt} {nh' : Nat} {l' : List (Oid × Oid)} {evs : List Evt}
    (h : Inv c) (ht : c.ths[t]? = some th) (hpool : PoolInv p')
    (href : ∀ x, o ≠ x → th'.refs x + cntL l' x = th.refs x + cntL c.links x)
    (hcnt : ob'.count + th.refs o + cntL c.links o = (c.obj o).count + th'.refs o + cntL l' o)
    (hal : ob'.alive = true ∨ ob'.count = 0)
    (hraws : (th'.raw = th.raw ∧ ((c.obj o).alive = true → 0 < (c.obj o).count)) ∨ (th.raw = some o ∧ th'.raw = none) ∨
             (th'.raw = some o ∧ (c.obj o).alive = false ∧ ob'.alive = true ∧ ob'.count = 0))
    (hnh : c.nextHeap ≤ nh') (hob : ObjOK nh' o ob')
    (hout : ∀ x, aliveN (setObj c.obj o ob') x + cntRel th'.todo x + b2n (outBitO c.pool x) =
                 aliveN c.obj x + cntRel th.todo x + b2n (outBitO p' x))
    (hsub : ∀ x, Special x → x ∈ th'.todo → x ∈ th.todo ∨ ∃ s, x = .delSlab s ∧ s.inUse = 0 ∧ Unlisted p' s.id)
    (hmono : ∀ sid, Unlisted c.pool sid → Unlisted p' sid)
    (hlnd : (l'.map (·.1)).Nodup)
    (hla : ∀ x n, (x, n) ∈ l' → (x = o → ob'.alive = true) ∧ (x ≠ o → (x, n) ∈ c.links ∨ (c.obj x).alive = true)) :
    Keeps t ({ c with obj := setObj c.obj o ob', links := l', pool := p', nextHeap := nh' }, th', evs) := by
  refine inv_update (c1 := { c with obj := setObj c.obj o ob', links := l', pool := p', nextHeap := nh' }) (th' := th') h ht rfl hpool
    ?_ ?_ ?_ ?_ ?_ ?_ hout hsub hmono hlnd ?_
  · intro x; by_cases hx : x = o
    · subst hx; simp only [setObj_same]; omega
    · have := href x (Ne.symm hx); simp only [setObj_other _ _ _ _ hx]; omega
  · intro x; by_cases hxo : x = o
    · subst hxo; simp only [setObj_same]; exact hal
    · simp only [setObj_other _ _ _ _ hxo]; exact h.alive_or x
  · intro x hx
    rcases hraws with ⟨h1, h2⟩ | ⟨_, h2⟩ | ⟨h1, _, h3, h4⟩
    · rw [h1] at hx
      have hr := h.rawAlive ht hx
      by_cases hxo : x = o
      · subst hxo; have := h2 hr.1; omega
      · simp only [setObj_other _ _ _ _ hxo]; exact hr
    · rw [h2] at hx; cases hx
    · rw [h1] at hx; cases hx; simp only [setObj_same]; exact ⟨h3, h4⟩
  · intro x hx hc; by_cases hxo : x = o
    · subst hxo
      rcases hraws with ⟨_, h2⟩ | ⟨h1, _⟩ | ⟨_, h2, _⟩
      · have := h2 hx; omega
      · exact Or.inr h1
      · rw [hx] at h2; cases h2
    · left; simp only [setObj_other _ _ _ _ hxo]; exact ⟨hx, hc⟩
  · intro x hx
    rcases hraws with ⟨h1, _⟩ | ⟨_, h2⟩ | ⟨h1, h2, _⟩
    · exact Or.inl (h1 ▸ hx)
    · rw [h2] at hx; cases hx
    · rw [h1] at hx; cases hx; exact Or.inr h2
  · intro x; by_cases hxo : x = o
    · subst hxo; simp only [setObj_same]; exact hob
    · simp only [setObj_other _ _ _ _ hxo]; exact (h.objs x).mono hnh
  · intro x n hm
    simp only at hm ⊢
    have ⟨h1, h2⟩ := hla x n hm
    by_cases hxo : x = o
    · subst hxo; simp only [setObj_same]; exact h1 rfl
    · simp only [setObj_other _ _ _ _ hxo]
      rcases h2 hxo with h3 | h3
      · exact h.linkAlive x n h3
      · exact h3

end Muscle.Conc.RC
