import MuscleModel.Conc.ProofsTQInv

/-! # C11 lemmas: which steps are enabled; no deadlock; shutdown is never stuck -/

namespace Muscle.Conc.TQ
open Muscle.Conc

theorem stepUser_none {c : Cfg} {t : Tid} (h : stepUser c t = none) :
    (c.th t).pc = .done ∨ (∃ w, (c.th t).pc = .recvLock w ∧ c.ipc = .entrySig) ∨
    (∃ w, (c.th t).pc = .recvWait w ∧ ¬ WakeableO c.sh) ∨
    (∃ b, (c.th t).pc = .join b ∧ c.sh.running = true ∧ c.ipc ≠ .exited) := by
  unfold stepUser at h
  cases hpc : (c.th t).pc with
  | done => exact Or.inl rfl
  | idle =>
    simp only [hpc] at h
    cases hp : (c.th t).prog with
    | nil => simp only [hp] at h; cases h
    | cons op r => cases op <;> simp only [hp] at h <;> first | cases h | (split at h <;> first | cases h | (split at h <;> cases h))
  | sendLock it tj => simp only [hpc] at h; split at h <;> cases h
  | sendSig tj => simp only [hpc] at h; cases h
  | startSig => simp only [hpc] at h; cases h
  | recvLock w =>
    simp only [hpc] at h
    by_cases he : c.ipc = .entrySig
    · exact Or.inr (Or.inl ⟨w, rfl, he⟩)
    · rw [if_neg he] at h
      split at h
      · cases h
      · split at h
        · cases h
        · split at h <;> cases h
  | recvWait w =>
    simp only [hpc] at h
    refine Or.inr (Or.inr (Or.inl ⟨w, rfl, fun hw => ?_⟩))
    cases hm : c.sh.mode <;> simp only [hm] at h
    · rw [if_pos (hw.imp_right And.right)] at h; cases h
    · rw [if_pos (hw.resolve_right fun hc => by rw [hm] at hc; cases hc.1)] at h; cases h
  | join b =>
    simp only [hpc] at h
    by_cases hr : c.sh.running = false
    · rw [if_pos hr] at h; cases h
    · rw [if_neg hr] at h
      by_cases hx : c.ipc = .exited
      · rw [if_pos hx] at h; cases h
      · exact Or.inr (Or.inr (Or.inr ⟨b, rfl, by simpa using hr, hx⟩))

theorem stepInt_none {c : Cfg} (h : stepInt c = none) : c.ipc = .exited ∨ (c.ipc = .recvWait ∧ c.sh.ci.sig = 0) := by
  unfold stepInt at h
  cases hpc : c.ipc with
  | exited => exact Or.inl rfl
  | recvWait =>
    simp only [hpc] at h
    by_cases hs : c.sh.ci.sig > 0
    · rw [if_pos hs] at h; split at h <;> cases h
    · exact Or.inr ⟨rfl, Nat.eq_zero_of_not_pos hs⟩
  | start => simp only [hpc] at h; cases h
  | entrySig => simp only [hpc] at h; cases h
  | entryLock => simp only [hpc] at h; split at h <;> cases h
  | replySig id j k => simp only [hpc] at h; split at h <;> cases h
  | recvLock poll => simp only [hpc] at h; split at h <;> first | cases h | (split at h <;> cases h)
  | replyLock id j k => simp only [hpc] at h; split at h <;> first | cases h | (split at h <;> cases h)

def Quiescent (c : Cfg) : Prop := ∀ e, step c e = none

/-- for a concrete configuration the right side can be evaluated -/
theorem quiescent_iff (c : Cfg) :
    Quiescent c ↔ (∀ t, t < c.n → stepUser c t = none ∧ timeoutUser c t = none) ∧ (c.sh.gen > 0 → stepInt c = none) := by
  have hint : c.sh.gen > 0 → ¬ c.intTid < c.n := fun hg => by
    have : c.n ≤ c.n + c.sh.gen - 1 := by omega
    exact Nat.not_lt.mpr this
  constructor
  · intro hq
    exact ⟨fun t ht => ⟨by simpa [step, ht] using hq (.run t), by simpa [step, ht] using hq (.timeout t)⟩,
      fun hg => by simpa [step, hint hg, hg] using hq (.run c.intTid)⟩
  · rintro ⟨hu, hi⟩ (t | t) <;> simp only [step]
    · split
      · next ht => exact (hu t ht).1
      · split
        · next hg => exact hi hg.1
        · rfl
    · split
      · next ht => exact (hu t ht).2
      · rfl

/-- **No deadlock other than waiting for Messages nobody sends.** -/
theorem quiescent_shape {c : Cfg} (hi : Inv c) (hq : Quiescent c) :
    (c.ipc ≠ .exited → c.ipc = .recvWait ∧ c.sh.ci.queue = []) ∧
    (∀ t, (c.th t).pc ≠ .done → t = 0 ∧
      ((∃ w, (c.th 0).pc = .recvWait w ∧ c.sh.co.queue = []) ∨
       (∃ b, (c.th 0).pc = .join b ∧ c.ipc = .recvWait ∧ c.sh.ci.queue = []))) := by
  obtain ⟨hqu, hqi⟩ := (quiescent_iff c).mp hq
  have hint : c.ipc ≠ .exited → c.ipc = .recvWait ∧ c.sh.ci.queue = [] := by
    intro hlive
    rcases stepInt_none (hqi (hi.alive hlive).2.1) with h | ⟨hw, hsig⟩
    · exact absurd h hlive
    · refine ⟨hw, Classical.byContradiction fun hne => ?_⟩
      -- a signal is pending, or a signaller exists, and a signaller can step
      rcases hi.wakeI hw hne with h | ⟨u, hu⟩
      · omega
      · have hun := hi.lt_n (t := u) fun h => by rw [h] at hu; cases hu
        rcases stepUser_none (hqu u hun).1 with h | ⟨w, h, _⟩ | ⟨w, h, _⟩ | ⟨b, h, _⟩ <;> simp [h, isSigPc] at hu
  refine ⟨hint, fun t hnd => ?_⟩
  rcases stepUser_none (hqu t (hi.lt_n hnd)).1 with h | ⟨w, h, hip⟩ | ⟨w, h, hnw⟩ | ⟨b, h, hr, hlive⟩
  · exact absurd h hnd
  · have := (hint (by simp [hip])).1
    simp [hip] at this
  · obtain rfl := hi.eq_zero (t := t) (by simp [h])
    refine ⟨rfl, Or.inl ⟨w, h, Classical.byContradiction fun hne => ?_⟩⟩
    rcases or_assoc.mpr (hi.wakeO w h hne) with hs | hs
    · exact hnw hs
    · -- the internal thread is at a signal point, not in its wait
      have hlive : c.ipc ≠ .exited := by rcases hs with hs | ⟨_, _, _, hs⟩ <;> simp [hs]
      have := (hint hlive).1
      rcases hs with hs | ⟨_, _, _, hs⟩ <;> simp [hs] at this
  · obtain rfl := hi.eq_zero (t := t) (by simp [h])
    exact ⟨rfl, Or.inr ⟨b, h, hint hlive⟩⟩

/-- **Shutdown is never stuck**: inside `ShutdownInternalThread(true)` with the NULL Message enqueued, some step is enabled. -/
theorem shutdown_not_quiescent {c : Cfg} (hi : Inv c) (hp : (c.th 0).pc = .sendSig true ∨ (c.th 0).pc = .join true) :
    ¬ Quiescent c := by
  intro hq
  have hnd : (c.th 0).pc ≠ .done := by rcases hp with h | h <;> simp [h]
  rcases (quiescent_shape hi hq).2 0 hnd with ⟨_, ⟨w, h, _⟩ | ⟨b, h, hw, hqe⟩⟩
  · rcases hp with h' | h' <;> simp [h'] at h
  · rcases hi.shut hp with hs | hs
    · simp [hqe] at hs
    · simp [hs] at hw

theorem start_step {c : Cfg} {rest : List Op} (hn : 0 < c.n) (hpc : (c.th 0).pc = .idle) (hprog : (c.th 0).prog = .start :: rest)
    (hr : c.sh.running = false) (hq : c.sh.ci.queue ≠ []) :
    ∃ c', step c (.run 0) = some (c', .quiet) ∧ (c'.th 0).pc = .startSig ∧ c'.ipc = .start ∧ c'.sh.ci.queue = c.sh.ci.queue := by
  simp only [step, hn, if_true, stepUser, hpc, hprog, hr]
  simp only [Bool.false_eq_true, if_false, hq, ne_eq, not_false_eq_true, if_true]
  refine ⟨_, rfl, by simp, rfl, ?_⟩
  cases hm : c.sh.mode <;> simp

/-- the join step of `ShutdownInternalThread(true)` -/
theorem join_step {c c' : Cfg} {o : Out} (hi : Inv c) (hj : (c.th 0).pc = .join true) (hs : step c (.run 0) = some (c', o)) :
    c'.sh.running = false ∧ (c'.th 0).pc ≠ .join true := by
  have hn : 0 < c.n := Nat.lt_of_not_le fun h => by have := hi.outside 0 h; rw [hj] at this; cases this
  rw [step, if_pos hn] at hs
  obtain ⟨s', v, i', hu, rfl⟩ := stepUser_some hs
  rw [UTh.eq_mk hj rfl] at hu
  cases hu
  case joinErr hr => exact ⟨hr, nextOp_ne_join _⟩
  case joinOk => exact ⟨rfl, nextOp_ne_join _⟩

end Muscle.Conc.TQ
