import MuscleModel.Conc.ProofsRCRules

/-! # Every granted action (`doAct`) preserves the joint invariant: increments, decrements with cascading release, the pool's critical sections (lemmas for C10) -/

namespace Muscle.Conc.RC
open Muscle.Conc Muscle.Conc.Pool

section
variable {c : Cfg} {t : Nat} {th : Th} {evs : List Evt} (h : Inv c) (ht : c.ths[t]? = some th)
include h ht

theorem inv_drop {act : Act} {more : List Act} (htodo : th.todo = act :: more)
    (hd : ∀ o, cntDec [act] o = 0) (hr : ∀ o, cntRel [act] o = 0) :
    Keeps t (c, { th with todo := more }, evs) := by
  refine inv_local (g' := c.glob) h ht ?_ rfl ?_ (special_mem_tail htodo)
  · intro o; simp only [Th.refs, htodo]; rw [cntDec_cons act more, hd o]; omega
  · intro o; simp only [htodo]; rw [cntRel_cons act more, hr o]; omega

theorem inv_inc {th' : Th} {o : Oid} {l' : List (Oid × Oid)}
    (halive : (c.obj o).alive = true)
    (hr : ∀ x, th'.refs x + cntL l' x = th.refs x + cntL c.links x + (if o = x then 1 else 0))
    (hraws : (th'.raw = th.raw ∧ 0 < (c.obj o).count) ∨ (th.raw = some o ∧ th'.raw = none))
    (hrel : ∀ x, cntRel th'.todo x = cntRel th.todo x)
    (hsub : ∀ x, Special x → x ∈ th'.todo → x ∈ th.todo)
    (hlnd : (l'.map (·.1)).Nodup)
    (hla : ∀ x n, (x, n) ∈ l' → (x, n) ∈ c.links ∨ (c.obj x).alive = true) :
    Keeps t ({ c with obj := bump c o, links := l' }, th', evs) := by
  exact inv_obj1 (ob' := { c.obj o with count := (c.obj o).count + 1 }) h ht h.pool
    (by intro x hx; rw [hr x, if_neg hx]; rfl)
    (by have := hr o; rw [if_pos rfl] at this; simp only; omega)
    (Or.inl halive)
    (hraws.imp (fun h => ⟨h.1, fun _ => h.2⟩) Or.inl)
    (Nat.le_refl _) ((h.objs o).count _)
    (by intro x; rw [aliveN_setObj_alive c.obj o { c.obj o with count := (c.obj o).count + 1 } rfl, hrel x])
    (fun x hx hs => Or.inl (hsub x hx hs))
    (fun _ hs => hs)
    hlnd
    (fun x n hm => ⟨fun _ => halive, fun _ => hla x n hm⟩)

/-- `slot[a]` becomes a counting reference to `o` (count + 1), its old content is queued for `UnrefItem()` -/
theorem inv_incInto {a : Nat} {o : Oid} {act : Act} {more : List Act} {raw' : Option Oid}
    (htodo : th.todo = act :: more) (hact : ∀ x, cntDec [act] x = 0) (hactr : ∀ x, cntRel [act] x = 0)
    (ha : a < th.slots.length) (halive : (c.obj o).alive = true)
    (hraws : (raw' = th.raw ∧ 0 < (c.obj o).count) ∨ (th.raw = some o ∧ raw' = none)) :
    Keeps t ({ c with obj := bump c o }, { th with slots := th.slots.set a (some (o, true)), raw := raw', todo := decOld (slotOf th a) ++ more }, evs) := by
  refine inv_inc (l' := c.links) h ht halive ?_ hraws ?_ ?_ h.linksND (fun x n hm => Or.inl hm)
  · intro x
    have := cntS_set (y := some (o, true)) (o := x) (slots_get_of_lt ha)
    have h1 := hact x
    simp only [Th.refs, htodo, cntDec_append, cntDec_decOld, slot_counting_inj] at *
    rw [cntDec_cons act more, h1]
    omega
  · intro x
    have h1 := hactr x
    simp only [htodo, cntRel_append, cntRel_decOld]
    rw [cntRel_cons act more, h1]
  · intro x hx hs'
    rcases List.mem_append.mp hs' with hs' | hs'
    · exact absurd hs' (special_not_mem_decOld _ x hx)
    · exact special_mem_tail htodo x hx hs'

theorem inv_incTmp {b : Nat} {o : Oid} {more : List Act}
    (htodo : th.todo = .incTmp b :: more) (hs : slotOf th b = some (o, true)) :
    Keeps t ({ c with obj := bump c o }, { th with todo := more ++ [.dec o] }, evs) := by
  have ⟨hal, hc⟩ := h.slot_alive ht hs
  refine inv_inc (l' := c.links) h ht hal ?_ (Or.inl ⟨rfl, hc⟩) ?_ ?_ h.linksND (fun x n hm => Or.inl hm)
  · intro x
    simp only [Th.refs, htodo, cntDec, cntDec_append]
    omega
  · intro x; simp only [htodo, cntRel, cntRel_append]; omega
  · intro x hx hs'
    simp only [List.mem_append, List.mem_singleton] at hs'
    rcases hs' with hs' | hs'
    · rw [htodo]; exact List.mem_cons_of_mem _ hs'
    · subst hs'; exact absurd hx id

theorem inv_incSame {a : Nat} {o : Oid} {more : List Act}
    (htodo : th.todo = .incSame a :: more) (hs : slotOf th a = some (o, false)) (hce : countsElsewhere th a o = true) :
    Keeps t ({ c with obj := bump c o }, { th with slots := th.slots.set a (some (o, true)), todo := more }, evs) := by
  obtain ⟨b, _, hb⟩ := countsElsewhere_spec hce
  have ⟨hal, hc⟩ := h.slot_alive ht hb
  refine inv_inc (l' := c.links) h ht hal ?_ (Or.inl ⟨rfl, hc⟩) ?_
    (special_mem_tail htodo) h.linksND (fun x n hm => Or.inl hm)
  · intro x
    have := cntS_set (y := some (o, true)) (o := x) (slot_get hs)
    -- the slot did not count before
    rw [if_neg (nofun : (some (o, false) : Slot) ≠ some (x, true))] at this
    simp only [Th.refs, htodo, cntDec, slot_counting_inj] at *
    omega
  · intro x; simp only [htodo, cntRel]

theorem inv_incNext {a b : Nat} {o n : Oid} {more : List Act}
    (htodo : th.todo = .incNext a b :: more) (hsa : slotOf th a = some (o, true)) (hsb : slotOf th b = some (n, true)) :
    Keeps t ({ c with obj := bump c n, links := (o, n) :: dropKey c.links o }, { th with todo := decNext (nextOf c.links o) ++ more }, evs) := by
  have ⟨hal, hc⟩ := h.slot_alive ht hsb
  have ⟨halo, _⟩ := h.slot_alive ht hsa
  refine inv_inc (l' := (o, n) :: dropKey c.links o) h ht hal ?_ (Or.inl ⟨rfl, hc⟩) ?_ ?_
    (nodup_cons_dropKey h.linksND o n) ?_
  · intro x
    have := cntL_dropKey h.linksND o x
    simp only [Th.refs, htodo, cntDec, cntDec_append, cntDec_decNext, cntL]
    omega
  · intro x; simp only [htodo, cntRel, cntRel_append, cntRel_decNext]; omega
  · intro x hx hs'
    rcases List.mem_append.mp hs' with hs' | hs'
    · exact absurd hs' (special_not_mem_decNext _ x hx)
    · rw [htodo]; exact List.mem_cons_of_mem _ hs'
  · intro x m hm
    rcases List.mem_cons.mp hm with he | hm
    · cases he; exact Or.inr halo
    · exact Or.inl (mem_dropKey.mp hm).1

theorem inv_incPop {a : Nat} {o n : Oid} {more : List Act}
    (htodo : th.todo = .incPop a :: more) (hsa : slotOf th a = some (o, true)) (hn : nextOf c.links o = some n) :
    Keeps t ({ c with obj := bump c n }, { th with slots := th.slots.set a (some (n, true)), todo := .dec o :: more }, evs) := by
  have hpos : 0 < refs c n := by have := cntL_pos (nextOf_mem hn); have := cntL_le_refs c n; omega
  have hal := h.alive n hpos
  have hc : 0 < (c.obj n).count := by rw [h.cnt n]; exact hpos
  refine inv_inc (l' := c.links) h ht hal ?_ (Or.inl ⟨rfl, hc⟩) ?_ ?_
    h.linksND (fun x m hm => Or.inl hm)
  · intro x
    have := cntS_set (y := some (n, true)) (o := x) (slot_get hsa)
    simp only [Th.refs, htodo, cntDec, slot_counting_inj] at *
    omega
  · intro x; simp only [htodo, cntRel]
  · intro x hx hs'
    rcases List.mem_cons.mp hs' with hs' | hs'
    · subst hs'; exact absurd hx id
    · rw [htodo]; exact List.mem_cons_of_mem _ hs'

theorem inv_dec_more {o : Oid} {act : Act} {more : List Act}
    (htodo : th.todo = act :: more) (hact : ∀ x, cntDec [act] x = if o = x then 1 else 0) (hactr : ∀ x, cntRel [act] x = 0) :
    Keeps t ({ c with obj := setObj c.obj o { c.obj o with count := (c.obj o).count - 1 } }, { th with todo := more }, evs) := by
  have hd : ∀ x, cntDec th.todo x = (if o = x then 1 else 0) + cntDec more x := by
    intro x; rw [htodo, cntDec_cons, hact]
  have ⟨hal, hc, hfr⟩ := h.alive_of_cntDec_pos ht (o := o) (by rw [hd]; simp; omega)
  exact inv_obj1 (l' := c.links) h ht h.pool
    (by intro x hx; simp [Th.refs, hd, hx])
    (by simp [Th.refs, hd]; omega)
    (Or.inl hal)
    (Or.inl ⟨rfl, fun _ => hc⟩)
    (Nat.le_refl _) ((h.objs o).count _)
    (by intro x; rw [aliveN_setObj_alive c.obj o { c.obj o with count := (c.obj o).count - 1 } rfl]
        simp only [htodo]; rw [cntRel_cons act more, hactr]; omega)
    (fun x hx hs => Or.inl (special_mem_tail htodo x hx hs))
    (fun _ hs => hs)
    h.linksND
    (fun x n hm => ⟨fun _ => hal, fun _ => Or.inl hm⟩)

/-- the last reference goes away: the object is released, its `next` member is given up (cascade: a pending decrement of
the target), a pooled object is queued for `ReleaseObjectAux`.  `v` is the payload left behind: 0 in a pool node, whatever
it was in a heap object. -/
theorem inv_dec_last {o : Oid} {more : List Act}
    (htodo : th.todo = .dec o :: more) (hz : (c.obj o).count - 1 = 0) (v : Nat) (hv : (c.obj o).mgr = true → v = 0) :
    Keeps t
      ({ c with
          obj := setObj c.obj o { c.obj o with count := 0, alive := false, mgr := false, val := v, rel := (c.obj o).rel + 1 }
          links := dropKey c.links o },
       { th with todo := decNext (nextOf c.links o) ++ ((if (c.obj o).mgr then [.release o] else []) ++ more) }, evs) := by
  have hd : ∀ x, cntDec th.todo x = (if o = x then 1 else 0) + cntDec more x := by
    intro x; rw [htodo]; simp [cntDec]
  have ⟨hal, hc, hfr⟩ := h.alive_of_cntDec_pos ht (o := o) (by rw [hd]; simp; omega)
  have htd : ∀ x, cntDec ((if (c.obj o).mgr then [Act.release o] else []) ++ more) x = cntDec more x := by
    intro x; cases (c.obj o).mgr <;> rfl
  have hbal : (c.obj o).acq = (c.obj o).rel + 1 + b2n false := by have := h.acq o; rw [hal] at this; exact this
  refine inv_obj1 (l' := dropKey c.links o) h ht h.pool ?_ ?_ (Or.inr rfl) (Or.inl ⟨rfl, fun _ => hc⟩) (Nat.le_refl _) ?_ ?_ ?_
    (fun _ hs => hs) (nodup_dropKey h.linksND o) ?_
  · intro x hx
    have := cntL_dropKey h.linksND o x
    simp only [Th.refs, hd, cntDec_append, cntDec_decNext, htd, hx, if_false]; omega
  · have := cntL_dropKey h.linksND o o
    simp only [Th.refs, hd, cntDec_append, cntDec_decNext, htd, if_true]; omega
  · cases o with
    | heap k => exact ⟨hbal, rfl, h.heapAcq k, fun hk => absurd rfl (hfr k hk)⟩
    | node s i => exact ⟨hbal, nofun, fun _ => ⟨hv (h.nodeMgr s i hal), rfl⟩⟩
  · intro x
    have : aliveN (fun _ => ({ c.obj o with count := 0, alive := false, mgr := false, val := v, rel := (c.obj o).rel + 1 } : Obj)) x = 0 := by
      cases x <;> rfl
    rw [aliveN_setObj, this]
    simp only [htodo, cntRel_append, cntRel_decNext, cntRel]
    split
    · next hx => subst hx; rw [h.aliveN_of_alive hal]; cases (c.obj o).mgr <;> simp [cntRel] <;> omega
    · next hx => cases (c.obj o).mgr <;> simp [cntRel, hx]
  · intro x hx hs
    rw [htodo]
    rcases List.mem_append.mp hs with hs | hs
    · exact absurd hs (special_not_mem_decNext _ x hx)
    · cases hm : (c.obj o).mgr <;> rw [hm] at hs
      · exact Or.inl (List.mem_cons_of_mem _ hs)
      · rcases List.mem_cons.mp hs with rfl | hs
        · exact absurd hx id
        · exact Or.inl (List.mem_cons_of_mem _ hs)
  · intro x n hm
    have ⟨h1, h2⟩ := mem_dropKey.mp hm
    exact ⟨fun e => absurd e h2, fun _ => Or.inl h1⟩

theorem inv_obtain {more : List Act} {p' : PoolSt} {g : Got}
    (htodo : th.todo = .obtain :: more) (hob : obtain c.pool = (p', g)) :
    Keeps t
      ({ c with
          pool := p'
          obj := setObj c.obj (.node g.sid g.idx)
            { c.obj (.node g.sid g.idx) with alive := true, mgr := true, acq := (c.obj (.node g.sid g.idx)).acq + 1 } },
       { th with raw := some (.node g.sid g.idx), todo := more }, evs) := by
  have hs := obtain_spec h.pool
  rw [hob] at hs
  obtain ⟨hp', hb0, hb1, hbo, hun⟩ := hs
  simp only at hp' hb0 hb1 hbo hun
  have ⟨hdead, hpr⟩ := h.dead_of_outBit_false hb0
  have hc0 := h.count_zero_of_dead hdead
  exact inv_obj1 (l' := c.links) (nh' := c.nextHeap) h ht hp'
    (by intro x _; simp [Th.refs, htodo, cntDec])
    (by simp [Th.refs, htodo, cntDec])
    (Or.inl rfl)
    (Or.inr (Or.inr ⟨rfl, hdead, rfl, hc0⟩))
    (Nat.le_refl _)
    ⟨by have := h.acq (.node g.sid g.idx); rw [hdead] at this; simp only [this]; rfl, fun _ => rfl, fun ha => by cases ha⟩
    (by
      intro x
      rw [aliveN_setObj]
      simp only [htodo, cntRel]
      split
      · next hx => subst hx; simp [aliveN, hdead, outBitO, hb0, hb1]; omega
      · next hx => rw [outBitO_other hbo hx])
    (fun x hx hs => Or.inl (special_mem_tail htodo x hx hs))
    hun
    h.linksND
    (fun x n hm => ⟨fun _ => rfl, fun _ => Or.inl hm⟩)

/-- what `ReleaseObject` queues for the slab `ReleaseObjectAux` handed back, if any -/
def delActs : Option Slab → List Act
  | some s => [.delSlab s]
  | none => []

theorem inv_release {sid i : Nat} {more : List Act} {p' : PoolSt} {del : Option Slab}
    (htodo : th.todo = .release (.node sid i) :: more) (hrl : release c.pool sid i = (p', del)) :
    Keeps t ({ c with pool := p' }, { th with todo := .unlocked :: (delActs del ++ more) }, evs) := by
  have hb : outBit c.pool sid i = true := by simpa [outBitO] using h.outBitO_of_release ht htodo
  have hs := release_spec h.pool hb
  rw [hrl] at hs
  obtain ⟨hp', hb1, hbo, hun, hdl⟩ := hs
  simp only at hp' hb1 hbo hun hdl
  have hnd : ∀ x, cntDec (.unlocked :: (delActs del ++ more)) x = cntDec more x := by
    intro x; cases del <;> simp [delActs, cntDec]
  have hnr : ∀ x, cntRel (.unlocked :: (delActs del ++ more)) x = cntRel more x := by
    intro x; cases del <;> simp [delActs, cntRel]
  refine inv_update (c1 := { c with pool := p' }) (th' := { th with todo := .unlocked :: (delActs del ++ more) })
    h ht rfl hp' ?_ h.alive_or ?_ (fun o ha hc => Or.inl ⟨ha, hc⟩) (fun o hr => Or.inl hr) h.objs ?_
    ?_ hun h.linksND h.linkAlive
  · intro x; have := hnd x; simp only [Th.refs, htodo, cntDec] at this ⊢; omega
  · intro x hx; exact h.rawAlive ht hx
  · intro x
    rw [hnr x]
    simp only [htodo]
    by_cases hx : Oid.node sid i = x
    · subst hx; simp [cntRel, outBitO, hb, hb1]; omega
    · simp [cntRel, hx, outBitO_other hbo hx]
  · intro x hx hs
    simp only [List.mem_cons, List.mem_append] at hs
    rcases hs with rfl | hs | hs
    · exact hx.elim
    · cases del with
      | none => cases hs
      | some s =>
        obtain rfl : x = .delSlab s := by simpa [delActs] using hs
        have ⟨h1, h2, h3⟩ := hdl s rfl
        exact Or.inr ⟨s, rfl, h1, h2 ▸ h3⟩
    · exact Or.inl (by rw [htodo]; exact List.mem_cons_of_mem _ hs)

/-- The branches of `doAct` that the model marks "never reached" keep `Inv` like any other (`inv_drop`: the action is dropped), so
they are carried along, not refuted: that a pending `incSlot a b` still finds its slots as the operation left them is not a
consequence of `Inv`, which does not relate the pending actions to the slots.  Two are refuted: `release (.heap _)`
(`Inv.outBitO_of_release`) and `incOld` (`Inv.noOld`). -/
theorem inv_doAct {act : Act} {more : List Act} (htodo : th.todo = act :: more) : Keeps t (doAct c th act more) := by
  unfold doAct
  cases act <;> simp only
  case dec o =>
    split
    · rename_i hz
      split
      · rename_i hm
        simpa [hm] using inv_dec_last (evs := [.reset o]) h ht htodo hz 0 fun _ => rfl
      · rename_i hm
        have hm : (c.obj o).mgr = false := by simpa using hm
        simpa [hm] using inv_dec_last (evs := [.deleted o]) h ht htodo hz (c.obj o).val fun hm' => by rw [hm] at hm'; cases hm'
    · exact inv_dec_more h ht htodo (fun x => by simp [cntDec]) (fun _ => rfl)
  case decNoDel o => exact inv_dec_more h ht htodo (fun x => by simp [cntDec]) (fun _ => rfl)
  case incSlot a b =>
    split
    · exact inv_drop h ht htodo (fun _ => rfl) (fun _ => rfl)
    · split
      · rename_i hg o ho
        exact inv_incInto h ht htodo (fun _ => rfl) (fun _ => rfl) (by omega) (h.slot_alive ht ho).1 (Or.inl ⟨rfl, (h.slot_alive ht ho).2⟩)
      · exact inv_drop h ht htodo (fun _ => rfl) (fun _ => rfl)
  case incRaw a =>
    split
    · exact inv_drop h ht htodo (fun _ => rfl) (fun _ => rfl)
    · split
      · rename_i hg o ho
        exact inv_incInto h ht htodo (fun _ => rfl) (fun _ => rfl) (by omega) (h.rawAlive ht ho).1 (Or.inr ⟨ho, rfl⟩)
      · exact inv_drop h ht htodo (fun _ => rfl) (fun _ => rfl)
  case incTmp b =>
    split
    · rename_i o ho; exact inv_incTmp h ht htodo ho
    · exact inv_drop h ht htodo (fun _ => rfl) (fun _ => rfl)
  case incSame a =>
    split
    · rename_i o ho
      split
      · rename_i hce; exact inv_incSame h ht htodo ho hce
      · exact inv_drop h ht htodo (fun _ => rfl) (fun _ => rfl)
    · exact inv_drop h ht htodo (fun _ => rfl) (fun _ => rfl)
  case incNext a b =>
    split
    · rename_i o n hoa hnb; exact inv_incNext h ht htodo hoa hnb
    · exact inv_drop h ht htodo (fun _ => rfl) (fun _ => rfl)
  case incPop a =>
    split
    · rename_i o ho
      split
      · rename_i n hn; exact inv_incPop h ht htodo ho hn
      · exact inv_drop h ht htodo (fun _ => rfl) (fun _ => rfl)
    · exact inv_drop h ht htodo (fun _ => rfl) (fun _ => rfl)
  case incOld a n => exact absurd (by rw [htodo]; simp) (h.noOld (a := a) (n := n) ht)
  case obtain =>
    rcases hob : obtain c.pool with ⟨p', g⟩
    exact inv_obtain h ht htodo hob
  case release o =>
    cases o with
    | heap k => exact absurd (h.outBitO_of_release ht htodo) (by simp [outBitO])
    | node sid i =>
      simp only
      generalize hrl : release c.pool sid i = r
      obtain ⟨p', del⟩ := r
      cases del <;> exact inv_release h ht htodo hrl
  case unlocked => exact inv_drop h ht htodo (fun _ => rfl) (fun _ => rfl)
  case delSlab s => exact inv_drop h ht htodo (fun _ => rfl) (fun _ => rfl)

end

end Muscle.Conc.RC
