import MuscleModel.Conc.ProofsPool
import MuscleModel.Base.Lists

/-!
# `ObtainObjectAux` / `ReleaseObjectAux` keep the pool invariant and flip exactly one `out` bit (lemmas for C10)

Both calls change the slab list in one of two ways: a slab is taken off (`eraseSlab`), or a slab is put on — at the front or
at the end, it does not matter — in place of the listed slab of the same identity, if there is one.
-/

namespace Muscle.Conc.Pool

/-- the ghost bit of node `i` of the listed slab `sid` -/
def outBit (p : PoolSt) (sid i : Nat) : Bool :=
  match p.slabs.find? (fun s => s.id = sid) with
  | some s => (s.nodes.getD i ⟨none, false⟩).out
  | none => false

/-- slab `sid` was allocated earlier and is no longer (or not yet again — identities are never reused) on the slab list -/
structure Unlisted (p : PoolSt) (sid : Nat) : Prop where
  old : sid < p.nextSlab
  absent : ∀ x ∈ p.slabs, x.id ≠ sid

def outOf (x : Slab) (i : Nat) : Bool := (x.nodes.getD i ⟨none, false⟩).out

/-- `outBit` as a function of the slab list, which is all the two calls change of it -/
def outBitL (l : List Slab) (sid i : Nat) : Bool :=
  match l.find? (fun s => s.id = sid) with
  | some s => outOf s i
  | none => false

theorem outBit_eq (p : PoolSt) (sid i : Nat) : outBit p sid i = outBitL p.slabs sid i := rfl

theorem outBitL_eval {l : List Slab} (hnd : (l.map (·.id)).Nodup) {x : Slab} (hx : x ∈ l) (i : Nat) :
    outBitL l x.id i = outOf x i := by
  simp only [outBitL, find_of_mem (key := Slab.id) hnd hx]

theorem outBitL_none {l : List Slab} {sid : Nat} (h : ∀ x ∈ l, x.id ≠ sid) (i : Nat) : outBitL l sid i = false := by
  have : l.find? (fun s => s.id = sid) = none := by
    rw [List.find?_eq_none]; intro x hx; simpa using h x hx
  simp only [outBitL, this]

theorem Unlisted.outBit_false {p : PoolSt} {sid : Nat} (h : Unlisted p sid) (i : Nat) : outBit p sid i = false :=
  outBitL_none h.absent i

theorem outBitL_congr {l l' : List Slab} (hnd : (l.map (·.id)).Nodup) (hnd' : (l'.map (·.id)).Nodup) {sid : Nat}
    (h : ∀ x, x.id = sid → (x ∈ l' ↔ x ∈ l)) (i : Nat) : outBitL l' sid i = outBitL l sid i := by
  by_cases hex : ∃ x ∈ l, x.id = sid
  · obtain ⟨x, hx, rfl⟩ := hex
    rw [outBitL_eval hnd' ((h x rfl).mpr hx), outBitL_eval hnd hx]
  · rw [outBitL_none (fun x hx he => hex ⟨x, hx, he⟩), outBitL_none (fun x hx he => hex ⟨x, (h x he).mp hx, he⟩)]

theorem outOf_of_get {x : Slab} {i : Nat} {nd : Node} (h : x.nodes[i]? = some nd) : outOf x i = nd.out := by
  simp [outOf, List.getD_eq_getElem?_getD, h]

theorem outOf_set {x y : Slab} {i : Nat} {v : Node} (hx : x.nodes = y.nodes.set i v) (hi : i < y.nodes.length) (j : Nat) :
    outOf x j = if i = j then v.out else outOf y j := by
  by_cases hij : i = j
  · subst hij; simp [outOf, hx, List.getD_eq_getElem?_getD, hi]
  · simp [outOf, hx, List.getD_eq_getElem?_getD, hij]

theorem mem_eraseSlab {l : List Slab} {sid : Nat} {x : Slab} : x ∈ eraseSlab l sid ↔ x ∈ l ∧ x.id ≠ sid := by
  simp [eraseSlab, List.mem_filter]

theorem nodup_eraseSlab {l : List Slab} (hnd : (l.map (·.id)).Nodup) (sid : Nat) : ((eraseSlab l sid).map (·.id)).Nodup :=
  List.Nodup.sublist (List.Sublist.map _ List.filter_sublist) hnd

theorem eraseSlab_eq_self {l : List Slab} {sid : Nat} (h : ∀ x ∈ l, x.id ≠ sid) : eraseSlab l sid = l :=
  List.filter_eq_self.mpr fun x hx => by simpa using h x hx

theorem eraseSlab_cons_self {s : Slab} {r : List Slab} (hnd : ((s :: r).map (·.id)).Nodup) : eraseSlab (s :: r) s.id = r := by
  have : eraseSlab (s :: r) s.id = eraseSlab r s.id := by simp [eraseSlab]
  rw [this]
  exact eraseSlab_eq_self fun x hx he => (List.nodup_cons.mp hnd).1 (List.mem_map.mpr ⟨x, hx, he⟩)

theorem freeCount_erase {N : Nat} {l : List Slab} (hnd : (l.map (·.id)).Nodup) {s : Slab} (hs : s ∈ l) :
    freeCount N (eraseSlab l s.id) + (N - s.inUse) = freeCount N l := by
  rw [← (adds_freeCount N).filter_key (·.id) hnd s.id, find_of_mem (key := Slab.id) hnd hs]; rfl

theorem outBitL_erase {l : List Slab} (hnd : (l.map (·.id)).Nodup) (sid0 sid j : Nat) :
    outBitL (eraseSlab l sid0) sid j = if sid = sid0 then false else outBitL l sid j := by
  split
  · next h => exact outBitL_none (fun x hx => h ▸ (mem_eraseSlab.mp hx).2) j
  · next h => exact outBitL_congr hnd (nodup_eraseSlab hnd _) (fun x hx => by rw [mem_eraseSlab, hx]; exact and_iff_left h) j

def Put (l : List Slab) (s' : Slab) (l' : List Slab) : Prop := l'.Perm (s' :: eraseSlab l s'.id)

theorem Put.mem {l l' : List Slab} {s' : Slab} (h : Put l s' l') {x : Slab} : x ∈ l' ↔ x = s' ∨ (x ∈ l ∧ x.id ≠ s'.id) := by
  rw [h.mem_iff, List.mem_cons, mem_eraseSlab]

theorem Put.nodup {l l' : List Slab} {s' : Slab} (h : Put l s' l') (hnd : (l.map (·.id)).Nodup) : (l'.map (·.id)).Nodup := by
  rw [(h.map _).nodup_iff, List.map_cons, List.nodup_cons]
  refine ⟨fun hm => ?_, nodup_eraseSlab hnd _⟩
  obtain ⟨x, hx, he⟩ := List.mem_map.mp hm
  exact (mem_eraseSlab.mp hx).2 he

theorem outBitL_put {l l' : List Slab} {s' : Slab} (h : Put l s' l') (hnd : (l.map (·.id)).Nodup) (sid j : Nat) :
    outBitL l' sid j = if sid = s'.id then outOf s' j else outBitL l sid j := by
  split
  · next he => rw [he]; exact outBitL_eval (h.nodup hnd) (h.mem.mpr (Or.inl rfl)) j
  · next hne =>
    refine outBitL_congr hnd (h.nodup hnd) (fun x hx => ?_) j
    rw [h.mem, hx]
    exact ⟨fun hm => hm.elim (fun e => absurd (e ▸ hx).symm hne) And.left, fun hm => Or.inr ⟨hm, hne⟩⟩

theorem PoolInv.put {p : PoolSt} (h : PoolInv p) {s' : Slab} {l' : List Slab} (hp : Put p.slabs s' l') (hok : SlabOK p.N s')
    {ns cur : Nat} (hns : p.nextSlab ≤ ns) (hid : s'.id < ns)
    (hcur : cur = freeCount p.N (eraseSlab p.slabs s'.id) + (p.N - s'.inUse)) :
    PoolInv { p with slabs := l', cur := cur, nextSlab := ns } := by
  refine ⟨h.npos, fun x hx => ?_, hp.nodup h.ids, fun x hx => ?_, ?_⟩
  · rcases hp.mem.mp hx with rfl | hx
    · exact hok
    · exact h.slabs x hx.1
  · rcases hp.mem.mp hx with rfl | hx
    · exact hid
    · exact Nat.lt_of_lt_of_le (h.old x hx.1) hns
  · simp only [(adds_freeCount _).perm hp, freeCount, hcur]; omega

theorem PoolInv.erase {p : PoolSt} (h : PoolInv p) (sid : Nat) {cur : Nat} (hcur : cur = freeCount p.N (eraseSlab p.slabs sid)) :
    PoolInv { p with slabs := eraseSlab p.slabs sid, cur := cur } :=
  ⟨h.npos, fun x hx => h.slabs x (mem_eraseSlab.mp hx).1, nodup_eraseSlab h.ids _, fun x hx => h.old x (mem_eraseSlab.mp hx).1, hcur⟩

theorem Unlisted.put {p : PoolSt} {sid : Nat} (h : Unlisted p sid) {s' : Slab} {l' : List Slab} (hp : Put p.slabs s' l')
    (hne : s'.id ≠ sid) {ns cur : Nat} (hns : p.nextSlab ≤ ns) : Unlisted { p with slabs := l', cur := cur, nextSlab := ns } sid :=
  ⟨Nat.lt_of_lt_of_le h.old hns, fun x hx => (hp.mem.mp hx).elim (fun e => e ▸ hne) fun hx => h.absent x hx.1⟩

structure ObtainSpec (p : PoolSt) (r : PoolSt × Got) : Prop where
  inv : PoolInv r.1
  wasFree : outBit p r.2.sid r.2.idx = false
  nowOut : outBit r.1 r.2.sid r.2.idx = true
  others : ∀ s i, ¬(s = r.2.sid ∧ i = r.2.idx) → outBit r.1 s i = outBit p s i
  unlisted : ∀ sid, Unlisted p sid → Unlisted r.1 sid

structure ReleaseSpec (p : PoolSt) (sid i : Nat) (r : PoolSt × Option Slab) : Prop where
  inv : PoolInv r.1
  nowFree : outBit r.1 sid i = false
  others : ∀ s j, ¬(s = sid ∧ j = i) → outBit r.1 s j = outBit p s j
  unlisted : ∀ x, Unlisted p x → Unlisted r.1 x
  deleted : ∀ s, r.2 = some s → s.inUse = 0 ∧ s.id = sid ∧ Unlisted r.1 sid

/-- a node is popped off slab `s` — a listed one, or a newly allocated one that is then not listed and has every bit clear —
and the slab is put on the list.  `hcur` says `cur = (free nodes of the other slabs) + (N - s.inUse) - 1` with every term moved to
the side where nothing is subtracted, so that one form serves the listed slab (`cur := p.cur - 1`) and the fresh one
(`cur := p.cur + N - 1`). -/
theorem pop_spec {p : PoolSt} (h : PoolInv p) {s s' : Slab} {l' : List Slab} {i ns cur : Nat} {fr : Bool}
    (hsok : SlabOK p.N s) (hpop : s.pop = some (i, s')) (hput : Put p.slabs s' l')
    (hs : (s ∈ p.slabs ∧ ns = p.nextSlab) ∨ (s.id = p.nextSlab ∧ ns = p.nextSlab + 1 ∧ ∀ j, outOf s j = false))
    (hcur : cur + 1 + s.inUse = freeCount p.N (eraseSlab p.slabs s.id) + p.N) :
    ObtainSpec p ({ p with slabs := l', cur := cur, nextSlab := ns }, ⟨s.id, i, fr⟩) := by
  obtain ⟨hs'ok, hinuse, hlt, hiN, hid, hnodes, nd, hnd, hout⟩ := pop_ok hsok hpop
  have hilen : i < s.nodes.length := by rw [hsok.len]; exact hiN
  have hns : p.nextSlab ≤ ns := by rcases hs with ⟨_, rfl⟩ | ⟨_, rfl, _⟩ <;> omega
  have hidlt : s.id < ns := by
    rcases hs with ⟨hm, rfl⟩ | ⟨he, rfl, _⟩
    · exact h.old s hm
    · omega
  have hbit : ∀ j, outBitL p.slabs s.id j = outOf s j := by
    intro j
    rcases hs with ⟨hm, _⟩ | ⟨he, _, hf⟩
    · exact outBitL_eval h.ids hm j
    · rw [hf, outBitL_none fun x hx => by have := h.old x hx; omega]
  refine ⟨h.put hput hs'ok hns (hid ▸ hidlt) (by rw [hid, hinuse]; omega), ?_, ?_, ?_, ?_⟩
  · rw [outBit_eq, hbit, outOf_of_get hnd, hout]
  · rw [outBit_eq, outBitL_put hput h.ids, if_pos hid.symm, outOf_set hnodes hilen, if_pos rfl]
  · intro sid j hne
    rw [outBit_eq, outBit_eq, outBitL_put hput h.ids, hid]
    split
    · next he => rw [he, outOf_set hnodes hilen, if_neg fun e => hne ⟨he, e.symm⟩, hbit]
    · rfl
  · intro sid hu
    refine hu.put hput ?_ hns
    rw [hid]
    rcases hs with ⟨hm, _⟩ | ⟨he, _⟩
    · exact hu.absent s hm
    · have := hu.old; omega

theorem pop_newSlab {N : Nat} (hN : 0 < N) (id : Nat) : ∃ i s', (newSlab N id).pop = some (i, s') := by
  simp only [Slab.pop, newSlab]
  have : ¬ N = 0 := by omega
  simp [this]

theorem outOf_newSlab (N id j : Nat) : outOf (newSlab N id) j = false := by
  simp only [outOf, List.getD_eq_getElem?_getD]
  cases hg : (newSlab N id).nodes[j]? with
  | none => rfl
  | some nd => exact (newSlab_out hg).1

theorem fresh_spec {p : PoolSt} (h : PoolInv p) : ObtainSpec p (obtainFresh p) := by
  obtain ⟨i, s', hp⟩ := pop_newSlab h.npos p.nextSlab
  have hid : s'.id = p.nextSlab := (pop_ok (newSlab_ok p.N p.nextSlab) hp).id
  have her : eraseSlab p.slabs p.nextSlab = p.slabs := eraseSlab_eq_self fun x hx => Nat.ne_of_lt (h.old x hx)
  unfold obtainFresh
  simp only [hp]
  refine pop_spec h (newSlab_ok p.N p.nextSlab) hp ?_ (Or.inr ⟨rfl, rfl, outOf_newSlab _ _⟩) ?_
  · unfold Put
    rw [hid, her]
    split
    · exact List.Perm.refl _
    · exact List.perm_append_singleton _ _
  · have := h.cur; have := h.npos
    show p.cur + p.N - 1 + 1 + 0 = freeCount p.N (eraseSlab p.slabs p.nextSlab) + p.N
    rw [her]; omega

theorem obtain_spec {p : PoolSt} (h : PoolInv p) : ObtainSpec p (obtain p) := by
  unfold obtain
  cases hsl : p.slabs with
  | nil => exact fresh_spec h
  | cons s rest =>
    simp only
    cases hp : s.pop with
    | none => exact fresh_spec h
    | some pr =>
      obtain ⟨i, s'⟩ := pr
      simp only
      have hsm : s ∈ p.slabs := hsl ▸ List.mem_cons_self ..
      have hnd := h.ids
      rw [hsl] at hnd
      have her : eraseSlab p.slabs s.id = rest := hsl ▸ eraseSlab_cons_self hnd
      have hid : s'.id = s.id := (pop_ok (h.slabs s hsm) hp).id
      refine pop_spec h (h.slabs s hsm) hp ?_ (Or.inl ⟨hsm, rfl⟩) ?_
      · unfold Put
        rw [hid, her]
        split
        · exact List.perm_append_singleton _ _
        · exact List.Perm.refl _
      · have hc := h.cur; have := (pop_ok (h.slabs s hsm) hp).room
        rw [hsl] at hc
        rw [her]; simp only [freeCount] at hc; omega

theorem release_spec {p : PoolSt} (h : PoolInv p) {sid i : Nat} (hout : outBit p sid i = true) :
    ReleaseSpec p sid i (release p sid i) := by
  cases hf : p.slabs.find? (fun s => s.id = sid) with
  | none => rw [outBit_eq] at hout; simp [outBitL, hf] at hout
  | some s =>
    have hsmem : s ∈ p.slabs := List.mem_of_find?_eq_some hf
    obtain rfl : s.id = sid := by simpa using List.find?_some hf
    have hso : outOf s i = true := by rw [outBit_eq] at hout; simpa [outBitL, hf] using hout
    obtain ⟨nd, hnd, hndo⟩ : ∃ nd, s.nodes[i]? = some nd ∧ nd.out = true := by
      simp only [outOf, List.getD_eq_getElem?_getD] at hso
      cases hg : s.nodes[i]? with
      | none => rw [hg] at hso; simp at hso
      | some nd => rw [hg] at hso; exact ⟨nd, rfl, by simpa using hso⟩
    obtain ⟨hpok, hpin, hle⟩ := push_ok (h.slabs s hsmem) hnd hndo
    have hilen : i < s.nodes.length := (List.getElem?_eq_some_iff.mp hnd).1
    have hpnodes : (s.push i).nodes = s.nodes.set i ⟨s.first, false⟩ := rfl
    have hfc := freeCount_erase (N := p.N) h.ids hsmem
    have hcur := h.cur
    unfold release
    simp only [hf]
    split
    · -- the slab is unlisted and handed to the caller for deletion
      next hc =>
      refine ⟨h.erase s.id (by omega), ?_, ?_, ?_, ?_⟩
      · rw [outBit_eq, outBitL_erase h.ids, if_pos rfl]
      · intro sid j hne
        rw [outBit_eq, outBit_eq, outBitL_erase h.ids]
        split
        · next he =>
          -- no node of the slab is in use any more, so `i` was the only one
          have hpj : outOf (s.push i) j = false := by
            simp only [outOf, List.getD_eq_getElem?_getD]
            cases hg : (s.push i).nodes[j]? with
            | none => rfl
            | some nd' => exact outCount_zero (by rw [← hpok.cnt]; exact hc.2) hg
          rw [he, outBitL_eval h.ids hsmem, ← hpj, outOf_set hpnodes hilen, if_neg fun e => hne ⟨he, e.symm⟩]
        · rfl
      · intro x hu
        exact ⟨hu.old, fun y hy => hu.absent y (mem_eraseSlab.mp hy).1⟩
      · intro s1 hs1
        cases hs1
        exact ⟨hc.2, rfl, h.old s hsmem, fun x hx => (mem_eraseSlab.mp hx).2⟩
    · -- the slab stays (moved to the front of the list)
      have hput : Put p.slabs (s.push i) (s.push i :: eraseSlab p.slabs s.id) := List.Perm.refl _
      refine ⟨h.put hput hpok (Nat.le_refl _) (h.old s hsmem) (by show p.cur + 1 = freeCount p.N (eraseSlab p.slabs s.id) + (p.N - (s.push i).inUse); omega), ?_, ?_, ?_, ?_⟩
      · rw [outBit_eq, outBitL_put hput h.ids, if_pos (show s.id = (s.push i).id from rfl), outOf_set hpnodes hilen, if_pos rfl]
      · intro sid j hne
        rw [outBit_eq, outBit_eq, outBitL_put hput h.ids]
        split
        · next he => rw [he, outOf_set hpnodes hilen, if_neg fun e => hne ⟨he, e.symm⟩]; exact (outBitL_eval h.ids hsmem j).symm
        · rfl
      · intro x hu
        exact hu.put hput (hu.absent s hsmem) (Nat.le_refl _)
      · intro s1 hs1; cases hs1

end Muscle.Conc.Pool
