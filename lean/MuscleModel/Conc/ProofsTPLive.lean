import MuscleModel.Conc.ProofsTPDisciplined
import MuscleModel.Conc.ProofsTPUser
import MuscleModel.Conc.ProofsTPRank

/-! # C19 proofs: all progress invariants together; deadlock freedom, bounded runs of the shutdown phase -/

namespace Muscle.Conc.TP
open Muscle.Conc

structure InvLive (c : Cfg) : Prop extends InvAll c where
  invU : InvU c
  owned : ShutdownOwned c

theorem invLive_step {c c' : Cfg} {e : Ev} {o} (h : InvLive c) (hs : step c e = some (c', o)) : InvLive c' := by
  have hall := invAll_step h.toInvAll hs
  have hb := h.toInvBase
  rcases step_cases hs with ⟨t, _, _, hu⟩ | ⟨T, _, hps⟩
  · exact ⟨hall, invU_ustep h.invU hb h.disc hu, shutdownOwned_ustep h.owned h.invU hb hu⟩
  · have hv := hps.outside.view
    exact ⟨hall, invU_userView h.invU hv, shutdownOwned_userView h.owned hv⟩

theorem invLive_init (maxT : Nat) (regs : List Client) (progs : List (List Op)) (hd : Disciplined progs) (hn : NoRegIfShutdown progs) :
    InvLive (Cfg.init maxT regs progs) := by
  have hu := init_uth_prog maxT regs progs
  refine ⟨invAll_init maxT regs progs hd, ⟨fun hh t k => ?_, fun t k h => ?_⟩, fun h => ?_⟩
  · rcases hh with ⟨t0, h⟩ | h
    · rw [(hu t0).1] at h; rw [(hu t).1]; exact hn t0 h t k
    · simp [Cfg.init, Pool.init] at h
  · rcases (hu t).2.2 with h' | h' <;> (rw [h'] at h; cases h)
  · simp [Cfg.init, Pool.init] at h

theorem reach_invLive {maxT regs progs c} (hd : Disciplined progs) (hn : NoRegIfShutdown progs)
    (h : machine.Reach (Cfg.init maxT regs progs) c) : InvLive c :=
  Machine.Reach.invariant machine InvLive (invLive_init maxT regs progs hd hn) (fun _ _ _ _ hi hs => invLive_step hi hs) h

theorem pool_enabled {c : Cfg} (hp : InvP c) (T : PTid)
    (h : (c.pth T).pc = .start ∨ (c.pth T).pc = .idle ∧ (c.pth T).inbox ≠ [] ∨ (c.pth T).pc = .handler ∨ ∃ k, (c.pth T).pc = .finLock k) :
    ∃ e r, step c e = some r := by
  refine ⟨.run (c.nU + T), ?_⟩
  rw [step_pool_event]
  refine stepPool_enabled ?_
  rcases h with h | h | h | h
  · exact Or.inl h
  · exact Or.inr (Or.inl h)
  · exact Or.inr (Or.inr (Or.inl ⟨h, (hp.tok T).handlerBatch h⟩))
  · exact Or.inr (Or.inr (Or.inr h))

theorem server_enabled {c : Cfg} (hp : InvP c) (T : PTid) (h : (c.pth T).cur ≠ none ∨ ∃ k, (c.pth T).pc = .finLock k) :
    ∃ e r, step c e = some r := by
  refine pool_enabled hp T ?_
  rcases h with h | h
  · obtain ⟨k, hk⟩ := Option.ne_none_iff_exists'.1 h
    rcases (hp.tok T).curBusy k hk with h1 | ⟨h1 | h1, h2⟩
    · exact Or.inr (Or.inr (Or.inl h1))
    · exact Or.inl h1
    · exact Or.inr (Or.inl ⟨h1, fun hn => by rw [hn] at h2; cases h2⟩)
  · exact Or.inr (Or.inr (Or.inr h))

/-- the thread that can step is `t` itself, or the pool thread it is joining in `Shutdown` (`JoinsEnding`) -/
theorem user_progress {c : Cfg} (h : InvBase c) (t : Tid) (ht : t < c.nU) :
    (∃ e r, step c e = some r) ∨ (c.uth t).pc = .done ∨ ∃ k, (c.uth t).pc = .unregWait k ∧ (c.uth t).notif = 0 := by
  cases hst : stepUser c t with
  | some r => exact Or.inl ⟨.run t, r, by rw [step_user_event c t ht]; exact hst⟩
  | none =>
    rcases stepUser_none c t hst with h1 | ⟨h1, h2⟩ | h1 | ⟨b, nA, tot, n, T, r, h1, hne⟩
    · exact Or.inr (Or.inl h1)
    · exact absurd h2 ((h.wf t).2 h1)
    · exact Or.inr (Or.inr h1)
    · obtain ⟨a1, _, a3⟩ := h.joins t b nA tot n T r h1
      have hq := a3.resolve_left hne
      refine Or.inl (pool_enabled h.invP T ?_)
      cases hpc : (c.pth T).pc with
      | unborn => exact absurd hpc ((h.invP.tok T).born a1)
      | exited => exact absurd hpc hne
      | start => exact Or.inl rfl
      | idle => exact Or.inr (Or.inl ⟨rfl, List.ne_nil_of_mem hq⟩)
      | handler => exact Or.inr (Or.inr (Or.inl rfl))
      | finLock k => exact Or.inr (Or.inr (Or.inr ⟨_, rfl⟩))

theorem live_progress {c : Cfg} (h : InvLive c) (hm : 1 ≤ c.p.maxT) (t : Tid) (ht : t < c.nU) (hnd : (c.uth t).pc ≠ .done) :
    ∃ e r, step c e = some r := by
  rcases user_progress h.toInvBase t ht with hst | h1 | ⟨k, h1, h2⟩
  · exact hst
  · exact absurd h1 hnd
  · -- `t` waits in `UnregisterClient(k)`: who owes it the notification?
    obtain ⟨hkw, _⟩ := h.invU.waiter t k h1 h2
    cases hsh : c.p.shut with
    | false =>
      cases hf : c.p.flag k with
      | true =>
        -- the pool thread that serves `k`
        obtain ⟨T, hT⟩ := h.settled.flagged hsh k hf
        exact server_enabled h.invP T (hT.imp (fun e hn => by rw [e] at hn; cases hn) (fun e => ⟨k, e⟩))
      | false =>
        -- `k` has Messages pending, so all pool threads are busy, and there is one
        have hpn : c.p.pend k ≠ [] :=
          (((outstanding_eq_true_iff _ _).1 (h.settled.waiters k hkw)).resolve_left (by rw [hf]; nofun)).resolve_right
            (fun hd => hd (h.inv1.defrFlag k hf))
        obtain ⟨_, hb⟩ := h.settled.full hsh k hpn
        cases hact : c.p.active with
        | nil => rw [hact] at hb; exact absurd (Nat.le_trans hm hb) (by simp)
        | cons T rest => exact server_enabled h.invP T ((h.invP.tok T).activeBusy hsh (hact ▸ List.mem_cons_self))
    | true =>
      -- the thread inside `Shutdown`, which will notify every waiter in its last section; or that section has run and no waiter is left (`ShutdownOwned`)
      rcases h.owned hsh with ⟨t', ht'⟩ | ⟨_, hw⟩
      · have hlt' : t' < c.nU := Nat.lt_of_not_le (fun hle => by rw [h.beyond t' hle] at ht'; cases ht')
        rcases user_progress h.toInvBase t' hlt' with hst | g1 | ⟨_, g1, _⟩
        · exact hst
        · rw [g1] at ht'; cases ht'
        · rw [g1] at ht'; cases ht'
      · rw [hw] at hkw; cases hkw

inductive Steps : Nat → Cfg → Cfg → Prop where
  | zero (c : Cfg) : Steps 0 c c
  | succ {n : Nat} {c c1 c2 : Cfg} {e : Ev} {o : List Out} : step c e = some (c1, o) → Steps n c1 c2 → Steps (n + 1) c c2

/-- every run that starts after `Shutdown` has begun is finite -/
theorem steps_bounded {n : Nat} {c c' : Cfg} (h : InvLive c) (hsh : c.p.shut = true) (hs : Steps n c c') :
    rank c' + n ≤ rank c ∧ c'.p.shut = true ∧ InvLive c' ∧ c'.p.maxT = c.p.maxT := by
  induction hs with
  | zero c => exact ⟨Nat.le_refl _, hsh, h, rfl⟩
  | succ hst _ ih =>
    obtain ⟨h1, h2⟩ := rank_decreases h.invP hsh hst
    obtain ⟨i1, i2, i3, i4⟩ := ih (invLive_step h hst) h2
    exact ⟨by omega, i2, i3, i4.trans (step_maxT hst)⟩

end Muscle.Conc.TP
