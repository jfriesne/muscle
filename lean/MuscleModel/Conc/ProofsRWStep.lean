import MuscleModel.Conc.ProofsRWSafety

/-!
# `ReaderWriterMutex`: the interleaving machine step by step

What an enabled event of `RW.machine` produces (`stepRun_eq`, `stepTimeout_spec`), what each critical section can
return, and the facts about one section that C18's single-step theorems (try, timed, writer preference) rest on.
-/

namespace Muscle.Conc.RW
open Muscle.Conc

@[simp] theorem nextOp_fields (th : Th) : (nextOp th).ctx = th.ctx ∧ (nextOp th).hr = th.hr ∧ (nextOp th).hw = th.hw := by
  unfold nextOp; split <;> simp

@[simp] theorem account_fields (th : Th) (st : St) : (account th st).ctx = th.ctx ∧ (account th st).cur = th.cur := by
  unfold account; (repeat' split) <;> simp

/-- where `finish` leaves a thread `th` with upgrade activations `ctx`: the API call has returned, or an enclosing
activation goes on to its next stage by calling `UnlockReadOnly()`, `LockReadWriteAux()` or the untimed `LockReadOnly()` -/
def FinishedAs (ctx : List Upg) (th th' : Th) : Prop :=
  (∃ st, th' = nextOp (account { th with ctx := [] } st)) ∨
  (∃ u rest sg pc, u :: rest <:+ ctx ∧ (pc = .uR ∨ pc = .wStart u.m ∨ pc = .rStart .block) ∧
    th' = { th with ctx := { u with stage := sg } :: rest, pc := pc })

theorem FinishedAs.cons {ctx : List Upg} {th th' : Th} (h : FinishedAs ctx th th') (u : Upg) : FinishedAs (u :: ctx) th th' :=
  h.imp_right fun ⟨v, r, sg, pc, hs, h⟩ => ⟨v, r, sg, pc, hs.trans (List.suffix_cons u ctx), h⟩

theorem finish_cases (ctx : List Upg) (th : Th) (st : St) : FinishedAs ctx th (finish ctx th st).1 := by
  induction ctx generalizing st with
  | nil => exact .inl ⟨st, rfl⟩
  | cons u rest ih =>
    have here : ∀ sg pc, pc = .uR ∨ pc = .wStart u.m ∨ pc = .rStart .block →
        FinishedAs (u :: rest) th { th with ctx := { u with stage := sg } :: rest, pc := pc } :=
      fun sg pc hpc => .inr ⟨u, rest, sg, pc, List.suffix_refl _, hpc, rfl⟩
    simp only [finish]
    split
    · split
      · exact (ih _).cons u
      · split
        · exact here _ _ (.inl rfl)
        · exact here _ _ (.inr (.inl rfl))
    · split
      · exact (ih _).cons u
      · exact here _ _ (.inr (.inr rfl))
    · split
      · exact (ih _).cons u
      · split
        · exact here _ _ (.inr (.inr rfl))
        · exact (ih _).cons u

@[simp] theorem applyRes_mx (c : Cfg) (t : Tid) (s' : Mx) (r : Res) (w : Pc) (m : Mode) : (applyRes c t s' r w m).1.mx = s' := by
  unfold applyRes; (repeat' split) <;> rfl

theorem applyRes_self (c : Cfg) (t : Tid) (s' : Mx) (r : Res) (w : Pc) (m : Mode) :
    (applyRes c t s' r w m).1.th t =
      match r with
      | .done st => (finish (c.th t).ctx (c.th t) st).1
      | .wait => { c.th t with pc := w }
      | .upgrade n =>
        if n = 0 then { c.th t with ctx := { n := 0, m := m, stage := .lock } :: (c.th t).ctx, pc := .wStart m }
        else { c.th t with ctx := { n := n, m := m, stage := .drop n } :: (c.th t).ctx, pc := .uR } := by
  unfold applyRes; (repeat' split) <;> simp_all

theorem applyRes_others (c : Cfg) (t : Tid) (s' : Mx) (r : Res) (w : Pc) (m : Mode) {u : Tid} (hu : u ≠ t) :
    (applyRes c t s' r w m).1.th u = c.th u := by
  unfold applyRes; (repeat' split) <;> simp [hu]

theorem applyRes_done_eq (c : Cfg) (t : Tid) (s' : Mx) (st : St) (w : Pc) (m : Mode) (hctx : (c.th t).ctx = []) :
    applyRes c t s' (.done st) w m = ((applyRes c t s' (.done st) w m).1, some st) := by
  unfold applyRes; simp [hctx, finish]

@[simp] theorem applyRes_wait_out (c : Cfg) (t : Tid) (s' : Mx) (w : Pc) (m : Mode) : (applyRes c t s' .wait w m).2 = none := rfl

@[simp] theorem applyRes_upgrade_out (c : Cfg) (t : Tid) (s' : Mx) (n : Nat) (w : Pc) (m : Mode) :
    (applyRes c t s' (.upgrade n) w m).2 = none := by
  unfold applyRes; simp only; split <;> rfl

/-- where a call waits (`applyRes` goes there on `.wait`; an unlock never does) -/
def Op.waitPc : Op → Pc
  | .lockR m => .rWait m
  | .lockW m => .wWait m
  | .unlockR => .uR
  | .unlockW => .uW

def Op.mode : Op → Mode
  | .lockR m | .lockW m => m
  | _ => .block

/-- what an enabled `run` event produces, by program counter (at `.done` none is enabled: the last line only makes the
match total) -/
theorem stepRun_eq {c : Cfg} {t : Tid} {x : Cfg × Option St} (h : stepRun c t = some x) :
    x = match (c.th t).pc with
      | .rStart m => applyRes c t (lockRStart c.mx t m).1 (lockRStart c.mx t m).2 (.rWait m) m
      | .rWoke m b => applyRes c t (lockRWoke c.mx t b).1 (lockRWoke c.mx t b).2 (.rWait m) m
      | .wStart m => applyRes c t (lockWStart c.mx t m).1 (lockWStart c.mx t m).2 (.wWait m) m
      | .wWoke m b => applyRes c t (lockWWoke c.mx t b).1 (lockWWoke c.mx t b).2 (.wWait m) m
      | .uR => applyRes c t (unlockR c.mx t).1 (.done (unlockR c.mx t).2) .uR .block
      | .uW => applyRes c t (unlockW c.mx t).1 (.done (unlockW c.mx t).2) .uW .block
      | .rWait m => ({ mx := flushWC c.mx t, th := upd c.th t { c.th t with pc := .rWoke m true } }, none)
      | .wWait m => ({ mx := flushWC c.mx t, th := upd c.th t { c.th t with pc := .wWoke m true } }, none)
      | .done => (c, none) := by
  unfold stepRun at h
  cases hpc : (c.th t).pc <;> simp only [hpc] at h ⊢
  case done => cases h
  case rWait | wWait => split at h <;> cases h; rfl
  all_goals exact (Option.some.inj h).symm

theorem stepRun_not_done {c : Cfg} {t : Tid} {x : Cfg × Option St} (h : stepRun c t = some x) : (c.th t).pc ≠ .done := by
  intro hpc; simp [stepRun, hpc] at h

theorem stepTimeout_spec {c c' : Cfg} {t : Tid} {o : Option St} (h : stepTimeout c t = some (c', o)) :
    c.mx.pend t = 0 ∧ o = none ∧ c'.mx = c.mx ∧
    (((c.th t).pc = .rWait .timed ∧ c'.th = upd c.th t { c.th t with pc := .rWoke .timed false }) ∨
     ((c.th t).pc = .wWait .timed ∧ c'.th = upd c.th t { c.th t with pc := .wWoke .timed false })) := by
  unfold stepTimeout at h
  cases hpc : (c.th t).pc with
  | rWait m =>
    cases m <;> simp [hpc] at h
    obtain ⟨hp, rfl, rfl⟩ := h
    simp [hp]
  | wWait m =>
    cases m <;> simp [hpc] at h
    obtain ⟨hp, rfl, rfl⟩ := h
    simp [hp]
  | _ => simp [hpc] at h

theorem lockRStart_try (s : Mx) (t : Tid) :
    ∃ st, (lockRStart s t .try_).2 = .done st ∧ (st ≠ .ok → (lockRStart s t .try_).1 = s) := by
  rcases lockRStart_cases s t .try_ with ⟨_, e⟩ | ⟨_, e⟩ | ⟨_, e⟩ | ⟨h, _⟩ <;> simp_all

/-- also a `TryLockReadWrite()` in the upgrade situation: the code (since /repo commit d881489) returns `B_TIMED_OUT`
before any read lock is dropped -/
theorem lockWStart_try (s : Mx) (t : Tid) :
    ∃ st, (lockWStart s t .try_).2 = .done st ∧ (st ≠ .ok → (lockWStart s t .try_).1 = s) := by
  rcases lockWStart_cases s t .try_ with ⟨_, e⟩ | ⟨_, e⟩ | ⟨h, _⟩ | ⟨_, e⟩ | ⟨_, e⟩ | ⟨h, _⟩ <;> simp_all

theorem lockRStart_no_upgrade (s : Mx) (t : Tid) (m : Mode) (n : Nat) : (lockRStart s t m).2 ≠ .upgrade n := by
  rcases lockRStart_cases s t m with ⟨_, e⟩ | ⟨_, e⟩ | ⟨_, e⟩ | ⟨_, e⟩ <;> simp [e]

theorem lockWStart_no_upgrade {s : Mx} {t : Tid} (m : Mode) (n : Nat) (ht : t ∉ s.exec) : (lockWStart s t m).2 ≠ .upgrade n := by
  rcases lockWStart_cases s t m with ⟨_, e⟩ | ⟨_, e⟩ | ⟨h, _⟩ | ⟨_, e⟩ | ⟨_, e⟩ | ⟨_, e⟩ <;> simp_all

theorem lockRWoke_no_upgrade (s : Mx) (t : Tid) (b : Bool) (n : Nat) : (lockRWoke s t b).2 ≠ .upgrade n := by
  rcases lockRWoke_cases s t b with ⟨_, _, _, e⟩ | ⟨_, e⟩ | ⟨_, e⟩ <;> simp [e]

theorem lockWWoke_no_upgrade (s : Mx) (t : Tid) (b : Bool) (n : Nat) : (lockWWoke s t b).2 ≠ .upgrade n := by
  rcases lockWWoke_cases s t b with ⟨_, _, _, e⟩ | ⟨_, e⟩ | ⟨_, e⟩ <;> simp [e]

/-- the untimed `LockReadOnly()` fails only by timing out, which it cannot -/
theorem lockRStart_block_ok {s : Mx} {t : Tid} {st : St} (h : (lockRStart s t .block).2 = .done st) : st = .ok := by
  rcases lockRStart_cases s t .block with ⟨_, e⟩ | ⟨_, e⟩ | ⟨_, e⟩ | ⟨_, e⟩ <;> simp_all

theorem lockRWoke_true_ok {s : Mx} {t : Tid} {st : St} (h : (lockRWoke s t true).2 = .done st) : st = .ok := by
  rcases lockRWoke_cases s t true with ⟨_, _, _, e⟩ | ⟨_, e⟩ | ⟨_, e⟩ <;> simp_all

theorem lockWStart_upgrade {s : Mx} {t : Tid} {m : Mode} {n : Nat} (h : (lockWStart s t m).2 = .upgrade n) :
    n = s.ro t ∧ t ∈ s.exec ∧ s.rw t = 0 ∧ m ≠ .try_ := by
  rcases lockWStart_cases s t m with ⟨_, e⟩ | ⟨_, e⟩ | ⟨_, e⟩ | ⟨_, e⟩ | ⟨_, e⟩ | ⟨_, e⟩ <;> simp_all

theorem unlockR_ok_iff (s : Mx) (t : Tid) : (unlockR s t).2 = .ok ↔ t ∈ s.exec ∧ s.ro t > 0 := by
  rcases unlockR_cases s t with ⟨hc, e⟩ | ⟨ht, hro, hok, _⟩
  · rw [e]; exact ⟨nofun, fun ⟨h1, h2⟩ => hc.elim (absurd h1) (by omega)⟩
  · exact ⟨fun _ => ⟨ht, hro⟩, fun _ => hok⟩

theorem unlockW_ok_iff (s : Mx) (t : Tid) : (unlockW s t).2 = .ok ↔ t ∈ s.exec ∧ s.rw t > 0 := by
  rcases unlockW_cases s t with ⟨hc, e⟩ | ⟨ht, hrw, hok, _⟩
  · rw [e]; exact ⟨nofun, fun ⟨h1, h2⟩ => hc.elim (absurd h1) (by omega)⟩
  · exact ⟨fun _ => ⟨ht, hrw⟩, fun _ => hok⟩

theorem unlockR_failed {s : Mx} {t : Tid} (h : (unlockR s t).2 ≠ .ok) : (unlockR s t).1 = s := by
  rcases unlockR_cases s t with ⟨_, e⟩ | ⟨_, _, hok, _⟩
  · rw [e]
  · exact absurd hok h

theorem unlockW_failed {s : Mx} {t : Tid} (h : (unlockW s t).2 ≠ .ok) : (unlockW s t).1 = s := by
  rcases unlockW_cases s t with ⟨_, e⟩ | ⟨_, _, hok, _⟩
  · rw [e]
  · exact absurd hok h

theorem try_step {c : Cfg} {t : Tid} (hpc : (c.th t).pc = .rStart .try_ ∨ (c.th t).pc = .wStart .try_)
    (hctx : (c.th t).ctx = []) : ∃ c' st, machine.step c (.run t) = some (c', some st) ∧ (st ≠ .ok → c'.mx = c.mx) := by
  show ∃ c' st, stepRun c t = some (c', some st) ∧ _
  unfold stepRun
  rcases hpc with hpc | hpc <;> simp only [hpc]
  · obtain ⟨st, hr, hs⟩ := lockRStart_try c.mx t
    exact ⟨_, st, by rw [hr, applyRes_done_eq _ _ _ _ _ _ hctx], by simpa using hs⟩
  · obtain ⟨st, hr, hs⟩ := lockWStart_try c.mx t
    exact ⟨_, st, by rw [hr, applyRes_done_eq _ _ _ _ _ _ hctx], by simpa using hs⟩

/-- a thread that is not executing becomes a reader only while `IsOkayForReaderThreadsToExecuteNow()` holds: through
`LockReadWriteAux` it enters with a write count, and an unlock admits nobody -/
theorem reader_admitted {c : Cfg} {t : Tid} {x : Cfg × Option St} (ht : t ∉ c.mx.exec) (h : stepRun c t = some x)
    (hin : t ∈ x.1.mx.exec) (hr : x.1.mx.rw t = 0) : okReaders c.mx = true := by
  rw [stepRun_eq h] at hin hr
  cases hpc : (c.th t).pc <;> simp only [hpc, applyRes_mx] at hin hr
  case rStart m => rcases lockRStart_cases c.mx t m with ⟨_, e⟩ | ⟨_, e⟩ | ⟨_, e⟩ | ⟨_, e⟩ <;> simp_all [obtainWC]
  case rWoke m b => rcases lockRWoke_cases c.mx t b with ⟨_, _, _, e⟩ | ⟨_, e⟩ | ⟨_, e⟩ <;> simp_all [releaseWC]
  case wStart m =>
    rcases lockWStart_cases c.mx t m with ⟨_, e⟩ | ⟨_, e⟩ | ⟨_, e⟩ | ⟨_, e⟩ | ⟨_, e⟩ | ⟨_, e⟩ <;> simp_all [obtainWC]
  case wWoke m b => rcases lockWWoke_cases c.mx t b with ⟨_, _, _, e⟩ | ⟨_, e⟩ | ⟨_, e⟩ <;> simp_all [releaseWC]
  case uR =>
    rcases unlockR_cases c.mx t with ⟨_, e⟩ | ⟨_, _, _, p, e⟩ <;> rw [e] at hin
    · exact absurd hin ht
    · exact absurd (mem_of_mem_eraseIf hin) ht
  case uW =>
    rcases unlockW_cases c.mx t with ⟨_, e⟩ | ⟨_, _, _, p, e⟩ <;> rw [e] at hin
    · exact absurd hin ht
    · exact absurd (mem_of_mem_eraseIf hin) ht
  all_goals exact absurd hin ht

end Muscle.Conc.RW
