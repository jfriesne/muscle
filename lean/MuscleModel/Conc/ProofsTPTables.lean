import MuscleModel.Conc.ProofsTPFrame

/-! # C19 proofs: the tables of the pool are well formed (`Inv0`), for ALL programs, no client discipline needed

At the end, resting on `Inv0` alone: the rule by which every later invariant is carried through `DispatchPendingMessagesUnsafe` (`dispatch_rule`). -/

namespace Muscle.Conc.TP
open Muscle.Conc

/-- a pool thread is *serving* client k: it owns k's batch, or is on its way to hand k back -/
def serving (c : Cfg) (T : PTid) (k : Client) : Prop := (c.pth T).cur = some k ∨ (c.pth T).pc = .finLock k

theorem serving_upd {c c' : Cfg} {T : PTid} {th' : PTh} (ht : c'.pth = upd c.pth T th') (T' : PTid) (k : Client) :
    serving c' T' k ↔ if T' = T then th'.cur = some k ∨ th'.pc = .finLock k else serving c T' k := by
  unfold serving; rw [ht, upd_apply]; split <;> rfl

/-- The tables of the pool are well formed (A = `_availableThreads`, B = `_activeThreads`). -/
structure Inv0 (c : Cfg) : Prop where
  /-- never more than `_maxThreadCount` threads -/
  limit : c.p.availR.length + c.p.active.length ≤ c.p.maxT
  /-- A and B are duplicate-free … -/
  ndA : c.p.availR.Nodup
  ndB : c.p.active.Nodup
  /-- … and disjoint -/
  disj : ∀ T, T ∈ c.p.availR → T ∉ c.p.active
  /-- their members exist -/
  ltA : ∀ T, T ∈ c.p.availR → T < c.p.idc
  ltB : ∀ T, T ∈ c.p.active → T < c.p.idc
  /-- an available thread serves nobody -/
  availIdle : ∀ T, T ∈ c.p.availR → (c.pth T).cur = none ∧ ∀ k, (c.pth T).pc ≠ .finLock k
  /-- flag and queues have their default value outside the registered clients -/
  wfFlag : ∀ k, k ∉ c.p.regK → c.p.flag k = false
  wfQ : ∀ k, k ∉ c.p.regK → c.p.pend k = [] ∧ c.p.defr k = []
  /-- nothing is pending for a client that is being handled -/
  flagPend : ∀ k, c.p.flag k = true → c.p.pend k = []
  /-- a thread on its way to hand a client back has cleared `_currentClient` -/
  finCur : ∀ T k, (c.pth T).pc = .finLock k → (c.pth T).cur = none

theorem Inv0.availNoServe {c : Cfg} (h : Inv0 c) {T : PTid} (hT : T ∈ c.p.availR) (k : Client) : ¬ serving c T k := fun hk =>
  hk.elim (fun e => by rw [(h.availIdle T hT).1] at e; cases e) ((h.availIdle T hT).2 k)

/-- the `MASSERT` of the dispatcher: a client with Messages pending is not being handled -/
theorem Inv0.flag_of_pend {c : Cfg} (h : Inv0 c) {k : Client} (hp : c.p.pend k ≠ []) : c.p.flag k = false := by
  cases hf : c.p.flag k with
  | false => rfl
  | true => exact absurd (h.flagPend k hf) hp

theorem Inv0.congr {c c' : Cfg} (h : Inv0 c) (hp : c'.p = c.p) (ht : c'.pth = c.pth) : Inv0 c' := by
  obtain ⟨h1, h2, h3, h4, h5, h6, h7, h8, h9, h10, h11⟩ := h
  constructor <;> simp only [hp, ht] <;> assumption

/-- `Inv0` asks of a thread record only that an available thread has no client and is not at `finLock`, and that `finLock`
is entered with `cur` cleared. -/
theorem Inv0.setPth {c c' : Cfg} (h : Inv0 c) {T : PTid} {th' : PTh} (ht : c'.pth = upd c.pth T th')
    (ha : T ∈ c.p.availR → th'.cur = none ∧ ∀ k, th'.pc ≠ .finLock k) (hf : ∀ k, th'.pc = .finLock k → th'.cur = none)
    (hp : c'.p = c.p := by rfl) : Inv0 c' :=
  -- `{ h with x := … }` proves the invariant of a configuration that is a record update of `c`: the clauses not named are taken from `h`,
  -- which is accepted when their statements unfold to the same (the update touches no field they read); `{ h with }` names none.
  Inv0.congr (c := { c with pth := upd c.pth T th' })
    { h with
      availIdle := fun T' hT' => by
        simp only [upd_apply]; split
        · next e => exact ha (e ▸ hT')
        · exact h.availIdle T' hT'
      finCur := fun T' k => by
        simp only [upd_apply]; split
        · exact hf k
        · exact h.finCur T' k }
    hp ht

theorem inv0_spawnIfNeeded {c : Cfg} (h : Inv0 c) : Inv0 (spawnIfNeeded c) :=
  spawnIfNeeded_cases (fun _ => h) fun ha hl => by
    have h1 : Inv0 { c with pth := upd c.pth c.p.idc PTh.fresh } := h.setPth rfl (fun _ => ⟨rfl, nofun⟩) nofun
    -- the new thread `idc` is above every active one
    exact { h1 with
      limit := Nat.add_comm .. ▸ Nat.succ_le_of_lt hl
      ndA := List.nodup_cons.2 ⟨nofun, List.nodup_nil⟩
      disj := fun T hT hTa => by cases List.mem_singleton.1 hT; exact Nat.lt_irrefl _ (h.ltB _ hTa)
      ltA := fun T hT => by cases List.mem_singleton.1 hT; exact Nat.lt_succ_self _
      ltB := fun T hT => Nat.lt_succ_of_lt (h.ltB T hT)
      availIdle := fun T hT => by cases List.mem_singleton.1 hT; simp only [upd_same]; exact ⟨rfl, nofun⟩ }

theorem inv0_assign {c : Cfg} {k : Client} {T : PTid} {rest : List PTid} (h : Inv0 c) (ha : c.p.availR = T :: rest)
    (hk : k ∈ c.p.regK) : Inv0 (assign c k T rest) := by
  have hm : ∀ {T'}, T' ∈ rest → T' ∈ c.p.availR := fun hT' => ha ▸ List.mem_cons_of_mem _ hT'
  have hT : T ∈ c.p.availR := ha ▸ List.mem_cons_self
  have hnd := List.nodup_cons.1 (ha ▸ h.ndA)
  have hne : ∀ {k'}, k' ∉ c.p.regK → k' ≠ k := fun hk' e => hk' (e ▸ hk)
  have h1 : Inv0 { c with p := { c.p with availR := rest, active := c.p.active ++ [T], flag := upd c.p.flag k true, pend := upd c.p.pend k [] } } :=
    { h with
      limit := by have := h.limit; simp only [ha, List.length_append, List.length_cons, List.length_nil] at this ⊢; omega
      ndA := hnd.2
      ndB := List.nodup_append.2 ⟨h.ndB, List.nodup_cons.2 ⟨nofun, List.nodup_nil⟩, fun a ha b hb e => by
        cases List.mem_singleton.1 hb; exact h.disj _ hT (e ▸ ha)⟩
      disj := fun T' hT' hTa => by
        rcases List.mem_append.1 hTa with hTa | hTa
        · exact h.disj T' (hm hT') hTa
        · cases List.mem_singleton.1 hTa; exact hnd.1 hT'
      ltA := fun T' hT' => h.ltA T' (hm hT')
      ltB := fun T' hT' => by
        rcases List.mem_append.1 hT' with hT' | hT'
        · exact h.ltB T' hT'
        · cases List.mem_singleton.1 hT'; exact h.ltA _ hT
      availIdle := fun T' hT' => h.availIdle T' (hm hT')
      wfFlag := fun k' hk' => (upd_other _ _ _ _ (hne hk')).trans (h.wfFlag k' hk')
      wfQ := fun k' hk' => ⟨(upd_other _ _ _ _ (hne hk')).trans (h.wfQ k' hk').1, (h.wfQ k' hk').2⟩
      flagPend := fun k' => by
        simp only [upd_apply]; split
        · exact fun _ => rfl
        · exact h.flagPend k' }
  exact h1.setPth rfl (fun hT' => absurd hT' hnd.1) (fun k' hpc => absurd hpc ((h.availIdle T hT).2 k'))

/-- a client the dispatcher passes over has an empty pending queue already (`wfQ`): clearing it changes nothing -/
theorem Inv0.passedOver {c : Cfg} (h : Inv0 c) {k : Client} (hc : ¬ (k ∈ c.p.regK ∧ c.p.pend k ≠ [])) :
    c.p.pend k = [] ∧ { c with p := { c.p with pend := upd c.p.pend k [] } } = c := by
  have hp : c.p.pend k = [] := by
    by_cases hr : k ∈ c.p.regK
    · exact Decidable.byContradiction fun hp => hc ⟨hr, hp⟩
    · exact (h.wfQ k hr).1
  exact ⟨hp, by rw [upd_eq_self hp]⟩

theorem inv0_dispatchLoop (ks : List Client) {c : Cfg} (h : Inv0 c) : Inv0 (dispatchLoop ks c) :=
  dispatchLoop_induct (P := fun _ c => Inv0 c)
    (fun h hk _ ha => inv0_assign (inv0_spawnIfNeeded h) ha hk) (fun h hc => by rw [(h.passedOver hc).2]; exact h)
    (fun h => { h with }) (fun h _ _ _ => { h with }) ks h

theorem inv0_dispatch {c : Cfg} (h : Inv0 c) : Inv0 (dispatch c) :=
  dispatch_cases (fun _ => h) fun _ => inv0_dispatchLoop _ h

theorem inv0_addDefr {c : Cfg} (k : Client) (m : MsgId) (h : Inv0 c) (hk : k ∈ c.p.regK) : Inv0 (addDefr c k m) :=
  { h with wfQ := fun k' hk' => ⟨(h.wfQ k' hk').1, (upd_other _ _ _ _ (ne_of_mem_of_not_mem hk hk').symm).trans (h.wfQ k' hk').2⟩ }

theorem inv0_addPend {c : Cfg} (k : Client) (m : MsgId) (h : Inv0 c) (hk : k ∈ c.p.regK) (hf : c.p.flag k = false) : Inv0 (addPend c k m) :=
  { h with
    wfQ := fun k' hk' => ⟨(upd_other _ _ _ _ (ne_of_mem_of_not_mem hk hk').symm).trans (h.wfQ k' hk').1, (h.wfQ k' hk').2⟩
    flagPend := fun k' hf' =>
      have hne : k' ≠ k := fun e => Bool.false_ne_true (hf.symm.trans (e ▸ hf' : c.p.flag k = true))
      (upd_other _ _ _ _ hne).trans (h.flagPend k' hf') }

theorem inv0_subCS {c : Cfg} (k : Client) (m : MsgId) (h : Inv0 c) : Inv0 (subCS c k m).1 :=
  subCS_cases k m h (fun hk _ => inv0_addDefr k m h hk) (inv0_addPend k m h) (fun _ _ _ h => h) fun _ _ _ => inv0_dispatch

theorem inv0_handBack {c : Cfg} (k : Client) (h : Inv0 c) : Inv0 (handBack c k) := by
  have hw : ∀ k', k' ∉ c.p.regK → upd c.p.flag k false k' = false := fun k' hk' => by
    rw [upd_apply]; split
    · rfl
    · exact h.wfFlag k' hk'
  refine handBack_cases (fun _ => h) (fun hk _ => ?_) fun _ _ => { h with wfFlag := hw, flagPend := fun k' hf => h.flagPend k' (upd_false_eq_true hf).2 }
  have hne : ∀ {k'}, k' ∉ c.p.regK → k' ≠ k := fun hk' e => hk' (e ▸ hk)
  exact { h with
    wfFlag := hw
    wfQ := fun k' hk' => ⟨(upd_other _ _ _ _ (hne hk')).trans (h.wfQ k' hk').1, (upd_other _ _ _ _ (hne hk')).trans (h.wfQ k' hk').2⟩
    flagPend := fun k' hf => (upd_other _ _ _ _ (upd_false_eq_true hf).1).trans (h.flagPend k' (upd_false_eq_true hf).2) }

theorem inv0_release {c : Cfg} (T : PTid) (h : Inv0 c) (hT : (c.pth T).cur = none ∧ ∀ k, (c.pth T).pc ≠ .finLock k) : Inv0 (release c T) :=
  release_cases (fun _ => h) fun hm =>
    have hTa : T ∉ c.p.availR := fun hTa => h.disj T hTa hm
    { h with
      limit := by have := h.limit; have := length_remKey_of_mem h.ndB hm; simp only [List.length_cons]; omega
      ndA := List.nodup_cons.2 ⟨hTa, h.ndA⟩
      ndB := nodup_remKey T h.ndB
      disj := fun T' hT' hr => by
        rcases List.mem_cons.1 hT' with e | hT'
        · exact (mem_remKey.1 hr).2 e
        · exact h.disj T' hT' (mem_remKey.1 hr).1
      ltA := fun T' hT' => by
        rcases List.mem_cons.1 hT' with e | hT'
        · exact e ▸ h.ltB T hm
        · exact h.ltA T' hT'
      ltB := fun T' hT' => h.ltB T' (mem_remKey.1 hT').1
      availIdle := fun T' hT' => by
        rcases List.mem_cons.1 hT' with e | hT'
        · exact e ▸ hT
        · exact h.availIdle T' hT' }

theorem inv0_wake {c : Cfg} (k : Client) (h : Inv0 c) : Inv0 (wake c k) :=
  wake_cases (fun _ => h) fun _ _ => { h with }

theorem inv0_fetch {c : Cfg} (T : PTid) (h : Inv0 c) : Inv0 (fetch c T).1 := by
  rw [fetch_eq]
  rcases fetched_shape (c.pth T) with ⟨pc, ib, hpc, e⟩ | ⟨k, ib, hc, -, e⟩ <;> rw [e]
  · exact h.setPth rfl (fun hT => ⟨(h.availIdle T hT).1, hpc⟩) (fun k e => absurd e (hpc k))
  · exact h.setPth rfl (fun hT => absurd ((h.availIdle T hT).1.symm.trans hc) nofun) (fun _ _ => rfl)

theorem inv0_sdNext {c : Cfg} (t : Tid) (b : Bool) (nA total n : Nat) (l : List PTid) (h : Inv0 c) : Inv0 (sdNext c t b nA total n l) := by
  rw [sdNext_eq]
  cases l with
  | nil => exact { h with }
  | cons T rest => exact h.setPth rfl (h.availIdle T) (h.finCur T)

theorem inv0_setIdle {c : Cfg} (T : PTid) (h : Inv0 c) : Inv0 { c with pth := upd c.pth T { (c.pth T) with pc := .idle } } :=
  h.setPth rfl (fun hT => ⟨(h.availIdle T hT).1, nofun⟩) nofun

theorem inv0_finPrefix {c : Cfg} (T : PTid) (k : Client) (h : Inv0 c) (hpc : (c.pth T).pc = .finLock k) : Inv0 (finPrefix c T k) :=
  inv0_release T (inv0_handBack k (inv0_setIdle T h)) (by rw [handBack_pth]; simp only [upd_same]; exact ⟨h.finCur T k hpc, nofun⟩)

theorem inv0_pstep {c c' : Cfg} {T : PTid} (h : Inv0 c) (hs : PStep c T c') : Inv0 c' := by
  cases hs with
  | look => exact inv0_fetch T h
  | next => exact h.setPth rfl (h.availIdle T) (h.finCur T)
  | last _ hc => exact h.setPth rfl (fun hT => absurd ((h.availIdle T hT).1.symm.trans hc) nofun) (fun _ _ => rfl)
  | finishShut => exact inv0_fetch T (inv0_setIdle T h)
  | finish hpc => exact inv0_fetch T (inv0_wake _ (inv0_dispatch (inv0_finPrefix T _ h hpc)))

theorem inv0_ustep {c c' : Cfg} {t : Tid} (h : Inv0 c) (hs : UStep c t c') : Inv0 c' := by
  cases hs with
  | sub => exact { inv0_subCS _ _ h with }
  | @reg k =>
    exact { h with
      wfFlag := fun k' hk' => by
        simp only [upd_apply]; split
        · rfl
        · exact h.wfFlag k' fun hm => hk' (mem_addKey.2 (Or.inl hm))
      wfQ := fun k' hk' => h.wfQ k' fun hm => hk' (mem_addKey.2 (Or.inl hm))
      flagPend := fun k' hf => h.flagPend k' (upd_false_eq_true hf).2 }
  | @unreg k =>
    have hr : ∀ {k'}, k' ∉ remKey c.p.regK k → k' ≠ k → k' ∉ c.p.regK := fun hk' hne hm => hk' (mem_remKey.2 ⟨hm, hne⟩)
    exact { h with
      wfFlag := fun k' hk' => by
        simp only [upd_apply]; split
        · rfl
        · next hne => exact h.wfFlag k' (hr hk' hne)
      wfQ := fun k' hk' => by
        simp only [upd_apply]; split
        · exact ⟨rfl, rfl⟩
        · next hne => exact h.wfQ k' (hr hk' hne)
      flagPend := fun k' hf => (upd_other _ _ _ _ (upd_false_eq_true hf).1).trans (h.flagPend k' (upd_false_eq_true hf).2) }
  | shutdown hsd =>
    cases hsd with
    | sdSwapActive =>
      exact inv0_sdNext _ _ _ _ _ _
        { h with limit := Nat.le_trans (Nat.le_add_right _ _) h.limit, ndB := List.nodup_nil, disj := fun _ _ => List.not_mem_nil, ltB := nofun }
    | sdSwapAvail =>
      exact inv0_sdNext _ _ _ _ _ _
        { h with limit := Nat.le_trans (Nat.add_le_add_right (Nat.zero_le _) _) h.limit, ndA := List.nodup_nil, disj := nofun, ltA := nofun, availIdle := nofun }
    | sdJoined => exact inv0_sdNext _ _ _ _ _ _ h
    | sdFinish =>
      exact { h with
        limit := Nat.zero_le _, ndA := List.nodup_nil, ndB := List.nodup_nil, disj := nofun, ltA := nofun, ltB := nofun, availIdle := nofun
        wfFlag := fun _ _ => rfl, wfQ := fun _ _ => ⟨rfl, rfl⟩, flagPend := nofun }
    | _ => exact { h with }
  | _ => exact { h with }

theorem inv0_init (maxT : Nat) (regs : List Client) (progs : List (List Op)) : Inv0 (Cfg.init maxT regs progs) := by
  constructor <;> simp [Cfg.init, Pool.init, PTh.absent]

theorem step_maxT {c c' : Cfg} {e : Ev} {o} (hs : step c e = some (c', o)) : c'.p.maxT = c.p.maxT :=
  (step_cases hs).elim (fun ⟨_, _, _, hu⟩ => hu.outside.maxT) fun ⟨_, _, hp⟩ => hp.outside.maxT

theorem reach_maxT {maxT regs progs c} (h : machine.Reach (Cfg.init maxT regs progs) c) : c.p.maxT = maxT :=
  Machine.Reach.invariant machine (fun c => c.p.maxT = maxT) rfl (fun _ _ _ _ hi hs => (step_maxT hs).trans hi) h

/-- before shutdown, while some client has Messages pending, no pool thread is available and none can be created -/
def PendingFull (c : Cfg) : Prop := c.p.shut = false → ∀ k, c.p.pend k ≠ [] → c.p.availR = [] ∧ c.p.maxT ≤ c.p.active.length

theorem spawnIfNeeded_none {c : Cfg} : (spawnIfNeeded c).p.availR = [] → c.p.availR = [] ∧ c.p.maxT ≤ c.p.active.length :=
  spawnIfNeeded_cases (P := fun c' => c'.p.availR = [] → c.p.availR = [] ∧ c.p.maxT ≤ c.p.active.length)
    (fun hn ha => ⟨ha, Nat.le_of_not_lt (fun hlt => hn ⟨ha, hlt⟩)⟩) (fun _ _ ha => nomatch ha)

/-- The rule for `DispatchPendingMessagesUnsafe`: to carry `P` through the dispatcher, say what `spawnIfNeeded; assign` does to it and that
it does not read the key list.  During the loop the keys of `_pendingMessages` still to visit (`ks`) stand in for `pendK`; a client that is
passed over changes nothing (`Inv0.passedOver`); the loop stops only when nothing is pending or no pool thread is to be had. -/
theorem dispatch_rule {P : Cfg → Prop} {c : Cfg} (h0 : Inv0 c) (hs : c.p.shut = false) (hP : P c)
    (hkeys : ∀ k, c.p.pend k ≠ [] → k ∈ c.p.pendK)
    (hassign : ∀ {c k T rest}, Inv0 c → c.p.shut = false → P c → k ∈ c.p.regK → c.p.pend k ≠ [] →
      (spawnIfNeeded c).p.availR = T :: rest → P (assign (spawnIfNeeded c) k T rest))
    (hpendK : ∀ {c ks}, P c → (∀ k, c.p.pend k ≠ [] → k ∈ ks) → P { c with p := { c.p with pendK := ks } }) :
    P (dispatch c) ∧ PendingFull (dispatch c) := by
  refine dispatch_cases (Q := fun c' => P c' ∧ PendingFull c') (fun h => absurd (hs.symm.trans h) nofun) fun _ => ?_
  refine dispatchLoop_induct (P := fun ks c => Inv0 c ∧ c.p.shut = false ∧ P c ∧ ∀ k, c.p.pend k ≠ [] → k ∈ ks)
    (Q := fun c => P c ∧ PendingFull c) ?_ ?_ ?_ ?_ _ ⟨h0, hs, hP, hkeys⟩
  · intro k ks c T rest ⟨h0, hs, hP, hk⟩ hkr hpp ha
    have ep := spawnIfNeeded_p c
    have hkr' : k ∈ c.p.regK := by rw [ep] at hkr; exact hkr
    have hpp' : c.p.pend k ≠ [] := by rw [ep] at hpp; exact hpp
    refine ⟨inv0_assign (inv0_spawnIfNeeded h0) ha hkr, (disp_spawnIfNeeded c).shut.trans hs, hassign h0 hs hP hkr' hpp' ha, fun k' hk' => ?_⟩
    obtain ⟨hne, hk'⟩ := (upd_ne_nil hk').resolve_left fun e => e.2 rfl
    exact (List.mem_cons.1 (hk k' (by rw [ep] at hk'; exact hk'))).resolve_left hne
  · intro k ks c ⟨h0, hs, hP, hk⟩ hc
    obtain ⟨hpk, e⟩ := h0.passedOver hc
    rw [e]
    exact ⟨h0, hs, hP, fun k' hk' => (List.mem_cons.1 (hk k' hk')).resolve_left fun e => hk' (e ▸ hpk)⟩
  · exact fun ⟨_, _, hP, hk⟩ => ⟨hpendK hP hk, fun _ k hp' => absurd (hk k hp') List.not_mem_nil⟩
  · exact fun {k ks c} ⟨_, _, hP, hk⟩ _ _ ha => ⟨hpendK hP hk, fun _ _ _ => spawnIfNeeded_none (c := c) ha⟩

end Muscle.Conc.TP
