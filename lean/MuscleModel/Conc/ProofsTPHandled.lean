import MuscleModel.Conc.ProofsTPClients

/-! # C19 proofs: every accepted Message is handled once, in order (`InvH`)

Kept by every helper here; by a whole step in ProofsTPDisciplined (`invH_ustep`, `invAll_pstep`). -/

namespace Muscle.Conc.TP
open Muscle.Conc

/-- As long as none was dropped, a client's accepted Messages are, in order, those handled, then the batch of the pool
thread that serves the client, then the pending, then the deferred. -/
structure InvH (c : Cfg) : Prop where
  /-- the equation for a client with a batch in flight -/
  acctServed : ∀ k T, c.dropped k = [] → (c.pth T).cur = some k → c.handled k ++ (c.pth T).queue ++ c.p.pend k ++ c.p.defr k = c.submitted k
  /-- the equation for a client without one -/
  acctUnserved : ∀ k, c.dropped k = [] → (∀ T, (c.pth T).cur ≠ some k) → c.handled k ++ c.p.pend k ++ c.p.defr k = c.submitted k
  /-- nothing is dropped before `Shutdown` -/
  noDrop : c.p.shut = false → ∀ k, c.dropped k = []

theorem InvH.setPth {c c' : Cfg} (h : InvH c) {T : PTid} {th' : PTh} (ht : c'.pth = upd c.pth T th')
    (hc : ∀ k, th'.cur = some k → (c.pth T).cur = some k ∧ th'.queue = (c.pth T).queue)
    (hq : ∀ k, (c.pth T).cur = some k → th'.cur = some k ∨ (c.pth T).queue = [])
    (hp : c'.p = c.p := by rfl) (h3 : c'.dropped = c.dropped := by rfl) (h4 : c'.handled = c.handled := by rfl)
    (h5 : c'.submitted = c.submitted := by rfl) : InvH c' := by
  have key : InvH { c with pth := upd c.pth T th' } :=
    { h with
      acctServed := fun k T' hd => by
        simp only [upd_apply]; split
        · next e => exact fun hk => (hc k hk).2 ▸ h.acctServed k T hd (hc k hk).1
        · exact h.acctServed k T' hd
      acctUnserved := fun k hd hn => by
        by_cases hT : (c.pth T).cur = some k
        · have hn' := hn T
          simp only [upd_same] at hn'
          have := h.acctServed k T hd hT
          rwa [(hq k hT).resolve_left hn', List.append_nil] at this
        · refine h.acctUnserved k hd fun T' => ?_
          by_cases e : T' = T
          · exact e ▸ hT
          · have := hn T'; simp only [upd_other _ _ _ _ e] at this; exact this }
  cases c'; cases ht; cases hp; cases h3; cases h4; cases h5
  exact { key with }

theorem invH_spawnIfNeeded {c : Cfg} (h : InvH c) (hp : InvP c) : InvH (spawnIfNeeded c) :=
  spawnIfNeeded_cases (fun _ => h) fun _ _ =>
    have h1 : InvH { c with pth := upd c.pth c.p.idc PTh.fresh } :=
      h.setPth rfl nofun fun k e => absurd ((hp.freshNoCur (Nat.le_refl _)).symm.trans e) nofun
    { h1 with }

theorem invH_assign {c : Cfg} {k : Client} {T : PTid} {rest : List PTid} (h : InvH c) (h0 : Inv0 c) (h1 : Inv1 c) (ha : c.p.availR = T :: rest)
    (hp : c.p.pend k ≠ []) (hs : c.p.shut = false) : InvH (assign c k T rest) := by
  have hf := h0.flag_of_pend hp
  have hTa : T ∈ c.p.availR := ha ▸ List.mem_cons_self
  have hT := (h0.availIdle T hTa).1
  -- `k`'s flag is down, so no thread has a batch of `k`, and nothing of `k` is deferred
  have hnone : ∀ T', (c.pth T').cur ≠ some k := fun T' hc => Bool.false_ne_true (hf.symm.trans (h1.servedFlag hs T' k (Or.inl hc)))
  exact { h with
    acctServed := fun k' T' hd => by
      simp only [assign, upd_apply]; split
      · intro hk; cases hk
        simp only [if_pos, List.append_nil]; exact h.acctUnserved k hd hnone
      · intro hk; rw [if_neg fun (e : k' = k) => hnone T' (e ▸ hk)]; exact h.acctServed k' T' hd hk
    acctUnserved := fun k' hd hn => by
      have hne : k' ≠ k := fun e => by have := hn T; simp only [assign, upd_same] at this; exact this (e ▸ rfl)
      simp only [assign, upd_other _ _ _ _ hne]
      refine h.acctUnserved k' hd fun T' hc => ?_
      by_cases e : T' = T
      · rw [e, hT] at hc; cases hc
      · have := hn T'; simp only [assign, upd_other _ _ _ _ e] at this; exact this hc }

theorem invH_addDefr {c : Cfg} (k : Client) (m : MsgId) (h : InvH c) : InvH (addDefr c k m) :=
  { h with
    acctServed := fun k' T hd hk => by
      simp only [addDefr, upd_apply]; split
      · next e => subst e; rw [← List.append_assoc, h.acctServed k' T hd hk]
      · exact h.acctServed k' T hd hk
    acctUnserved := fun k' hd hn => by
      simp only [addDefr, upd_apply]; split
      · next e => subst e; rw [← List.append_assoc, h.acctUnserved k' hd hn]
      · exact h.acctUnserved k' hd hn }

theorem invH_addPend {c : Cfg} (k : Client) (m : MsgId) (h : InvH c) (hd : c.p.defr k = []) : InvH (addPend c k m) :=
  { h with
    acctServed := fun k' T hd' hk => by
      simp only [addPend, upd_apply]; split
      · next e =>
        subst e
        have := h.acctServed k' T hd' hk
        rw [hd, List.append_nil] at this ⊢
        rw [← List.append_assoc, this]
      · exact h.acctServed k' T hd' hk
    acctUnserved := fun k' hd' hn => by
      simp only [addPend, upd_apply]; split
      · next e =>
        subst e
        have := h.acctUnserved k' hd' hn
        rw [hd, List.append_nil] at this ⊢
        rw [← List.append_assoc, this]
      · exact h.acctUnserved k' hd' hn }

theorem invH_handBack {c : Cfg} (k : Client) (h : InvH c) (h0 : Inv0 c) (hf : c.p.flag k = true) : InvH (handBack c k) := by
  have hfp := h0.flagPend k hf
  -- the queues are swapped, and `pend k` is empty since the flag is up
  exact handBack_cases (fun _ => h) (fun _ _ =>
    { h with
      acctServed := fun k' T hd hk => by
        simp only [upd_apply]; split
        · next e => subst e; have := h.acctServed k' T hd hk; rw [hfp, List.append_nil] at this; rw [hfp, List.append_nil, this]
        · exact h.acctServed k' T hd hk
      acctUnserved := fun k' hd hn => by
        simp only [upd_apply]; split
        · next e => subst e; have := h.acctUnserved k' hd hn; rw [hfp, List.append_nil] at this; rw [hfp, List.append_nil, this]
        · exact h.acctUnserved k' hd hn }) fun _ _ => { h with }

theorem invH_fetch {c : Cfg} (T : PTid) (h : InvH c) : InvH (fetch c T).1 := by
  rw [fetch_eq]
  rcases fetched_shape (c.pth T) with ⟨pc, ib, -, e⟩ | ⟨k, ib, -, hq, e⟩ <;> rw [e]
  · exact h.setPth rfl (fun _ e => ⟨e, rfl⟩) fun _ e => Or.inl e
  · exact h.setPth rfl nofun fun _ _ => Or.inr hq

theorem invH_finPrefix {c : Cfg} (T : PTid) (k : Client) (h : InvH c) (h1 : Inv1 c) (h0 : Inv0 c) (hpc : (c.pth T).pc = .finLock k)
    (hs : c.p.shut = false) : InvH (finPrefix c T k) := by
  have hb := invH_handBack k (h.setPth (c' := { c with pth := upd c.pth T { (c.pth T) with pc := .idle } }) rfl
    (fun _ e => ⟨e, rfl⟩) fun _ e => Or.inl e) (inv0_setIdle T h0) (h1.servedFlag hs T k (Or.inr hpc))
  exact release_cases (fun _ => hb) fun _ => { hb with }

theorem InvH.handlerDone {c : Cfg} (h : InvH c) (h1 : Inv1 c) {T : PTid} {k : Client} {m : MsgId} {th' : PTh}
    (hc : (c.pth T).cur = some k) (hq : (c.pth T).queue = m :: th'.queue) (hc' : th'.cur = some k ∨ th'.cur = none ∧ th'.queue = []) :
    InvH { c with pth := upd c.pth T th', handled := upd c.handled k (c.handled k ++ [m]) } :=
  -- `T` is the only thread with a batch of `k` (`oneServer`)
  have hne : ∀ {T' k'}, T' ≠ T → (c.pth T').cur = some k' → k' ≠ k := fun hT hk e =>
    hT (h1.oneServer _ T k (Or.inl (e ▸ hk)) (Or.inl hc))
  { h with
    acctServed := fun k' T' hd => by
      simp only [upd_apply]; split
      · intro hk
        rcases hc' with hc' | hc'
        · cases hk.symm.trans hc'
          have := h.acctServed k T hd hc
          rw [hq] at this
          rw [if_pos rfl, List.append_assoc (c.handled k)]; exact this
        · rw [hc'.1] at hk; cases hk
      · next e => exact fun hk => by rw [if_neg (hne e hk)]; exact h.acctServed k' T' hd hk
    acctUnserved := fun k' hd hn => by
      by_cases e : k' = k
      · subst e
        have hn' := hn T
        simp only [upd_same] at hn' ⊢
        have := h.acctServed k' T hd hc
        rwa [hq, (hc'.resolve_left hn').2] at this
      · simp only [upd_other _ _ _ _ e]
        refine h.acctUnserved k' hd fun T' hk => ?_
        by_cases eT : T' = T
        · exact e (Option.some.inj ((eT ▸ hk).symm.trans hc))
        · have := hn T'; simp only [upd_other _ _ _ _ eT] at this; exact this hk }

theorem invH_sdNext {c : Cfg} (t : Tid) (b : Bool) (nA total n : Nat) (l : List PTid) (h : InvH c) : InvH (sdNext c t b nA total n l) := by
  rw [sdNext_eq]
  cases l with
  | nil => exact { h with }
  | cons T rest => exact h.setPth rfl (fun _ e => ⟨e, rfl⟩) fun _ e => Or.inl e

end Muscle.Conc.TP
