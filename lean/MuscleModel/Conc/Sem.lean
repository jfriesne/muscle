/-!
# Generic interleaving semantics for the threaded components (C10, C11, C18, C19)

A *machine* is a configuration type (shared state + per-thread program counter and locals) with one transition
function: `step c (.run t)` executes thread `t`'s next **atomic** action (one critical section, one atomic-counter
operation, one wake-up from a wait, one plain local action), `step c (.timeout t)` lets the time-out of `t`'s pending
timed wait fire.  `none` means "not enabled" (finished, blocked, or no timed wait pending).

A *schedule* is a list of events.  The same list drives the real threads under `harness/libvh/coop.h` and this
semantics, with the same two rules:

* SKIP rule — an event that is not enabled is skipped (nothing happens; the result records the skip);
* TAIL rule — when the list is exhausted the run is completed deterministically: the lowest-numbered thread with an
  enabled `.run` steps; if there is none, the lowest-numbered enabled `.timeout` fires; if there is none, stop.

Theorems are stated over `Reach`, i.e. over **every** event sequence — so they do not depend on these rules.
-/

namespace Muscle.Conc

abbrev Tid := Nat

/-- a schedule event: `run t` = thread `t` takes one atomic step; `timeout t` = the time-out of `t`'s timed wait fires -/
inductive Ev where
  | run (t : Tid)
  | timeout (t : Tid)
  deriving DecidableEq, Repr

/-- an interleaving machine with observable step outputs `O` -/
structure Machine where
  C : Type
  O : Type
  step : C → Ev → Option (C × O)

namespace Machine
variable (M : Machine)

/-- configurations reachable from `c₀` by any sequence of enabled events (= under every schedule) -/
inductive Reach (c₀ : M.C) : M.C → Prop where
  | init : Reach c₀ c₀
  | step {c c' : M.C} {e : Ev} {o : M.O} : Reach c₀ c → M.step c e = some (c', o) → Reach c₀ c'

theorem Reach.invariant {c₀ : M.C} (P : M.C → Prop) (h0 : P c₀)
    (hstep : ∀ c e c' o, P c → M.step c e = some (c', o) → P c') : ∀ {c}, M.Reach c₀ c → P c := by
  intro c h
  induction h with
  | init => exact h0
  | step _ hs ih => exact hstep _ _ _ _ ih hs

theorem Reach.trans {a b c : M.C} (h1 : M.Reach a b) (h2 : M.Reach b c) : M.Reach a c := by
  induction h2 with
  | init => exact h1
  | step _ hs ih => exact Reach.step ih hs

/-- run an explicit schedule with the SKIP rule; the log pairs each event with `some output` or `none` (skipped) -/
def runSched (c : M.C) : List Ev → M.C × List (Ev × Option M.O)
  | [] => (c, [])
  | e :: es =>
    match M.step c e with
    | some (c', o) => let (cf, log) := runSched c' es; (cf, (e, some o) :: log)
    | none => let (cf, log) := runSched c es; (cf, (e, none) :: log)

/-- first thread of the list for which event `mk i` is enabled (`runTail` passes `List.range n`: lowest index first) -/
def firstEnabled (c : M.C) (mk : Tid → Ev) : List Tid → Option (Tid × M.C × M.O)
  | [] => none
  | i :: is =>
    match M.step c (mk i) with
    | some (c', o) => some (i, c', o)
    | none => firstEnabled c mk is

/-- the TAIL rule, bounded by `fuel` steps -/
def runTail (n : Nat) : Nat → M.C → M.C × List (Ev × M.O)
  | 0, c => (c, [])
  | fuel + 1, c =>
    match M.firstEnabled c Ev.run (List.range n) with
    | some (i, c', o) => let (cf, log) := runTail n fuel c'; (cf, (Ev.run i, o) :: log)
    | none =>
      match M.firstEnabled c Ev.timeout (List.range n) with
      | some (i, c', o) => let (cf, log) := runTail n fuel c'; (cf, (Ev.timeout i, o) :: log)
      | none => (c, [])

theorem reach_runSched {c₀ c : M.C} (h : M.Reach c₀ c) (es : List Ev) : M.Reach c₀ (M.runSched c es).1 := by
  induction es generalizing c with
  | nil => exact h
  | cons e es ih =>
    simp only [runSched]
    cases hs : M.step c e with
    | none => exact ih h
    | some p => obtain ⟨c', o⟩ := p; exact ih (Reach.step h hs)

theorem firstEnabled_step {c : M.C} {mk : Tid → Ev} {l : List Tid} {i c' o}
    (h : M.firstEnabled c mk l = some (i, c', o)) : M.step c (mk i) = some (c', o) := by
  induction l with
  | nil => simp [firstEnabled] at h
  | cons j js ih =>
    simp only [firstEnabled] at h
    cases hs : M.step c (mk j) with
    | none => rw [hs] at h; exact ih h
    | some p =>
      rw [hs] at h
      obtain ⟨c2, o2⟩ := p
      simp only [Option.some.injEq, Prod.mk.injEq] at h
      obtain ⟨rfl, rfl, rfl⟩ := h
      exact hs

theorem reach_runTail {c₀ : M.C} (n fuel : Nat) {c : M.C} (h : M.Reach c₀ c) : M.Reach c₀ (M.runTail n fuel c).1 := by
  induction fuel generalizing c with
  | zero => exact h
  | succ f ih =>
    simp only [runTail]
    cases h1 : M.firstEnabled c Ev.run (List.range n) with
    | some p =>
      obtain ⟨i, c', o⟩ := p
      exact ih (Reach.step h (M.firstEnabled_step h1))
    | none =>
      cases h2 : M.firstEnabled c Ev.timeout (List.range n) with
      | some p =>
        obtain ⟨i, c', o⟩ := p
        exact ih (Reach.step h (M.firstEnabled_step h2))
      | none => exact h

/-- what a driver prints (a schedule under the SKIP rule, then the TAIL rule) is reachable -/
theorem reach_driver (c₀ : M.C) (es : List Ev) (n fuel : Nat) : M.Reach c₀ (M.runTail n fuel (M.runSched c₀ es).1).1 :=
  M.reach_runTail n fuel (M.reach_runSched Reach.init es)

/-- how the existence statements about reachable configurations are shown -/
theorem witness {c₀ : M.C} (es : List Ev) {P : M.C → Prop} (h : P (M.runSched c₀ es).1) : ∃ c, M.Reach c₀ c ∧ P c :=
  ⟨_, M.reach_runSched .init es, h⟩

theorem witnessTail {c₀ : M.C} (n fuel : Nat) {P : M.C → Prop} (h : P (M.runTail n fuel c₀).1) : ∃ c, M.Reach c₀ c ∧ P c :=
  ⟨_, M.reach_runTail n fuel .init, h⟩

end Machine

/-- function update, the workhorse of per-thread state (`Tid → α`) -/
def upd {α : Type} (f : Tid → α) (t : Tid) (v : α) : Tid → α := fun u => if u = t then v else f u

@[simp] theorem upd_same {α : Type} (f : Tid → α) (t : Tid) (v : α) : upd f t v t = v := by simp [upd]
@[simp] theorem upd_other {α : Type} (f : Tid → α) (t : Tid) (v : α) (u : Tid) (h : u ≠ t) : upd f t v u = f u := by simp [upd, h]
theorem upd_apply {α : Type} (f : Tid → α) (t : Tid) (v : α) (u : Tid) : upd f t v u = if u = t then v else f u := rfl

theorem upd_eq_self {α : Type} {f : Tid → α} {t : Tid} {v : α} (h : f t = v) : upd f t v = f :=
  funext fun u => by
    rw [upd_apply]; split
    · next e => rw [e, h]
    · rfl

theorem upd_true {f : Tid → Bool} {t u : Tid} (h : f u = true) : upd f t true u = true := by
  rw [upd_apply]; split
  · rfl
  · exact h

theorem upd_false_eq_true {f : Tid → Bool} {t u : Tid} (h : upd f t false u = true) : u ≠ t ∧ f u = true := by
  rw [upd_apply] at h; split at h
  · cases h
  · exact ⟨‹_›, h⟩

end Muscle.Conc
