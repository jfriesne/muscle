import MuscleModel.Conc.Sem

/-!
# Model of the Message queues of `muscle::Thread` (system/Thread.{h,cpp}) as an interleaving machine

One `Thread` object, its **owner** (user thread 0), any number of extra **sender** threads (user threads 1 … n-1,
which only call `SendMessageToInternalThread()`), and the **internal thread** that `StartInternalThread()` spawns (a new
incarnation after every restart; incarnation g has thread index `n + g - 1`, as the cooperative scheduler numbers
adopted threads).

Granularity = the park points of `harness/thr.cpp` under `libvh/coop.h`: `Lock(_queueLock)` (one step = the whole
critical section plus the thread-local code up to the next park point), the signal after the unlock
(`SignalAux()`: `MUSCLE_VH_SIG_SEND` resp. `MUSCLE_VH_WC_NOTIFY`), the blocking points (`MUSCLE_VH_SIG_WAIT` =
the `select()` of `WaitForNextMessageAux`, `MUSCLE_VH_WC_WAIT`, `MUSCLE_VH_THREAD_JOIN`), `MUSCLE_VH_THREAD_START`,
and an explicit yield point of the harness in front of every owner call that does not begin with `Lock(_queueLock)`.

Both signalling mechanisms are modelled (`Mode.sock`: `_useMessagingSockets = true`, a byte on a socket pair that is
re-created by every start and closed by `CloseSockets()`; `Mode.cond`: the two `WaitCondition`s, which persist).
`sig` is the number of unread signal bytes resp. the `_pendingNotificationsCount`.  Counters are `Nat`; allocation
failure (`B_OUT_OF_MEMORY` of `AddTail`, socket creation, thread spawn) is not modelled.
-/

namespace Muscle.Conc.TQ
open Muscle.Conc

/-- `_useMessagingSockets`: socket pair (`sock`) or wait conditions (`cond`) -/
inductive Mode where
  | sock | cond
  deriving DecidableEq, Repr

/-- a non-NULL Message as far as the harness distinguishes it: an id, and the number of replies the internal thread
sends back when it receives it -/
structure Msg where
  id : Nat
  nrep : Nat
  deriving DecidableEq, Repr

/-- a `MessageRef`; `none` = the NULL reference that asks the internal thread to exit -/
abbrev Item := Option Msg

/-- which queue: `toInt` = `_threadData[MESSAGE_THREAD_INTERNAL]`, `toOwn` = `_threadData[MESSAGE_THREAD_OWNER]` -/
inductive Dir where
  | toInt | toOwn
  deriving DecidableEq, Repr

/-- one direction: `ThreadSpecificData::_messages`, the receiver's pending wake-up signals, and two ghost
sequences (everything ever appended / everything ever removed) -/
structure Chan where
  queue : List Item
  sig   : Nat
  sent  : List Item
  recvd : List Item

/-- the member variables of the `Thread` object that the threads share -/
structure Sh where
  mode    : Mode
  ci      : Chan    -- owner (and senders) → internal thread
  co      : Chan    -- internal thread → owner
  alloc   : Bool    -- `_messageSocketsAllocated` (meaningful in `sock` mode)
  closedO : Bool    -- the internal thread has `Reset()` its socket: the owner's socket reads EOF
  running : Bool    -- `_threadRunning`
  gen     : Nat     -- number of internal threads spawned so far

def Sh.ch (s : Sh) : Dir → Chan
  | .toInt => s.ci
  | .toOwn => s.co

def Sh.setCh (s : Sh) (d : Dir) (c : Chan) : Sh :=
  match d with
  | .toInt => { s with ci := c }
  | .toOwn => { s with co := c }

/-- `_messages.AddTail(ref)` inside the critical section of `SendMessageAux` -/
def Chan.push (c : Chan) (it : Item) : Chan := { c with queue := c.queue ++ [it], sent := c.sent ++ [it] }

/-- `_messages.RemoveHead(ref)` inside the critical section of `WaitForNextMessageAux` (on a non-empty queue) -/
def Chan.pop (c : Chan) (it : Item) (rest : List Item) : Chan := { c with queue := rest, recvd := c.recvd ++ [it] }

/-- `SignalAux()` toward the receiver of direction `d`.  `cond`: `Notify()`.  `sock`: one byte is sent iff the socket pair
is allocated and the sending side's descriptor is still open (`SignalOwner()` writes to the internal thread's socket). -/
def signal (s : Sh) (d : Dir) : Sh :=
  match s.mode, d with
  | .cond, d => s.setCh d { s.ch d with sig := (s.ch d).sig + 1 }
  | .sock, .toInt => if s.alloc then { s with ci := { s.ci with sig := s.ci.sig + 1 } } else s
  | .sock, .toOwn => if s.alloc ∧ s.closedO = false then { s with co := { s.co with sig := s.co.sig + 1 } } else s

/-- the `recv()` at the top of `WaitForNextMessageAux`: absorbs every pending signal byte (`sock` mode, descriptor valid) -/
def drain (s : Sh) (d : Dir) : Sh :=
  match s.mode with
  | .cond => s
  | .sock => if s.alloc then s.setCh d { s.ch d with sig := 0 } else s

/-- `WaitCondition::Wait()` returning because notifications were pending: `FlushNotificationsCount` -/
def flush (s : Sh) (d : Dir) : Sh := s.setCh d { s.ch d with sig := 0 }

/-- the public calls a user thread can make -/
inductive Op where
  | start                  -- `StartInternalThread()`
  | send (m : Msg)         -- `SendMessageToInternalThread(msg)`
  | poll                   -- `GetNextReplyFromInternalThread(ref, 0)`
  | recv                   -- `GetNextReplyFromInternalThread(ref, MUSCLE_TIME_NEVER)`
  | recvT                  -- `GetNextReplyFromInternalThread(ref, <finite time>)`
  | shutdown (wait : Bool) -- `ShutdownInternalThread(wait)`
  | join                   -- `WaitForInternalThreadToExit()`
  deriving DecidableEq, Repr

def Op.isSend : Op → Bool
  | .send _ => true
  | _ => false

/-- the `wakeupTime` argument of `WaitForNextMessageAux`: 0 / `MUSCLE_TIME_NEVER` / finite -/
inductive Wk where
  | poll | block | timed
  deriving DecidableEq, Repr

/-- park points of a user thread -/
inductive UPc where
  | idle                                   -- at the harness's yield point in front of the next (non-send) call
  | sendLock (it : Item) (thenJoin : Bool) -- `SendMessageAux(INTERNAL)`: at `Lock(_queueLock)`; `thenJoin`: inside `ShutdownInternalThread(true)`
  | sendSig (thenJoin : Bool)              -- after the unlock with `sendNotification = true`, at `SignalInternalThread()`
  | startSig                               -- `StartInternalThread()`: thread spawned, `needsInitialSignal = true`, at `SignalInternalThread()`
  | recvLock (w : Wk)                      -- `WaitForNextMessageAux(OWNER, w)`: at `Lock(_queueLock)`
  | recvWait (w : Wk)                      -- queue was empty: at `select()` (`SIG_WAIT`) resp. `Wait()` (`WC_WAIT`)
  | join (shut : Bool)                     -- `WaitForInternalThreadToExit()`: at `join`; `shut` (ghost): called by `ShutdownInternalThread(true)`
  | done
  deriving DecidableEq, Repr

/-- park points of the internal thread -/
inductive IPc where
  | start                          -- `InternalThreadEntryAux()`: first action of the new thread
  | entryLock                      -- at `Lock(ownerTSD._queueLock)` ("are reply Messages already queued?")
  | entrySig                       -- HOLDING `ownerTSD._queueLock`, at `SignalOwner()`
  | recvLock (poll : Bool)         -- `WaitForNextMessageAux(INTERNAL)`: at `Lock(_queueLock)`; `poll`: re-entered with time-out 0 after `select()`
  | recvWait                       -- queue was empty: at `select()` resp. `Wait()` (`MUSCLE_TIME_NEVER`)
  | replyLock (id j k : Nat)       -- `SendMessageAux(OWNER)` for reply j of k to Message id: at `Lock(_queueLock)`
  | replySig (id j k : Nat)        -- after the unlock with `sendNotification = true`, at `SignalOwner()`
  | exited                         -- no live internal thread (never started, or it reached the end of `InternalThreadEntryAux`)
  deriving DecidableEq, Repr

/-- what a step reports -/
inductive Out where
  | quiet                 -- no call completed, nothing received
  | ok | err | timedOut   -- the call in progress returned `B_NO_ERROR` / another error / `B_TIMED_OUT`
  | noop                  -- `ShutdownInternalThread()` on a thread that is not running
  | got (it : Item)       -- the owner's receive returned this Message / the internal thread received it
  deriving DecidableEq, Repr

structure UTh where
  pc   : UPc
  prog : List Op

structure Cfg where
  sh  : Sh
  n   : Nat          -- number of user threads (0 = owner, 1 … n-1 = senders)
  th  : Tid → UTh
  ipc : IPc

/-- the reply the harness's internal thread sends: reply j to Message id -/
def replyMsg (id j : Nat) : Msg := { id := id * 10 + j, nrep := 0 }

/-- the call returned: go to the park point in front of the next call.  A send begins with `Lock(_queueLock)`, every
other call is preceded by a yield point. -/
def nextOp (prog : List Op) : UTh :=
  match prog with
  | [] => { pc := .done, prog := [] }
  | .send m :: rest => { pc := .sendLock (some m) false, prog := rest }
  | op :: rest => { pc := .idle, prog := op :: rest }

/-- `SendMessageAux` has returned: inside `ShutdownInternalThread(true)` (`thenJoin`) the caller goes on to
`WaitForInternalThreadToExit()`, otherwise the call is over -/
def afterSend (thenJoin : Bool) (prog : List Op) : UTh × Out :=
  if thenJoin then ({ pc := .join true, prog := prog }, .quiet) else (nextOp prog, .ok)

/-- the internal thread goes back to the top of its loop: `WaitForNextMessageFromOwner(MUSCLE_TIME_NEVER)` up to its `Lock` -/
def intLoop (s : Sh) : Sh × IPc := (drain s .toInt, .recvLock false)

/-- a user thread takes one step -/
def stepUser (c : Cfg) (t : Tid) : Option (Cfg × Out) :=
  let th := c.th t
  let s := c.sh
  let fin (s' : Sh) (p : UTh × Out) : Option (Cfg × Out) := some ({ c with sh := s', th := upd c.th t p.1 }, p.2)
  match th.pc with
  | .done => none
  | .idle =>
    match th.prog with
    | [] => fin s ({ pc := .done, prog := [] }, .quiet)
    | .send m :: rest => fin s ({ pc := .sendLock (some m) false, prog := rest }, .quiet)
    | .start :: rest =>
      -- `StartInternalThread()`
      if s.running then fin s (nextOp rest, .err) else
      let needs := s.ci.queue ≠ []      -- `needsInitialSignal`
      let s1 : Sh := match s.mode with
        | .sock => { s with alloc := true, closedO := false, ci := { s.ci with sig := 0 }, co := { s.co with sig := 0 } }  -- a fresh socket pair
        | .cond => s
      let s2 : Sh := { s1 with running := true, gen := s1.gen + 1 }
      if needs then some ({ c with sh := s2, th := upd c.th t { pc := .startSig, prog := rest }, ipc := .start }, .quiet)
      else some ({ c with sh := s2, th := upd c.th t (nextOp rest), ipc := .start }, .ok)
    | .poll :: rest => fin (drain s .toOwn) ({ pc := .recvLock .poll, prog := rest }, .quiet)
    | .recv :: rest => fin (drain s .toOwn) ({ pc := .recvLock .block, prog := rest }, .quiet)
    | .recvT :: rest => fin (drain s .toOwn) ({ pc := .recvLock .timed, prog := rest }, .quiet)
    | .shutdown w :: rest =>
      if s.running then fin s ({ pc := .sendLock none w, prog := rest }, .quiet) else fin s (nextOp rest, .noop)
    | .join :: rest => fin s ({ pc := .join false, prog := rest }, .quiet)
  | .sendLock it tj =>
    -- critical section of `SendMessageAux(MESSAGE_THREAD_INTERNAL)`
    let ci := s.ci.push it
    if ci.queue.length = 1 then fin { s with ci := ci } ({ pc := .sendSig tj, prog := th.prog }, .quiet)
    else fin { s with ci := ci } (afterSend tj th.prog)
  | .sendSig tj => fin (signal s .toInt) (afterSend tj th.prog)
  | .startSig => fin (signal s .toInt) (nextOp th.prog, .ok)
  | .recvLock w =>
    -- critical section of `WaitForNextMessageAux(MESSAGE_THREAD_OWNER)`; the internal thread may be holding the lock
    if c.ipc = .entrySig then none else
    match s.co.queue with
    | it :: rest => fin { s with co := s.co.pop it rest } (nextOp th.prog, .got it)
    | [] =>
      if w = .poll then fin s (nextOp th.prog, .timedOut)
      else if s.mode = .sock ∧ s.alloc = false then fin s (nextOp th.prog, .err)   -- `msgfd < 0`: `B_BAD_OBJECT`
      else fin s ({ pc := .recvWait w, prog := th.prog }, .quiet)
  | .recvWait w =>
    match s.mode with
    | .sock =>
      -- `select()` returns: re-enter with time-out 0 (absorb the bytes, go to the lock)
      if s.co.sig > 0 ∨ s.closedO then fin (drain s .toOwn) ({ pc := .recvLock .poll, prog := th.prog }, .quiet) else none
    | .cond =>
      if s.co.sig > 0 then fin (flush s .toOwn) ({ pc := .recvLock w, prog := th.prog }, .quiet) else none
  | .join _ =>
    -- `WaitForInternalThreadToExit()`
    if s.running = false then fin s (nextOp th.prog, .err)
    else if c.ipc = .exited then
      fin { s with running := false, alloc := (if s.mode = .sock then false else s.alloc) } (nextOp th.prog, .ok)
    else none

/-- the time-out of a user thread's timed wait fires (legal only while nothing is pending) -/
def timeoutUser (c : Cfg) (t : Tid) : Option (Cfg × Out) :=
  let th := c.th t
  match th.pc with
  | .recvWait .timed =>
    let pending : Bool := match c.sh.mode with
      | .sock => decide (c.sh.co.sig > 0) || c.sh.closedO
      | .cond => decide (c.sh.co.sig > 0)
    if pending then none else some ({ c with th := upd c.th t (nextOp th.prog) }, .timedOut)
  | _ => none

/-- the internal thread takes one step -/
def stepInt (c : Cfg) : Option (Cfg × Out) :=
  let s := c.sh
  match c.ipc with
  | .exited => none
  | .start => some ({ c with ipc := .entryLock }, .quiet)
  | .entryLock =>
    if s.co.queue ≠ [] then some ({ c with ipc := .entrySig }, .quiet)
    else let p := intLoop s; some ({ c with sh := p.1, ipc := p.2 }, .quiet)
  | .entrySig => let p := intLoop (signal s .toOwn); some ({ c with sh := p.1, ipc := p.2 }, .quiet)
  | .recvLock poll =>
    match s.ci.queue with
    | [] =>
      if poll then let p := intLoop s; some ({ c with sh := p.1, ipc := p.2 }, .quiet)   -- `B_TIMED_OUT`: "ignoring it"
      else some ({ c with ipc := .recvWait }, .quiet)
    | none :: rest =>
      -- `MessageReceivedFromOwner(NULL)` = `B_SHUTTING_DOWN`: leave the loop, close the internal socket, exit
      some ({ c with sh := { s with ci := s.ci.pop none rest, closedO := (if s.mode = .sock then true else s.closedO) }, ipc := .exited }, .got none)
    | some m :: rest =>
      let s1 := { s with ci := s.ci.pop (some m) rest }
      if m.nrep = 0 then let p := intLoop s1; some ({ c with sh := p.1, ipc := p.2 }, .got (some m))
      else some ({ c with sh := s1, ipc := .replyLock m.id 1 m.nrep }, .got (some m))
  | .recvWait =>
    if s.ci.sig > 0 then
      match s.mode with
      | .sock => some ({ c with sh := drain s .toInt, ipc := .recvLock true }, .quiet)
      | .cond => some ({ c with sh := flush s .toInt, ipc := .recvLock false }, .quiet)
    else none
  | .replyLock id j k =>
    let co := s.co.push (some (replyMsg id j))
    if co.queue.length = 1 then some ({ c with sh := { s with co := co }, ipc := .replySig id j k }, .quiet)
    else if j < k then some ({ c with sh := { s with co := co }, ipc := .replyLock id (j + 1) k }, .quiet)
    else let p := intLoop { s with co := co }; some ({ c with sh := p.1, ipc := p.2 }, .quiet)
  | .replySig id j k =>
    let s1 := signal s .toOwn
    if j < k then some ({ c with sh := s1, ipc := .replyLock id (j + 1) k }, .quiet)
    else let p := intLoop s1; some ({ c with sh := p.1, ipc := p.2 }, .quiet)

/-- thread index of the live internal thread (meaningful when `gen > 0`) -/
def Cfg.intTid (c : Cfg) : Tid := c.n + c.sh.gen - 1

def step (c : Cfg) : Ev → Option (Cfg × Out)
  | .run t => if t < c.n then stepUser c t else if c.sh.gen > 0 ∧ t = c.intTid then stepInt c else none
  | .timeout t => if t < c.n then timeoutUser c t else none

/-- the interleaving machine of one `Thread` object -/
def machine : Machine := { C := Cfg, O := Out, step := step }

def Chan.empty : Chan := { queue := [], sig := 0, sent := [], recvd := [] }

def Sh.init (mode : Mode) : Sh :=
  { mode := mode, ci := Chan.empty, co := Chan.empty, alloc := false, closedO := false, running := false, gen := 0 }

/-- initial configuration: user thread `i` runs `progs[i]` -/
def Cfg.init (mode : Mode) (progs : List (List Op)) : Cfg :=
  { sh := Sh.init mode, n := progs.length,
    th := fun t => match progs[t]? with | some p => nextOp p | none => { pc := .done, prog := [] },
    ipc := .exited }

end Muscle.Conc.TQ
