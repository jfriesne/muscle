import MuscleModel.Conc.ProofsRWStep

/-!
# `ReaderWriterMutex`: the control invariant

The waiting tables are exactly the threads whose program counter is inside a wait, and a waiting thread is not
executing.  Kept by every event that does to the tables what `StepEff` describes (`CtlInv.step`); a critical section
whose outcome `applyRes` installs does so under the conditions of `stepEff_applyRes`.
-/

namespace Muscle.Conc.RW
open Muscle.Conc

/-- the program counter is inside the wait loop of `LockReadOnlyAux` / `LockReadWriteAux` -/
def Pc.rWaiting : Pc → Bool
  | .rWait _ => true | .rWoke _ _ => true | _ => false
def Pc.wWaiting : Pc → Bool
  | .wWait _ => true | .wWoke _ _ => true | _ => false

structure CtlInv (c : Cfg) : Prop where
  ndR : c.mx.waitR.Nodup
  ndW : c.mx.waitW.Nodup
  inR : ∀ t, t ∈ c.mx.waitR ↔ (c.th t).pc.rWaiting = true
  inW : ∀ t, t ∈ c.mx.waitW ↔ (c.th t).pc.wWaiting = true
  notExec : ∀ t, ((c.th t).pc.rWaiting = true ∨ (c.th t).pc.wWaiting = true) → t ∉ c.mx.exec

/-- what one event of thread `t` does, as far as the control invariant is concerned; if `t` ends up in a wait loop it is
not executing, either outright or because it was in the loop before and its membership did not change (`selfExec`) -/
structure StepEff (c c' : Cfg) (t : Tid) : Prop where
  others : ∀ u, u ≠ t → c'.th u = c.th u
  exec   : ∀ u, u ≠ t → (u ∈ c'.mx.exec ↔ u ∈ c.mx.exec)
  waitR  : c'.mx.waitR =
             if (c.th t).pc.rWaiting = false ∧ (c'.th t).pc.rWaiting = true then c.mx.waitR ++ [t]
             else if (c.th t).pc.rWaiting = true ∧ (c'.th t).pc.rWaiting = false then c.mx.waitR.erase t
             else c.mx.waitR
  waitW  : c'.mx.waitW =
             if (c.th t).pc.wWaiting = false ∧ (c'.th t).pc.wWaiting = true then c.mx.waitW ++ [t]
             else if (c.th t).pc.wWaiting = true ∧ (c'.th t).pc.wWaiting = false then c.mx.waitW.erase t
             else c.mx.waitW
  selfExec : ((c'.th t).pc.rWaiting = true ∨ (c'.th t).pc.wWaiting = true) →
             (t ∉ c'.mx.exec ∨ (((c.th t).pc.rWaiting = true ∨ (c.th t).pc.wWaiting = true) ∧ (t ∈ c'.mx.exec ↔ t ∈ c.mx.exec)))
  excl : ¬ ((c'.th t).pc.rWaiting = true ∧ (c'.th t).pc.wWaiting = true)

/-- `old`, `new`: `t` was, and is now, inside the table's wait loop; the nested `if` of `StepEff.waitR`/`waitW` -/
def requeue (l : List Tid) (t : Tid) (old new : Bool) : List Tid :=
  if old = false ∧ new = true then l ++ [t] else if old = true ∧ new = false then l.erase t else l

theorem waitTable_step {l l' : List Tid} {t : Tid} {old new : Bool} (hnd : l.Nodup) (hin : t ∈ l ↔ old = true)
    (e : l' = requeue l t old new) : l'.Nodup ∧ (t ∈ l' ↔ new = true) ∧ ∀ u, u ≠ t → (u ∈ l' ↔ u ∈ l) := by
  subst e
  unfold requeue
  cases old <;> cases new <;> simp at hin ⊢
  · exact ⟨hnd, hin⟩
  · exact ⟨List.nodup_append.2 ⟨hnd, by simp, by simp; exact fun a ha e => hin (e ▸ ha)⟩, fun u hu => by simp [hu]⟩
  · exact ⟨hnd.erase t, fun hm => (hnd.mem_erase_iff.1 hm).1 rfl, fun u hu => List.mem_erase_of_ne hu⟩
  · exact ⟨hnd, hin⟩

theorem CtlInv.step {c c' : Cfg} {t : Tid} (h : CtlInv c) (e : StepEff c c' t) : CtlInv c' := by
  obtain ⟨ndR, inR, othR⟩ := waitTable_step h.ndR (h.inR t) e.waitR
  obtain ⟨ndW, inW, othW⟩ := waitTable_step h.ndW (h.inW t) e.waitW
  refine ⟨ndR, ndW, fun u => ?_, fun u => ?_, fun u hw => ?_⟩
  · by_cases hu : u = t
    · rw [hu]; exact inR
    · rw [othR u hu, e.others u hu]; exact h.inR u
  · by_cases hu : u = t
    · rw [hu]; exact inW
    · rw [othW u hu, e.others u hu]; exact h.inW u
  · by_cases hu : u = t
    · subst hu
      rcases e.selfExec hw with hn | ⟨hold, hiff⟩
      · exact hn
      · rw [hiff]; exact h.notExec u hold
    · rw [e.others u hu] at hw
      rw [e.exec u hu]; exact h.notExec u hw

theorem nextOp_nonwaiting (th : Th) : (nextOp th).pc.rWaiting = false ∧ (nextOp th).pc.wWaiting = false := by
  unfold nextOp; split
  · simp [Pc.rWaiting, Pc.wWaiting]
  · next op _ _ => cases op <;> simp [startPc, Pc.rWaiting, Pc.wWaiting]

theorem finish_nonwaiting (ctx : List Upg) (th : Th) (st : St) :
    (finish ctx th st).1.pc.rWaiting = false ∧ (finish ctx th st).1.pc.wWaiting = false := by
  rcases finish_cases ctx th st with ⟨st', e⟩ | ⟨u, rest, sg, pc, _, hpc, e⟩ <;> rw [e]
  · exact nextOp_nonwaiting _
  · rcases hpc with rfl | rfl | rfl <;> simp [Pc.rWaiting, Pc.wWaiting]

theorem applyRes_waiting (c : Cfg) (t : Tid) (s' : Mx) (r : Res) (w : Pc) (m : Mode) :
    ((applyRes c t s' r w m).1.th t).pc.rWaiting = (decide (r = .wait) && w.rWaiting) ∧
    ((applyRes c t s' r w m).1.th t).pc.wWaiting = (decide (r = .wait) && w.wWaiting) := by
  cases r <;> rw [applyRes_self] <;> simp only
  · simpa using finish_nonwaiting _ _ _
  · simp
  · split <;> simp [Pc.rWaiting, Pc.wWaiting]

theorem Op.waitPc_excl (op : Op) : ¬ (op.waitPc.rWaiting = true ∧ op.waitPc.wWaiting = true) := by
  cases op <;> simp [Op.waitPc, Pc.rWaiting, Pc.wWaiting]

theorem stepEff_applyRes {c : Cfg} {t : Tid} {s' : Mx} {r : Res} {op : Op}
    (hexec : ∀ u, u ≠ t → (u ∈ s'.exec ↔ u ∈ c.mx.exec))
    (hR : s'.waitR = requeue c.mx.waitR t (c.th t).pc.rWaiting (decide (r = .wait) && op.waitPc.rWaiting))
    (hW : s'.waitW = requeue c.mx.waitW t (c.th t).pc.wWaiting (decide (r = .wait) && op.waitPc.wWaiting))
    (hself : r = .wait → t ∉ s'.exec) :
    StepEff c (applyRes c t s' r op.waitPc op.mode).1 t := by
  obtain ⟨eR, eW⟩ := applyRes_waiting c t s' r op.waitPc op.mode
  refine ⟨fun u hu => applyRes_others c t s' r _ _ hu, by simpa using hexec, ?_, ?_, ?_, ?_⟩
  · rw [applyRes_mx, eR]; exact hR
  · rw [applyRes_mx, eW]; exact hW
  · rw [applyRes_mx, eR, eW]; intro hw
    by_cases hr : r = .wait
    · exact .inl (hself hr)
    · simp [hr] at hw
  · rw [eR, eW]; simpa using fun _ hr _ => (not_and.1 op.waitPc_excl) hr

theorem init_ctlInv (p : Bool) (progs : List (List Op)) : CtlInv (Cfg.init p progs) := by
  have hnw : ∀ t, ((Cfg.init p progs).th t).pc.rWaiting = false ∧ ((Cfg.init p progs).th t).pc.wWaiting = false := by
    intro t
    simp only [Cfg.init]
    split
    · exact nextOp_nonwaiting _
    · simp [Th.idle, Pc.rWaiting, Pc.wWaiting]
  refine ⟨?_, ?_, fun t => ?_, fun t => ?_, fun t hw => ?_⟩ <;> simp_all [Cfg.init, Mx.init]

theorem CtlInv.waiting {c : Cfg} (h : CtlInv c) (t : Tid) :
    (t ∈ c.mx.waitR ↔ ∃ m, (c.th t).pc = .rWait m ∨ ∃ b, (c.th t).pc = .rWoke m b) ∧
    (t ∈ c.mx.waitW ↔ ∃ m, (c.th t).pc = .wWait m ∨ ∃ b, (c.th t).pc = .wWoke m b) ∧
    ((t ∈ c.mx.waitR ∨ t ∈ c.mx.waitW) → t ∉ c.mx.exec) := by
  refine ⟨?_, ?_, ?_⟩
  · rw [h.inR t]; cases (c.th t).pc <;> simp [Pc.rWaiting]
  · rw [h.inW t]; cases (c.th t).pc <;> simp [Pc.wWaiting]
  · intro hw; apply h.notExec t; rw [← h.inR t, ← h.inW t]; exact hw

theorem CtlInv.not_waitR {c : Cfg} (hc : CtlInv c) {t : Tid} (h : (c.th t).pc.rWaiting = false) : t ∉ c.mx.waitR := by
  simp [hc.inR, h]

theorem CtlInv.not_waitW {c : Cfg} (hc : CtlInv c) {t : Tid} (h : (c.th t).pc.wWaiting = false) : t ∉ c.mx.waitW := by
  simp [hc.inW, h]

end Muscle.Conc.RW
