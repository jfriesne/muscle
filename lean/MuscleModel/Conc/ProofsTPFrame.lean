import MuscleModel.Conc.ProofsTPLocal

/-! # C19 proofs: what a step leaves alone

`Keeps` is the part of `Disp` that every step of every thread respects, the steps of `Shutdown` aside: a pool thread
that has ended or has been told to end stays so, and a pool thread that is in one of the two tables stays in one of
them until it has ended.  `UserView` is a step of a pool thread as the user threads see it; `PStep.Outside` and
`UStep.Outside` are a step of a pool thread and of a user thread as everybody else sees it.  At the end the first invariant that needs nothing
else: a thread inside `Shutdown` has set `_shuttingDown` (`SdShut`). -/

namespace Muscle.Conc.TP
open Muscle.Conc

/-- `extra`: the list that the thread inside `Shutdown` is joining.  This is what `Shutdown` needs in order to find every thread: the
cover invariant (`CoverInv`) carries it to the last section. -/
def Cov (c : Cfg) (extra : List PTid) : Prop :=
  ∀ T, T < c.p.idc → (c.pth T).pc = .exited ∨ T ∈ c.p.availR ∨ T ∈ c.p.active ∨ T ∈ extra

/-- a join on such a thread will return (`JoinsEnding`) -/
def Ending (th : PTh) : Prop := th.pc = .exited ∨ Item.quit ∈ th.inbox

structure Keeps (c c' : Cfg) : Prop where
  idc : c.p.idc ≤ c'.p.idc
  /-- a thread that `Shutdown` joins stays ended or told to end (`JoinsEnding`) -/
  ending : ∀ T, T < c.p.idc → Ending (c.pth T) → Ending (c'.pth T)
  /-- a thread that has not ended stays in a table or in the join list (`CoverInv`); for every `extra`, since the step does not know
  which thread of `Shutdown` is joining what -/
  cov : ∀ extra, Cov c extra → Cov c' extra

theorem Keeps.of_eq {c c' : Cfg} (h1 : c'.pth = c.pth := by rfl) (h2 : c'.p.idc = c.p.idc := by rfl)
    (h3 : c'.p.availR = c.p.availR := by rfl) (h4 : c'.p.active = c.p.active := by rfl) : Keeps c c' :=
  ⟨Nat.le_of_eq h2.symm, fun _ _ h => by rw [h1]; exact h, fun _ h T hT => by rw [h1, h3, h4]; exact h T (h2 ▸ hT)⟩

theorem Keeps.trans {a b c : Cfg} (h1 : Keeps a b) (h2 : Keeps b c) : Keeps a c :=
  ⟨Nat.le_trans h1.idc h2.idc, fun T hT h => h2.ending T (Nat.lt_of_lt_of_le hT h1.idc) (h1.ending T hT h),
   fun e h => h2.cov e (h1.cov e h)⟩

theorem Disp.keeps {c c' : Cfg} (h : Disp c c') : Keeps c c' := by
  refine ⟨h.idc, fun T hT he => ?_, fun e hc T hT => ?_⟩
  · exact he.elim (fun he => Or.inl ((h.pc T hT).trans he)) (fun he => Or.inr (h.quit T hT he))
  · have hin : T ∈ c.p.availR ∨ T ∈ c.p.active ∨ c.p.idc ≤ T →
        (c'.pth T).pc = .exited ∨ T ∈ c'.p.availR ∨ T ∈ c'.p.active ∨ T ∈ e :=
      fun hh => (h.tables T hT hh).elim (fun x => Or.inr (Or.inl x)) (fun x => Or.inr (Or.inr (Or.inl x)))
    by_cases hlt : T < c.p.idc
    · rcases hc T hlt with h1 | h1 | h1 | h1
      · exact Or.inl ((h.pc T hlt).trans h1)
      · exact hin (Or.inl h1)
      · exact hin (Or.inr (Or.inl h1))
      · exact Or.inr (Or.inr (Or.inr h1))
    · exact hin (Or.inr (Or.inr (Nat.le_of_not_lt hlt)))

theorem fetched_ending {th : PTh} (h : Item.quit ∈ th.inbox) : Ending (fetched th) := by
  rcases fetched_cases th with ⟨hi, _⟩ | ⟨_, _, e⟩ | ⟨rest, hi, he⟩
  · rw [hi] at h; cases h
  · rw [e]; exact Or.inl rfl
  · have hr : Item.quit ∈ rest := by rw [hi] at h; simpa using h
    rcases he with ⟨_, _, _, _, _, e⟩ | ⟨_, _, _, e⟩ | ⟨_, e⟩ <;> rw [e] <;> first | exact Or.inr hr | exact Or.inl rfl

theorem finish_pc_idle (c : Cfg) {T : PTid} (k : Client) (hlt : T < c.p.idc) :
    ((wake (dispatch (finPrefix c T k)) k).pth T).pc = .idle := by
  rw [wake_pth, ((disp_finPrefix c T k).trans (disp_dispatch _)).pc T hlt]
  simp [upd_same]

/-- a pool-thread step seen from the user side: nothing, or one waiter of `UnregisterClient` is notified -/
structure UserView (c c' : Cfg) : Prop where
  nU : c'.nU = c.nU
  regK : c'.p.regK = c.p.regK
  shut : c'.p.shut = c.p.shut
  waitT : c'.p.waitT = c.p.waitT
  woken : (c'.uth = c.uth ∧ c'.p.waitK = c.p.waitK) ∨
    (∃ k, k ∈ c.p.waitK ∧ c'.uth = upd c.uth (c.p.waitT k) { (c.uth (c.p.waitT k)) with notif := (c.uth (c.p.waitT k)).notif + 1 } ∧
      c'.p.waitK = remKey c.p.waitK k)

theorem UserView.pc_prog {c c' : Cfg} (h : UserView c c') (t : Tid) :
    (c'.uth t).pc = (c.uth t).pc ∧ (c'.uth t).prog = (c.uth t).prog := by
  rcases h.woken with ⟨e, _⟩ | ⟨k, _, e, _⟩
  · rw [e]; exact ⟨rfl, rfl⟩
  · rw [e, upd_apply]; split
    · rename_i he; rw [he]; exact ⟨rfl, rfl⟩
    · exact ⟨rfl, rfl⟩

theorem UserView.pc {c c' : Cfg} (h : UserView c c') (t : Tid) : (c'.uth t).pc = (c.uth t).pc := (h.pc_prog t).1

theorem UserView.prog {c c' : Cfg} (h : UserView c c') (t : Tid) : (c'.uth t).prog = (c.uth t).prog := (h.pc_prog t).2

/-- nothing but the record of pool thread `T` (and the ghost state) has changed -/
structure OnlyThread (c : Cfg) (T : PTid) (c' : Cfg) : Prop where
  uth : c'.uth = c.uth
  nU : c'.nU = c.nU
  p : c'.p = c.p
  others : ∀ T', T' ≠ T → c'.pth T' = c.pth T'

structure PStep.Outside (c : Cfg) (T : PTid) (c' : Cfg) : Prop where
  view : UserView c c'
  maxT : c'.p.maxT = c.p.maxT
  keeps : T < c.p.idc → Keeps c c'
  shut : c.p.shut = true → OnlyThread c T c'

theorem keeps_own {c c' : Cfg} {T : PTid} (hne : (c.pth T).pc ≠ .exited) (hq : Item.quit ∈ (c.pth T).inbox → Ending (c'.pth T))
    (hoth : ∀ T', T' ≠ T → c'.pth T' = c.pth T') (hp : c'.p = c.p := by rfl) : Keeps c c' := by
  refine ⟨Nat.le_of_eq (by rw [hp]), fun T' _ h => ?_, fun e hc T' hT' => ?_⟩
  · by_cases he : T' = T
    · subst he; exact hq (h.resolve_left hne)
    · rw [hoth T' he]; exact h
  · rw [hp] at hT' ⊢
    refine (hc T' hT').imp_left (fun h => ?_)
    by_cases he : T' = T
    · subst he; exact absurd h hne
    · rw [hoth T' he]; exact h

theorem PStep.Outside.own {c c' : Cfg} {T : PTid} (hne : (c.pth T).pc ≠ .exited) (hq : Item.quit ∈ (c.pth T).inbox → Ending (c'.pth T))
    (hoth : ∀ T', T' ≠ T → c'.pth T' = c.pth T') (hp : c'.p = c.p := by rfl) (hu : c'.uth = c.uth := by rfl) (hn : c'.nU = c.nU := by rfl) :
    PStep.Outside c T c' :=
  ⟨⟨hn, by rw [hp], by rw [hp], by rw [hp], Or.inl ⟨hu, by rw [hp]⟩⟩, by rw [hp], fun _ => keeps_own hne hq hoth hp, fun _ => ⟨hu, hn, hp, hoth⟩⟩

theorem PStep.outside {c c' : Cfg} {T : PTid} (h : PStep c T c') : PStep.Outside c T c' := by
  have hoth : ∀ (f : PTid → PTh) (th : PTh) T', T' ≠ T → upd f T th T' = f T' := fun f th T' h => upd_other f T th T' h
  have hidle : ∀ {k}, (c.pth T).pc = .finLock k → Keeps c { c with pth := upd c.pth T { (c.pth T) with pc := .idle } } := fun hpc =>
    keeps_own (by rw [hpc]; nofun) (fun h => by simp only [upd_same]; exact Or.inr h) (hoth _ _)
  cases h with
  | look hpc =>
    rw [fetch_eq]
    exact .own (fun he => by rw [he] at hpc; simp at hpc) (fun h => by simp only [upd_same]; exact fetched_ending h) (hoth _ _)
  | next hpc | last hpc => exact .own (by rw [hpc]; nofun) (fun h => by simp only [upd_same]; exact Or.inr h) (hoth _ _)
  | finishShut hpc hs =>
    rw [fetch_eq]
    exact .own (by rw [hpc]; nofun) (fun h => by simp only [upd_same]; exact fetched_ending h) (fun T' h => by simp [upd_other, h])
  | @finish k hpc hs =>
    have d := (disp_finPrefix c T k).trans (disp_dispatch _)
    have hv : UserView c (wake (dispatch (finPrefix c T k)) k) :=
      wake_cases (P := fun c' => UserView c c') (fun _ => ⟨d.nU, d.regK, d.shut, d.waitT, Or.inl ⟨d.uth, d.waitK⟩⟩)
        fun _ hk => ⟨d.nU, d.regK, d.shut, d.waitT, Or.inr ⟨k, d.waitK ▸ hk, by simp only [d.uth, d.waitT], by simp only [d.waitK]⟩⟩
    refine ⟨by rw [fetch_eq]; exact { hv with }, by rw [fetch_eq]; dsimp only; rw [wake_p]; exact d.maxT, fun hlt => ?_, fun hsh => absurd (hsh.symm.trans hs) nofun⟩
    have hw : Keeps (dispatch (finPrefix c T k)) (wake (dispatch (finPrefix c T k)) k) :=
      Keeps.of_eq (wake_pth _ _) (by rw [wake_p]) (by rw [wake_p]) (by rw [wake_p])
    refine (((hidle hpc).trans d.keeps).trans hw).trans ?_
    rw [fetch_eq]
    exact keeps_own (by rw [finish_pc_idle c k hlt]; nofun) (fun h => by simp only [upd_same]; exact fetched_ending h) (hoth _ _)

/-- the pool threads and the two thread tables are as they were -/
structure SameThreads (c c' : Cfg) : Prop where
  pth : c'.pth = c.pth
  availR : c'.p.availR = c.p.availR
  active : c'.p.active = c.p.active
  idc : c'.p.idc = c.p.idc

structure UStep.Outside (c : Cfg) (t : Tid) (c' : Cfg) : Prop where
  own : ULocal (c.uth t) (c'.uth t)
  others : ∀ t', t' ≠ t → (c'.uth t').pc = (c.uth t').pc ∧ (c'.uth t').prog = (c.uth t').prog ∧ (c.uth t').notif ≤ (c'.uth t').notif
  nU : c'.nU = c.nU
  maxT : c'.p.maxT = c.p.maxT
  shut : c'.p.shut = true ↔ c.p.shut = true ∨ (c.uth t).pc = .sdLock
  /-- a call other than `Shutdown` leaves the pool threads to the dispatcher … -/
  keeps : callOf (c.uth t).pc ≠ some .shutdown → Keeps c c'
  /-- … and alone once `_shuttingDown` is set -/
  idle : callOf (c.uth t).pc ≠ some .shutdown → c.p.shut = true → SameThreads c c'

theorem UStep.Outside.pc_other {c c' : Cfg} {t t' : Tid} (h : UStep.Outside c t c') (ht' : t' ≠ t) : (c'.uth t').pc = (c.uth t').pc :=
  (h.others t' ht').1

theorem UStep.Outside.prog_other {c c' : Cfg} {t t' : Tid} (h : UStep.Outside c t c') (ht' : t' ≠ t) : (c'.uth t').prog = (c.uth t').prog :=
  (h.others t' ht').2.1

theorem UStep.Outside.of {c c' : Cfg} {t : Tid} (own : ULocal (c.uth t) (c'.uth t)) (hnl : (c.uth t).pc ≠ .sdLock)
    (hu : ∀ t', t' ≠ t → c'.uth t' = c.uth t') (keeps : Keeps c c' := by exact Keeps.of_eq)
    (idle : c.p.shut = true → SameThreads c c' := by exact fun _ => ⟨rfl, rfl, rfl, rfl⟩)
    (hn : c'.nU = c.nU := by rfl) (hm : c'.p.maxT = c.p.maxT := by rfl) (hs : c'.p.shut = c.p.shut := by rfl) : UStep.Outside c t c' where
  own := own
  others t' ht' := by rw [hu t' ht']; exact ⟨rfl, rfl, Nat.le_refl _⟩
  nU := hn
  maxT := hm
  shut := by rw [hs]; exact ⟨Or.inl, fun h => h.resolve_right hnl⟩
  keeps _ := keeps
  idle _ := idle

theorem UStep.Outside.ofSd {c c' : Cfg} {t : Tid} (own : ULocal (c.uth t) (c'.uth t)) (hsd : callOf (c.uth t).pc = some .shutdown)
    (hs : c'.p.shut = true ↔ c.p.shut = true ∨ (c.uth t).pc = .sdLock)
    (hu : ∀ t', t' ≠ t → (c'.uth t').pc = (c.uth t').pc ∧ (c'.uth t').prog = (c.uth t').prog ∧ (c.uth t').notif ≤ (c'.uth t').notif)
    (hn : c'.nU = c.nU := by rfl) (hm : c'.p.maxT = c.p.maxT := by rfl) : UStep.Outside c t c' :=
  ⟨own, hu, hn, hm, hs, fun h => absurd hsd h, fun h => absurd hsd h⟩

theorem UStep.outside {c c' : Cfg} {t : Tid} (h : UStep c t c') : UStep.Outside c t c' := by
  have hset : ∀ (f : Tid → UTh) (u' : UTh), ULocal (c.uth t) u' → ULocal (c.uth t) (upd f t u' t) := fun f u' h => by rwa [upd_same]
  have hoth : ∀ (f : Tid → UTh) (u' : UTh) t', t' ≠ t → upd f t u' t' = f t' := fun f u' t' h => upd_other f t u' t' h
  have hret : ∀ {pc}, (c.uth t).pc = pc → pc ≠ .done → pc ≠ .opStart → ULocal (c.uth t) (advance (c.uth t)) :=
    fun e h h' => .ret (e ▸ h) (fun e' => absurd (e.symm.trans e') h') rfl rfl
  have hstay : ∀ {pc pc'}, (c.uth t).pc = pc → PcNext pc pc' → ULocal (c.uth t) { (c.uth t) with pc := pc' } :=
    fun e h => .stay (n' := (c.uth t).notif) (e ▸ h) (Nat.le_refl _)
  have hrefl : ∀ (u' : UTh) t', t' ≠ t → (upd c.uth t u' t').pc = (c.uth t').pc ∧ (upd c.uth t u' t').prog = (c.uth t').prog ∧
      (c.uth t').notif ≤ (upd c.uth t u' t').notif := fun u' t' h => by rw [upd_other _ _ _ _ h]; exact ⟨rfl, rfl, Nat.le_refl _⟩
  have hin : ∀ {pc}, (c.uth t).pc = pc → inShutdown pc = true → (c.p.shut = true ↔ c.p.shut = true ∨ (c.uth t).pc = .sdLock) :=
    fun e h => ⟨Or.inl, fun h' => h'.resolve_right fun e' => by rw [e.symm.trans e'] at h; cases h⟩
  cases h with
  | skip hpc hp => exact .of (hset _ _ (.ret (hpc ▸ nofun) (fun _ => hp ▸ nofun) rfl rfl)) (hpc ▸ nofun) (hoth _ _)
  | subStart hpc hp | regStart hpc hp | unregStart hpc hp | sdStart hpc hp =>
    exact .of (hset _ _ (.enter hpc hp)) (hpc ▸ nofun) (hoth _ _)
  | @sub k m hpc =>
    have d := disp_subCS c k m
    refine .of (hset _ _ (hret hpc nofun nofun)) (hpc ▸ nofun) (fun t' ht' => (hoth _ _ t' ht').trans (congrFun d.uth t'))
      (d.keeps.trans Keeps.of_eq) (fun hsh => ?_) d.nU d.maxT d.shut
    have key : SameThreads c (subCS c k m).1 := by
      rcases subCS_shut k m hsh with e | e | e <;> rw [e] <;> exact ⟨rfl, rfl, rfl, rfl⟩
    exact { key with }
  | unregBlock hpc => exact .of (hset _ _ (hstay hpc (.block _))) (hpc ▸ nofun) (hoth _ _)
  | unregPass hpc => exact .of (hset _ _ (hstay hpc (.pass _))) (hpc ▸ nofun) (hoth _ _)
  | unregWoken hpc => exact .of (hset _ _ (.stay (hpc ▸ .woken _) (Nat.zero_le _))) (hpc ▸ nofun) (hoth _ _)
  | reg hpc | unreg hpc => exact .of (hset _ _ (hret hpc nofun nofun)) (hpc ▸ nofun) (hoth _ _)
  | shutdown hsd =>
    cases hsd with
    | sdBegin hpc => exact .ofSd (hset _ _ (hstay hpc .sdBegin)) (hpc ▸ rfl) ⟨fun _ => Or.inr hpc, fun _ => rfl⟩ (hrefl _)
    | sdSwapActive hpc | sdSwapAvail hpc =>
      rw [sdNext_eq]; exact .ofSd (hset _ _ (hstay hpc (.sdSwap ..))) (hpc ▸ rfl) (hin hpc rfl) (hrefl _)
    | sdJoined hpc => rw [sdNext_eq]; exact .ofSd (hset _ _ (hstay hpc (.sdJoin ..))) (hpc ▸ rfl) (hin hpc rfl) (hrefl _)
    | sdFinish hpc =>
      have hn := notifyAll_spec c.p.waitK c.p.waitT c.uth
      refine .ofSd (hset _ _ (.ret (hpc ▸ nofun) (fun e => absurd (hpc.symm.trans e) nofun) (hn t).1 (hn t).2.1)) (hpc ▸ rfl) (hin hpc rfl)
        fun t' ht' => ?_
      have e := hoth (notifyAll c.p.waitK c.p.waitT c.uth) (advance (notifyAll c.p.waitK c.p.waitT c.uth t)) t' ht'
      exact ⟨(congrArg UTh.pc e).trans (hn t').1, (congrArg UTh.prog e).trans (hn t').2.1,
        Nat.le_trans (notifyAll_mono ..) (Nat.le_of_eq (congrArg UTh.notif e).symm)⟩

def progSub (c c' : Cfg) : Prop := ∀ t op, op ∈ (c'.uth t).prog → op ∈ (c.uth t).prog

theorem pstep_progSub {c c' : Cfg} {T : PTid} (hs : PStep c T c') : progSub c c' := fun t op => by
  rw [hs.outside.view.prog t]; exact id

theorem ustep_progSub {c c' : Cfg} {t : Tid} (hs : UStep c t c') : progSub c c' := fun t' op => by
  by_cases ht' : t' = t
  · exact ht' ▸ hs.outside.own.prog_sub op
  · rw [hs.outside.prog_other ht']; exact id

theorem wf_ustep {c c' : Cfg} {t : Tid} (hw : ∀ t, (c.uth t).Wf) (h : UStep c t c') : ∀ t, (c'.uth t).Wf := fun t' => by
  have ho := h.outside
  by_cases ht' : t' = t
  · exact ht' ▸ ho.own.wf (hw t)
  · exact (hw t').congr (ho.pc_other ht') (ho.prog_other ht')

/-- `Shutdown` sets `_shuttingDown` in its first critical section, and nothing clears it -/
def SdShut (c : Cfg) : Prop := ∀ t, inShutdown (c.uth t).pc = true → c.p.shut = true

theorem sdShut_ustep {c c' : Cfg} {t : Tid} (h : SdShut c) (hs : UStep c t c') : SdShut c' := fun t' hi => by
  have ho := hs.outside
  refine ho.shut.2 ?_
  by_cases ht' : t' = t
  · subst ht'; exact (ho.own.inShutdown_before hi).imp_left (h t')
  · exact Or.inl (h t' (ho.pc_other ht' ▸ hi))

theorem sdShut_userView {c c' : Cfg} (h : SdShut c) (hv : UserView c c') : SdShut c' := fun t hi =>
  hv.shut.trans (h t (hv.pc t ▸ hi))

end Muscle.Conc.TP
