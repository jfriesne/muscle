import MuscleModel.Conc.ProofsTPBase

/-! # C19 proofs: the cover invariant — when `Shutdown()` reaches its final section every pool thread has ended

Every pool thread has ended, or is in one of the two tables, or is in the list that the thread inside `Shutdown` is
joining (`Cov`); at the final section of `Shutdown` all three are empty.  Needs one caller of `Shutdown`, no client discipline. -/

namespace Muscle.Conc.TP
open Muscle.Conc

/-- `Shutdown` has emptied `_availableThreads` in the current round … -/
def availGone : UPc → Bool
  | .sdSwap b _ _ => b
  | .sdJoin .. | .sdFinal _ => true
  | _ => false

/-- … and `_activeThreads` -/
def activeGone : UPc → Bool
  | .sdJoin b .. => b
  | .sdFinal _ => true
  | _ => false

def CovAt (c : Cfg) (pc : UPc) : Prop :=
  Cov c (joining pc) ∧ (availGone pc = true → c.p.availR = []) ∧ (activeGone pc = true → c.p.active = [])

structure CoverInv (c : Cfg) : Prop where
  /-- `Shutdown` is, or is still to be, called by one thread only -/
  oneCaller : ∀ t t', Op.shutdown ∈ (c.uth t).prog → Op.shutdown ∈ (c.uth t').prog → t = t'
  /-- while nobody is inside `Shutdown`, every pool thread has ended or is in a table -/
  outside : (∀ t, inShutdown (c.uth t).pc = false) → Cov c []
  /-- the thread inside `Shutdown` has the rest in its join list -/
  inside : ∀ t, inShutdown (c.uth t).pc = true → CovAt c (c.uth t).pc

theorem CoverInv.all_exited {c : Cfg} (h : CoverInv c) {t : Tid} {tot : Nat} (hpc : (c.uth t).pc = .sdFinal tot) :
    ∀ T, T < c.p.idc → (c.pth T).pc = .exited := by
  obtain ⟨x1, x2, x3⟩ := h.inside t (by rw [hpc]; rfl)
  rw [hpc] at x1 x2 x3
  intro T hT
  have := x1 T hT
  rw [x2 rfl, x3 rfl] at this
  simpa [joining] using this

theorem CoverInv.join_cover {c : Cfg} (h : CoverInv c) {t : Tid} {b : Bool} {nA tot n : Nat} {T : PTid} {rest : List PTid}
    (hpc : (c.uth t).pc = .sdJoin b nA tot n T rest) : Cov c (T :: rest) ∧ c.p.availR = [] ∧ (b = true → c.p.active = []) := by
  obtain ⟨x1, x2, x3⟩ := h.inside t (by rw [hpc]; rfl)
  rw [hpc] at x1 x2 x3
  exact ⟨x1, x2 rfl, x3⟩

theorem coverInv_pstep {c c' : Cfg} {T0 : PTid} (h : CoverInv c) (hb : InvBase c) (hs : PStep c T0 c') : CoverInv c' := by
  have hv := hs.outside.view
  have hk := hs.outside.keeps (pstep_lt hb.invP hs)
  refine ⟨fun t t' a b => h.oneCaller t t' (hv.prog t ▸ a) (hv.prog t' ▸ b),
    fun a => hk.cov [] (h.outside (fun t => hv.pc t ▸ a t)), fun t ht => ?_⟩
  rw [hv.pc t] at ht ⊢
  obtain ⟨x1, x2, x3⟩ := h.inside t ht
  have hp := (hs.outside.shut (hb.sdShut t ht)).p
  exact ⟨hk.cov _ x1, fun a => by rw [hp]; exact x2 a, fun a => by rw [hp]; exact x3 a⟩

theorem cov_sdNext {c1 : Cfg} (t : Tid) (b : Bool) (nA tot n : Nat) (l : List PTid) {e : List PTid} (h : Cov c1 e) :
    Cov (sdNext c1 t b nA tot n l) e := by
  rw [sdNext_eq]
  intro T hT
  refine (h T hT).imp_left (fun hx => ?_)
  cases l with
  | nil => exact hx
  | cons T0 r =>
    show (upd c1.pth T0 _ T).pc = .exited
    rw [upd_apply]; split
    · rename_i he; subst he; exact hx
    · exact hx

theorem covAt_sdNext {c1 : Cfg} (t : Tid) (b : Bool) (nA tot n : Nat) (l : List PTid)
    (hcov : Cov c1 l) (ha : c1.p.availR = []) (hb : b = true → c1.p.active = []) :
    CovAt (sdNext c1 t b nA tot n l) (sdNextPc b nA tot n l) := by
  unfold CovAt
  rw [sdNext_pool]
  cases l with
  | cons T rest => exact ⟨cov_sdNext t b nA tot n _ hcov, fun _ => ha, hb⟩
  | nil =>
    refine ⟨?_, ?_, ?_⟩
    · have : joining (sdNextPc b nA tot n []) = [] := by
        show joining (if b = false then _ else if nA > 0 ∨ n > 0 then _ else _) = []
        split
        · rfl
        · split <;> rfl
      rw [this]; exact cov_sdNext t b nA tot n _ hcov
    · exact fun _ => ha
    · intro hg
      refine hb ?_
      cases b with
      | true => rfl
      | false => simp [sdNextPc, activeGone] at hg

theorem coverInv_ustep {c c' : Cfg} {t : Tid} (h : CoverInv c) (hb : InvBase c) (hs : UStep c t c') : CoverInv c' := by
  have hsub := ustep_progSub hs
  have hso : ∀ a b, Op.shutdown ∈ (c'.uth a).prog → Op.shutdown ∈ (c'.uth b).prog → a = b :=
    fun a b ha hb => h.oneCaller a b (hsub a _ ha) (hsub b _ hb)
  have hoth : ∀ t', t' ≠ t → (c'.uth t').pc = (c.uth t').pc := fun _ ht' => hs.outside.pc_other ht'
  by_cases hsd : callOf (c.uth t).pc = some .shutdown
  case neg =>
    have p1 := hs.outside.own.not_inShutdown hsd
    have p2 := hs.outside.keeps hsd
    have hold : ∀ t', inShutdown (c'.uth t').pc = true → (c'.uth t').pc = (c.uth t').pc := fun t' hi =>
      hoth t' (fun he => by rw [he, p1] at hi; cases hi)
    refine ⟨hso, fun hall => p2.cov [] (h.outside (fun t' => ?_)), fun t' hi => ?_⟩
    · by_cases he : t' = t
      · subst he; exact inShutdown_false_of_callOf hsd
      · rw [← hoth t' he]; exact hall t'
    · have e := hold t' hi
      rw [e] at hi ⊢
      obtain ⟨x1, x2, x3⟩ := h.inside t' hi
      have f := hs.outside.idle hsd (hb.sdShut t' hi)
      exact ⟨p2.cov _ x1, fun a => by rw [f.availR]; exact x2 a, fun a => by rw [f.active]; exact x3 a⟩
  case pos =>
    -- `t` is THE thread that calls `Shutdown`: nobody else is at or inside it
    have hx : ∀ t', t' ≠ t → inShutdown (c.uth t').pc = false := fun t' hne => by
      exact inShutdown_false_of_callOf (fun hq => hne (h.oneCaller t' t ((hb.wf t').mem hq) ((hb.wf t).mem hsd)))
    have hme : ∀ t', inShutdown (c'.uth t').pc = true → t' = t := fun t' hi =>
      Classical.byContradiction (fun hne => by rw [hoth t' hne, hx t' hne] at hi; cases hi)
    -- so it is enough to say what `t` can rely on after the step, if it is still inside
    have hin : CovAt c' (c'.uth t).pc → inShutdown (c'.uth t).pc = true → CoverInv c' := fun hc hi =>
      ⟨hso, fun hall => absurd ((hall t).symm.trans hi) nofun, fun t' hi' => by rw [hme t' hi']; exact hc⟩
    cases hs.sd hsd with
    | sdBegin hpc =>
      have hc0 : Cov c [] := h.outside (fun t' => by
        by_cases he : t' = t
        · rw [he, hpc]; rfl
        · exact hx t' he)
      refine hin ?_ (by show inShutdown (upd c.uth t _ t).pc = true; rw [upd_same]; rfl)
      show CovAt _ (upd c.uth t _ t).pc
      rw [upd_same]
      exact ⟨hc0, nofun, nofun⟩
    | @sdSwapActive nA tot hpc =>
      obtain ⟨x1, x2, _⟩ := h.inside t (by rw [hpc]; rfl)
      rw [hpc] at x1 x2
      have hav := x2 rfl
      refine hin ?_ (by rw [sdNext_self]; exact sdNextPc_inShutdown ..)
      rw [sdNext_self]
      refine covAt_sdNext t true nA tot _ _ (fun T hT => ?_) hav (fun _ => rfl)
      rcases x1 T hT with a | a | a | a
      · exact Or.inl a
      · rw [hav] at a; cases a
      · exact Or.inr (Or.inr (Or.inr a))
      · cases a
    | @sdSwapAvail nA tot hpc =>
      obtain ⟨x1, _, _⟩ := h.inside t (by rw [hpc]; rfl)
      rw [hpc] at x1
      refine hin ?_ (by rw [sdNext_self]; exact sdNextPc_inShutdown ..)
      rw [sdNext_self]
      refine covAt_sdNext t false nA tot _ _ (fun T hT => ?_) rfl nofun
      rcases x1 T hT with a | a | a | a
      · exact Or.inl a
      · exact Or.inr (Or.inr (Or.inr (List.mem_reverse.2 a)))
      · exact Or.inr (Or.inr (Or.inl a))
      · cases a
    | @sdJoined b nA tot n T r hpc hex =>
      obtain ⟨x1, x2, x3⟩ := h.inside t (by rw [hpc]; rfl)
      rw [hpc] at x1 x2 x3
      refine hin ?_ (by rw [sdNext_self]; exact sdNextPc_inShutdown ..)
      rw [sdNext_self]
      refine covAt_sdNext t b nA tot n r (fun T' hT' => ?_) (x2 rfl) x3
      rcases x1 T' hT' with a | a | a | a
      · exact Or.inl a
      · exact Or.inr (Or.inl a)
      · exact Or.inr (Or.inr (Or.inl a))
      · rcases List.mem_cons.1 a with a | a
        · exact Or.inl (a ▸ hex)
        · exact Or.inr (Or.inr (Or.inr a))
    | sdFinish hpc =>
      have hall := h.all_exited hpc
      have hnew : inShutdown (upd (notifyAll c.p.waitK c.p.waitT c.uth) t
          (advance (notifyAll c.p.waitK c.p.waitT c.uth t)) t).pc = false := by
        rw [upd_same]; exact advance_not_inShutdown _
      refine ⟨hso, fun _ T hT => Or.inl (hall T hT), fun t' hi' => ?_⟩
      have he := hme t' hi'
      subst he
      exact absurd (hnew.symm.trans hi') nofun

theorem coverInv_init (maxT : Nat) (regs : List Client) (progs : List (List Op)) (h1 : OneShutdownThread progs) : CoverInv (Cfg.init maxT regs progs) := by
  have hu := init_uth_prog maxT regs progs
  refine ⟨fun t t' a b => h1 t t' ((hu t).1 ▸ a) ((hu t').1 ▸ b), fun _ T hT => by simp [Cfg.init, Pool.init] at hT, fun t h => ?_⟩
  rcases (hu t).2.2 with h' | h' <;> (rw [h'] at h; cases h)

theorem reach_cover {maxT regs progs c} (h1 : OneShutdownThread progs) (h : machine.Reach (Cfg.init maxT regs progs) c) : CoverInv c :=
  (Machine.Reach.invariant machine (fun c => InvBase c ∧ CoverInv c) ⟨invBase_init maxT regs progs, coverInv_init maxT regs progs h1⟩
    (fun _ _ _ _ ⟨hb, hi⟩ hs => ⟨invBase_step hb hs,
      (step_cases hs).elim (fun ⟨_, _, _, hu⟩ => coverInv_ustep hi hb hu) fun ⟨_, _, hp⟩ => coverInv_pstep hi hb hp⟩) h).2

end Muscle.Conc.TP
