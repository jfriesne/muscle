import MuscleModel.Conc.ProofsTPTables

/-! # C19 proofs: the pool threads, for ALL programs

Where a pool thread stands decides what is in its inbox and whether it has a client (`ThreadOk`, `InvP`): the pool side of who is enabled. -/

namespace Muscle.Conc.TP
open Muscle.Conc

theorem inbox_nil_of_none (l : List Item) (h1 : Item.batch ∉ l) (h2 : Item.quit ∉ l) : l = [] := by
  cases l with
  | nil => rfl
  | cons a r => cases a <;> simp at h1 h2

theorem head_append_quit (l : List Item) : (l ++ [Item.quit]).head? = some Item.batch ↔ l.head? = some Item.batch := by
  cases l <;> simp

theorem tail_append_quit (l : List Item) : Item.batch ∈ (l ++ [Item.quit]).tail ↔ Item.batch ∈ l.tail := by
  cases l <;> simp

/-- Where a pool thread stands decides what is in its inbox and whether it has a client. -/
structure ThreadOk (p : Pool) (T : PTid) (th : PTh) : Prop where
  /-- the threads `0 … idc-1` exist … -/
  born : T < p.idc → th.pc ≠ .unborn
  /-- … and no others -/
  unb : p.idc ≤ T → th.pc = .unborn
  /-- inside the handler the thread has a client and a non-empty batch -/
  handlerBatch : th.pc = .handler → ∃ k m q, th.cur = some k ∧ th.queue = m :: q
  /-- a thread with a client is in the handler, or has the batch notice at the head of its inbox -/
  curBusy : ∀ k, th.cur = some k → th.pc = .handler ∨ ((th.pc = .start ∨ th.pc = .idle) ∧ th.inbox.head? = some .batch)
  /-- until shutdown an available thread waits with an empty inbox -/
  availEmpty : p.shut = false → T ∈ p.availR → th.inbox = [] ∧ (th.pc = .idle ∨ th.pc = .start)
  /-- a batch notice is in the inbox of a waiting thread that has a client … -/
  batchCur : Item.batch ∈ th.inbox → (∃ k, th.cur = some k) ∧ (th.pc = .start ∨ th.pc = .idle)
  /-- … and only at the head -/
  oneBatch : Item.batch ∉ th.inbox.tail
  /-- the NULL Message is sent by `Shutdown` only -/
  quitShut : Item.quit ∈ th.inbox → p.shut = true
  /-- until shutdown an active thread has a client or is about to hand one back -/
  activeBusy : p.shut = false → T ∈ p.active → th.cur ≠ none ∨ ∃ k, th.pc = .finLock k

structure InvP (c : Cfg) : Prop where
  tok : ∀ T, ThreadOk c.p T (c.pth T)
  /-- a non-empty pending queue has its key in `_pendingMessages` -/
  pendKeys : ∀ k, c.p.pend k ≠ [] → k ∈ c.p.pendK

/-- a pool thread that does not exist yet has no client -/
theorem InvP.freshNoCur {c : Cfg} (h : InvP c) {T : PTid} (hT : c.p.idc ≤ T) : (c.pth T).cur = none := by
  cases hk : (c.pth T).cur with
  | none => rfl
  | some k =>
    have hu := (h.tok T).unb hT
    rcases (h.tok T).curBusy k hk with e | ⟨e | e, _⟩ <;> rw [hu] at e <;> cases e

/-- the same record under another pool: what matters is whether the thread exists and which table it is in -/
theorem ThreadOk.mono {p p' : Pool} {T : PTid} {th : PTh} (h : ThreadOk p T th) (hs : p'.shut = p.shut := by rfl)
    (hb : T < p'.idc → T < p.idc := by exact id) (hu : p'.idc ≤ T → p.idc ≤ T := by exact id)
    (ha : T ∈ p'.availR → T ∈ p.availR := by exact id) (hact : T ∈ p'.active → T ∈ p.active := by exact id) : ThreadOk p' T th :=
  { h with
    born := fun hT => h.born (hb hT), unb := fun hT => h.unb (hu hT)
    availEmpty := fun hs' hT => h.availEmpty (hs ▸ hs') (ha hT), quitShut := fun hq => hs ▸ h.quitShut hq, activeBusy := fun hs' hT => h.activeBusy (hs ▸ hs') (hact hT) }

theorem ThreadOk.of_shut {p p' : Pool} {T : PTid} {th : PTh} (h : ThreadOk p T th) (hs : p'.shut = true) (hi : p'.idc = p.idc := by rfl) :
    ThreadOk p' T th :=
  have hn : ∀ {α : Prop}, p'.shut = false → α := fun e => absurd (hs.symm.trans e) nofun
  { h with born := fun hT => h.born (hi ▸ hT), unb := fun hT => h.unb (hi ▸ hT), availEmpty := fun e => hn e, quitShut := fun _ => hs, activeBusy := fun e => hn e }

theorem InvP.frame {c c' : Cfg} (h : InvP c) (ht : c'.pth = c.pth := by rfl) (hs : c'.p.shut = c.p.shut := by rfl)
    (hi : c'.p.idc = c.p.idc := by rfl) (ha : c'.p.availR = c.p.availR := by rfl) (hb : c'.p.active = c.p.active := by rfl)
    (pendKeys : ∀ k, c'.p.pend k ≠ [] → k ∈ c'.p.pendK) : InvP c' :=
  ⟨fun T => ht ▸ (h.tok T).mono hs (hi ▸ id) (hi ▸ id) (ha ▸ id) (hb ▸ id), pendKeys⟩

theorem InvP.of_upd {c c' : Cfg} {T : PTid} {th' : PTh} (ht : c'.pth = upd c.pth T th') (hok : ThreadOk c'.p T th')
    (hoth : ∀ T', T' ≠ T → ThreadOk c'.p T' (c.pth T')) (pendKeys : ∀ k, c'.p.pend k ≠ [] → k ∈ c'.p.pendK) : InvP c' :=
  ⟨fun T' => by
    rw [ht, upd_apply]; split
    · next e => exact e ▸ hok
    · next e => exact hoth T' e, pendKeys⟩

theorem InvP.setPth {c c' : Cfg} (h : InvP c) {T : PTid} {th' : PTh} (ht : c'.pth = upd c.pth T th') (hok : ThreadOk c.p T th')
    (hp : c'.p = c.p := by rfl) : InvP c' :=
  .of_upd ht (hp ▸ hok) (fun T' _ => hp ▸ h.tok T') (hp ▸ h.pendKeys)

theorem invP_spawnIfNeeded {c : Cfg} (h : InvP c) (h0 : Inv0 c) : InvP (spawnIfNeeded c) :=
  spawnIfNeeded_cases (fun _ => h) fun _ _ => by
    refine .of_upd (T := c.p.idc) rfl ?_ (fun T hne => ?_) h.pendKeys
    · exact { born := nofun, unb := fun hT => absurd hT (Nat.not_succ_le_self _), handlerBatch := nofun, curBusy := nofun
              availEmpty := fun _ _ => ⟨rfl, Or.inr rfl⟩, batchCur := nofun, oneBatch := nofun, quitShut := nofun
              activeBusy := fun _ hT => absurd (h0.ltB _ hT) (Nat.lt_irrefl _) }
    · exact (h.tok T).mono rfl (fun hT => Nat.lt_of_le_of_ne (Nat.le_of_lt_succ hT) hne) Nat.le_of_succ_le
        (fun hT => absurd (List.mem_singleton.1 hT) hne)

theorem invP_assign {c : Cfg} {k : Client} {T : PTid} {rest : List PTid} (h : InvP c) (h0 : Inv0 c) (ha : c.p.availR = T :: rest)
    (hs : c.p.shut = false) : InvP (assign c k T rest) := by
  have hTa : T ∈ c.p.availR := ha ▸ List.mem_cons_self
  have hTr : T ∉ rest := (List.nodup_cons.1 (ha ▸ h0.ndA)).1
  have hk := h.tok T
  obtain ⟨hin, hpc⟩ := hk.availEmpty hs hTa
  refine .of_upd (T := T) rfl ?_ (fun T' hne => ?_) fun k' hk' => ?_
  · exact { born := hk.born, unb := hk.unb
            handlerBatch := fun e => by rcases hpc with e' | e' <;> exact absurd (e'.symm.trans e) nofun
            curBusy := fun _ _ => Or.inr ⟨hpc.symm, by rw [hin]; rfl⟩
            availEmpty := fun _ hT => absurd hT hTr
            batchCur := fun _ => ⟨⟨k, rfl⟩, hpc.symm⟩
            oneBatch := by rw [hin]; nofun
            quitShut := by rw [hin]; nofun
            activeBusy := fun _ _ => Or.inl nofun }
  · exact (h.tok T').mono rfl id id (fun hT => ha ▸ List.mem_cons_of_mem _ hT)
      fun hT => (List.mem_append.1 hT).resolve_right fun e => hne (List.mem_singleton.1 e)
  · exact (upd_ne_nil hk').elim (fun e => absurd rfl e.2) fun e => h.pendKeys k' e.2

theorem invP_dispatch {c : Cfg} (h : InvP c) (h0 : Inv0 c) : InvP (dispatch c) := by
  cases hs : c.p.shut with
  | true => rw [dispatch_shut hs]; exact h
  | false =>
    exact (dispatch_rule h0 hs h h.pendKeys
      (fun h0 hs h _ _ ha => invP_assign (invP_spawnIfNeeded h h0) (inv0_spawnIfNeeded h0) ha ((disp_spawnIfNeeded _).shut.trans hs))
      fun h hk => h.frame (pendKeys := hk)).1

theorem invP_addPend {c : Cfg} (k : Client) (m : MsgId) (h : InvP c) : InvP (addPend c k m) :=
  h.frame (pendKeys := fun k' hk' => mem_addKey.2 <| (upd_ne_nil hk').elim (fun e => Or.inr e.1) fun e => Or.inl (h.pendKeys k' e.2))

theorem invP_subCS {c : Cfg} (k : Client) (m : MsgId) (h : InvP c) (h0 : Inv0 c) : InvP (subCS c k m).1 :=
  subCS_cases k m h (fun _ _ => h.frame (pendKeys := h.pendKeys)) (fun _ _ => invP_addPend k m h) (fun _ _ _ h => h)
    fun hk hf _ ha => invP_dispatch ha (inv0_addPend k m h0 hk hf)

theorem finPrefix_tables (c : Cfg) (T : PTid) (k : Client) :
    (finPrefix c T k).p.idc = c.p.idc ∧ (finPrefix c T k).p.shut = c.p.shut ∧
    (∀ T', T' ∈ (finPrefix c T k).p.availR → T' = T ∨ T' ∈ c.p.availR) ∧
    (∀ T', T' ∈ (finPrefix c T k).p.active → T' ≠ T ∧ T' ∈ c.p.active) := by
  have hb := handBack_p { c with pth := upd c.pth T { (c.pth T) with pc := .idle } } k
  refine release_cases (P := fun c' => c'.p.idc = c.p.idc ∧ c'.p.shut = c.p.shut ∧
    (∀ T', T' ∈ c'.p.availR → T' = T ∨ T' ∈ c.p.availR) ∧ ∀ T', T' ∈ c'.p.active → T' ≠ T ∧ T' ∈ c.p.active)
    (fun hm => ?_) fun hm => ?_
  all_goals dsimp only; rw [hb] at *
  · exact ⟨rfl, rfl, fun T' hT' => Or.inr hT', fun T' hT' => ⟨fun e => hm (e ▸ hT'), hT'⟩⟩
  · exact ⟨rfl, rfl, fun T' hT' => List.mem_cons.1 hT', fun T' hT' => ⟨(mem_remKey.1 hT').2, (mem_remKey.1 hT').1⟩⟩

theorem finPrefix_pendKeys {c : Cfg} (T : PTid) (k : Client) (h : ∀ k', c.p.pend k' ≠ [] → k' ∈ c.p.pendK) :
    ∀ k', (finPrefix c T k).p.pend k' ≠ [] → k' ∈ (finPrefix c T k).p.pendK := by
  unfold finPrefix; rw [release_p]
  refine handBack_cases (P := fun c' => ∀ k', c'.p.pend k' ≠ [] → k' ∈ c'.p.pendK) (fun _ => h) (fun _ _ k' hk' => ?_) fun _ _ => h
  exact mem_addKey.2 <| (upd_ne_nil hk').elim (fun e => Or.inr e.1) fun e => Or.inl (h k' e.2)

theorem invP_finPrefix {c : Cfg} (T : PTid) (k : Client) (h : InvP c) (h0 : Inv0 c) (hpc : (c.pth T).pc = .finLock k) (hs : c.p.shut = false) :
    InvP (finPrefix c T k) := by
  have hc := h0.finCur T k hpc
  have hk := h.tok T
  have hin : (c.pth T).inbox = [] := by
    apply inbox_nil_of_none
    · intro hb; obtain ⟨⟨k', hk'⟩, _⟩ := hk.batchCur hb; rw [hc] at hk'; cases hk'
    · intro hq; have := hk.quitShut hq; rw [hs] at this; cases this
  obtain ⟨hidc, hsh, hav, hact⟩ := finPrefix_tables c T k
  refine .of_upd (finPrefix_pth c T k) ?_ (fun T' hne => ?_) (finPrefix_pendKeys T k h.pendKeys)
  · exact { born := fun _ => nofun, unb := fun hT => absurd (hk.unb (hidc ▸ hT)) (hpc ▸ nofun), handlerBatch := nofun
            curBusy := fun k' e => absurd (hc.symm.trans e) nofun, availEmpty := fun _ _ => ⟨hin, Or.inl rfl⟩
            batchCur := hin ▸ nofun, oneBatch := hin ▸ nofun, quitShut := hin ▸ nofun, activeBusy := fun _ hT => absurd rfl (hact T hT).1 }
  · exact (h.tok T').mono hsh (hidc ▸ id) (hidc ▸ id) (fun hT => (hav T' hT).resolve_left hne) fun hT => (hact T' hT).2

theorem invP_wake {c : Cfg} (k : Client) (h : InvP c) : InvP (wake c k) :=
  wake_cases (fun _ => h) fun _ _ => h.frame (pendKeys := h.pendKeys)

theorem ThreadOk.fetch {p : Pool} {T : PTid} {th : PTh} (h : ThreadOk p T th) (hpc : th.pc = .start ∨ th.pc = .idle)
    (hav : T ∈ p.availR → th.cur = none) : ThreadOk p T (fetched th) := by
  have hnf : ∀ {pc'}, th.pc = pc' → pc' ≠ .start → pc' ≠ .idle → False := fun e h1 h2 =>
    hpc.elim (fun e' => h1 (e.symm.trans e')) fun e' => h2 (e.symm.trans e')
  have halive : ¬ p.idc ≤ T := fun hT => hnf (h.unb hT) nofun nofun
  -- with a client the thread has the batch notice at the head of its inbox; an active thread has a client
  have hg : ∀ {k}, th.cur = some k → th.inbox.head? = some .batch := fun e => (h.curBusy _ e).elim (fun e' => (hnf e' nofun nofun).elim) (·.2)
  have hact : p.shut = false → T ∈ p.active → th.cur ≠ none := fun hs hT =>
    (h.activeBusy hs hT).resolve_right fun ⟨_, e⟩ => by rcases hpc with e' | e' <;> rw [e'] at e <;> cases e
  -- taking the head `x` off the inbox: no batch notice is left (`oneBatch`)
  have hpop : ∀ {x rest pc' cur'}, th.inbox = x :: rest → pc' ≠ .unborn →
      (pc' = .handler → ∃ k m q, cur' = some k ∧ th.queue = m :: q) → (∀ k, cur' = some k → pc' = .handler) →
      (p.shut = false → T ∉ p.availR) → (p.shut = false → T ∈ p.active → cur' ≠ none ∨ ∃ k, pc' = .finLock k) →
      ThreadOk p T { th with pc := pc', cur := cur', inbox := rest } := fun hin hpc' hq' hg' ha' hac' =>
    have hb2 : Item.batch ∉ _ := fun hb => h.oneBatch (hin ▸ hb)
    { born := fun _ => hpc', unb := fun hT => absurd hT halive, handlerBatch := hq', curBusy := fun k e => Or.inl (hg' k e)
      availEmpty := fun hs hT => absurd hT (ha' hs), batchCur := fun hb => absurd hb hb2, oneBatch := fun hb => hb2 (List.mem_of_mem_tail hb)
      quitShut := fun hq => h.quitShut (hin ▸ List.mem_cons_of_mem _ hq), activeBusy := hac' }
  rcases fetched_cases th with ⟨hin, e⟩ | ⟨rest, hin, e⟩ | ⟨rest, hin, he⟩
  · have hcur : th.cur = none := by
      cases hk : th.cur with
      | none => rfl
      | some k => have := hg hk; rw [hin] at this; cases this
    rw [e]
    exact { born := fun _ => nofun, unb := fun hT => absurd hT halive, handlerBatch := nofun, curBusy := fun _ e => absurd (hcur.symm.trans e) nofun
            availEmpty := fun _ _ => ⟨hin, Or.inl rfl⟩, batchCur := hin ▸ nofun, oneBatch := hin ▸ nofun, quitShut := hin ▸ nofun
            activeBusy := fun hs hT => absurd hcur (hact hs hT) }
  · have hsh : p.shut = false → False := fun hs => Bool.false_ne_true (hs.symm.trans (h.quitShut (hin ▸ List.mem_cons_self)))
    rw [e]
    exact hpop hin nofun nofun (fun k e => by have := hg e; rw [hin] at this; cases this) (fun hs => (hsh hs).elim) fun hs => (hsh hs).elim
  · obtain ⟨⟨k0, hk0⟩, -⟩ := h.batchCur (hin ▸ List.mem_cons_self)
    have hnav : p.shut = false → T ∉ p.availR := fun _ hT => absurd ((hav hT).symm.trans hk0) nofun
    rcases he with ⟨k, m, q, hc, hq, e⟩ | ⟨k, hc, _, e⟩ | ⟨hc, _⟩
    · rw [e]; exact hpop hin nofun (fun _ => ⟨k, m, q, hc, hq⟩) (fun _ _ => rfl) hnav fun _ _ => Or.inl (hc ▸ nofun)
    · rw [e]; exact hpop hin nofun nofun nofun hnav fun _ _ => Or.inr ⟨_, rfl⟩
    · exact absurd (hc.symm.trans hk0) nofun

theorem invP_fetch {c : Cfg} (T : PTid) (h : InvP c) (h0 : Inv0 c) (hpc : (c.pth T).pc = .start ∨ (c.pth T).pc = .idle) : InvP (fetch c T).1 := by
  rw [fetch_eq]; exact h.setPth rfl ((h.tok T).fetch hpc fun hT => (h0.availIdle T hT).1)

theorem invP_sdNext {c : Cfg} (t : Tid) (b : Bool) (nA total n : Nat) (l : List PTid) (h : InvP c) (hs : c.p.shut = true) :
    InvP (sdNext c t b nA total n l) := by
  rw [sdNext_eq]
  cases l with
  | nil => exact h.frame (pendKeys := h.pendKeys)
  | cons T rest =>
    have hk := h.tok T
    have hns : c.p.shut = false → False := fun e => Bool.false_ne_true (e.symm.trans hs)
    exact h.setPth rfl { hk with
      curBusy := fun k e => (hk.curBusy k e).imp_right fun hg => ⟨hg.1, (head_append_quit _).2 hg.2⟩
      availEmpty := fun e => (hns e).elim
      batchCur := fun hb => hk.batchCur ((List.mem_append.1 hb).resolve_right nofun)
      oneBatch := fun hb => hk.oneBatch ((tail_append_quit _).1 hb)
      quitShut := fun _ => hs
      activeBusy := fun e => (hns e).elim }

/-- every branch of `PStep` has a premise on `pc` that `unborn` refutes -/
theorem pstep_lt {c c' : Cfg} {T : PTid} (hp : InvP c) (hs : PStep c T c') : T < c.p.idc :=
  Nat.lt_of_not_le (fun hle => by have hu := (hp.tok T).unb hle; cases hs <;> simp_all)

theorem invP_pstep {c c' : Cfg} {T : PTid} (h : InvP c) (h0 : Inv0 c) (hs : PStep c T c') : InvP c' := by
  have hk := h.tok T
  have hlt := pstep_lt h hs
  cases hs with
  | look hpc => exact invP_fetch T h h0 (hpc.imp_right (·.1))
  | @next k m m2 q hpc hc => exact h.setPth rfl { hk with handlerBatch := fun _ => ⟨k, m2, q, hc, rfl⟩ }
  | last hpc hc =>
    exact h.setPth rfl
      { born := fun _ => nofun, unb := fun hT => absurd hlt (Nat.not_lt.2 hT), handlerBatch := nofun, curBusy := nofun
        availEmpty := fun _ hT => absurd ((h0.availIdle T hT).1.symm.trans hc) nofun
        batchCur := fun hb => (hk.batchCur hb).2.elim (fun e => absurd (hpc.symm.trans e) nofun) fun e => absurd (hpc.symm.trans e) nofun
        oneBatch := hk.oneBatch, quitShut := hk.quitShut, activeBusy := fun _ _ => Or.inr ⟨_, rfl⟩ }
  | finishShut hpc hsh =>
    refine invP_fetch T (h.setPth rfl ?_) (inv0_setIdle T h0) (Or.inr (by simp only [upd_same]))
    exact { hk with
      born := fun _ => nofun, unb := fun hT => absurd hlt (Nat.not_lt.2 hT), handlerBatch := nofun
      curBusy := fun _ e => absurd ((h0.finCur T _ hpc).symm.trans e) nofun
      availEmpty := fun e => absurd (hsh.symm.trans e) nofun
      batchCur := fun hb => (hk.batchCur hb).2.elim (fun e => absurd (hpc.symm.trans e) nofun) fun e => absurd (hpc.symm.trans e) nofun
      activeBusy := fun e => absurd (hsh.symm.trans e) nofun }
  | @finish k hpc hsh =>
    have hp0 := inv0_finPrefix T k h0 hpc
    refine invP_fetch T (invP_wake k (invP_dispatch (invP_finPrefix T k h h0 hpc hsh) hp0)) (inv0_wake k (inv0_dispatch hp0)) (Or.inr ?_)
    exact finish_pc_idle c k hlt

theorem invP_ustep {c c' : Cfg} {t : Tid} (h : InvP c) (h0 : Inv0 c) (h1 : SdShut c) (hs : UStep c t c') : InvP c' := by
  cases hs with
  | sub => exact (invP_subCS _ _ h h0).frame (pendKeys := (invP_subCS _ _ h h0).pendKeys)
  | @unreg k =>
    exact h.frame (pendKeys := fun k' hk' => (upd_ne_nil hk').elim (fun e => absurd rfl e.2) fun e => mem_remKey.2 ⟨h.pendKeys k' e.2, e.1⟩)
  | shutdown hsd =>
    cases hsd with
    | sdBegin => exact ⟨fun T => (h.tok T).of_shut rfl, h.pendKeys⟩
    | sdSwapActive hpc =>
      exact invP_sdNext _ _ _ _ _ _ ⟨fun T => (h.tok T).of_shut (h1 t (hpc ▸ rfl)), h.pendKeys⟩ (h1 t (hpc ▸ rfl))
    | sdSwapAvail hpc =>
      exact invP_sdNext _ _ _ _ _ _ ⟨fun T => (h.tok T).of_shut (h1 t (hpc ▸ rfl)), h.pendKeys⟩ (h1 t (hpc ▸ rfl))
    | sdJoined hpc => exact invP_sdNext _ _ _ _ _ _ h (h1 t (hpc ▸ rfl))
    | sdFinish hpc => exact ⟨fun T => (h.tok T).of_shut (h1 t (hpc ▸ rfl)), fun _ hk => absurd rfl hk⟩
  | _ => exact h.frame (pendKeys := h.pendKeys)

theorem invP_init (maxT : Nat) (regs : List Client) (progs : List (List Op)) : InvP (Cfg.init maxT regs progs) :=
  ⟨fun T => by constructor <;> simp [Cfg.init, Pool.init, PTh.absent], fun k h => by simp [Cfg.init, Pool.init] at h⟩

end Muscle.Conc.TP
