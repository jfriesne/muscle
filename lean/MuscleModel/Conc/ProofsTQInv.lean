import MuscleModel.Conc.ProofsTQStep

/-! # C11 lemmas: the safety invariant (no lost wake-up, both directions) -/

namespace Muscle.Conc.TQ
open Muscle.Conc

/-- a thread that only ever calls `SendMessageToInternalThread(non-NULL)` -/
def SenderOnly (th : UTh) : Prop :=
  (∀ op ∈ th.prog, op.isSend = true) ∧
  (th.pc = .done ∨ (∃ m, th.pc = .sendLock (some m) false) ∨ th.pc = .sendSig false)

/-- a user thread stands between the unlock of `SendMessageAux(INTERNAL)` (with `sendNotification = true`) and its signal,
or between the spawn in `StartInternalThread()` (with `needsInitialSignal = true`) and its signal -/
def isSigPc : UPc → Bool
  | .sendSig _ => true
  | .startSig => true
  | _ => false

def SignallerI (c : Cfg) : Prop := ∃ t, isSigPc (c.th t).pc = true

/-- the internal thread stands between an unlock of the reply queue and `SignalOwner()` -/
def SignallerO (c : Cfg) : Prop := c.ipc = .entrySig ∨ ∃ id j k, c.ipc = .replySig id j k

/-- `senders`: every thread but the owner is finished or inside a plain send.  `outside`: the threads from `n` on do not exist.
`wakeI`, `wakeO`: a blocked receiver with a Message queued has a signal pending or a signaller on its way (the owner also: the
closed socket).  `shut`: past the critical section of `ShutdownInternalThread(true)` the NULL Message is queued, or the thread
has exited.  `nullOnly`: that call sends NULL. -/
structure Inv (c : Cfg) : Prop where
  /-- a live internal thread implies: marked running, its socket pair exists and is open -/
  alive : c.ipc ≠ .exited → c.sh.running = true ∧ c.sh.gen > 0 ∧ (c.sh.mode = .sock → c.sh.alloc = true ∧ c.sh.closedO = false)
  senders : ∀ t, t ≠ 0 → SenderOnly (c.th t)
  outside : ∀ t, c.n ≤ t → (c.th t).pc = .done
  wakeI : c.ipc = .recvWait → c.sh.ci.queue ≠ [] → c.sh.ci.sig > 0 ∨ SignallerI c
  wakeO : ∀ w, (c.th 0).pc = .recvWait w → c.sh.co.queue ≠ [] →
            c.sh.co.sig > 0 ∨ (c.sh.mode = .sock ∧ c.sh.closedO = true) ∨ SignallerO c
  shut : ((c.th 0).pc = .sendSig true ∨ (c.th 0).pc = .join true) → none ∈ c.sh.ci.queue ∨ c.ipc = .exited
  nullOnly : ∀ it, (c.th 0).pc = .sendLock it true → it = none

/-- only the owner (thread 0) starts, receives, shuts down and joins -/
def OwnerOnly (progs : List (List Op)) : Prop := ∀ t p, t ≠ 0 → progs[t]? = some p → ∀ op ∈ p, op.isSend = true

/-- what the owner's blocked wait relies on while replies are queued (clause `wakeO`), for the shared state `s` of the
configuration `c`: a signal is pending, the socket is closed, or the internal thread is about to signal -/
abbrev OwnerWakes (s : Sh) (c : Cfg) : Prop := s.co.sig > 0 ∨ (s.mode = .sock ∧ s.closedO = true) ∨ SignallerO c

theorem Inv.alloc {c : Cfg} (hi : Inv c) (h : c.ipc ≠ .exited) (hm : c.sh.mode = .sock) : c.sh.alloc = true :=
  ((hi.alive h).2.2 hm).1

theorem Inv.lt_n {c : Cfg} (hi : Inv c) {t : Tid} (h : (c.th t).pc ≠ .done) : t < c.n :=
  Nat.lt_of_not_le fun hle => h (hi.outside t hle)

theorem Inv.eq_zero {c : Cfg} (hi : Inv c) {t : Tid}
    (h : ¬ ((c.th t).pc = .done ∨ (∃ m, (c.th t).pc = .sendLock (some m) false) ∨ (c.th t).pc = .sendSig false)) : t = 0 :=
  Classical.byContradiction fun ht => h (hi.senders t ht).2

theorem nextOp_pc (prog : List Op) :
    (nextOp prog).pc = .done ∨ (∃ m, (nextOp prog).pc = .sendLock (some m) false) ∨ (nextOp prog).pc = .idle := by
  unfold nextOp; split <;> simp

theorem senderOnly_nextOp {prog : List Op} (h : ∀ op ∈ prog, op.isSend = true) : SenderOnly (nextOp prog) := by
  unfold nextOp
  split
  · exact ⟨by simp, Or.inl rfl⟩
  · rename_i m rest
    exact ⟨fun op ho => h op (List.mem_cons_of_mem _ ho), Or.inr (Or.inl ⟨m, rfl⟩)⟩
  · rename_i op rest hne
    cases op <;> simp_all [Op.isSend]

theorem nextOp_not_sig (prog : List Op) : isSigPc (nextOp prog).pc = false := by
  rcases nextOp_pc prog with h | ⟨m, h⟩ | h <;> simp [h, isSigPc]

/-- a record the owner can be left with, without obligation, by a step that finds the reply queue to be `coq` -/
def Calm (v : UTh) (coq : List Item) : Prop :=
  (∀ w, v.pc = .recvWait w → coq = []) ∧ v.pc ≠ .sendSig true ∧ v.pc ≠ .join true ∧ ∀ it, v.pc = .sendLock it true → it = none

theorem calm_nextOp (prog : List Op) (coq : List Item) : Calm (nextOp prog) coq := by
  unfold Calm; rcases nextOp_pc prog with h | ⟨m, h⟩ | h <;> simp [h]

theorem nextOp_ne_join (prog : List Op) : (nextOp prog).pc ≠ .join true := (calm_nextOp prog []).2.2.1

theorem init_inv (mode : Mode) {progs : List (List Op)} (hw : OwnerOnly progs) : Inv (Cfg.init mode progs) where
  alive := by simp [Cfg.init]
  senders := by
    intro t ht
    simp only [Cfg.init]
    cases hp : progs[t]? with
    | none => exact ⟨by simp, Or.inl rfl⟩
    | some p => exact senderOnly_nextOp (hw t p ht hp)
  outside := by
    intro t ht
    simp only [Cfg.init] at *
    have : progs[t]? = none := by simp [ht]
    simp [this]
  wakeI := by simp [Cfg.init]
  wakeO := by simp [Cfg.init, Sh.init, Chan.empty]
  shut := by simp [Cfg.init]
  nullOnly := by
    simp only [Cfg.init]
    cases hp : progs[0]? with
    | none => simp
    | some p => exact (calm_nextOp p []).2.2.2

theorem signallerI_keep {c : Cfg} {t : Tid} {v : UTh} (h : SignallerI c)
    (ht : isSigPc (c.th t).pc = false ∨ isSigPc v.pc = true) {s' : Sh} {i' : IPc} {n' : Nat} :
    SignallerI { sh := s', n := n', th := upd c.th t v, ipc := i' } := by
  obtain ⟨u, hu⟩ := h
  by_cases hut : u = t
  · subst hut
    rcases ht with ht | ht
    · simp [ht] at hu
    · exact ⟨u, by simp [upd, ht]⟩
  · exact ⟨u, by simp [upd, hut, hu]⟩

theorem others_keep {c : Cfg} (hi : Inv c) {t : Tid} (ht : t < c.n) {v : UTh} (hv : t ≠ 0 → SenderOnly v) :
    (∀ u, u ≠ 0 → SenderOnly (upd c.th t v u)) ∧ (∀ u, c.n ≤ u → (upd c.th t v u).pc = .done) := by
  constructor
  · intro u hu
    by_cases hut : u = t
    · rw [hut, upd_same]; exact hv (hut ▸ hu)
    · rw [upd_other _ _ _ _ hut]; exact hi.senders u hu
  · intro u hu
    rw [upd_other _ _ _ _ (Nat.ne_of_gt (Nat.lt_of_lt_of_le ht hu))]; exact hi.outside u hu

/-- nothing to show if `t` is the owner and `v` is calm; if `t` is another thread, what the clauses say of the shared state
must have been kept -/
theorem owner_keep {c : Cfg} (hi : Inv c) {t : Tid} {s' : Sh} {v : UTh} {i' : IPc}
    (h0 : t = 0 → Calm v s'.co.queue ∨ ((v.pc = .sendSig true ∨ v.pc = .join true) ∧ (none ∈ s'.ci.queue ∨ i' = .exited)))
    (hs : t ≠ 0 → i' = c.ipc ∧ s'.co = c.sh.co ∧ s'.mode = c.sh.mode ∧ s'.closedO = c.sh.closedO ∧
        (none ∈ c.sh.ci.queue → none ∈ s'.ci.queue)) :
    (∀ w, (upd c.th t v 0).pc = .recvWait w → s'.co.queue ≠ [] →
        OwnerWakes s' { c with sh := s', th := upd c.th t v, ipc := i' }) ∧
    (((upd c.th t v 0).pc = .sendSig true ∨ (upd c.th t v 0).pc = .join true) → none ∈ s'.ci.queue ∨ i' = .exited) ∧
    (∀ it, (upd c.th t v 0).pc = .sendLock it true → it = none) := by
  by_cases ht : t = 0
  · subst ht
    simp only [upd_same]
    rcases h0 rfl with ⟨h1, h2, h3, h4⟩ | ⟨hp, hq⟩
    · exact ⟨fun w hw hq => absurd (h1 w hw) hq, fun h => (h.elim h2 h3).elim, h4⟩
    · exact ⟨fun w hw => by rcases hp with hp | hp <;> simp [hp] at hw, fun _ => hq,
        fun it h => by rcases hp with hp | hp <;> simp [hp] at h⟩
  · obtain ⟨rfl, hco, hm, hcl, hn⟩ := hs ht
    simp only [OwnerWakes, upd_other _ _ _ _ (Ne.symm ht), hco, hm, hcl]
    exact ⟨hi.wakeO, fun h => (hi.shut h).imp_left hn, hi.nullOnly⟩

theorem inv_user {c : Cfg} (hi : Inv c) {t : Tid} (ht : t < c.n) {s' : Sh} {v : UTh} {i' : IPc}
    (halive : i' ≠ .exited → s'.running = true ∧ s'.gen > 0 ∧ (s'.mode = .sock → s'.alloc = true ∧ s'.closedO = false))
    (hv : t ≠ 0 → SenderOnly v)
    (hwI : i' = .recvWait → s'.ci.queue ≠ [] → s'.ci.sig > 0 ∨ SignallerI { c with sh := s', th := upd c.th t v, ipc := i' })
    (h0 : t = 0 → Calm v s'.co.queue ∨ ((v.pc = .sendSig true ∨ v.pc = .join true) ∧ (none ∈ s'.ci.queue ∨ i' = .exited)))
    (hs : t ≠ 0 → i' = c.ipc ∧ s'.co = c.sh.co ∧ s'.mode = c.sh.mode ∧ s'.closedO = c.sh.closedO ∧
        (none ∈ c.sh.ci.queue → none ∈ s'.ci.queue)) :
    Inv { c with sh := s', th := upd c.th t v, ipc := i' } :=
  have ho := others_keep hi ht hv
  have hk := owner_keep hi h0 hs
  ⟨halive, ho.1, ho.2, hwI, hk.1, hk.2.1, hk.2.2⟩

/-- the critical section of `SendMessageAux(INTERNAL)`, by the owner or by a sender thread -/
theorem inv_push {c : Cfg} (hi : Inv c) {t : Tid} (ht : t < c.n) {it : Item} {tj : Bool} {prog : List Op}
    (hth : c.th t = ⟨.sendLock it tj, prog⟩) {v : UTh}
    (hv : (c.sh.ci.queue = [] ∧ v = ⟨.sendSig tj, prog⟩) ∨ (c.sh.ci.queue ≠ [] ∧ v = (afterSend tj prog).1)) :
    Inv { c with sh := { c.sh with ci := c.sh.ci.push it }, th := upd c.th t v } := by
  refine inv_user hi ht hi.alive ?_ ?_ ?_ (fun _ => ⟨rfl, rfl, rfl, rfl, fun h => by simp [h]⟩)
  · intro h0
    obtain ⟨hp, hpc⟩ := hth ▸ hi.senders t h0
    obtain ⟨_, rfl⟩ : (∃ m, it = some m) ∧ tj = false := by simpa using hpc
    rcases hv with ⟨_, rfl⟩ | ⟨_, rfl⟩
    · exact ⟨hp, Or.inr (Or.inr rfl)⟩
    · exact senderOnly_nextOp hp
  · intro hw _
    rcases hv with ⟨_, rfl⟩ | ⟨hq, _⟩
    · exact Or.inr ⟨t, by simp only [upd_same]; rfl⟩
    · exact (hi.wakeI hw hq).imp_right fun h => signallerI_keep h (Or.inl (by rw [hth]; rfl))
  · rintro rfl
    cases tj with
    | false =>
      rcases hv with ⟨_, rfl⟩ | ⟨_, rfl⟩
      · exact Or.inl (by simp [Calm])
      · exact Or.inl (calm_nextOp prog _)
    | true =>
      obtain rfl : it = none := hi.nullOnly it (by rw [hth])
      refine Or.inr ⟨?_, Or.inl (by simp)⟩
      rcases hv with ⟨_, rfl⟩ | ⟨_, rfl⟩
      · exact Or.inl rfl
      · exact Or.inr rfl

/-- `SignalInternalThread()` after a send or after the spawn -/
theorem inv_signal {c : Cfg} (hi : Inv c) {t : Tid} (ht : t < c.n) {v : UTh}
    (hv : (∃ prog, v = nextOp prog ∧ (t ≠ 0 → ∀ op ∈ prog, op.isSend = true)) ∨
          (t = 0 ∧ (c.th 0).pc = .sendSig true ∧ v.pc = .join true)) :
    Inv { c with sh := signal c.sh .toInt, th := upd c.th t v } := by
  refine inv_user hi ht (by simpa using hi.alive) ?_ ?_ ?_ (fun _ => by simp)
  · intro h0
    rcases hv with ⟨prog, rfl, hp⟩ | ⟨h, _⟩
    · exact senderOnly_nextOp (hp h0)
    · exact absurd h h0
  · intro hw _
    exact Or.inl (signal_toInt_pos _ (hi.alloc (by rw [hw]; nofun)))
  · rintro rfl
    rcases hv with ⟨prog, rfl, _⟩ | ⟨_, hpc, hv⟩
    · exact Or.inl (calm_nextOp prog _)
    · exact Or.inr ⟨Or.inr hv, by simpa using hi.shut (Or.inl hpc)⟩

theorem inv_owner_local {c : Cfg} (hi : Inv c) (hn : 0 < c.n) {s' : Sh} {v : UTh}
    (hci : s'.ci = c.sh.ci)
    (hflags : s'.mode = c.sh.mode ∧ s'.alloc = c.sh.alloc ∧ s'.closedO = c.sh.closedO ∧ s'.running = c.sh.running ∧ s'.gen = c.sh.gen)
    (hold : isSigPc (c.th 0).pc = false) (hv : Calm v s'.co.queue) :
    Inv { c with sh := s', th := upd c.th 0 v } := by
  obtain ⟨hm, ha, hc, hr, hg⟩ := hflags
  refine inv_user hi hn (by simpa [hm, ha, hc, hr, hg] using hi.alive) (fun h => absurd rfl h) ?_ (fun _ => Or.inl hv)
    (fun h => absurd rfl h)
  intro hw hq
  rw [hci] at hq ⊢
  exact (hi.wakeI hw hq).imp_right fun h => signallerI_keep h (Or.inl hold)

theorem inv_owner_start {c : Cfg} (hi : Inv c) (hn : 0 < c.n) {v : UTh} (hv : Calm v (spawn c.sh).co.queue) :
    Inv { c with sh := spawn c.sh, th := upd c.th 0 v, ipc := .start } := by
  refine inv_user hi hn (fun _ => ?_) (fun h => absurd rfl h) nofun (fun _ => Or.inl hv) (fun h => absurd rfl h)
  unfold spawn
  split <;> simp [*]

theorem inv_owner_joined {c : Cfg} (hi : Inv c) (hn : 0 < c.n) (hex : c.ipc = .exited) (s' : Sh) (prog : List Op) :
    Inv { c with sh := s', th := upd c.th 0 (nextOp prog) } :=
  inv_user hi hn (fun h => absurd hex h) (fun h => absurd rfl h) (fun h => by rw [hex] at h; cases h)
    (fun _ => Or.inl (calm_nextOp prog _)) (fun h => absurd rfl h)

theorem inv_ustep {c : Cfg} (hi : Inv c) {t : Tid} (ht : t < c.n) {th v : UTh} {s' : Sh} {i' : IPc} {o : Out}
    (hth : c.th t = th) (hu : UStep c.sh c.ipc th s' v i' o) : Inv { c with sh := s', th := upd c.th t v, ipc := i' } := by
  by_cases h0 : t = 0
  · subst h0
    have hold : ∀ {pc prog}, c.th 0 = ⟨pc, prog⟩ → isSigPc pc = false → isSigPc (c.th 0).pc = false := fun h h' => by rw [h]; exact h'
    cases hu
    case finish | toSend | toShutdown | toJoin =>
      exact inv_owner_local hi ht rfl ⟨rfl, rfl, rfl, rfl, rfl⟩ (hold hth rfl) (by simp [Calm])
    case startErr | shutdownNoop | recvGot | recvNone | recvBad | joinErr | timeout =>
      exact inv_owner_local hi ht rfl ⟨rfl, rfl, rfl, rfl, rfl⟩ (hold hth rfl) (calm_nextOp _ _)
    case recvBlock hq _ => exact inv_owner_local hi ht rfl ⟨rfl, rfl, rfl, rfl, rfl⟩ (hold hth rfl) (by simp [Calm, hq])
    case toRecv | wakeSock | wakeCond =>
      exact inv_owner_local hi ht (by simp) (by simp) (hold hth rfl) (by simp [Calm])
    case startSig => exact inv_owner_start hi ht (by simp [Calm])
    case started => exact inv_owner_start hi ht (calm_nextOp _ _)
    case sendFirst hq => exact inv_push hi ht hth (Or.inl ⟨hq, rfl⟩)
    case sendMore hq => exact inv_push hi ht hth (Or.inr ⟨hq, rfl⟩)
    case sendSig tj prog =>
      cases tj with
      | false => exact inv_signal hi ht (Or.inl ⟨prog, rfl, fun h => absurd rfl h⟩)
      | true => exact inv_signal hi ht (Or.inr ⟨rfl, by rw [hth], rfl⟩)
    case startSigDone prog => exact inv_signal hi ht (Or.inl ⟨prog, rfl, fun h => absurd rfl h⟩)
    case joinOk hx => exact inv_owner_joined hi ht hx _ _
  · obtain ⟨pc, prog⟩ := th
    obtain ⟨hp, rfl | ⟨m, rfl⟩ | rfl⟩ : SenderOnly ⟨pc, prog⟩ := hth ▸ hi.senders t h0
    · cases hu
    · cases hu
      case sendFirst hq => exact inv_push hi ht hth (Or.inl ⟨hq, rfl⟩)
      case sendMore hq => exact inv_push hi ht hth (Or.inr ⟨hq, rfl⟩)
    · cases hu
      exact inv_signal hi ht (Or.inl ⟨prog, rfl, fun _ => hp⟩)

theorem inv_istep {c : Cfg} (hi : Inv c) {i i' : IPc} {s' : Sh} {o : Out} (hpc : c.ipc = i) (hu : IStep c.sh i s' i' o) :
    Inv { c with sh := s', ipc := i' } := by
  have hlive : c.ipc ≠ .exited := hpc ▸ hu.live
  refine { alive := fun h => ?_, senders := hi.senders, outside := hi.outside, nullOnly := hi.nullOnly,
           wakeI := fun (h : i' = .recvWait) hq => absurd (h ▸ hu).toWait hq,
           shut := fun h => (hi.shut h).elim hu.keepsNull fun h => absurd h hlive, wakeO := ?_ }
  · obtain ⟨hm, ha, hc, hr, hg⟩ := hu.flags h
    simpa [hm, ha, hc, hr, hg] using hi.alive hlive
  -- away from its two signal points the internal thread is no signaller: what the owner's wait relies on must be kept
  have quiet : ∀ {s' : Sh} {i' : IPc}, (i ≠ .entrySig ∧ ∀ id j k, i ≠ .replySig id j k) → s'.co = c.sh.co → s'.mode = c.sh.mode →
      (c.sh.closedO = true → s'.closedO = true) → ∀ w, (c.th 0).pc = .recvWait w → s'.co.queue ≠ [] →
        OwnerWakes s' { c with sh := s', ipc := i' } := by
    intro s' i' hns hco hm hcl w hw hne
    rw [hco] at hne
    rcases hi.wakeO w hw hne with h | ⟨h1, h2⟩ | h | ⟨id, j, k, h⟩
    · exact .inl (hco ▸ h)
    · exact .inr (.inl ⟨hm ▸ h1, hcl h2⟩)
    · exact absurd (hpc ▸ h) hns.1
    · exact absurd (hpc ▸ h) (hns.2 id j k)
  have sent := signal_toOwn_pos c.sh (hi.alive hlive).2.2
  cases hu
  case start | block | recvReply => exact quiet ⟨nofun, nofun⟩ rfl rfl id
  case entryNone | pollNone | wakeSock | wakeCond | recvLast => exact quiet ⟨nofun, nofun⟩ (by simp) (by simp) (by simp)
  case exit => exact quiet ⟨nofun, nofun⟩ rfl rfl (by intro h; simp [h])
  case entryFound => exact fun _ _ _ => Or.inr (Or.inr (Or.inl rfl))
  case replyFirst => exact fun _ _ _ => Or.inr (Or.inr (Or.inr ⟨_, _, _, rfl⟩))
  case entrySig | sigLast => exact fun _ _ _ => Or.inl (by simpa using sent)
  case sigNext => exact fun _ _ _ => Or.inl sent
  case replyNext hq _ | replyLast hq _ =>
    -- the reply queue was not empty before either
    intro w hw _
    rcases hi.wakeO w hw hq with h | h | h
    · exact Or.inl (by simpa using h)
    · exact Or.inr (Or.inl (by simpa using h))
    · rcases h with h | ⟨_, _, _, h⟩ <;> rw [hpc] at h <;> cases h

theorem step_n {c c' : Cfg} {e : Ev} {o : Out} (hs : step c e = some (c', o)) : c'.n = c.n := by
  rcases step_some hs with ⟨_, _, _, _, _, _, rfl⟩ | ⟨_, _, _, rfl⟩ <;> rfl

theorem inv_step {c c' : Cfg} {e : Ev} {o : Out} (hi : Inv c) (hs : step c e = some (c', o)) : Inv c' := by
  rcases step_some hs with ⟨t, s', v, i', ht, hu, rfl⟩ | ⟨s', i', hu, rfl⟩
  · exact inv_ustep hi ht rfl hu
  · exact inv_istep hi rfl hu

theorem reach_inv_of {c₀ c : Cfg} (h0 : Inv c₀) (h : machine.Reach c₀ c) : Inv c :=
  Machine.Reach.invariant machine Inv h0 (fun _ _ _ _ hp hs => inv_step hp hs) h

theorem reach_inv {mode : Mode} {progs : List (List Op)} (hw : OwnerOnly progs) {c : Cfg}
    (h : machine.Reach (Cfg.init mode progs) c) : Inv c :=
  reach_inv_of (init_inv mode hw) h

end Muscle.Conc.TQ
