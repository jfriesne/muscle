import MuscleModel.Conc.ProofsTPStep

/-! # C19 proofs: the user thread's own record, and the programs

What a step of a user thread does to that thread's record does not depend on the shared state: the next call begins, the call in
progress moves to its next program point, or it returns (`ULocal`).  Facts about the thread's own pc and program (the head of the
program is the call in progress, inside or outside `Shutdown`, which client's registration it changes) are proved about `UTh` and `UPc` alone;
`UStep.sd` connects them to the machine.  At the end: the three hypotheses on the programs under which C19 is stated, and what the initial
configuration makes of a program (`init_uth_prog`, `wf_ofProg`). -/

namespace Muscle.Conc.TP
open Muscle.Conc

theorem advance_spec (u : UTh) : ((advance u).pc = .done ∨ (advance u).pc = .opStart) ∧ (advance u).notif = u.notif ∧
    (∀ op, op ∈ (advance u).prog → op ∈ u.prog) := by
  unfold advance
  split
  · simp
  · rename_i r hr
    refine ⟨Or.inr rfl, rfl, fun op hop => List.mem_of_mem_tail hop⟩

/-- inside `Shutdown()` after its first critical section -/
def inShutdown : UPc → Bool
  | .sdSwap .. | .sdJoin .. | .sdFinal .. => true
  | _ => false

theorem sdNextPc_inShutdown (b : Bool) (nA tot n : Nat) (l : List PTid) : inShutdown (sdNextPc b nA tot n l) = true := by
  cases l with
  | cons => rfl
  | nil =>
    simp only [sdNextPc]; split
    · rfl
    · split <;> rfl

def callOf : UPc → Option Op
  | .subLock k m => some (.sub k m)
  | .regLock k => some (.reg k)
  | .unregLock1 k | .unregWait k | .unregLock2 k => some (.unreg k)
  | .sdLock | .sdSwap .. | .sdJoin .. | .sdFinal .. => some .shutdown
  | .opStart | .done => none

/-- the pool threads that the thread inside `Shutdown` has taken out of a table and still has to join -/
def joining : UPc → List PTid
  | .sdJoin _ _ _ _ T rest => T :: rest
  | _ => []

theorem callOf_of_inShutdown {pc : UPc} (h : inShutdown pc = true) : callOf pc = some .shutdown := by
  cases pc <;> first | rfl | cases h

theorem advance_not_inShutdown (u : UTh) : inShutdown (advance u).pc = false := by
  rcases (advance_spec u).1 with h | h <;> rw [h] <;> rfl

def mgClient : UPc → Option Client
  | .regLock k | .unregLock1 k | .unregWait k | .unregLock2 k => some k
  | _ => none

/-- `mgClient` is `callOf` restricted to the two `SetThreadPool` calls -/
theorem mgClient_callOf {pc : UPc} {k : Client} (h : mgClient pc = some k) : callOf pc = some (.reg k) ∨ callOf pc = some (.unreg k) := by
  cases pc <;> cases h
  · exact Or.inl rfl
  all_goals exact Or.inr rfl

theorem mgClient_advance (u : UTh) : mgClient (advance u).pc = none := by
  rcases (advance_spec u).1 with e | e <;> rw [e] <;> rfl

theorem joining_of_not_inShutdown {pc : UPc} (h : inShutdown pc = false) : joining pc = [] := by
  cases pc <;> first | rfl | cases h

theorem inShutdown_false_of_callOf {pc : UPc} (h : callOf pc ≠ some .shutdown) : inShutdown pc = false :=
  Bool.eq_false_iff.2 (fun hi => h (callOf_of_inShutdown hi))

/-- the program point at which a call begins once it has passed the unlocked read of `_threadPool` -/
def firstPc : Op → UPc
  | .sub k m => .subLock k m
  | .reg k => .regLock k
  | .unreg k => .unregLock1 k
  | .shutdown => .sdLock

theorem callOf_firstPc (op : Op) : callOf (firstPc op) = some op := by cases op <;> rfl

/-- a step of a thread whose program point belongs to a call of `Shutdown` is one of the five of `SdStep` -/
theorem UStep.sd {c c' : Cfg} {t : Tid} (hs : UStep c t c') (hsd : callOf (c.uth t).pc = some .shutdown) : SdStep c t c' := by
  cases hs with
  | shutdown h => exact h
  -- every other branch fixes the program point to one of another call
  | _ => rw [‹(c.uth t).pc = _›] at hsd; cases hsd

inductive PcNext : UPc → UPc → Prop where
  | block (k : Client) : PcNext (.unregLock1 k) (.unregWait k)
  | pass (k : Client) : PcNext (.unregLock1 k) (.unregLock2 k)
  | woken (k : Client) : PcNext (.unregWait k) (.unregLock2 k)
  | sdBegin : PcNext .sdLock (.sdSwap false 0 0)
  | sdSwap (b : Bool) (nA tot n : Nat) (l : List PTid) : PcNext (.sdSwap b nA tot) (sdNextPc b nA tot n l)
  | sdJoin (b : Bool) (nA tot n : Nat) (T : PTid) (rest : List PTid) : PcNext (.sdJoin b nA tot n T rest) (sdNextPc b nA tot n rest)

theorem PcNext.call {pc pc' : UPc} (h : PcNext pc pc') : ∃ op, callOf pc = some op ∧ callOf pc' = some op := by
  cases h with
  | sdSwap | sdJoin => exact ⟨_, rfl, callOf_of_inShutdown (sdNextPc_inShutdown ..)⟩
  | _ => exact ⟨_, rfl, rfl⟩

inductive ULocal (u : UTh) : UTh → Prop where
  | enter {op : Op} {rest : List Op} (hpc : u.pc = .opStart) (hp : u.prog = op :: rest) : ULocal u { u with pc := firstPc op }
  /-- a pending notification may be consumed -/
  | stay {pc' : UPc} {n' : Nat} (hnx : PcNext u.pc pc') (hn : n' ≤ u.notif) : ULocal u { u with pc := pc', notif := n' }
  /-- the call returns (`v` = `u` up to notifications that arrived in the same critical section) -/
  | ret {v : UTh} (hnd : u.pc ≠ .done) (hne : u.pc = .opStart → u.prog ≠ []) (hpc : v.pc = u.pc) (hprog : v.prog = u.prog) : ULocal u (advance v)

def UTh.Wf (u : UTh) : Prop := (∀ op, callOf u.pc = some op → u.prog.head? = some op) ∧ (u.pc = .opStart → u.prog ≠ [])

theorem UTh.Wf.mem {u : UTh} (h : u.Wf) {op : Op} (hc : callOf u.pc = some op) : op ∈ u.prog :=
  List.mem_of_mem_head? (h.1 op hc)

theorem UTh.Wf.congr {u u' : UTh} (h : u.Wf) (hpc : u'.pc = u.pc) (hprog : u'.prog = u.prog) : u'.Wf := by
  unfold UTh.Wf; rw [hpc, hprog]; exact h

theorem wf_advance (u : UTh) : (advance u).Wf := by
  unfold advance
  split
  · exact ⟨nofun, nofun⟩
  · rename_i hr; exact ⟨nofun, fun _ => hr⟩

theorem ULocal.prog_sub {u u' : UTh} (h : ULocal u u') : ∀ op, op ∈ u'.prog → op ∈ u.prog := by
  cases h with
  | enter | stay => exact fun _ => id
  | ret _ _ _ hprog => exact fun op ho => hprog ▸ (advance_spec _).2.2 op ho

theorem ULocal.wf {u u' : UTh} (hw : u.Wf) (h : ULocal u u') : u'.Wf := by
  cases h with
  | @enter op _ _ hp => exact ⟨fun op' h => by rw [callOf_firstPc] at h; cases h; rw [hp]; rfl, fun h => by cases op <;> cases h⟩
  | @stay pc' _ hnx =>
    obtain ⟨op, hc, hc'⟩ := hnx.call
    exact ⟨fun op' h' => by rw [hc'] at h'; cases h'; exact hw.1 op hc, fun (h' : pc' = .opStart) => by rw [h'] at hc'; cases hc'⟩
  | ret => exact wf_advance _

theorem ULocal.not_inShutdown {u u' : UTh} (h : ULocal u u') (hpl : callOf u.pc ≠ some .shutdown) : inShutdown u'.pc = false := by
  cases h with
  | @enter op => cases op <;> rfl
  | stay hnx => obtain ⟨_, hc, hc'⟩ := hnx.call; exact inShutdown_false_of_callOf fun e => hpl (hc.trans (hc'.symm.trans e))
  | ret => exact advance_not_inShutdown _

theorem ULocal.inShutdown_before {u u' : UTh} (h : ULocal u u') (hi : inShutdown u'.pc = true) : inShutdown u.pc = true ∨ u.pc = .sdLock := by
  cases h with
  | @enter op => cases op <;> cases hi
  | ret => rw [advance_not_inShutdown] at hi; cases hi
  | stay hnx =>
    generalize u.pc = pc at hnx
    cases hnx with
    | block | pass | woken => cases hi
    | sdBegin => exact Or.inr rfl
    | sdSwap | sdJoin => exact Or.inl rfl

def opClient : Op → Option Client
  | .sub k _ => some k | .reg k => some k | .unreg k => some k | .shutdown => none

/-- **Client discipline** (`IThreadPoolClient` is not itself thread-safe): a client that some program registers or unregisters is used by that
program only; clients that are only submitted to may be shared by all threads.  (`Disc`, in ProofsTPClients, is the same for the programs
that are left in a configuration.) -/
def Disciplined (progs : List (List Op)) : Prop :=
  ∀ t t' k, (∃ op ∈ progs.getD t [], opClient op = some k) → (Op.reg k ∈ progs.getD t' [] ∨ Op.unreg k ∈ progs.getD t' []) → t = t'

/-- `Shutdown` is called by one thread only (it may call it more than once) -/
def OneShutdownThread (progs : List (List Op)) : Prop :=
  ∀ t t', Op.shutdown ∈ progs.getD t [] → Op.shutdown ∈ progs.getD t' [] → t = t'

/-- nobody registers with a pool that is (going to be) shut down -/
def NoRegIfShutdown (progs : List (List Op)) : Prop :=
  ∀ t0, Op.shutdown ∈ progs.getD t0 [] → ∀ t k, Op.reg k ∉ progs.getD t []

theorem init_uth_prog (maxT : Nat) (regs : List Client) (progs : List (List Op)) (t : Tid) :
    ((Cfg.init maxT regs progs).uth t).prog = progs.getD t [] ∧ ((Cfg.init maxT regs progs).uth t).notif = 0 ∧
    (((Cfg.init maxT regs progs).uth t).pc = .done ∨ ((Cfg.init maxT regs progs).uth t).pc = .opStart) := by
  simp only [Cfg.init, List.getD_eq_getElem?_getD]
  cases progs[t]? with
  | none => simp [UTh.ofProg]
  | some p => simp only [UTh.ofProg, Option.getD_some, true_and]; split <;> simp

theorem wf_ofProg (pr : List Op) : (UTh.ofProg pr).Wf := by
  unfold UTh.ofProg UTh.Wf
  by_cases h : pr = []
  · simp [h, callOf]
  · simp [h, callOf]

end Muscle.Conc.TP
