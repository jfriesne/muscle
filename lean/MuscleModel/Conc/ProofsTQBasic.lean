import MuscleModel.Conc.ThreadQueue

/-! # C11 lemmas: `signal` / `drain` / `flush` / `intLoop` write nothing but one count of pending signals -/

namespace Muscle.Conc.TQ
open Muscle.Conc

def Sh.setSig (s : Sh) (d : Dir) (n : Nat) : Sh := s.setCh d { s.ch d with sig := n }

section setSig
variable (s : Sh) (d : Dir) (n : Nat)

@[simp] theorem setSig_flags : (s.setSig d n).mode = s.mode ∧ (s.setSig d n).alloc = s.alloc ∧ (s.setSig d n).closedO = s.closedO ∧
    (s.setSig d n).running = s.running ∧ (s.setSig d n).gen = s.gen := by cases d <;> exact ⟨rfl, rfl, rfl, rfl, rfl⟩
@[simp] theorem setSig_ci_queue : (s.setSig d n).ci.queue = s.ci.queue := by cases d <;> rfl
@[simp] theorem setSig_toInt_co : (s.setSig .toInt n).co = s.co := rfl
@[simp] theorem setSig_toOwn_ci : (s.setSig .toOwn n).ci = s.ci := rfl
@[simp] theorem setSig_toInt_sig : (s.setSig .toInt n).ci.sig = n := rfl
@[simp] theorem setSig_toOwn_sig : (s.setSig .toOwn n).co.sig = n := rfl
theorem setSig_self : s.setSig d (s.ch d).sig = s := by cases d <;> rfl

/-- `SignalAux()` either gets lost (socket mode, no usable descriptor) or adds one pending signal -/
theorem signal_cases : signal s d = s ∨ signal s d = s.setSig d ((s.ch d).sig + 1) := by
  unfold signal
  split
  · exact Or.inr rfl
  · split
    · exact Or.inr rfl
    · exact Or.inl rfl
  · split
    · exact Or.inr rfl
    · exact Or.inl rfl

theorem signal_toInt_of_alloc (h : s.mode = .sock → s.alloc = true) : signal s .toInt = s.setSig .toInt (s.ci.sig + 1) := by
  unfold signal
  split
  · rfl
  · next hm _ => rw [if_pos (h hm)]; rfl
  · next hd => cases hd

theorem signal_toOwn_of_open (h : s.mode = .sock → s.alloc = true ∧ s.closedO = false) :
    signal s .toOwn = s.setSig .toOwn (s.co.sig + 1) := by
  unfold signal
  split
  · rfl
  · next hd => cases hd
  · next hm _ => rw [if_pos (h hm)]; rfl

theorem drain_cases : drain s d = s ∨ drain s d = s.setSig d 0 := by
  unfold drain
  split
  · exact Or.inl rfl
  · split
    · exact Or.inr rfl
    · exact Or.inl rfl

theorem drain_of_alloc (hm : s.mode = .sock) (ha : s.alloc = true) : drain s d = s.setSig d 0 := by
  unfold drain
  split
  · next h => rw [hm] at h; cases h
  · rw [if_pos ha]; rfl

@[simp] theorem flush_eq : flush s d = s.setSig d 0 := rfl

/-- the receiver's count of pending signals after `SignalAux()` toward `d`, resp. after the `recv()` of `drain`.  Both are defined
through `signal` / `drain`: `signal_eq`, `drain_eq` only give the operations the shape `setSig`, the values are in
`signal_cases`, `drain_cases`. -/
def Sh.signalled (s : Sh) (d : Dir) : Nat := ((signal s d).ch d).sig
def Sh.drained (s : Sh) (d : Dir) : Nat := ((drain s d).ch d).sig

/- `simp` turns the three operations into `setSig`, so that the `setSig_…` lemmas above are all it needs about them. -/
@[simp] theorem signal_eq : signal s d = s.setSig d (s.signalled d) := by
  unfold Sh.signalled
  rcases signal_cases s d with h | h <;> rw [h]
  · exact (setSig_self s d).symm
  · cases d <;> rfl

@[simp] theorem drain_eq : drain s d = s.setSig d (s.drained d) := by
  unfold Sh.drained
  rcases drain_cases s d with h | h <;> rw [h]
  · exact (setSig_self s d).symm
  · cases d <;> rfl

end setSig

section frame
variable (s : Sh) (d : Dir)

theorem signal_toInt_sig_ge : s.ci.sig ≤ (signal s .toInt).ci.sig := by
  rcases signal_cases s .toInt with h | h <;> rw [h]
  · exact Nat.le_refl _
  · exact Nat.le_succ _
theorem signal_toOwn_sig_ge : s.co.sig ≤ (signal s .toOwn).co.sig := by
  rcases signal_cases s .toOwn with h | h <;> rw [h]
  · exact Nat.le_refl _
  · exact Nat.le_succ _
theorem signal_toInt_pos (h : s.mode = .sock → s.alloc = true) : (signal s .toInt).ci.sig > 0 := by
  rw [signal_toInt_of_alloc s h]; exact Nat.succ_pos _
theorem signal_toOwn_pos (h : s.mode = .sock → s.alloc = true ∧ s.closedO = false) : (signal s .toOwn).co.sig > 0 := by
  rw [signal_toOwn_of_open s h]; exact Nat.succ_pos _

theorem drain_toInt_sig_zero (hm : s.mode = .sock) (ha : s.alloc = true) : (drain s .toInt).ci.sig = 0 := by
  rw [drain_of_alloc s _ hm ha]; rfl
theorem drain_toOwn_sig_zero (hm : s.mode = .sock) (ha : s.alloc = true) : (drain s .toOwn).co.sig = 0 := by
  rw [drain_of_alloc s _ hm ha]; rfl

theorem intLoop_eq : intLoop s = (drain s .toInt, .recvLock false) := rfl

end frame

@[simp] theorem push_queue (c : Chan) (it : Item) : (c.push it).queue = c.queue ++ [it] := rfl
@[simp] theorem push_sig (c : Chan) (it : Item) : (c.push it).sig = c.sig := rfl
@[simp] theorem pop_queue (c : Chan) (it : Item) (r : List Item) : (c.pop it r).queue = r := rfl
@[simp] theorem pop_sig (c : Chan) (it : Item) (r : List Item) : (c.pop it r).sig = c.sig := rfl

end Muscle.Conc.TQ
