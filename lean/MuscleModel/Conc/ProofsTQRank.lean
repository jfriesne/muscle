import MuscleModel.Conc.ProofsTQInv
import MuscleModel.Base.Adds

/-! # C11 lemmas: a ranking function — every step of every thread, under every schedule, decreases `rank` -/

namespace Muscle.Conc.TQ
open Muscle.Conc

/-!
`rank` adds up weights; every step takes away more than it adds.  Where the constants come from:
* a pending signal weighs 3: the wake-up it causes lifts the internal thread from `recvWait` (0) to `recvLock true` (2), and
  the owner from `recvWait` (3) to `recvLock` (4) while at least one signal is taken;
* a reply weighs 6: two steps of the internal thread (`replyLock` → `replySig` → next `replyLock`) and the signal in between (3);
  the 8 resp. 6 on top pay the last signal and the way back to `recvLock false` (1);
* a queued Message weighs what handling it costs: `6 * nrep + 8` is `ipcRank (.replyLock _ 1 nrep)`, and 2 pays the exit;
* a user pc weighs one more than what the rest of the call can add: `sendLock it` pays `wI it` into the queue, `sendSig` (6) the
  signal (3) and the way to `idle` (1), with 2 more for the `join` when `tj`; `opCost .start` = 14 pays `ipcRank .start` (7) and
  `startSig` (5); an operation costs what its first pc weighs.
-/

/-- work a queued Message will cause in the internal thread -/
def wI : Item → Nat
  | none => 2
  | some m => 6 * m.nrep + 8

def qW : List Item → Nat
  | [] => 0
  | it :: q => wI it + qW q

theorem adds_qW : Adds wI qW := ⟨rfl, fun _ _ => rfl⟩

theorem qW_append (q : List Item) (it : Item) : qW (q ++ [it]) = qW q + wI it :=
  (adds_qW.append q [it]).trans rfl

def opCost : Op → Nat
  | .start => 14
  | .send m => wI (some m) + 7
  | .poll => 5 | .recv => 5 | .recvT => 5
  | .shutdown _ => 11
  | .join => 2

def progCost : List Op → Nat
  | [] => 0
  | op :: p => opCost op + progCost p

def pcCost : UPc → Nat
  | .idle => 1
  | .sendLock it tj => wI it + 7 + (if tj then 2 else 0)
  | .sendSig tj => 6 + (if tj then 2 else 0)
  | .startSig => 5
  | .recvLock .poll => 2
  | .recvLock _ => 4
  | .recvWait _ => 3
  | .join _ => 2
  | .done => 0

def thCost (th : UTh) : Nat := pcCost th.pc + progCost th.prog

def ipcRank : IPc → Nat
  | .exited => 0
  | .recvWait => 0
  | .recvLock false => 1
  | .recvLock true => 2
  | .replyLock _ j k => 6 * (k + 1 - j) + 8
  | .replySig _ j k => 6 * (k + 1 - j) + 6
  | .entrySig => 5
  | .entryLock => 6
  | .start => 7

def sumTh : Nat → (Tid → UTh) → Nat
  | 0, _ => 0
  | n + 1, th => sumTh n th + thCost (th n)

def rank (c : Cfg) : Nat :=
  sumTh c.n c.th + qW c.sh.ci.queue + 3 * c.sh.ci.sig + 3 * c.sh.co.sig + ipcRank c.ipc

/-- the owner's queue has no share, only its pending signals have -/
def shW (s : Sh) : Nat := qW s.ci.queue + 3 * s.ci.sig + 3 * s.co.sig

theorem rank_eq (c : Cfg) : rank c = sumTh c.n c.th + (shW c.sh + ipcRank c.ipc) := by
  simp only [rank, shW, Nat.add_assoc]

theorem sumTh_upd_ge (n : Nat) (th : Tid → UTh) (t : Tid) (v : UTh) (h : n ≤ t) : sumTh n (upd th t v) = sumTh n th := by
  induction n with
  | zero => rfl
  | succ n ih => rw [sumTh, sumTh, ih (Nat.le_of_succ_le h), upd_other _ _ _ _ (Nat.ne_of_lt h)]

theorem sumTh_upd (n : Nat) (th : Tid → UTh) (t : Tid) (v : UTh) (h : t < n) :
    sumTh n (upd th t v) + thCost (th t) = sumTh n th + thCost v := by
  induction n with
  | zero => exact absurd h (Nat.not_lt_zero _)
  | succ n ih =>
    rw [sumTh, sumTh]
    by_cases hn : n = t
    · rw [hn, upd_same, sumTh_upd_ge t th t v (Nat.le_refl _)]; omega
    · have := ih (Nat.lt_of_le_of_ne (Nat.le_of_lt_succ h) (Ne.symm hn))
      rw [upd_other _ _ _ _ hn]; omega

theorem shW_setSig (s : Sh) (d : Dir) (n : Nat) : shW (s.setSig d n) + 3 * (s.ch d).sig = shW s + 3 * n := by
  cases d <;> simp only [shW, setSig_toInt_sig, setSig_toOwn_sig, setSig_toInt_co, setSig_toOwn_ci, setSig_ci_queue, Sh.ch] <;> omega

theorem shW_signal_le (s : Sh) (d : Dir) : shW (signal s d) ≤ shW s + 3 := by
  have := shW_setSig s d ((s.ch d).sig + 1)
  rcases signal_cases s d with h | h <;> rw [h] <;> omega

theorem shW_drain_le (s : Sh) (d : Dir) : shW (drain s d) ≤ shW s := by
  have := shW_setSig s d 0
  rcases drain_cases s d with h | h <;> rw [h] <;> omega

theorem shW_spawn_le (s : Sh) : shW (spawn s) ≤ shW s := by
  unfold spawn; split <;> simp only [shW] <;> omega

theorem shW_push (s : Sh) (it : Item) : shW { s with ci := s.ci.push it } = shW s + wI it := by
  simp only [shW, push_queue, push_sig, qW_append]; omega

theorem shW_pop {s : Sh} {it : Item} {rest : List Item} (hq : s.ci.queue = it :: rest) (cl : Bool) :
    shW { s with ci := s.ci.pop it rest, closedO := cl } + wI it = shW s := by
  simp only [shW, pop_queue, pop_sig, hq, qW]; omega

theorem shW_co (s : Sh) (co : Chan) (h : co.sig = s.co.sig) : shW { s with co := co } = shW s := by
  simp only [shW, h]

theorem thCost_mk (pc : UPc) (prog : List Op) : thCost ⟨pc, prog⟩ = pcCost pc + progCost prog := rfl

theorem thCost_nextOp_le (prog : List Op) : thCost (nextOp prog) ≤ progCost prog + 1 := by
  unfold nextOp
  split <;> simp only [thCost, pcCost, progCost, opCost, wI, Bool.false_eq_true, if_false] <;> omega

theorem thCost_afterSend_le (tj : Bool) (p : List Op) :
    pcCost (afterSend tj p).1.pc + progCost (afterSend tj p).1.prog ≤ progCost p + (if tj then 2 else 1) := by
  cases tj
  · exact thCost_nextOp_le p
  · exact Nat.le_of_eq (Nat.add_comm _ _)

/-! Every row of `UStep` but one is of one of five kinds, according to what becomes of the thread's record (in row `wakeCond` the
thread's record gets dearer, `recvWait` 3 → `recvLock` up to 4, and the flushed signals pay: a direct `omega` in `rank_ustep`); `w`, `w'` stand for the
rest of `rank` (shared state and internal thread) before and after, which the step raises by at most `d`. -/

theorem rank_return {pc : UPc} {prog : List Op} {w w' : Nat} (d : Nat) (hw : w' ≤ w + d) (hpc : d + 2 ≤ pcCost pc) :
    thCost (nextOp prog) + w' < thCost ⟨pc, prog⟩ + w := by
  have := thCost_nextOp_le prog
  have := thCost_mk pc prog
  omega

theorem rank_return_op {op : Op} {rest : List Op} {w w' : Nat} (d : Nat) (hw : w' ≤ w + d) (hop : d < opCost op) :
    thCost (nextOp rest) + w' < thCost ⟨.idle, op :: rest⟩ + w := by
  have := thCost_nextOp_le rest
  have : thCost ⟨.idle, op :: rest⟩ = 1 + (opCost op + progCost rest) := rfl
  omega

theorem rank_begin {op : Op} {rest : List Op} {pc' : UPc} {w w' : Nat} (d : Nat) (hw : w' ≤ w + d) (hop : pcCost pc' + d ≤ opCost op) :
    thCost ⟨pc', rest⟩ + w' < thCost ⟨.idle, op :: rest⟩ + w := by
  have := thCost_mk pc' rest
  have : thCost ⟨.idle, op :: rest⟩ = 1 + (opCost op + progCost rest) := rfl
  omega

theorem rank_advance {pc pc' : UPc} {prog : List Op} {w w' : Nat} (d : Nat) (hw : w' ≤ w + d) (hpc : pcCost pc' + d < pcCost pc) :
    thCost ⟨pc', prog⟩ + w' < thCost ⟨pc, prog⟩ + w := by
  have := thCost_mk pc prog
  have := thCost_mk pc' prog
  omega

theorem rank_afterSend {pc : UPc} {tj : Bool} {prog : List Op} {w w' : Nat} (d : Nat) (hw : w' ≤ w + d)
    (hpc : d + (if tj then 2 else 0) + 1 < pcCost pc) :
    thCost (afterSend tj prog).1 + w' < thCost ⟨pc, prog⟩ + w := by
  have : thCost (afterSend tj prog).1 ≤ progCost prog + (if tj then 2 else 1) := thCost_afterSend_le tj prog
  have := thCost_mk pc prog
  cases tj
  · rw [if_neg Bool.false_ne_true] at hpc this; omega
  · rw [if_pos rfl] at hpc this; omega

/-- the thread's own cost pays for the Message it queues, the signal it sends and the thread it spawns -/
theorem rank_ustep {s s' : Sh} {i i' : IPc} {th v : UTh} {o : Out} (hu : UStep s i th s' v i' o) :
    thCost v + (shW s' + ipcRank i') < thCost th + (shW s + ipcRank i) := by
  have h1 := shW_signal_le s .toInt
  have h2 := shW_drain_le s .toOwn
  have h3 := shW_spawn_le s
  cases hu
  case finish => exact rank_advance 0 (Nat.le_refl _) (by decide)
  case toSend | toJoin => exact rank_begin 0 (Nat.le_refl _) (Nat.le_refl _)
  case toShutdown w _ _ => exact rank_begin 0 (Nat.le_refl _) (by cases w <;> decide)
  case toRecv w _ => exact rank_begin 0 (by omega) (by cases w <;> decide)
  case startSig => exact rank_begin 7 (by show shW (spawn s) + 7 ≤ _; omega) (by decide)
  case started => exact rank_return_op 7 (by show shW (spawn s) + 7 ≤ _; omega) (by decide)
  case startErr | shutdownNoop => exact rank_return_op 0 (Nat.le_refl _) (Nat.succ_pos _)
  case sendFirst it tj _ _ => exact rank_advance (wI it) (by rw [shW_push]; omega) (by simp only [pcCost]; omega)
  case sendMore it tj _ _ => exact rank_afterSend (wI it) (by rw [shW_push]; omega) (by simp only [pcCost]; omega)
  case sendSig => exact rank_afterSend 3 (by omega) (by simp only [pcCost]; omega)
  case startSigDone => exact rank_return 3 (by omega) (by decide)
  case recvGot w _ it rest _ _ =>
    exact rank_return 0 (Nat.le_of_eq (congrArg (· + ipcRank i) (shW_co s (s.co.pop it rest) rfl))) (by cases w <;> decide)
  case recvNone | joinErr | joinOk => exact rank_return 0 (Nat.le_refl _) (Nat.le_refl 2)
  case timeout => exact rank_return 0 (Nat.le_refl _) (Nat.le_succ 2)
  case recvBad w _ _ _ hw _ _ => exact rank_return 0 (Nat.le_refl _) (by cases w with | poll => exact absurd rfl hw | _ => decide)
  case recvBlock w _ _ _ hw => exact rank_advance 0 (Nat.le_refl _) (by cases w with | poll => exact absurd rfl hw | _ => decide)
  case wakeSock => exact rank_advance 0 (by omega) (Nat.lt_succ_self 2)
  case wakeCond w prog _ hs =>
    -- the flushed signals (at least one, 3 each) pay for `recvWait → recvLock`
    have := shW_setSig s .toOwn 0
    have : pcCost (.recvLock w) ≤ 4 := by cases w <;> decide
    have := thCost_mk (.recvLock w) prog
    have : thCost ⟨.recvWait w, prog⟩ = 3 + progCost prog := rfl
    simp only [flush_eq, Sh.ch] at *; omega

/-- the shared state gives `g` and takes `d`, the program counter pays the difference -/
theorem lt_of_pays {w w' a a' : Nat} (g d : Nat) (hw : w' + g ≤ w + d) (hp : a' + d < a + g) : w' + a' < w + a := by omega

theorem rank_istep {s s' : Sh} {i i' : IPc} {o : Out} (ha : i ≠ .exited → s.mode = .sock → s.alloc = true)
    (hi : IStep s i s' i' o) : shW s' + ipcRank i' < shW s + ipcRank i := by
  have h1 := shW_drain_le s .toInt
  have h2 := shW_signal_le s .toOwn
  have h3 := shW_drain_le (signal s .toOwn) .toInt
  cases hi
  case start | entryFound | block => exact lt_of_pays 0 0 (Nat.le_refl _) (by decide)
  case entryNone | pollNone => exact lt_of_pays 0 0 h1 (by decide)
  case entrySig => exact lt_of_pays 0 3 (by omega) (by decide)
  case exit poll rest hq =>
    exact lt_of_pays 2 0 (Nat.le_of_eq (shW_pop hq _)) (by cases poll <;> decide)
  case recvLast poll m rest hq hm =>
    have := shW_pop hq s.closedO
    have := shW_drain_le { s with ci := s.ci.pop (some m) rest } .toInt
    exact lt_of_pays 8 0 (by simp only [wI, hm] at *; omega) (by cases poll <;> decide)
  case recvReply poll m rest hq _ =>
    exact lt_of_pays (wI (some m)) 0 (Nat.le_of_eq (shW_pop hq _)) (by cases poll <;> simp only [ipcRank, wI] <;> omega)
  case wakeSock hs hm =>
    have := shW_setSig s .toInt 0
    rw [drain_of_alloc s _ hm (ha nofun hm)]
    exact lt_of_pays 3 0 (by simp only [Sh.ch] at *; omega) (by decide)
  case wakeCond hs _ =>
    have := shW_setSig s .toInt 0
    exact lt_of_pays 3 0 (by simp only [flush_eq, Sh.ch] at *; omega) (by decide)
  case replyFirst | replyNext => exact lt_of_pays 0 0 (Nat.le_of_eq (shW_co s _ rfl)) (by simp only [ipcRank]; omega)
  case replyLast id j k _ _ =>
    have := shW_co s (s.co.push (some (replyMsg id j))) rfl
    have := shW_drain_le { s with co := s.co.push (some (replyMsg id j)) } .toInt
    exact lt_of_pays 0 0 (by omega) (by simp only [ipcRank]; omega)
  case sigNext | sigLast => exact lt_of_pays 0 3 (by omega) (by simp only [ipcRank]; omega)

/-- no execution is infinite, whatever the schedule -/
theorem step_decreases {c c' : Cfg} {e : Ev} {o : Out} (hi : Inv c) (hs : step c e = some (c', o)) : rank c' < rank c := by
  rcases step_some hs with ⟨t, s', v, i', ht, hu, rfl⟩ | ⟨s', i', hu, rfl⟩ <;> simp only [rank_eq]
  · have := sumTh_upd c.n c.th t v ht
    have := rank_ustep hu
    omega
  · have := rank_istep hi.alloc hu
    omega

end Muscle.Conc.TQ
