import MuscleModel.Conc.ThreadPool

/-! # The thread-pool machine, branch by branch

`UStep c t c'` / `PStep c T c'` say what a step of `stepUser` / `stepPool` can be, branch by branch (`UStep.skip` forgets which call
returned at once, so `UStep` is wider than `stepUser`: no converse is needed; the steps inside a call of `Shutdown` are `SdStep`).  The helpers
of the critical sections that branch have a case rule: `spawnIfNeeded_cases`, `handBack_cases`, `release_cases`, `wake_cases`, `dispatch_cases`
(with the loop rule `dispatchLoop_induct`), `subCS_cases`; what they leave alone is said by an equation `X_p`/`X_pth` where a later proof needs
it, and for the dispatcher and everything around it by `Disp`.  `fetch`, `finishCS`, `sdNext` are normalised by `fetch_eq` (+ `fetched_cases`),
`finishCS_eq`, `sdNext_eq`.  Lemmas about one model function (`outstanding`, `notifyAll`, `addKey`/`remKey`, `step`) are here too. -/

namespace Muscle.Conc.TP
open Muscle.Conc

theorem mem_remKey {l : List Nat} {k x : Nat} : x ∈ remKey l k ↔ x ∈ l ∧ x ≠ k := by
  simp [remKey]

theorem nodup_remKey {l : List Nat} (k : Nat) (h : l.Nodup) : (remKey l k).Nodup := by
  unfold remKey; exact h.filter _

theorem length_remKey_of_mem {l : List Nat} {k : Nat} (h : l.Nodup) (hm : k ∈ l) : (remKey l k).length + 1 = l.length := by
  induction l with
  | nil => simp at hm
  | cons a l ih =>
    rw [List.nodup_cons] at h
    by_cases hak : a = k
    · subst hak
      have : remKey (a :: l) a = l := by
        simp only [remKey, List.filter_cons, bne_self_eq_false, Bool.false_eq_true, ↓reduceIte]
        apply List.filter_eq_self.2
        intro x hx; simp; intro hxa; subst hxa; exact h.1 hx
      rw [this]; simp
    · have hm' : k ∈ l := by simpa [Ne.symm hak] using hm
      have : remKey (a :: l) k = a :: remKey l k := by simp [remKey, hak]
      rw [this]; simp [ih h.2 hm']

theorem mem_addKey {l : List Nat} {k x : Nat} : x ∈ addKey l k ↔ x ∈ l ∨ x = k := by
  unfold addKey; split
  · next h => exact ⟨Or.inl, fun h' => h'.elim id (· ▸ h)⟩
  · simp

theorem mem_foldl_addKey (regs : List Nat) (l : List Nat) (k : Nat) : k ∈ regs.foldl addKey l ↔ k ∈ l ∨ k ∈ regs := by
  induction regs generalizing l with
  | nil => simp
  | cons a r ih => simp only [List.foldl_cons, ih, mem_addKey, List.mem_cons, or_assoc]

/-- `b`: the table being worked through is `_activeThreads` (second half of a round); `n`: the number of
threads taken out of that table; `nA`: the number taken out of `_availableThreads` earlier in the same round; `tot`: the count `Shutdown` has
accumulated over the rounds before.  A round that took out any thread is followed by another one. -/
def sdNextPc (b : Bool) (nA tot n : Nat) : List PTid → UPc
  | T :: rest => .sdJoin b nA tot n T rest
  | [] => if b = false then .sdSwap true n tot else if nA > 0 ∨ n > 0 then .sdSwap false 0 (tot + nA + n) else .sdFinal tot

def sendQuit (pth : PTid → PTh) : List PTid → PTid → PTh
  | T :: _ => upd pth T { (pth T) with inbox := (pth T).inbox ++ [.quit] }
  | [] => pth

theorem sdNext_eq (c : Cfg) (t : Tid) (b : Bool) (nA tot n : Nat) (l : List PTid) :
    sdNext c t b nA tot n l =
      { c with pth := sendQuit c.pth l, uth := upd c.uth t { (c.uth t) with pc := sdNextPc b nA tot n l } } := by
  cases l with
  | cons T rest => rfl
  | nil =>
    simp only [sdNext, sdNextPc, sendQuit]
    split
    · rfl
    · split <;> rfl

def fetched (th : PTh) : PTh :=
  match th.inbox with
  | [] => { th with pc := .idle }
  | .quit :: rest => { th with pc := .exited, inbox := rest }
  | .batch :: rest =>
    match th.cur, th.queue with
    | some _, _ :: _ => { th with pc := .handler, inbox := rest }
    | some k, [] => { th with pc := .finLock k, cur := none, inbox := rest }
    | none, _ => { th with pc := .exited, inbox := rest }

theorem fetched_cases (th : PTh) :
    (th.inbox = [] ∧ fetched th = { th with pc := .idle }) ∨
    (∃ rest, th.inbox = .quit :: rest ∧ fetched th = { th with pc := .exited, inbox := rest }) ∨
    (∃ rest, th.inbox = .batch :: rest ∧
      ((∃ k m q, th.cur = some k ∧ th.queue = m :: q ∧ fetched th = { th with pc := .handler, inbox := rest }) ∨
       (∃ k, th.cur = some k ∧ th.queue = [] ∧ fetched th = { th with pc := .finLock k, cur := none, inbox := rest }) ∨
       (th.cur = none ∧ fetched th = { th with pc := .exited, inbox := rest }))) := by
  unfold fetched
  split
  · next h => exact Or.inl ⟨h, rfl⟩
  · next rest h => exact Or.inr (Or.inl ⟨rest, h, rfl⟩)
  · next rest h =>
    refine Or.inr (Or.inr ⟨rest, h, ?_⟩)
    split
    · next k m q hc hq => exact Or.inl ⟨k, m, q, hc, hq, rfl⟩
    · next k hc hq => exact Or.inr (Or.inl ⟨k, hc, hq, rfl⟩)
    · next hc => exact Or.inr (Or.inr ⟨hc, rfl⟩)

/-- the outcomes of `fetched` in the two shapes that matter to an invariant that reads only `cur`, `queue` and whether the thread is at `finLock` -/
theorem fetched_shape (th : PTh) :
    (∃ pc ib, (∀ k, pc ≠ .finLock k) ∧ fetched th = { th with pc := pc, inbox := ib }) ∨
    (∃ k ib, th.cur = some k ∧ th.queue = [] ∧ fetched th = { th with pc := .finLock k, cur := none, inbox := ib }) := by
  rcases fetched_cases th with ⟨h, e⟩ | ⟨_, _, e⟩ | ⟨_, _, ⟨_, _, _, _, _, e⟩ | ⟨k, hc, hq, e⟩ | ⟨_, e⟩⟩
  · exact Or.inl ⟨.idle, _, nofun, h ▸ e⟩
  · exact Or.inl ⟨.exited, _, nofun, e⟩
  · exact Or.inl ⟨.handler, _, nofun, e⟩
  · exact Or.inr ⟨k, _, hc, hq, e⟩
  · exact Or.inl ⟨.exited, _, nofun, e⟩

theorem fetch_eq (c : Cfg) (T : PTid) : (fetch c T).1 = { c with pth := upd c.pth T (fetched (c.pth T)) } := by
  unfold fetch fetched
  simp only
  rcases (c.pth T).inbox with _ | ⟨_ | _, rest⟩
  · rfl
  · rcases (c.pth T).cur with _ | k <;> rcases (c.pth T).queue with _ | ⟨m, q⟩ <;> rfl
  · rfl

/-- the first half of `ThreadFinishedProcessingClientMessages(T, k)`: thread T leaves the lock wait, hands k back and
returns to the available table -/
def finPrefix (c : Cfg) (T : PTid) (k : Client) : Cfg := release (handBack { c with pth := upd c.pth T { (c.pth T) with pc := .idle } } k) T

theorem finishCS_eq (c : Cfg) (T : PTid) (k : Client) (hs : c.p.shut = false) :
    finishCS { c with pth := upd c.pth T { (c.pth T) with pc := .idle } } T k = wake (dispatch (finPrefix c T k)) k := by
  simp [finishCS, finPrefix, hs]

theorem finishCS_shut (c : Cfg) (T : PTid) (k : Client) (hs : c.p.shut = true) :
    finishCS { c with pth := upd c.pth T { (c.pth T) with pc := .idle } } T k =
      { c with pth := upd c.pth T { (c.pth T) with pc := .idle } } :=
  if_pos hs

/-- the last critical section of `Shutdown`, before the caller returns: the tables are cleared, what was still queued counts as dropped, every
waiter of `UnregisterClient` is notified -/
abbrev sdFinalCfg (c : Cfg) : Cfg :=
  { c with cptr := fun k => if k ∈ c.p.regK then false else c.cptr k,
           dropped := dropAll c.p c.dropped,
           p := { c.p with availR := [], active := [], regK := [], flag := fun _ => false, pendK := [],
                           pend := fun _ => [], defK := [], defr := fun _ => [], waitK := [] },
           uth := notifyAll c.p.waitK c.p.waitT c.uth }

/-- a step of a thread that is inside a call of `Shutdown` -/
inductive SdStep (c : Cfg) (t : Tid) : Cfg → Prop where
  | sdBegin (hpc : (c.uth t).pc = .sdLock) :
      SdStep c t { c with p := { c.p with shut := true }, uth := upd c.uth t { (c.uth t) with pc := .sdSwap false 0 0 } }
  | sdSwapActive {nA tot : Nat} (hpc : (c.uth t).pc = .sdSwap true nA tot) :
      SdStep c t (sdNext { c with p := { c.p with active := [] } } t true nA tot c.p.active.length c.p.active)
  | sdSwapAvail {nA tot : Nat} (hpc : (c.uth t).pc = .sdSwap false nA tot) :
      SdStep c t (sdNext { c with p := { c.p with availR := [] } } t false nA tot c.p.availR.length c.p.availR.reverse)
  | sdJoined {b : Bool} {nA tot n : Nat} {T : PTid} {rest : List PTid} (hpc : (c.uth t).pc = .sdJoin b nA tot n T rest)
      (hex : (c.pth T).pc = .exited) :
      SdStep c t (sdNext c t b nA tot n rest)
  | sdFinish {tot : Nat} (hpc : (c.uth t).pc = .sdFinal tot) :
      SdStep c t { sdFinalCfg c with uth := upd (sdFinalCfg c).uth t (advance ((sdFinalCfg c).uth t)) }

inductive UStep (c : Cfg) (t : Tid) : Cfg → Prop where
  /-- the call returns at once: `sub`/`unreg` on a client without a pool, `reg` on a client that has one -/
  | skip {op : Op} {rest : List Op} (hpc : (c.uth t).pc = .opStart) (hp : (c.uth t).prog = op :: rest) :
      UStep c t { c with uth := upd c.uth t (advance (c.uth t)) }
  | subStart {k : Client} {m : MsgId} {rest : List Op} (hpc : (c.uth t).pc = .opStart)
      (hp : (c.uth t).prog = .sub k m :: rest) :
      UStep c t { c with uth := upd c.uth t { (c.uth t) with pc := .subLock k m } }
  | regStart {k : Client} {rest : List Op} (hpc : (c.uth t).pc = .opStart) (hp : (c.uth t).prog = .reg k :: rest)
      (hc : c.cptr k = false) :
      UStep c t { c with cptr := upd c.cptr k true, uth := upd c.uth t { (c.uth t) with pc := .regLock k } }
  | unregStart {k : Client} {rest : List Op} (hpc : (c.uth t).pc = .opStart) (hp : (c.uth t).prog = .unreg k :: rest) :
      UStep c t { c with uth := upd c.uth t { (c.uth t) with pc := .unregLock1 k } }
  | sdStart {rest : List Op} (hpc : (c.uth t).pc = .opStart) (hp : (c.uth t).prog = .shutdown :: rest) :
      UStep c t { c with uth := upd c.uth t { (c.uth t) with pc := .sdLock } }
  | sub {k : Client} {m : MsgId} (hpc : (c.uth t).pc = .subLock k m) :
      UStep c t { (subCS c k m).1 with uth := upd (subCS c k m).1.uth t (advance (c.uth t)) }
  | reg {k : Client} (hpc : (c.uth t).pc = .regLock k) :
      UStep c t { c with p := { c.p with regK := addKey c.p.regK k, flag := upd c.p.flag k false },
                         uth := upd c.uth t (advance (c.uth t)) }
  | unregBlock {k : Client} (hpc : (c.uth t).pc = .unregLock1 k) (ho : outstanding c.p k = true) :
      UStep c t { c with p := { c.p with waitK := addKey c.p.waitK k, waitT := upd c.p.waitT k t },
                         uth := upd c.uth t { (c.uth t) with pc := .unregWait k } }
  | unregPass {k : Client} (hpc : (c.uth t).pc = .unregLock1 k) (ho : outstanding c.p k = false) :
      UStep c t { c with uth := upd c.uth t { (c.uth t) with pc := .unregLock2 k } }
  | unregWoken {k : Client} (hpc : (c.uth t).pc = .unregWait k) (hn : (c.uth t).notif > 0) :
      UStep c t { c with uth := upd c.uth t { (c.uth t) with pc := .unregLock2 k, notif := 0 } }
  | unreg {k : Client} (hpc : (c.uth t).pc = .unregLock2 k) :
      UStep c t { c with p := { c.p with regK := remKey c.p.regK k, flag := upd c.p.flag k false,
                                         pendK := remKey c.p.pendK k, pend := upd c.p.pend k [],
                                         defK := remKey c.p.defK k, defr := upd c.p.defr k [],
                                         waitK := remKey c.p.waitK k },
                         cptr := upd c.cptr k false,
                         dropped := upd c.dropped k (c.dropped k ++ c.p.pend k ++ c.p.defr k),
                         uth := upd c.uth t (advance (c.uth t)) }
  /-- the critical sections of `Shutdown` and its joins -/
  | shutdown (h : SdStep c t c') : UStep c t c'

theorem stepUser_cases {c c' : Cfg} {t : Tid} {o : List Out} (hs : stepUser c t = some (c', o)) : UStep c t c' := by
  unfold stepUser at hs
  simp only at hs
  split at hs
  · cases hs
  · rename_i hpc
    split at hs
    · cases hs
    · rename_i hp
      split at hs <;> cases hs
      · exact .subStart hpc hp
      · exact .skip hpc hp
    · rename_i hp
      split at hs <;> rename_i hc <;> cases hs
      · exact .skip hpc hp
      · exact .regStart hpc hp (by simpa using hc)
    · rename_i hp
      split at hs <;> cases hs
      · exact .unregStart hpc hp
      · exact .skip hpc hp
    · rename_i hp
      cases hs
      exact .sdStart hpc hp
  · rename_i hpc; cases hs; exact .sub hpc
  · rename_i hpc; cases hs; exact .reg hpc
  · rename_i hpc
    split at hs <;> rename_i ho <;> cases hs
    · exact .unregBlock hpc ho
    · exact .unregPass hpc (by simpa using ho)
  · rename_i hpc
    split at hs <;> rename_i hn <;> cases hs
    exact .unregWoken hpc hn
  · rename_i hpc; cases hs; exact .unreg hpc
  · rename_i hpc; cases hs; exact .shutdown (.sdBegin hpc)
  · rename_i hpc
    split at hs <;> rename_i hb <;> cases hs
    · subst hb; exact .shutdown (.sdSwapActive hpc)
    · have hb' := Bool.eq_false_iff.2 hb; subst hb'; exact .shutdown (.sdSwapAvail hpc)
  · rename_i hpc
    split at hs <;> rename_i hex <;> cases hs
    exact .shutdown (.sdJoined hpc hex)
  · rename_i hpc; cases hs; exact .shutdown (.sdFinish hpc)

inductive PStep (c : Cfg) (T : PTid) : Cfg → Prop where
  /-- the thread looks into its inbox: at its start, or when idle with something to fetch -/
  | look (hpc : (c.pth T).pc = .start ∨ (c.pth T).pc = .idle ∧ (c.pth T).inbox ≠ []) : PStep c T (fetch c T).1
  | next {k : Client} {m m2 : MsgId} {q : List MsgId} (hpc : (c.pth T).pc = .handler) (hc : (c.pth T).cur = some k)
      (hq : (c.pth T).queue = m :: m2 :: q) :
      PStep c T { c with pth := upd c.pth T { (c.pth T) with queue := m2 :: q },
                         handled := upd c.handled k (c.handled k ++ [m]) }
  | last {k : Client} {m : MsgId} (hpc : (c.pth T).pc = .handler) (hc : (c.pth T).cur = some k)
      (hq : (c.pth T).queue = [m]) :
      PStep c T { c with pth := upd c.pth T { (c.pth T) with queue := [], cur := none, pc := .finLock k },
                         handled := upd c.handled k (c.handled k ++ [m]) }
  /-- `ThreadFinishedProcessingClientMessages` during shutdown: the thread only leaves the lock wait -/
  | finishShut {k : Client} (hpc : (c.pth T).pc = .finLock k) (hs : c.p.shut = true) :
      PStep c T (fetch { c with pth := upd c.pth T { (c.pth T) with pc := .idle } } T).1
  | finish {k : Client} (hpc : (c.pth T).pc = .finLock k) (hs : c.p.shut = false) :
      PStep c T (fetch (wake (dispatch (finPrefix c T k)) k) T).1

theorem stepPool_cases {c c' : Cfg} {T : PTid} {o : List Out} (hs : stepPool c T = some (c', o)) : PStep c T c' := by
  unfold stepPool at hs
  simp only at hs
  split at hs
  · cases hs
  · cases hs
  · rename_i hpc
    have he : (fetch c T).1 = c' := congrArg Prod.fst (Option.some.inj hs)
    rw [← he]; exact .look (Or.inl hpc)
  · rename_i hpc
    split at hs
    · cases hs
    · rename_i hin
      have he : (fetch c T).1 = c' := congrArg Prod.fst (Option.some.inj hs)
      rw [← he]; exact .look (Or.inr ⟨hpc, hin⟩)
  · rename_i hpc
    split at hs
    · rename_i hc hq; cases hs; exact .next hpc hc hq
    · rename_i hc hq; cases hs; exact .last hpc hc hq
    · cases hs
  · rename_i k hpc
    have he : (fetch (finishCS { c with pth := upd c.pth T { (c.pth T) with pc := .idle } } T k) T).1 = c' :=
      congrArg Prod.fst (Option.some.inj hs)
    rw [← he]
    cases hsh : c.p.shut with
    | true => rw [finishCS_shut c T k hsh]; exact .finishShut hpc hsh
    | false => rw [finishCS_eq c T k hsh]; exact .finish hpc hsh

theorem stepUser_none (c : Cfg) (t : Tid) (hn : stepUser c t = none) :
    (c.uth t).pc = .done ∨ ((c.uth t).pc = .opStart ∧ (c.uth t).prog = []) ∨
    (∃ k, (c.uth t).pc = .unregWait k ∧ (c.uth t).notif = 0) ∨
    (∃ b nA tot n T r, (c.uth t).pc = .sdJoin b nA tot n T r ∧ (c.pth T).pc ≠ .exited) := by
  unfold stepUser at hn
  cases hpc : (c.uth t).pc with
  | done => exact Or.inl rfl
  | opStart =>
    cases hp : (c.uth t).prog with
    | nil => exact Or.inr (Or.inl ⟨rfl, rfl⟩)
    | cons op r =>
      simp only [hpc, hp] at hn
      cases op <;> simp only at hn <;> first | cases hn | (split at hn <;> cases hn)
  | unregWait k =>
    simp only [hpc] at hn
    by_cases h0 : (c.uth t).notif > 0
    · rw [if_pos h0] at hn; cases hn
    · exact Or.inr (Or.inr (Or.inl ⟨k, rfl, Nat.eq_zero_of_not_pos h0⟩))
  | sdJoin b nA tot n T r =>
    simp only [hpc] at hn
    by_cases hex : (c.pth T).pc = .exited
    · rw [if_pos hex] at hn; cases hn
    · exact Or.inr (Or.inr (Or.inr ⟨b, nA, tot, n, T, r, rfl, hex⟩))
  | unregLock1 k => simp only [hpc] at hn; split at hn <;> cases hn
  | sdSwap b nA tot => simp only [hpc] at hn; split at hn <;> cases hn
  | _ => simp only [hpc] at hn; cases hn

theorem stepPool_enabled {c : Cfg} {T : PTid}
    (h : (c.pth T).pc = .start ∨ ((c.pth T).pc = .idle ∧ (c.pth T).inbox ≠ []) ∨
      ((c.pth T).pc = .handler ∧ ∃ k m q, (c.pth T).cur = some k ∧ (c.pth T).queue = m :: q) ∨ ∃ k, (c.pth T).pc = .finLock k) :
    ∃ r, stepPool c T = some r := by
  unfold stepPool
  rcases h with h | ⟨h, hi⟩ | ⟨h, k, m, q, hc, hq⟩ | ⟨k, h⟩
  · simp only [h]; exact ⟨_, rfl⟩
  · simp only [h, if_neg hi]; exact ⟨_, rfl⟩
  · simp only [h, hc, hq]; cases q <;> exact ⟨_, rfl⟩
  · simp only [h]; exact ⟨_, rfl⟩

theorem step_cases {c c' : Cfg} {e : Ev} {o : List Out} (hs : step c e = some (c', o)) :
    (∃ t, t < c.nU ∧ e = .run t ∧ UStep c t c') ∨ (∃ T, e = .run (c.nU + T) ∧ PStep c T c') := by
  cases e with
  | timeout t => cases hs
  | run i =>
    simp only [step] at hs
    split at hs
    · rename_i hlt; exact Or.inl ⟨i, hlt, rfl, stepUser_cases hs⟩
    · rename_i hge
      refine Or.inr ⟨i - c.nU, ?_, stepPool_cases hs⟩
      rw [Nat.add_sub_cancel' (Nat.le_of_not_lt hge)]

theorem spawnIfNeeded_cases {P : Cfg → Prop} {c : Cfg} (h : ¬ (c.p.availR = [] ∧ c.p.active.length < c.p.maxT) → P c)
    (hs : c.p.availR = [] → c.p.active.length < c.p.maxT →
      P { c with p := { c.p with idc := c.p.idc + 1, availR := [c.p.idc] }, pth := upd c.pth c.p.idc PTh.fresh }) :
    P (spawnIfNeeded c) := by
  unfold spawnIfNeeded; split
  · next hc => exact hs hc.1 hc.2
  · next hc => exact h hc

theorem handBack_cases {P : Cfg → Prop} {c : Cfg} {k : Client} (h : k ∉ c.p.regK → P c)
    (hswap : k ∈ c.p.regK → c.p.defr k ≠ [] →
      P { c with p := { c.p with flag := upd c.p.flag k false, pendK := addKey c.p.pendK k,
                                 pend := upd c.p.pend k (c.p.defr k), defr := upd c.p.defr k (c.p.pend k) } })
    (hflag : k ∈ c.p.regK → c.p.defr k = [] → P { c with p := { c.p with flag := upd c.p.flag k false } }) :
    P (handBack c k) := by
  unfold handBack; split
  · next hk =>
    split
    · next hd => exact hswap hk hd
    · next hd => exact hflag hk (Decidable.not_not.1 hd)
  · next hk => exact h hk

theorem release_cases {P : Cfg → Prop} {c : Cfg} {T : PTid} (h : T ∉ c.p.active → P c)
    (hr : T ∈ c.p.active → P { c with p := { c.p with active := remKey c.p.active T, availR := T :: c.p.availR } }) :
    P (release c T) := by
  unfold release; split
  · next hT => exact hr hT
  · next hT => exact h hT

theorem wake_cases {P : Cfg → Prop} {c : Cfg} {k : Client} (h : ¬ (outstanding c.p k = false ∧ k ∈ c.p.waitK) → P c)
    (hw : outstanding c.p k = false → k ∈ c.p.waitK →
      P { c with uth := upd c.uth (c.p.waitT k) { (c.uth (c.p.waitT k)) with notif := (c.uth (c.p.waitT k)).notif + 1 },
                 p := { c.p with waitK := remKey c.p.waitK k } }) :
    P (wake c k) := by
  unfold wake; split
  · next hc => exact hw hc.1 hc.2
  · next hc => exact h hc

theorem outstanding_eq_true_iff (p : Pool) (k : Client) : outstanding p k = true ↔ p.flag k = true ∨ p.pend k ≠ [] ∨ p.defr k ≠ [] := by
  simp [outstanding, or_assoc]

/-- nothing outstanding for client k (`DoesClientHaveMessagesOutstandingUnsafe` = false) -/
def quiet (c : Cfg) (k : Client) : Prop := c.p.flag k = false ∧ c.p.pend k = [] ∧ c.p.defr k = []

theorem quiet.flag {c : Cfg} {k : Client} (h : quiet c k) : c.p.flag k = false := h.1

theorem quiet.pend {c : Cfg} {k : Client} (h : quiet c k) : c.p.pend k = [] := h.2.1

theorem quiet.defr {c : Cfg} {k : Client} (h : quiet c k) : c.p.defr k = [] := h.2.2

theorem outstanding_false_iff (c : Cfg) (k : Client) : outstanding c.p k = false ↔ quiet c k := by
  simp [outstanding, quiet, and_assoc]

/-- a client stays outstanding when its flag stays up, its deferred queue stays non-empty, and its pending queue stays non-empty or its flag
goes up -/
theorem outstanding_mono {p p' : Pool} {k : Client} (h : outstanding p k = true) (hf : p.flag k = true → p'.flag k = true)
    (hp : p.pend k ≠ [] → p'.pend k ≠ [] ∨ p'.flag k = true) (hd : p.defr k ≠ [] → p'.defr k ≠ []) : outstanding p' k = true := by
  rw [outstanding_eq_true_iff] at h ⊢
  rcases h with h | h | h
  · exact Or.inl (hf h)
  · exact (hp h).elim (fun e => Or.inr (Or.inl e)) Or.inl
  · exact Or.inr (Or.inr (hd h))

/-- a queue that is non-empty after client `k`'s has been replaced is the new one of `k`, or was non-empty before -/
theorem upd_ne_nil {f : Client → List MsgId} {k k' : Client} {v : List MsgId} (h : upd f k v k' ≠ []) :
    (k' = k ∧ v ≠ []) ∨ (k' ≠ k ∧ f k' ≠ []) := by
  rw [upd_apply] at h; split at h
  · next e => exact Or.inl ⟨e, h⟩
  · next e => exact Or.inr ⟨e, h⟩

/-- appending to a queue leaves it non-empty -/
theorem upd_append_ne_nil {f : Client → List MsgId} {k k' : Client} {m : MsgId} (h : f k' ≠ []) : upd f k (f k ++ [m]) k' ≠ [] := by
  rw [upd_apply]; split
  · exact List.append_ne_nil_of_right_ne_nil _ (List.cons_ne_nil _ _)
  · exact h

theorem outstanding_addDefr (c : Cfg) (k : Client) (m : MsgId) {k' : Client} (h : outstanding c.p k' = true) :
    outstanding (addDefr c k m).p k' = true :=
  outstanding_mono h id Or.inl upd_append_ne_nil

theorem outstanding_addPend (c : Cfg) (k : Client) (m : MsgId) {k' : Client} (h : outstanding c.p k' = true) :
    outstanding (addPend c k m).p k' = true :=
  outstanding_mono h id (fun e => Or.inl (upd_append_ne_nil e)) id

/-- `assign` empties `pend k` but raises `flag k` -/
theorem outstanding_assign {c : Cfg} {k : Client} {T : PTid} {rest : List PTid} {k' : Client} (h : outstanding c.p k' = true) :
    outstanding (assign c k T rest).p k' = true :=
  outstanding_mono h upd_true (fun e => by
    show upd c.p.pend k [] k' ≠ [] ∨ upd c.p.flag k true k' = true
    rw [upd_apply, upd_apply]; split
    · exact Or.inr rfl
    · exact Or.inl e) id

/- The equations `X_p` name the changed fields by the left-hand side itself, so that after `rw [X_p]` every other field of the pool
reduces to the field of `c.p` by `rfl`, whichever branch `X` took. -/
theorem spawnIfNeeded_p (c : Cfg) :
    (spawnIfNeeded c).p = { c.p with idc := (spawnIfNeeded c).p.idc, availR := (spawnIfNeeded c).p.availR } :=
  spawnIfNeeded_cases (P := fun c' => c'.p = { c.p with idc := c'.p.idc, availR := c'.p.availR }) (fun _ => rfl) fun _ _ => rfl

theorem handBack_p (c : Cfg) (k : Client) :
    (handBack c k).p = { c.p with flag := (handBack c k).p.flag, pendK := (handBack c k).p.pendK,
                                  pend := (handBack c k).p.pend, defr := (handBack c k).p.defr } :=
  handBack_cases (P := fun c' => c'.p = { c.p with flag := c'.p.flag, pendK := c'.p.pendK, pend := c'.p.pend, defr := c'.p.defr })
    (fun _ => rfl) (fun _ _ => rfl) fun _ _ => rfl

theorem handBack_pth (c : Cfg) (k : Client) : (handBack c k).pth = c.pth :=
  handBack_cases (P := fun c' => c'.pth = c.pth) (fun _ => rfl) (fun _ _ => rfl) fun _ _ => rfl

theorem release_p (c : Cfg) (T : PTid) :
    (release c T).p = { c.p with active := (release c T).p.active, availR := (release c T).p.availR } :=
  release_cases (P := fun c' => c'.p = { c.p with active := c'.p.active, availR := c'.p.availR }) (fun _ => rfl) fun _ => rfl

theorem release_pth (c : Cfg) (T : PTid) : (release c T).pth = c.pth :=
  release_cases (P := fun c' => c'.pth = c.pth) (fun _ => rfl) fun _ => rfl

theorem release_p_fields (c : Cfg) (T : PTid) : (release c T).p.shut = c.p.shut ∧ (release c T).p.flag = c.p.flag := by
  rw [release_p]; exact ⟨rfl, rfl⟩

theorem handBack_shut (c : Cfg) (k : Client) : (handBack c k).p.shut = c.p.shut := by rw [handBack_p]

theorem wake_p (c : Cfg) (k : Client) : (wake c k).p = { c.p with waitK := (wake c k).p.waitK } :=
  wake_cases (P := fun c' => c'.p = { c.p with waitK := c'.p.waitK }) (fun _ => rfl) fun _ _ => rfl

theorem wake_pth (c : Cfg) (k : Client) : (wake c k).pth = c.pth := wake_cases (P := fun c' => c'.pth = c.pth) (fun _ => rfl) fun _ _ => rfl

theorem finPrefix_pth (c : Cfg) (T : PTid) (k : Client) : (finPrefix c T k).pth = upd c.pth T { (c.pth T) with pc := .idle } := by
  unfold finPrefix; rw [release_pth, handBack_pth]

theorem dispatch_cases {Q : Cfg → Prop} {c : Cfg} (h : c.p.shut = true → Q c) (hl : c.p.shut = false → Q (dispatchLoop c.p.pendK c)) :
    Q (dispatch c) := by
  unfold dispatch; split
  · next hs => exact h hs
  · next hs => exact hl (Bool.eq_false_iff.2 hs)

/-- Loop rule for `DispatchPendingMessagesUnsafe`.  `spawnIfNeeded` leaves the client tables alone, so `hassign` gets the
loop's guard for the configuration it has to start from. -/
theorem dispatchLoop_induct {P : List Client → Cfg → Prop} {Q : Cfg → Prop}
    (hassign : ∀ {k ks c T rest}, P (k :: ks) c → k ∈ (spawnIfNeeded c).p.regK → (spawnIfNeeded c).p.pend k ≠ [] →
      (spawnIfNeeded c).p.availR = T :: rest → P ks (assign (spawnIfNeeded c) k T rest))
    (hskip : ∀ {k ks c}, P (k :: ks) c → ¬ (k ∈ c.p.regK ∧ c.p.pend k ≠ []) → P ks { c with p := { c.p with pend := upd c.p.pend k [] } })
    (hdone : ∀ {c}, P [] c → Q { c with p := { c.p with pendK := [] } })
    (hfull : ∀ {k ks c}, P (k :: ks) c → k ∈ c.p.regK → c.p.pend k ≠ [] → (spawnIfNeeded c).p.availR = [] →
      Q { c with p := { c.p with pendK := k :: ks } }) :
    ∀ (ks : List Client) {c : Cfg}, P ks c → Q (dispatchLoop ks c)
  | [], _, h => hdone h
  | k :: ks, c, h => by
    unfold dispatchLoop
    split
    · next hc =>
      split
      · next T rest ha =>
        refine dispatchLoop_induct hassign hskip hdone hfull ks (hassign h ?_ ?_ ha) <;> rw [spawnIfNeeded_p]
        · exact hc.1
        · exact hc.2
      · next ha => exact hfull h hc.1 hc.2 ha
    · next hc => exact dispatchLoop_induct hassign hskip hdone hfull ks (hskip h hc)

/-- the branches of `ThreadPool::SendMessageToThreadPool`; `A` is what holds between queueing the Message and running the
dispatcher -/
theorem subCS_cases {A P : Cfg → Prop} {c : Cfg} (k : Client) (m : MsgId) (h : P c)
    (hd : k ∈ c.p.regK → c.p.flag k = true → P (addDefr c k m)) (hA : k ∈ c.p.regK → c.p.flag k = false → A (addPend c k m))
    (hp : k ∈ c.p.regK → c.p.flag k = false → c.p.pend k ≠ [] → A (addPend c k m) → P (addPend c k m))
    (hdisp : k ∈ c.p.regK → c.p.flag k = false → c.p.pend k = [] → A (addPend c k m) → P (dispatch (addPend c k m))) :
    P (subCS c k m).1 := by
  unfold subCS
  split
  · exact h
  · next hk =>
    have hk := Decidable.not_not.1 hk
    split
    · next hf => exact hd hk hf
    · next hf =>
      have hf := Bool.eq_false_iff.2 hf
      split
      · next he => exact hdisp hk hf he (hA hk hf)
      · next he => exact hp hk hf he (hA hk hf)

/-- What the dispatcher and the bookkeeping around it never touch, and the little they do to the pool threads that exist. -/
structure Disp (c c' : Cfg) : Prop where
  uth : c'.uth = c.uth
  nU : c'.nU = c.nU
  regK : c'.p.regK = c.p.regK
  waitK : c'.p.waitK = c.p.waitK
  waitT : c'.p.waitT = c.p.waitT
  shut : c'.p.shut = c.p.shut
  maxT : c'.p.maxT = c.p.maxT
  /-- pool threads are created, never removed -/
  idc : c.p.idc ≤ c'.p.idc
  /-- an existing pool thread stays where it is -/
  pc : ∀ T, T < c.p.idc → (c'.pth T).pc = (c.pth T).pc
  /-- a thread that has been told to end is still told so -/
  quit : ∀ T, T < c.p.idc → Item.quit ∈ (c.pth T).inbox → Item.quit ∈ (c'.pth T).inbox
  /-- the threads of the two tables, and the new ones, are in the two tables -/
  tables : ∀ T, T < c'.p.idc → T ∈ c.p.availR ∨ T ∈ c.p.active ∨ c.p.idc ≤ T → T ∈ c'.p.availR ∨ T ∈ c'.p.active

/-- nothing but the queues, the flags and the ghost state changed -/
theorem Disp.of_eq {c c' : Cfg} (h1 : c'.uth = c.uth := by rfl) (h2 : c'.nU = c.nU := by rfl)
    (h3 : c'.p.regK = c.p.regK := by rfl) (h4 : c'.p.waitK = c.p.waitK := by rfl) (h5 : c'.p.waitT = c.p.waitT := by rfl)
    (h6 : c'.p.shut = c.p.shut := by rfl) (h7 : c'.p.maxT = c.p.maxT := by rfl) (h8 : c'.p.idc = c.p.idc := by rfl)
    (h9 : c'.pth = c.pth := by rfl) (h10 : c'.p.availR = c.p.availR := by rfl) (h11 : c'.p.active = c.p.active := by rfl) :
    Disp c c' :=
  ⟨h1, h2, h3, h4, h5, h6, h7, Nat.le_of_eq h8.symm, fun _ _ => by rw [h9], fun _ _ h => by rw [h9]; exact h,
   fun T hT h => by
     rw [h10, h11]; rw [h8] at hT
     rcases h with h | h | h
     · exact Or.inl h
     · exact Or.inr h
     · exact absurd hT (Nat.not_lt.2 h)⟩

theorem Disp.trans {a b c : Cfg} (h1 : Disp a b) (h2 : Disp b c) : Disp a c where
  uth := h2.uth.trans h1.uth
  nU := h2.nU.trans h1.nU
  regK := h2.regK.trans h1.regK
  waitK := h2.waitK.trans h1.waitK
  waitT := h2.waitT.trans h1.waitT
  shut := h2.shut.trans h1.shut
  maxT := h2.maxT.trans h1.maxT
  idc := Nat.le_trans h1.idc h2.idc
  pc T hT := (h2.pc T (Nat.lt_of_lt_of_le hT h1.idc)).trans (h1.pc T hT)
  quit T hT h := h2.quit T (Nat.lt_of_lt_of_le hT h1.idc) (h1.quit T hT h)
  tables T hT h := by
    by_cases hb : T < b.p.idc
    · exact h2.tables T hT ((h1.tables T hb h).elim Or.inl (fun h => Or.inr (Or.inl h)))
    · exact h2.tables T hT (Or.inr (Or.inr (Nat.le_of_not_lt hb)))

theorem disp_spawnIfNeeded (c : Cfg) : Disp c (spawnIfNeeded c) :=
  spawnIfNeeded_cases (fun _ => Disp.of_eq) fun ha _ => by
    have hne : ∀ T, T < c.p.idc → upd c.pth c.p.idc PTh.fresh T = c.pth T := fun T hT => upd_other _ _ _ _ (Nat.ne_of_lt hT)
    refine ⟨rfl, rfl, rfl, rfl, rfl, rfl, rfl, Nat.le_succ _, fun T hT => congrArg PTh.pc (hne T hT),
      fun T hT h => ?_, fun T hT h => ?_⟩
    · show Item.quit ∈ (upd c.pth c.p.idc PTh.fresh T).inbox
      rw [hne T hT]; exact h
    rcases h with h | h | h
    · rw [ha] at h; cases h
    · exact Or.inr h
    · exact Or.inl (List.mem_singleton.2 (Nat.le_antisymm (Nat.le_of_lt_succ hT) h))

theorem disp_assign (c : Cfg) (k : Client) {T : PTid} {rest : List PTid} (ha : c.p.availR = T :: rest) :
    Disp c (assign c k T rest) := by
  refine ⟨rfl, rfl, rfl, rfl, rfl, rfl, rfl, Nat.le_refl _, fun T' _ => ?_, fun T' _ h => ?_, fun T' hT' h => ?_⟩
  · simp only [assign, upd_apply]; split
    · rename_i he; rw [he]
    · rfl
  · simp only [assign, upd_apply]; split
    · rename_i he; rw [he] at h; exact List.mem_append_left _ h
    · exact h
  · rw [ha] at h
    show T' ∈ rest ∨ T' ∈ c.p.active ++ [T]
    rcases h with h | h | h
    · rcases List.mem_cons.1 h with h | h
      · exact Or.inr (List.mem_append_right _ (List.mem_singleton.2 h))
      · exact Or.inl h
    · exact Or.inr (List.mem_append_left _ h)
    · exact absurd hT' (Nat.not_lt.2 h)

theorem disp_dispatch (c : Cfg) : Disp c (dispatch c) :=
  dispatch_cases (fun _ => Disp.of_eq) fun _ =>
    dispatchLoop_induct (P := fun _ c' => Disp c c') (Q := Disp c)
      (fun h _ _ ha => (h.trans (disp_spawnIfNeeded _)).trans (disp_assign _ _ ha)) (fun h _ => h.trans Disp.of_eq)
      (fun h => h.trans Disp.of_eq) (fun h _ _ _ => h.trans Disp.of_eq) _ Disp.of_eq

theorem dispatch_shut {c : Cfg} (h : c.p.shut = true) : dispatch c = c := by simp [dispatch, h]

theorem disp_subCS (c : Cfg) (k : Client) (m : MsgId) : Disp c (subCS c k m).1 :=
  subCS_cases (A := Disp c) k m Disp.of_eq (fun _ _ => Disp.of_eq) (fun _ _ => Disp.of_eq) (fun _ _ _ h => h)
    fun _ _ _ h => h.trans (disp_dispatch _)

theorem disp_handBack (c : Cfg) (k : Client) : Disp c (handBack c k) :=
  handBack_cases (fun _ => Disp.of_eq) (fun _ _ => Disp.of_eq) fun _ _ => Disp.of_eq

theorem disp_release (c : Cfg) (T : PTid) : Disp c (release c T) :=
  release_cases (fun _ => Disp.of_eq) fun _ => by
    refine ⟨rfl, rfl, rfl, rfl, rfl, rfl, rfl, Nat.le_refl _, fun _ _ => rfl, fun _ _ h => h, fun T' hT' h => ?_⟩
    show T' ∈ T :: c.p.availR ∨ T' ∈ remKey c.p.active T
    rcases h with h | h | h
    · exact Or.inl (List.mem_cons_of_mem _ h)
    · by_cases he : T' = T
      · exact Or.inl (he ▸ List.mem_cons_self ..)
      · exact Or.inr (by simp [remKey, h, he])
    · exact absurd hT' (Nat.not_lt.2 h)

theorem disp_finPrefix (c : Cfg) (T : PTid) (k : Client) :
    Disp { c with pth := upd c.pth T { (c.pth T) with pc := .idle } } (finPrefix c T k) :=
  (disp_handBack _ k).trans (disp_release _ T)

theorem notifyAll_spec (ks : List Client) (w : Client → Tid) (u : Tid → UTh) (x : Tid) :
    (notifyAll ks w u x).pc = (u x).pc ∧ (notifyAll ks w u x).prog = (u x).prog ∧
    ((notifyAll ks w u x).notif > 0 → (u x).notif > 0 ∨ ∃ k ∈ ks, w k = x) := by
  induction ks generalizing u with
  | nil => exact ⟨rfl, rfl, Or.inl⟩
  | cons k ks ih =>
    have hu : (upd u (w k) { (u (w k)) with notif := (u (w k)).notif + 1 } x).pc = (u x).pc ∧
        (upd u (w k) { (u (w k)) with notif := (u (w k)).notif + 1 } x).prog = (u x).prog ∧
        ((upd u (w k) { (u (w k)) with notif := (u (w k)).notif + 1 } x).notif > 0 → (u x).notif > 0 ∨ w k = x) := by
      rw [upd_apply]; split
      · next e => exact e ▸ ⟨rfl, rfl, fun _ => Or.inr rfl⟩
      · exact ⟨rfl, rfl, Or.inl⟩
    obtain ⟨h1, h2, h3⟩ := ih (upd u (w k) { (u (w k)) with notif := (u (w k)).notif + 1 })
    refine ⟨h1.trans hu.1, h2.trans hu.2.1, fun hn => ?_⟩
    rcases h3 hn with hn | ⟨k', hk', e⟩
    · exact (hu.2.2 hn).imp_right fun e => ⟨k, List.mem_cons_self, e⟩
    · exact Or.inr ⟨k', List.mem_cons_of_mem _ hk', e⟩

theorem notifyAll_mono (ks : List Client) (w : Client → Tid) (u : Tid → UTh) (x : Tid) : (u x).notif ≤ (notifyAll ks w u x).notif := by
  induction ks generalizing u with
  | nil => exact Nat.le_refl _
  | cons k ks ih =>
    refine Nat.le_trans ?_ (ih _)
    rw [upd_apply]; split
    · rename_i he; subst he; exact Nat.le_succ _
    · exact Nat.le_refl _

theorem sdNext_pool (c : Cfg) (t : Tid) (b : Bool) (nA tot n : Nat) (l : List PTid) : (sdNext c t b nA tot n l).p = c.p := by
  rw [sdNext_eq]

theorem sdNext_self (c : Cfg) (t : Tid) (b : Bool) (nA tot n : Nat) (l : List PTid) :
    (sdNext c t b nA tot n l).uth t = { (c.uth t) with pc := sdNextPc b nA tot n l } := by
  rw [sdNext_eq]; exact upd_same ..

theorem subCS_shut {c : Cfg} (k : Client) (m : MsgId) (h : c.p.shut = true) :
    (subCS c k m).1 = c ∨ (subCS c k m).1 = addDefr c k m ∨ (subCS c k m).1 = addPend c k m :=
  subCS_cases (A := fun _ => True) (P := fun c' => c' = c ∨ c' = addDefr c k m ∨ c' = addPend c k m) k m (Or.inl rfl)
    (fun _ _ => Or.inr (Or.inl rfl)) (fun _ _ => trivial) (fun _ _ _ _ => Or.inr (Or.inr rfl))
    fun _ _ _ _ => Or.inr (Or.inr (dispatch_shut (c := addPend c k m) h))

theorem notifyAll_pos (ks : List Client) (w : Client → Tid) (u : Tid → UTh) {k : Client} (hk : k ∈ ks) :
    (notifyAll ks w u (w k)).notif > 0 := by
  induction ks generalizing u with
  | nil => cases hk
  | cons k0 ks ih =>
    rcases List.mem_cons.1 hk with h | h
    · subst h
      exact Nat.lt_of_lt_of_le (by simp [upd_same]) (notifyAll_mono ks w _ (w k))
    · exact ih _ h

theorem step_pool_event (c : Cfg) (T : PTid) : step c (.run (c.nU + T)) = stepPool c T := by
  simp only [step]
  rw [if_neg (Nat.not_lt.2 (Nat.le_add_right _ _)), Nat.add_sub_cancel_left]

theorem step_user_event (c : Cfg) (t : Tid) (ht : t < c.nU) : step c (.run t) = stepUser c t := by
  simp only [step]; rw [if_pos ht]

end Muscle.Conc.TP
