import MuscleModel.Conc.ProofsTPHandled

/-! # C19 proofs: the inside of a critical section (`Crit`) and what is settled when it ends

`Crit c` is what holds at every point of a critical section of `_poolLock` at which `DispatchPendingMessagesUnsafe` may run.  The
dispatcher keeps it and has done all it can when it returns: a flagged client has a server (`FlagServed`, part of `Crit`), pending
work means a full pool (`PendingFull`); and between two steps a registered waiter has something outstanding (`WaitersOutstanding`).  That a whole
step keeps `Settled` is in ProofsTPDisciplined (`settled_ustep`, `invAll_pstep`). -/

namespace Muscle.Conc.TP
open Muscle.Conc

def FlagServed (c : Cfg) : Prop := c.p.shut = false → ∀ k, c.p.flag k = true → ∃ T, serving c T k
def WaitersOutstanding (c : Cfg) : Prop := ∀ k, k ∈ c.p.waitK → outstanding c.p k = true

theorem flagServed_of {c c' : Cfg} (h : FlagServed c) (hsh : c'.p.shut = false → c.p.shut = false)
    (hm : ∀ k, c'.p.flag k = true → c.p.flag k = true ∧ ∀ T, serving c T k → serving c' T k) : FlagServed c' := by
  intro hs k hf
  obtain ⟨hf0, hsv⟩ := hm k hf
  obtain ⟨T, hT⟩ := h (hsh hs) k hf0
  exact ⟨T, hsv T hT⟩

theorem flagServed_congr {c c' : Cfg} (h : FlagServed c) (h1 : c'.pth = c.pth := by rfl) (h2 : c'.p.shut = c.p.shut := by rfl)
    (h3 : c'.p.flag = c.p.flag := by rfl) : FlagServed c' := by
  unfold FlagServed serving at *; rw [h1, h2, h3]; exact h

/-- the new thread serves nobody -/
theorem flagServed_spawnIfNeeded {c : Cfg} (h : FlagServed c) (hp : InvP c) : FlagServed (spawnIfNeeded c) :=
  spawnIfNeeded_cases (fun _ => h) fun _ _ => flagServed_of h id fun k hf => ⟨hf, fun T hT => by
    rw [serving_upd rfl]; split
    · next e =>
      subst e
      rw [serving, hp.freshNoCur (Nat.le_refl _), (hp.tok _).unb (Nat.le_refl _)] at hT
      exact hT.elim nofun nofun
    · exact hT⟩

/-- the assigned thread served nobody, and serves `k` now -/
theorem flagServed_assign {c : Cfg} {k : Client} {T : PTid} {rest : List PTid} (h : FlagServed c) (h0 : Inv0 c) (ha : c.p.availR = T :: rest) :
    FlagServed (assign c k T rest) := by
  have hT := h0.availNoServe (T := T) (by rw [ha]; exact List.mem_cons_self)
  intro hs k' hf
  by_cases hk : k' = k
  · subst hk; exact ⟨T, Or.inl (by simp [assign, upd_same])⟩
  · have hf' : c.p.flag k' = true := by simpa [assign, upd_apply, hk] using hf
    obtain ⟨T', hT'⟩ := h hs k' hf'
    have hne : T' ≠ T := fun he => hT k' (he ▸ hT')
    exact ⟨T', by rw [assign, serving_upd rfl, if_neg hne]; exact hT'⟩

structure Settled (c : Cfg) : Prop where
  flagged : FlagServed c
  full : PendingFull c
  waiters : WaitersOutstanding c

theorem Settled.congr {c c' : Cfg} (h : Settled c) (h1 : c'.pth = c.pth := by rfl) (h2 : c'.p.shut = c.p.shut := by rfl)
    (h3 : c'.p.flag = c.p.flag := by rfl) (h4 : c'.p.pend = c.p.pend := by rfl) (h5 : c'.p.defr = c.p.defr := by rfl)
    (h6 : c'.p.availR = c.p.availR := by rfl) (h7 : c'.p.active = c.p.active := by rfl) (h8 : c'.p.maxT = c.p.maxT := by rfl)
    (h9 : c'.p.waitK = c.p.waitK := by rfl) : Settled c' := by
  obtain ⟨g1, g2, g3⟩ := h
  refine ⟨?_, ?_, ?_⟩
  · exact flagServed_congr g1 h1 h2 h3
  · simp only [PendingFull, h2, h4, h6, h7, h8] at *; exact g2
  · simp only [WaitersOutstanding, outstanding, h3, h4, h5, h9] at *; exact g3

theorem Settled.of_shut {c' : Cfg} (hs : c'.p.shut = true) (ho : WaitersOutstanding c') : Settled c' :=
  ⟨fun h => absurd (hs.symm.trans h) nofun, fun h => absurd (hs.symm.trans h) nofun, ho⟩

theorem flagServed_setPth {c c' : Cfg} {T : PTid} {th : PTh} (h : FlagServed c) (hp : c'.p = c.p) (ht : c'.pth = upd c.pth T th)
    (hsv : ∀ k, serving c T k → th.cur = some k ∨ th.pc = .finLock k) : FlagServed c' :=
  flagServed_of h (by rw [hp]; exact id) fun k hf => ⟨hp ▸ hf, fun T' hT' => by
    rw [serving_upd ht]; split
    · next e => exact hsv k (e ▸ hT')
    · exact hT'⟩

theorem Settled.setPth {c c' : Cfg} {T : PTid} {th : PTh} (h : Settled c) (hp : c'.p = c.p) (ht : c'.pth = upd c.pth T th)
    (hsv : ∀ k, serving c T k → th.cur = some k ∨ th.pc = .finLock k) : Settled c' :=
  ⟨flagServed_setPth h.flagged hp ht hsv, by unfold PendingFull; rw [hp]; exact h.full, by unfold WaitersOutstanding; rw [hp]; exact h.waiters⟩

theorem fetched_serving {th : PTh} (hpc : ∀ k, th.pc ≠ .finLock k) (k : Client) (h : th.cur = some k ∨ th.pc = .finLock k) :
    (fetched th).cur = some k ∨ (fetched th).pc = .finLock k := by
  have h := h.resolve_right (hpc k)
  rcases fetched_cases th with ⟨_, e⟩ | ⟨_, _, e⟩ | ⟨_, _, ⟨_, _, _, _, _, e⟩ | ⟨k', hc, _, e⟩ | ⟨hc, _⟩⟩
  · rw [e]; exact Or.inl h
  · rw [e]; exact Or.inl h
  · rw [e]; exact Or.inl h
  · rw [e]; exact Or.inr (by cases h.symm.trans hc; rfl)
  · rw [h] at hc; cases hc

theorem flagServed_fetch {c : Cfg} (T : PTid) (h : FlagServed c) (hpc : ∀ k, (c.pth T).pc ≠ .finLock k) : FlagServed (fetch c T).1 := by
  rw [fetch_eq]; exact flagServed_setPth h rfl rfl (fetched_serving hpc)

theorem settled_fetch {c : Cfg} (T : PTid) (h : Settled c) (hpc : ∀ k, (c.pth T).pc ≠ .finLock k) : Settled (fetch c T).1 := by
  rw [fetch_eq]; exact h.setPth rfl rfl (fetched_serving hpc)

theorem handBack_others (c : Cfg) (k : Client) :
    (∀ k', k' ≠ k → outstanding (handBack c k).p k' = outstanding c.p k') ∧
    (∀ k', (handBack c k).p.flag k' = true → c.p.flag k' = true ∧ (k' ≠ k ∨ k ∉ c.p.regK)) := by
  have hflag : ∀ k', upd c.p.flag k false k' = true → c.p.flag k' = true ∧ (k' ≠ k ∨ k ∉ c.p.regK) :=
    fun k' h => ⟨(upd_false_eq_true h).2, Or.inl (upd_false_eq_true h).1⟩
  exact handBack_cases
    (P := fun c' => (∀ k', k' ≠ k → outstanding c'.p k' = outstanding c.p k') ∧
      ∀ k', c'.p.flag k' = true → c.p.flag k' = true ∧ (k' ≠ k ∨ k ∉ c.p.regK))
    (fun hk => ⟨fun _ _ => rfl, fun k' h => ⟨h, Or.inr hk⟩⟩)
    (fun _ _ => ⟨fun k' hk' => by simp only [outstanding, upd_other _ _ _ _ hk'], hflag⟩)
    (fun _ _ => ⟨fun k' hk' => by simp only [outstanding, upd_other _ _ _ _ hk'], hflag⟩)

theorem finPrefix_others (c : Cfg) (T : PTid) (k : Client) :
    (∀ k', k' ≠ k → outstanding (finPrefix c T k).p k' = outstanding c.p k') ∧
    (∀ k', (finPrefix c T k).p.flag k' = true → c.p.flag k' = true ∧ (k' ≠ k ∨ k ∉ c.p.regK)) := by
  unfold finPrefix
  obtain ⟨b1, b2⟩ := handBack_others { c with pth := upd c.pth T { (c.pth T) with pc := .idle } } k
  exact ⟨fun k' hk' => (by rw [release_p]; rfl : outstanding (release _ T).p k' = outstanding _ k').trans (b1 k' hk'),
    fun k' => by rw [release_p]; exact b2 k'⟩

structure Crit (c : Cfg) : Prop where
  inv0 : Inv0 c
  inv1 : Inv1 c
  invH : InvH c
  invP : InvP c
  flagged : FlagServed c

theorem crit_spawnIfNeeded {c : Cfg} (h : Crit c) : Crit (spawnIfNeeded c) :=
  ⟨inv0_spawnIfNeeded h.inv0, inv1_spawnIfNeeded h.inv1, invH_spawnIfNeeded h.invH h.invP, invP_spawnIfNeeded h.invP h.inv0,
   flagServed_spawnIfNeeded h.flagged h.invP⟩

theorem crit_assign {c : Cfg} {k : Client} {T : PTid} {rest : List PTid} (h : Crit c) (ha : c.p.availR = T :: rest)
    (hk : k ∈ c.p.regK) (hp : c.p.pend k ≠ []) (hs : c.p.shut = false) : Crit (assign c k T rest) :=
  ⟨inv0_assign h.inv0 ha hk, inv1_assign h.inv1 h.inv0 ha hp hs, invH_assign h.invH h.inv0 h.inv1 ha hp hs,
   invP_assign h.invP h.inv0 ha hs, flagServed_assign h.flagged h.inv0 ha⟩

theorem crit_setPendK {c : Cfg} (h : Crit c) {ks : List Client} (hk : ∀ k, c.p.pend k ≠ [] → k ∈ ks) :
    Crit { c with p := { c.p with pendK := ks } } :=
  ⟨{ h.inv0 with }, { h.inv1 with user := fun t => { h.inv1.user t with } }, { h.invH with }, h.invP.frame (pendKeys := hk), flagServed_congr h.flagged⟩

theorem crit_dispatch {c : Cfg} (h : Crit c) (hs : c.p.shut = false) :
    Crit (dispatch c) ∧ PendingFull (dispatch c) ∧ ∀ k, outstanding c.p k = true → outstanding (dispatch c).p k = true :=
  have r := dispatch_rule (P := fun c' => Crit c' ∧ ∀ k, outstanding c.p k = true → outstanding c'.p k = true) h.inv0 hs ⟨h, fun _ h => h⟩
    h.invP.pendKeys
    (fun {c'} _ _ _ _ hs' ⟨hc, ho⟩ hk hp ha =>
      ⟨crit_assign (crit_spawnIfNeeded hc) ha (by rw [spawnIfNeeded_p]; exact hk) (by rw [spawnIfNeeded_p]; exact hp) ((disp_spawnIfNeeded c').shut.trans hs'),
       fun k' ho' => outstanding_assign (by rw [spawnIfNeeded_p]; exact ho k' ho')⟩)
    (fun ⟨hc, ho⟩ hk => ⟨crit_setPendK hc hk, ho⟩)
  ⟨r.1.1, r.2, r.1.2⟩

/-- after the hand-back `k`'s flag is down and `T`, which served nobody else, is available again -/
theorem crit_finPrefix {c : Cfg} {T : PTid} {k : Client} (h : Crit c) (hpc : (c.pth T).pc = .finLock k) (hs : c.p.shut = false) :
    Crit (finPrefix c T k) := by
  refine ⟨inv0_finPrefix T k h.inv0 hpc, inv1_finPrefix T k h.inv1 h.inv0 hpc hs, invH_finPrefix T k h.invH h.inv1 h.inv0 hpc hs,
    invP_finPrefix T k h.invP h.inv0 hpc hs, fun _ k' hf' => ?_⟩
  obtain ⟨hf0, hne⟩ := (finPrefix_others c T k).2 k' hf'
  obtain ⟨T', hT'⟩ := h.flagged hs k' hf0
  have hkk : k' ≠ k := fun he => by
    subst he
    rw [h.inv0.wfFlag k' (hne.resolve_left fun hn => hn rfl)] at hf0; cases hf0
  have hTT : T' ≠ T := by
    intro he; subst he
    rcases hT' with h' | h'
    · rw [h.inv0.finCur T' k hpc] at h'; cases h'
    · rw [hpc] at h'; cases h'; exact hkk rfl
  exact ⟨T', by rw [serving_upd (finPrefix_pth c T k), if_neg hTT]; exact hT'⟩

theorem crit_wake {c : Cfg} (k : Client) (h : Crit c) : Crit (wake c k) :=
  ⟨inv0_wake k h.inv0, inv1_wake k h.inv1, wake_cases (fun _ => h.invH) fun _ _ => { h.invH with }, invP_wake k h.invP,
   wake_cases (fun _ => h.flagged) fun _ _ => flagServed_congr h.flagged⟩

theorem crit_fetch {c : Cfg} (T : PTid) (h : Crit c) (hpc : (c.pth T).pc = .start ∨ (c.pth T).pc = .idle) : Crit (fetch c T).1 :=
  ⟨inv0_fetch T h.inv0, inv1_fetch T h.inv1, invH_fetch T h.invH, invP_fetch T h.invP h.inv0 hpc,
   flagServed_fetch T h.flagged fun k e => by rcases hpc with e' | e' <;> rw [e'] at e <;> cases e⟩

/-- the critical section of `ThreadFinishedProcessingClientMessages` before shutdown, then on to the next wait -/
theorem crit_finish {c : Cfg} {T : PTid} {k : Client} (h : Crit c) (hw : WaitersOutstanding c) (hlt : T < c.p.idc)
    (hpc : (c.pth T).pc = .finLock k) (hs : c.p.shut = false) :
    Crit (fetch (wake (dispatch (finPrefix c T k)) k) T).1 ∧ Settled (fetch (wake (dispatch (finPrefix c T k)) k) T).1 := by
  have dPre := disp_finPrefix c T k
  obtain ⟨hd, hfull, hout⟩ := crit_dispatch (crit_finPrefix h hpc hs) (dPre.shut.trans hs)
  have dDisp := disp_dispatch (finPrefix c T k)
  have hidle := finish_pc_idle c k hlt
  have hoth := (finPrefix_others c T k).1
  -- from here on the state after the dispatcher is a variable: `wake_cases` then abstracts `wake d k` without meeting `dispatch` again
  generalize dispatch (finPrefix c T k) = d at hd hfull hout dDisp hidle ⊢
  have hwd : ∀ k', k' ∈ d.p.waitK → k' ≠ k → outstanding d.p k' = true := fun k' hk' hkk =>
    hout k' ((hoth k' hkk).trans (hw k' (dPre.waitK ▸ dDisp.waitK ▸ hk')))
  -- `k` itself is still in the table only if `wake` found something outstanding
  have hset : Settled (wake d k) := wake_cases (P := Settled)
    (fun hn => ⟨hd.flagged, hfull, fun k' hk' => by
      by_cases e : k' = k
      · subst e
        cases ho : outstanding d.p k' with
        | true => rfl
        | false => exact absurd ⟨ho, hk'⟩ hn
      · exact hwd k' hk' e⟩)
    (fun _ _ => ⟨flagServed_congr hd.flagged, hfull, fun k' hk' => hwd k' (mem_remKey.1 hk').1 (mem_remKey.1 hk').2⟩)
  exact ⟨crit_fetch T (crit_wake k hd) (Or.inr hidle), settled_fetch T hset fun k' he => by rw [hidle] at he; cases he⟩

/-- `hq`: no thread is finishing an unregistration of `k` (from the discipline, `Disc.sub_alone`).  Between queueing the
Message and running the dispatcher `Crit` holds; `PendingFull` holds again only after the dispatcher, or at once if `k` had
Messages pending already. -/
theorem crit_subCS {c : Cfg} (k : Client) (m : MsgId) (h : Crit c) (hs : Settled c)
    (hq : ∀ t, (c.uth t).pc ≠ .unregLock2 k ∧ (c.uth t).pc ≠ .unregWait k) :
    Crit (subCS c k m).1 ∧ Settled (subCS c k m).1 := by
  have hf := hs.full
  have hw := hs.waiters
  suffices key : Crit (subCS c k m).1 ∧ PendingFull (subCS c k m).1 ∧ WaitersOutstanding (subCS c k m).1 from
    ⟨key.1, key.1.flagged, key.2.1, key.2.2⟩
  have hout : ∀ c' : Cfg, c'.p.waitK = c.p.waitK → (∀ k', outstanding c.p k' = true → outstanding c'.p k' = true) → WaitersOutstanding c' :=
    fun c' e ho k' hk' => ho k' (hw k' (e ▸ hk'))
  refine subCS_cases (A := fun c' => Crit c' ∧ c'.p.shut = c.p.shut ∧ WaitersOutstanding c')
    (P := fun c' => Crit c' ∧ PendingFull c' ∧ WaitersOutstanding c') k m ⟨h, hf, hw⟩ (fun hk hfl => ?_) (fun hk hfl => ?_)
    (fun _ _ hne a => ⟨a.1, fun hsh _ _ => hf hsh k hne, a.2.2⟩) (fun _ _ _ ⟨a, es, hwa⟩ => ?_)
  · exact ⟨⟨inv0_addDefr k m h.inv0 hk, inv1_addDefr k m h.inv1 hfl, invH_addDefr k m h.invH, h.invP.frame (pendKeys := h.invP.pendKeys), flagServed_congr h.flagged⟩,
      hf, hout _ rfl fun _ => outstanding_addDefr c k m⟩
  · exact ⟨⟨inv0_addPend k m h.inv0 hk hfl, inv1_addPend k m h.inv1 hq, invH_addPend k m h.invH (h.inv1.defrFlag k hfl),
      invP_addPend k m h.invP, flagServed_congr h.flagged⟩, rfl, hout _ rfl fun _ => outstanding_addPend c k m⟩
  · cases hsh : c.p.shut with
    | true => rw [dispatch_shut (es.trans hsh)]; exact ⟨a, fun e => absurd ((es.trans hsh).symm.trans e) nofun, hwa⟩
    | false =>
      obtain ⟨j1, j2, j3⟩ := crit_dispatch a (es.trans hsh)
      exact ⟨j1, j2, fun k' hk2 => j3 k' (hwa k' ((disp_dispatch _).waitK ▸ hk2))⟩

end Muscle.Conc.TP
