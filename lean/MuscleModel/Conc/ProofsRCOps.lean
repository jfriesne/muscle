import MuscleModel.Conc.ProofsRCRules

/-! # The first step of every operation (`startOp`) preserves the joint invariant (lemmas for C10) -/

namespace Muscle.Conc.RC
open Muscle.Conc Muscle.Conc.Pool

section
variable {c : Cfg} {t : Nat} {th : Th} {evs : List Evt} (h : Inv c) (ht : c.ths[t]? = some th)
include h ht

theorem inv_prog (rest : List Op) :
    Keeps t (c, { th with prog := rest }, evs) :=
  inv_local (g' := c.glob) h ht (fun _ => rfl) rfl (fun _ => rfl) (fun _ _ hs => hs)

theorem inv_todo (htodo : th.todo = [])
    (todo' : List Act) (rest : List Op) (hp : todo'.all Act.plain = true) :
    Keeps t (c, { th with todo := todo', prog := rest }, evs) := by
  obtain ⟨hd, hr, hs⟩ := of_all_plain hp
  refine inv_local (g' := c.glob) h ht ?_ rfl ?_ ?_
  · intro o; simp [Th.refs, hd o, htodo, cntDec]
  · intro o; simp [hr o, htodo, cntRel]
  · intro x hx hm; exact absurd hm (hs x hx)

theorem inv_store {a : Nat} (ha : a < th.slots.length)
    (htodo : th.todo = []) (v : Slot) (hv : ∀ o, v ≠ some (o, true)) (rest : List Op) :
    Keeps t (c, { th with slots := th.slots.set a v, todo := decOld (slotOf th a), prog := rest }, evs) := by
  refine inv_local (g' := c.glob) h ht (fun o => ?_) rfl (fun o => ?_) fun x hx hs => absurd hs (special_not_mem_decOld _ x hx)
  · have := cntS_set (y := v) (o := o) (slots_get_of_lt ha)
    simp only [Th.refs, cntDec_decOld, htodo, cntDec, hv o, if_false] at *
    omega
  · simp only [cntRel_decOld, htodo, cntRel]

theorem inv_swap {a b : Nat}
    (ha : a < th.slots.length) (hb : b < th.slots.length) (rest : List Op) :
    Keeps t (c, { th with slots := (th.slots.set a (slotOf th b)).set b (slotOf th a), prog := rest }, evs) := by
  refine inv_local (g' := c.glob) h ht ?_ rfl (fun _ => rfl) (fun _ _ hs => hs)
  intro o
  have h1 := cntS_set (y := slotOf th b) (o := o) (slots_get_of_lt ha)
  have hb1 : (th.slots.set a (slotOf th b))[b]? = some (slotOf th b) := by
    rw [List.getElem?_set]
    by_cases hab : a = b
    · subst hab; simp [ha]
    · simp [hab, slots_get_of_lt hb]
  have h2 := cntS_set (y := slotOf th a) (o := o) hb1
  simp only [Th.refs]; omega

theorem inv_xchg {a g : Nat}
    (ha : a < th.slots.length) (hg : g < c.glob.length) (rest : List Op) :
    Keeps t ({ c with glob := c.glob.set g (slotOf th a) }, { th with slots := th.slots.set a ((c.glob[g]?).join), prog := rest }, evs) := by
  refine inv_local h ht ?_ rfl (fun _ => rfl) (fun _ _ hs => hs)
  intro o
  have h1 := cntS_set (y := (c.glob[g]?).join) (o := o) (slots_get_of_lt ha)
  have hg1 : c.glob[g]? = some ((c.glob[g]?).join) := by simp [List.getElem?_eq_getElem hg]
  have h2 := cntS_set (y := slotOf th a) (o := o) hg1
  simp only [Th.refs]; omega

/-- `SetRef(sameItem, false)` / `Neutralize()`: the slot stops counting (or becomes NULL), the decrement (which never deletes) is pending -/
theorem inv_demote {a : Nat} {o : Oid} (htodo : th.todo = [])
    (hs : slotOf th a = some (o, true)) (v : Slot) (hv : ∀ x, v ≠ some (x, true)) (rest : List Op) :
    Keeps t (c, { th with slots := th.slots.set a v, todo := [.decNoDel o], prog := rest }, evs) := by
  refine inv_local (g' := c.glob) h ht ?_ rfl ?_ ?_
  · intro x
    have := cntS_set (y := v) (o := x) (slot_get hs)
    simp only [Th.refs, htodo, cntDec, slot_counting_inj, hv x, if_false] at *
    omega
  · intro x; simp [htodo, cntRel]
  · intro x hx hm; simp at hm; subst hm; exact absurd hx id

theorem inv_store_plain {a : Nat}
    (ha : a < th.slots.length) (hs : ∀ x, slotOf th a ≠ some (x, true)) (v : Slot) (hv : ∀ x, v ≠ some (x, true)) (rest : List Op) :
    Keeps t (c, { th with slots := th.slots.set a v, prog := rest }, evs) := by
  refine inv_local (g' := c.glob) h ht ?_ rfl (fun _ => rfl) (fun _ _ hm => hm)
  intro x
  have := cntS_set (y := v) (o := x) (slots_get_of_lt ha)
  simp only [Th.refs] at *
  simp [hv x, hs x] at this
  omega

theorem inv_write {a : Nat} {o : Oid}
    (hs : slotOf th a = some (o, true)) (rest : List Op) (v : Nat) :
    Keeps t ({ c with obj := setObj c.obj o { c.obj o with val := v } }, { th with prog := rest }, evs) := by
  have ⟨hal, hc⟩ := h.slot_alive ht hs
  exact inv_obj1 (l' := c.links) h ht h.pool
    (fun _ _ => rfl) rfl (Or.inl hal)
    (Or.inl ⟨rfl, fun _ => hc⟩)
    (Nat.le_refl _) ((h.objs o).val hal v)
    (by intro x; rw [aliveN_setObj_alive c.obj o { c.obj o with val := v } rfl])
    (fun x _ hs => Or.inl hs)
    (fun _ hs => hs)
    h.linksND
    (fun x n hm => ⟨fun _ => hal, fun _ => Or.inl hm⟩)

/-- `new Obj`: a fresh identity, nobody references it yet -/
theorem inv_newHeap {a : Nat} (htodo : th.todo = []) (rest : List Op) :
    Keeps t
      ({ c with
          obj := setObj c.obj (.heap c.nextHeap)
            { c.obj (.heap c.nextHeap) with alive := true, mgr := false, val := 0, acq := (c.obj (.heap c.nextHeap)).acq + 1 }
          nextHeap := c.nextHeap + 1 },
       { th with raw := some (.heap c.nextHeap), todo := [.incRaw a], prog := rest }, evs) := by
  have ⟨hdead, hacq0⟩ := h.heapFresh c.nextHeap (Nat.le_refl _)
  have hc0 := h.count_zero_of_dead hdead
  exact inv_obj1 (l' := c.links) (p' := c.pool) h ht h.pool
    (by intro x _; simp [Th.refs, htodo, cntDec])
    (by simp [Th.refs, htodo, cntDec])
    (Or.inl rfl)
    (Or.inr (Or.inr ⟨rfl, hdead, rfl, hc0⟩))
    (Nat.le_succ _)
    ⟨by have := h.acq (.heap c.nextHeap); rw [hdead] at this; simp only [this]; rfl, rfl, by simp only; omega,
      fun hk => absurd hk (Nat.not_succ_le_self _)⟩
    (by intro x; rw [aliveN_setObj]
        split
        · next hx => subst hx; simp [htodo, cntRel, aliveN]
        · simp [htodo, cntRel])
    (by intro x hx hs; simp at hs; subst hs; exact absurd hx id)
    (fun _ hs => hs)
    h.linksND
    (fun x n hm => ⟨fun _ => rfl, fun _ => Or.inl hm⟩)

/-- `obj->next` is cleared at once, the decrement of its old target is pending -/
theorem inv_unlink {o : Oid} (htodo : th.todo = []) (rest : List Op) :
    Keeps t ({ c with links := dropKey c.links o }, { th with todo := decNext (nextOf c.links o), prog := rest }, evs) := by
  refine inv_update (c1 := { c with links := dropKey c.links o }) (th' := { th with todo := decNext (nextOf c.links o), prog := rest })
    h ht rfl h.pool ?_ h.alive_or ?_ (fun o ha hc => Or.inl ⟨ha, hc⟩) (fun o hr => Or.inl hr) h.objs ?_
    (fun x hx hs => absurd hs (special_not_mem_decNext _ x hx)) (fun _ hs => hs) (nodup_dropKey h.linksND o) ?_
  · intro x; have := cntL_dropKey h.linksND o x
    simp only [Th.refs, htodo, cntDec, cntDec_decNext]; omega
  · intro x hx; exact h.rawAlive ht hx
  · intro x; simp only [htodo, cntRel, cntRel_decNext]
  · intro x n hm; exact h.linkAlive x n (mem_dropKey.mp hm).1

theorem inv_switchTo {a b : Nat} {o : Oid} {f : Bool} {rest : List Op} (htodo : th.todo = []) (ha : a < th.slots.length) :
    Keeps t (switchTo c th a b o f rest) := by
  unfold switchTo
  split
  · exact inv_todo h ht htodo [.incSlot a b] rest rfl
  · exact inv_store h ht ha htodo (some (o, false)) nofun rest

theorem inv_setRefTo {a b : Nat} {o : Oid} {f : Bool} {rest : List Op} (htodo : th.todo = []) (ha : a < th.slots.length) :
    Keeps t (setRefTo c th a b o f rest) := by
  unfold setRefTo
  split
  · rename_i o' fa hsa
    split
    · rename_i hoo; subst hoo
      split
      · exact inv_prog h ht rest
      · split
        · exact inv_todo h ht htodo [.incSame a] rest rfl
        · rename_i hne hf
          obtain rfl : fa = true := by cases fa <;> cases f <;> simp_all
          exact inv_demote h ht htodo hsa (some (o', false)) nofun rest
    · exact inv_switchTo h ht htodo ha
  · exact inv_switchTo h ht htodo ha

theorem inv_startOp {op : Op} {rest : List Op} (htodo : th.todo = []) : Keeps t (startOp .new c t th op rest) := by
  unfold startOp
  split
  · exact inv_prog h ht rest
  · rename_i hok
    cases op <;> simp only [opOk, decide_eq_false_iff_not, Classical.not_not] at hok <;> simp only
    case newHeap a => exact inv_newHeap h ht htodo rest
    case newPool a => exact inv_todo h ht htodo [.obtain, .incRaw a] rest rfl
    case copy a b | weak a b =>
      split
      · exact inv_setRefTo h ht htodo hok.1
      · exact inv_store h ht hok.1 htodo none nofun rest
    case setRef a b =>
      split
      · exact inv_setRefTo h ht htodo hok.1
      · exact inv_prog h ht rest
      · exact inv_store h ht hok.1 htodo none nofun rest
    case reset a => exact inv_store h ht hok htodo none nofun rest
    case swap a b => exact inv_swap h ht hok.1 hok.2 rest
    case xchg a g => exact inv_xchg h ht hok.1 hok.2 rest
    case write a =>
      split
      · rename_i o ho; exact inv_write h ht ho rest (t + 1)
      · exact inv_prog h ht rest
    case ccast a b =>
      split
      · exact inv_todo h ht htodo [.incTmp b, .incSlot a b] rest rfl
      · rename_i o ho; exact inv_store h ht hok.1 htodo (some (o, false)) nofun rest
      · exact inv_store h ht hok.1 htodo none nofun rest
    case link a b =>
      split
      · split
        · exact inv_prog h ht rest
        · split
          · split
            · exact inv_prog h ht rest
            · exact inv_todo h ht htodo [.incNext a b] rest rfl
          · exact inv_prog h ht rest
          · exact inv_unlink h ht htodo rest
      · exact inv_prog h ht rest
    case unlink a =>
      split
      · split
        · exact inv_prog h ht rest
        · exact inv_unlink h ht htodo rest
      · exact inv_prog h ht rest
    case pop a =>
      split
      · split
        · exact inv_todo h ht htodo [.incPop a] rest rfl
        · exact inv_store h ht hok htodo none nofun rest
      · exact inv_prog h ht rest
    case promote a =>
      split
      · split
        · exact inv_todo h ht htodo [.incSame a] rest rfl
        · exact inv_prog h ht rest
      · exact inv_prog h ht rest
    case demote a =>
      split
      · rename_i o ho; exact inv_demote h ht htodo ho (some (o, false)) nofun rest
      · exact inv_prog h ht rest
    case neutral a =>
      split
      · rename_i o ho; exact inv_demote h ht htodo ho none nofun rest
      · rename_i hne; exact inv_store_plain h ht hok (fun x hx => hne x hx) none nofun rest

end

end Muscle.Conc.RC
