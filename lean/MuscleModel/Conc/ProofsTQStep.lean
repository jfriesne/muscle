import MuscleModel.Conc.ProofsTQBasic

/-! # C11 lemmas: the transition tables of `stepUser` / `timeoutUser` / `stepInt`

`UStep` and `IStep` list, branch by branch, what an event of a user thread resp. of the internal thread needs and does.
Every invariant is proved by `cases` on these relations. -/

namespace Muscle.Conc.TQ
open Muscle.Conc

/-- the shared state after the spawn in `StartInternalThread()`: a fresh socket pair in `sock` mode (`s2` in the start
branch of `stepUser`, which has no name for it; `stepUser_some` is where the two meet) -/
def spawn (s : Sh) : Sh :=
  let s1 : Sh := match s.mode with
    | .sock => { s with alloc := true, closedO := false, ci := { s.ci with sig := 0 }, co := { s.co with sig := 0 } }
    | .cond => s
  { s1 with running := true, gen := s1.gen + 1 }

/-- the three receive calls, by their `wakeupTime` -/
def recvOp : Wk → Op
  | .poll => .poll
  | .block => .recv
  | .timed => .recvT

/-- the owner's blocking point can be left right now; a time-out is legal only while it cannot -/
def WakeableO (s : Sh) : Prop := s.co.sig > 0 ∨ (s.mode = .sock ∧ s.closedO = true)

theorem afterSend_false (prog : List Op) : afterSend false prog = (nextOp prog, .ok) := rfl
theorem afterSend_true (prog : List Op) : afterSend true prog = ({ pc := .join true, prog := prog }, .quiet) := rfl

/-- `UStep s i th s' v i' o`: with shared state `s` and the internal thread at `i`, a user thread with record `th` can take
a step (or, last line, have its time-out fire) that leaves `s'`, `i'` and the record `v`, and reports `o`.  Row `toSend`
mirrors a branch of `stepUser` that no run from `Cfg.init` takes: `nextOp` sends a thread with a send in front straight to
`sendLock`, and `idle` is entered through `nextOp` only. -/
inductive UStep (s : Sh) (i : IPc) : UTh → Sh → UTh → IPc → Out → Prop
  | finish : UStep s i ⟨.idle, []⟩ s ⟨.done, []⟩ i .quiet
  | toSend {m rest} : UStep s i ⟨.idle, .send m :: rest⟩ s ⟨.sendLock (some m) false, rest⟩ i .quiet
  | startErr {rest} : s.running = true → UStep s i ⟨.idle, .start :: rest⟩ s (nextOp rest) i .err
  | startSig {rest} : s.running = false → s.ci.queue ≠ [] → UStep s i ⟨.idle, .start :: rest⟩ (spawn s) ⟨.startSig, rest⟩ .start .quiet
  | started {rest} : s.running = false → s.ci.queue = [] → UStep s i ⟨.idle, .start :: rest⟩ (spawn s) (nextOp rest) .start .ok
  | toRecv {w rest} : UStep s i ⟨.idle, recvOp w :: rest⟩ (drain s .toOwn) ⟨.recvLock w, rest⟩ i .quiet
  | toShutdown {w rest} : s.running = true → UStep s i ⟨.idle, .shutdown w :: rest⟩ s ⟨.sendLock none w, rest⟩ i .quiet
  | shutdownNoop {w rest} : s.running = false → UStep s i ⟨.idle, .shutdown w :: rest⟩ s (nextOp rest) i .noop
  | toJoin {rest} : UStep s i ⟨.idle, .join :: rest⟩ s ⟨.join false, rest⟩ i .quiet
  | sendFirst {it tj prog} : s.ci.queue = [] →
      UStep s i ⟨.sendLock it tj, prog⟩ { s with ci := s.ci.push it } ⟨.sendSig tj, prog⟩ i .quiet
  | sendMore {it tj prog} : s.ci.queue ≠ [] →
      UStep s i ⟨.sendLock it tj, prog⟩ { s with ci := s.ci.push it } (afterSend tj prog).1 i (afterSend tj prog).2
  | sendSig {tj prog} : UStep s i ⟨.sendSig tj, prog⟩ (signal s .toInt) (afterSend tj prog).1 i (afterSend tj prog).2
  | startSigDone {prog} : UStep s i ⟨.startSig, prog⟩ (signal s .toInt) (nextOp prog) i .ok
  | recvGot {w prog it rest} : i ≠ .entrySig → s.co.queue = it :: rest →
      UStep s i ⟨.recvLock w, prog⟩ { s with co := s.co.pop it rest } (nextOp prog) i (.got it)
  | recvNone {prog} : i ≠ .entrySig → s.co.queue = [] → UStep s i ⟨.recvLock .poll, prog⟩ s (nextOp prog) i .timedOut
  | recvBad {w prog} : i ≠ .entrySig → s.co.queue = [] → w ≠ .poll → s.mode = .sock → s.alloc = false →
      UStep s i ⟨.recvLock w, prog⟩ s (nextOp prog) i .err
  | recvBlock {w prog} : i ≠ .entrySig → s.co.queue = [] → w ≠ .poll → UStep s i ⟨.recvLock w, prog⟩ s ⟨.recvWait w, prog⟩ i .quiet
  | wakeSock {w prog} : s.mode = .sock → WakeableO s → UStep s i ⟨.recvWait w, prog⟩ (drain s .toOwn) ⟨.recvLock .poll, prog⟩ i .quiet
  | wakeCond {w prog} : s.mode = .cond → s.co.sig > 0 → UStep s i ⟨.recvWait w, prog⟩ (flush s .toOwn) ⟨.recvLock w, prog⟩ i .quiet
  | joinErr {b prog} : s.running = false → UStep s i ⟨.join b, prog⟩ s (nextOp prog) i .err
  /-- `WaitForInternalThreadToExit()` has joined the thread (`CloseSockets()` in `sock` mode) -/
  | joinOk {b prog} : s.running = true → i = .exited →
      UStep s i ⟨.join b, prog⟩ { s with running := false, alloc := (if s.mode = .sock then false else s.alloc) } (nextOp prog) i .ok
  | timeout {prog} : ¬ WakeableO s → UStep s i ⟨.recvWait .timed, prog⟩ s (nextOp prog) i .timedOut

/-- `IStep s i s' i' o`: with shared state `s`, the internal thread at `i` can take a step that leaves `s'` and `i'` and
reports `o`.  `(drain · .toInt, .recvLock false)` is `intLoop`. -/
inductive IStep (s : Sh) : IPc → Sh → IPc → Out → Prop
  | start : IStep s .start s .entryLock .quiet
  | entryFound : s.co.queue ≠ [] → IStep s .entryLock s .entrySig .quiet
  | entryNone : s.co.queue = [] → IStep s .entryLock (drain s .toInt) (.recvLock false) .quiet
  | entrySig : IStep s .entrySig (drain (signal s .toOwn) .toInt) (.recvLock false) .quiet
  | pollNone : s.ci.queue = [] → IStep s (.recvLock true) (drain s .toInt) (.recvLock false) .quiet
  | block : s.ci.queue = [] → IStep s (.recvLock false) s .recvWait .quiet
  | exit {poll rest} : s.ci.queue = none :: rest →
      IStep s (.recvLock poll) { s with ci := s.ci.pop none rest, closedO := (if s.mode = .sock then true else s.closedO) }
        .exited (.got none)
  | recvLast {poll m rest} : s.ci.queue = some m :: rest → m.nrep = 0 →
      IStep s (.recvLock poll) (drain { s with ci := s.ci.pop (some m) rest } .toInt) (.recvLock false) (.got (some m))
  | recvReply {poll m rest} : s.ci.queue = some m :: rest → m.nrep ≠ 0 →
      IStep s (.recvLock poll) { s with ci := s.ci.pop (some m) rest } (.replyLock m.id 1 m.nrep) (.got (some m))
  | wakeSock : s.ci.sig > 0 → s.mode = .sock → IStep s .recvWait (drain s .toInt) (.recvLock true) .quiet
  | wakeCond : s.ci.sig > 0 → s.mode = .cond → IStep s .recvWait (flush s .toInt) (.recvLock false) .quiet
  | replyFirst {id j k} : s.co.queue = [] →
      IStep s (.replyLock id j k) { s with co := s.co.push (some (replyMsg id j)) } (.replySig id j k) .quiet
  | replyNext {id j k} : s.co.queue ≠ [] → j < k →
      IStep s (.replyLock id j k) { s with co := s.co.push (some (replyMsg id j)) } (.replyLock id (j + 1) k) .quiet
  | replyLast {id j k} : s.co.queue ≠ [] → ¬ j < k →
      IStep s (.replyLock id j k) (drain { s with co := s.co.push (some (replyMsg id j)) } .toInt) (.recvLock false) .quiet
  | sigNext {id j k} : j < k → IStep s (.replySig id j k) (signal s .toOwn) (.replyLock id (j + 1) k) .quiet
  | sigLast {id j k} : ¬ j < k → IStep s (.replySig id j k) (drain (signal s .toOwn) .toInt) (.recvLock false) .quiet

theorem push_length_one (c : Chan) (it : Item) : (c.push it).queue.length = 1 ↔ c.queue = [] := by
  cases h : c.queue <;> simp [Chan.push, h]

theorem UTh.eq_mk {th : UTh} {pc : UPc} {prog : List Op} (h1 : th.pc = pc) (h2 : th.prog = prog) : th = ⟨pc, prog⟩ := by
  subst h1 h2; rfl

private theorem ustep_of_eq {c c' : Cfg} {t : Tid} {o o' : Out} {s' : Sh} {th v : UTh} {i' : IPc}
    (hs : some (({ c with sh := s', th := upd c.th t v, ipc := i' } : Cfg), o') = some (c', o))
    (hth : c.th t = th) (h : UStep c.sh c.ipc th s' v i' o') :
    ∃ s' v i', UStep c.sh c.ipc (c.th t) s' v i' o ∧ c' = { c with sh := s', th := upd c.th t v, ipc := i' } := by
  cases hs; subst hth; exact ⟨_, _, _, h, rfl⟩

theorem stepUser_some {c c' : Cfg} {t : Tid} {o : Out} (hs : stepUser c t = some (c', o)) :
    ∃ s' v i', UStep c.sh c.ipc (c.th t) s' v i' o ∧ c' = { c with sh := s', th := upd c.th t v, ipc := i' } := by
  unfold stepUser at hs
  simp only at hs
  split at hs
  next => simp at hs
  next hpc =>
    split at hs
    next hp => exact ustep_of_eq hs (UTh.eq_mk hpc hp) .finish
    next hp => exact ustep_of_eq hs (UTh.eq_mk hpc hp) .toSend
    next hp =>
      split at hs
      next hr => exact ustep_of_eq hs (UTh.eq_mk hpc hp) (.startErr hr)
      next hr =>
        have hr : c.sh.running = false := by simpa using hr
        split at hs
        next hq => exact ustep_of_eq hs (UTh.eq_mk hpc hp) (.startSig hr hq)
        next hq => exact ustep_of_eq hs (UTh.eq_mk hpc hp) (.started hr (by simpa using hq))
    next hp => exact ustep_of_eq hs (UTh.eq_mk hpc hp) (.toRecv (w := .poll))
    next hp => exact ustep_of_eq hs (UTh.eq_mk hpc hp) (.toRecv (w := .block))
    next hp => exact ustep_of_eq hs (UTh.eq_mk hpc hp) (.toRecv (w := .timed))
    next hp =>
      split at hs
      next hr => exact ustep_of_eq hs (UTh.eq_mk hpc hp) (.toShutdown hr)
      next hr => exact ustep_of_eq hs (UTh.eq_mk hpc hp) (.shutdownNoop (by simpa using hr))
    next hp => exact ustep_of_eq hs (UTh.eq_mk hpc hp) .toJoin
  next hpc =>
    simp only [push_length_one] at hs
    split at hs
    next hq => exact ustep_of_eq hs (UTh.eq_mk hpc rfl) (.sendFirst hq)
    next hq => exact ustep_of_eq hs (UTh.eq_mk hpc rfl) (.sendMore hq)
  next hpc => exact ustep_of_eq hs (UTh.eq_mk hpc rfl) .sendSig
  next hpc => exact ustep_of_eq hs (UTh.eq_mk hpc rfl) .startSigDone
  next w hpc =>
    split at hs
    next => simp at hs
    next hi =>
      split at hs
      next hq => exact ustep_of_eq hs (UTh.eq_mk hpc rfl) (.recvGot hi hq)
      next hq =>
        split at hs
        next hw => exact ustep_of_eq hs (UTh.eq_mk (hw ▸ hpc) rfl) (.recvNone hi hq)
        next hw =>
          split at hs
          next hb => exact ustep_of_eq hs (UTh.eq_mk hpc rfl) (.recvBad hi hq hw hb.1 hb.2)
          next => exact ustep_of_eq hs (UTh.eq_mk hpc rfl) (.recvBlock hi hq hw)
  next hpc =>
    split at hs
    next hm =>
      split at hs
      next hw => exact ustep_of_eq hs (UTh.eq_mk hpc rfl) (.wakeSock hm (hw.imp_right fun h => ⟨hm, h⟩))
      next => simp at hs
    next hm =>
      split at hs
      next hw => exact ustep_of_eq hs (UTh.eq_mk hpc rfl) (.wakeCond hm hw)
      next => simp at hs
  next hpc =>
    split at hs
    next hr => exact ustep_of_eq hs (UTh.eq_mk hpc rfl) (.joinErr hr)
    next hr =>
      split at hs
      next hx => exact ustep_of_eq hs (UTh.eq_mk hpc rfl) (.joinOk (by simpa using hr) hx)
      next => simp at hs

theorem timeoutUser_some {c c' : Cfg} {t : Tid} {o : Out} (hs : timeoutUser c t = some (c', o)) :
    ∃ s' v i', UStep c.sh c.ipc (c.th t) s' v i' o ∧ c' = { c with sh := s', th := upd c.th t v, ipc := i' } := by
  unfold timeoutUser at hs
  simp only at hs
  split at hs
  next hpc =>
    have hc : ¬ WakeableO c.sh ∧
        some (({ c with th := upd c.th t (nextOp (c.th t).prog) } : Cfg), Out.timedOut) = some (c', o) := by
      unfold WakeableO
      cases hm : c.sh.mode <;> simp_all
    exact ustep_of_eq hc.2 (UTh.eq_mk hpc rfl) (.timeout hc.1)
  next => simp at hs

private theorem istep_of_eq {c c' : Cfg} {o o' : Out} {s' : Sh} {i i' : IPc}
    (hs : some (({ c with sh := s', ipc := i' } : Cfg), o') = some (c', o)) (hi : c.ipc = i) (h : IStep c.sh i s' i' o') :
    ∃ s' i', IStep c.sh c.ipc s' i' o ∧ c' = { c with sh := s', ipc := i' } := by
  cases hs; subst hi; exact ⟨_, _, h, rfl⟩

theorem stepInt_some {c c' : Cfg} {o : Out} (hs : stepInt c = some (c', o)) :
    ∃ s' i', IStep c.sh c.ipc s' i' o ∧ c' = { c with sh := s', ipc := i' } := by
  unfold stepInt at hs
  simp only [intLoop] at hs
  split at hs
  next => simp at hs
  next hpc => exact istep_of_eq hs hpc .start
  next hpc =>
    split at hs
    next hq => exact istep_of_eq hs hpc (.entryFound hq)
    next hq => exact istep_of_eq hs hpc (.entryNone (by simpa using hq))
  next hpc => exact istep_of_eq hs hpc .entrySig
  next poll hpc =>
    split at hs
    next hq =>
      split at hs
      next hp => exact istep_of_eq hs (hp ▸ hpc) (.pollNone hq)
      next hp => exact istep_of_eq hs (by simpa [hp] using hpc) (.block hq)
    next hq => exact istep_of_eq hs hpc (.exit hq)
    next hq =>
      split at hs
      next hn => exact istep_of_eq hs hpc (.recvLast hq hn)
      next hn => exact istep_of_eq hs hpc (.recvReply hq hn)
  next hpc =>
    split at hs
    next hsig =>
      split at hs
      next hm => exact istep_of_eq hs hpc (.wakeSock hsig hm)
      next hm => exact istep_of_eq hs hpc (.wakeCond hsig hm)
    next => simp at hs
  next hpc =>
    simp only [push_length_one] at hs
    split at hs
    next hq => exact istep_of_eq hs hpc (.replyFirst hq)
    next hq =>
      split at hs
      next hj => exact istep_of_eq hs hpc (.replyNext hq hj)
      next hj => exact istep_of_eq hs hpc (.replyLast hq hj)
  next hpc =>
    split at hs
    next hj => exact istep_of_eq hs hpc (.sigNext hj)
    next hj => exact istep_of_eq hs hpc (.sigLast hj)

theorem step_some {c c' : Cfg} {e : Ev} {o : Out} (hs : step c e = some (c', o)) :
    (∃ t s' v i', t < c.n ∧ UStep c.sh c.ipc (c.th t) s' v i' o ∧
        c' = { c with sh := s', th := upd c.th t v, ipc := i' }) ∨
    (∃ s' i', IStep c.sh c.ipc s' i' o ∧ c' = { c with sh := s', ipc := i' }) := by
  unfold step at hs
  cases e with
  | run t =>
    simp only at hs
    split at hs
    next ht =>
      obtain ⟨s', v, i', h, hc⟩ := stepUser_some hs
      exact Or.inl ⟨t, s', v, i', ht, h, hc⟩
    next =>
      split at hs
      next hg =>
        obtain ⟨s', i', h, hc⟩ := stepInt_some hs
        exact Or.inr ⟨s', i', h, hc⟩
      next => simp at hs
  | timeout t =>
    simp only at hs
    split at hs
    next ht =>
      obtain ⟨s', v, i', h, hc⟩ := timeoutUser_some hs
      exact Or.inl ⟨t, s', v, i', ht, h, hc⟩
    next => simp at hs

namespace IStep
variable {s s' : Sh} {i i' : IPc} {o : Out}

theorem live (h : IStep s i s' i' o) : i ≠ .exited := by cases h <;> nofun

/-- the thread flags are the owner's to change, except that the internal thread closes its socket when it exits -/
theorem flags (h : IStep s i s' i' o) (hx : i' ≠ .exited) :
    s'.mode = s.mode ∧ s'.alloc = s.alloc ∧ s'.closedO = s.closedO ∧ s'.running = s.running ∧ s'.gen = s.gen := by
  cases h <;> simp at hx ⊢

theorem toWait (h : IStep s i s' .recvWait o) : s'.ci.queue = [] := by cases h; assumption

theorem keepsNull (h : IStep s i s' i' o) (hn : none ∈ s.ci.queue) : none ∈ s'.ci.queue ∨ i' = .exited := by
  cases h
  case exit => exact Or.inr rfl
  case recvLast hq _ | recvReply hq _ => exact Or.inl (by simpa [hq] using hn)
  all_goals exact Or.inl (by simpa using hn)

end IStep

end Muscle.Conc.TQ
