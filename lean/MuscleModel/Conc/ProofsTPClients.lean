import MuscleModel.Conc.ProofsTPBase

/-! # C19 proofs: per-client seriality and the unregister hand-shake (`Inv1`), under the client discipline

Here `Inv1` is kept by every helper of the critical sections; that a whole step keeps it is in ProofsTPDisciplined, where it needs the others. -/

namespace Muscle.Conc.TP
open Muscle.Conc

/-- user thread `u` still has a call on client k to make (the call in progress counts) -/
def uses (u : UTh) (k : Client) : Prop := ∃ op ∈ u.prog, opClient op = some k
/-- user thread `u` still has a `SetThreadPool` call on client k to make -/
def manages (u : UTh) (k : Client) : Prop := Op.reg k ∈ u.prog ∨ Op.unreg k ∈ u.prog

/-- **Client discipline** (`IThreadPoolClient` is not itself thread-safe): a client that some thread (un)registers is
used by that thread only.  Clients that are only submitted to may be shared by all threads. -/
def Disc (c : Cfg) : Prop := ∀ t t' k, uses (c.uth t) k → manages (c.uth t') k → t = t'

theorem manages_uses {u : UTh} {k : Client} (h : manages u k) : uses u k := by
  cases h with
  | inl h => exact ⟨_, h, rfl⟩
  | inr h => exact ⟨_, h, rfl⟩

/-- inside a (un)register call the call is still in the thread's program -/
theorem UTh.Wf.manages_of_mgClient {u : UTh} (h : u.Wf) {k : Client} (hm : mgClient u.pc = some k) : manages u k :=
  (mgClient_callOf hm).imp h.mem h.mem

/-- likewise inside a submit call -/
theorem UTh.Wf.uses_of_subLock {u : UTh} (h : u.Wf) {k : Client} {m : MsgId} (hpc : u.pc = .subLock k m) : uses u k :=
  ⟨.sub k m, h.mem (by rw [hpc]; rfl), rfl⟩

/-- What `Inv1` asks of one user thread's record: where the thread stands in `SetThreadPool` decides what it may rely on. -/
structure UserOk (c : Cfg) (u : UTh) : Prop where
  /-- `SetThreadPool(pool)` gets to `RegisterClient` only for a client that is not registered … -/
  regLockNew : ∀ k, u.pc = .regLock k → k ∉ c.p.regK
  /-- … and has set the client's pointer before -/
  regLockPtr : ∀ k, u.pc = .regLock k → c.cptr k = true
  /-- the final cleanup of `UnregisterClient` finds nothing outstanding, and a notification reaches the waiting thread only then -/
  quietAt : ∀ k, u.pc = .unregLock2 k ∨ (u.pc = .unregWait k ∧ u.notif > 0) → quiet c k
  /-- only a thread inside `Wait()` has a notification pending -/
  notifWait : u.notif > 0 → ∃ k, u.pc = .unregWait k

/-- What the client discipline buys: a client is served by one pool thread at a time, and `UnregisterClient` returns only
when nothing of the client is outstanding. -/
structure Inv1 (c : Cfg) : Prop where
  /-- a registered client points to the pool -/
  regPtr : ∀ k, k ∈ c.p.regK → c.cptr k = true
  /-- until shutdown, a client that a pool thread serves is marked "being handled" -/
  servedFlag : c.p.shut = false → ∀ T k, serving c T k → c.p.flag k = true
  /-- a client is served by one pool thread at a time -/
  oneServer : ∀ T T' k, serving c T k → serving c T' k → T = T'
  /-- Messages are deferred only for a client that is being handled -/
  defrFlag : ∀ k, c.p.flag k = false → c.p.defr k = []
  /-- what it asks of each user thread's record -/
  user : ∀ t, UserOk c (c.uth t)
  /-- the thread registered in `_waitingForCompletion` for `k` is waiting for `k` and has not been notified yet -/
  waiter : ∀ k, k ∈ c.p.waitK → (c.uth (c.p.waitT k)).pc = .unregWait k ∧ (c.uth (c.p.waitT k)).notif = 0

/-- Pool thread `T` changes to `th'`, which serves nobody that `T` did not serve: `Inv1` mentions pool threads only
through hypotheses `serving c T k`. -/
theorem Inv1.setPth {c c' : Cfg} (h : Inv1 c) {T : PTid} {th' : PTh} (ht : c'.pth = upd c.pth T th')
    (hsv : ∀ k, th'.cur = some k ∨ th'.pc = .finLock k → serving c T k)
    (hp : c'.p = c.p := by rfl) (hu : c'.uth = c.uth := by rfl) (hc : c'.cptr = c.cptr := by rfl) : Inv1 c' := by
  -- with `c'` taken apart its fields are variables, and the equations substitute them: the goal is about a record update of `c`
  cases c'; cases ht; cases hp; cases hu; cases hc
  have hle : ∀ T' k, serving { c with pth := upd c.pth T th' } T' k → serving c T' k := fun T' k => by
    rw [serving_upd rfl]; split
    · next e => exact e ▸ hsv k
    · exact id
  exact { h with
    servedFlag := fun hs T' k hk => h.servedFlag hs T' k (hle T' k hk)
    oneServer := fun T1 T2 k h1 h2 => h.oneServer T1 T2 k (hle T1 k h1) (hle T2 k h2)
    user := fun t => { h.user t with } }

/-- The clauses of `Inv1` about user threads, as a predicate of one thread's record. -/
theorem UserOk.of_notif_zero {c : Cfg} {u : UTh} (hn : u.notif = 0)
    (r : ∀ k, u.pc = .regLock k → k ∉ c.p.regK ∧ c.cptr k = true) (u1 : ∀ k, u.pc = .unregLock2 k → quiet c k) : UserOk c u :=
  ⟨fun k e => (r k e).1, fun k e => (r k e).2, fun k e => e.elim (u1 k) fun e => absurd e.2 (hn ▸ Nat.lt_irrefl 0),
   fun hp => absurd hp (hn ▸ Nat.lt_irrefl 0)⟩

theorem UserOk.idle {c : Cfg} {u : UTh} (hpc : u.pc = .done ∨ u.pc = .opStart) (hn : u.notif = 0) : UserOk c u := by
  obtain ⟨pc, prog, notif⟩ := u
  rcases hpc with e | e <;> cases e <;> exact .of_notif_zero hn nofun nofun

theorem UserOk.ofAdvance {c : Cfg} {u : UTh} (hn : u.notif = 0) : UserOk c (advance u) :=
  .idle (advance_spec u).1 ((advance_spec u).2.1.trans hn)

theorem UserOk.ofShutdown {c : Cfg} {u : UTh} (hpc : inShutdown u.pc = true) (hn : u.notif = 0) : UserOk c u := by
  obtain ⟨pc, prog, notif⟩ := u
  cases pc <;> first | cases hpc; done | exact UserOk.of_notif_zero hn nofun nofun

theorem Inv1.outside {c : Cfg} (h : Inv1 c) {t : Tid} (hpc : ∀ k, (c.uth t).pc ≠ .unregWait k) :
    (c.uth t).notif = 0 ∧ ∀ k, k ∈ c.p.waitK → c.p.waitT k ≠ t :=
  ⟨Nat.eq_zero_of_not_pos fun hn => ((h.user t).notifWait hn).elim hpc, fun k hk e => hpc k (e ▸ (h.waiter k hk).1)⟩

theorem Inv1.setUth {c c' : Cfg} (h : Inv1 c) {t : Tid} {u' : UTh} (hu : c'.uth = upd c.uth t u') (hok : UserOk c u')
    (hw : ∀ k, k ∈ c.p.waitK → c.p.waitT k ≠ t) (hp : c'.p = c.p := by rfl) (ht : c'.pth = c.pth := by rfl)
    (hc : c'.cptr = c.cptr := by rfl) : Inv1 c' := by
  cases c'; cases hu; cases hp; cases ht; cases hc
  have hall : ∀ t', UserOk c (upd c.uth t u' t') := fun t' => by
    rw [upd_apply]; split
    · exact hok
    · exact h.user t'
  exact { h with
    user := fun t' => { hall t' with }
    waiter := fun k hk => by
      show (upd c.uth t u' (c.p.waitT k)).pc = _ ∧ (upd c.uth t u' (c.p.waitT k)).notif = 0
      rw [upd_other _ _ _ _ (hw k hk)]; exact h.waiter k hk }

theorem inv1_spawnIfNeeded {c : Cfg} (h : Inv1 c) : Inv1 (spawnIfNeeded c) :=
  spawnIfNeeded_cases (fun _ => h) fun _ _ =>
    have h1 : Inv1 { c with pth := upd c.pth c.p.idc PTh.fresh } := h.setPth rfl fun k hk => by rcases hk with hk | hk <;> cases hk
    { h1 with user := fun t => { h1.user t with } }

theorem quiet_congr {c c' : Cfg} {k : Client} (h : quiet c k) (hf : c'.p.flag k = c.p.flag k := by rfl)
    (hp : c'.p.pend k = c.p.pend k := by rfl) (hd : c'.p.defr k = c.p.defr k := by rfl) : quiet c' k :=
  ⟨hf.trans h.flag, hp.trans h.pend, hd.trans h.defr⟩

theorem inv1_assign {c : Cfg} {k : Client} {T : PTid} {rest : List PTid} (h : Inv1 c) (h0 : Inv0 c) (ha : c.p.availR = T :: rest)
    (hp : c.p.pend k ≠ []) (hs : c.p.shut = false) : Inv1 (assign c k T rest) := by
  have hf := h0.flag_of_pend hp
  -- nobody serves `k` (its flag is down), and `T` serves nobody (it was available): afterwards `T` is `k`'s only server
  have hnk : ∀ T', ¬ serving c T' k := fun T' hsv => Bool.false_ne_true (hf.symm.trans (h.servedFlag hs T' k hsv))
  have hT := h0.availIdle T (ha ▸ List.mem_cons_self)
  have hsv : ∀ {T' k'}, serving (assign c k T rest) T' k' → (T' = T ∧ k' = k) ∨ (T' ≠ T ∧ k' ≠ k ∧ serving c T' k') := fun {T' k'} => by
    rw [serving_upd (T := T) rfl]; split
    · next e =>
      rintro (hc | hpc)
      · exact Or.inl ⟨e, (Option.some.inj hc).symm⟩
      · exact absurd hpc (hT.2 k')
    · next e => exact fun hsv => Or.inr ⟨e, fun ek => hnk T' (ek ▸ hsv), hsv⟩
  have hq : ∀ {k'}, quiet c k' → quiet (assign c k T rest) k' := fun {k'} hq =>
    have hne : k' ≠ k := fun e => hp (e ▸ hq.pend)
    quiet_congr hq (upd_other _ _ _ _ hne) (upd_other _ _ _ _ hne)
  exact { h with
    servedFlag := fun _ T' k' hk' => by
      rcases hsv hk' with ⟨-, e⟩ | ⟨-, hne, hk'⟩
      · exact e ▸ upd_same ..
      · exact (upd_other _ _ _ _ hne).trans (h.servedFlag hs T' k' hk')
    oneServer := fun T1 T2 k' h1 h2 => by
      rcases hsv h1 with ⟨e1, ek⟩ | ⟨-, hne, h1⟩ <;> rcases hsv h2 with ⟨e2, ek2⟩ | ⟨-, hne2, h2⟩
      · exact e1.trans e2.symm
      · exact absurd ek hne2
      · exact absurd ek2 hne
      · exact h.oneServer T1 T2 k' h1 h2
    defrFlag := fun k' hf' => by
      have hne : k' ≠ k := fun e => by rw [e] at hf'; exact Bool.false_ne_true ((upd_same ..).symm.trans hf').symm
      exact h.defrFlag k' ((upd_other _ _ _ _ hne).symm.trans hf')
    user := fun t => { h.user t with quietAt := fun k' hpc => hq ((h.user t).quietAt k' hpc) } }

theorem inv1_addDefr {c : Cfg} (k : Client) (m : MsgId) (h : Inv1 c) (hf : c.p.flag k = true) : Inv1 (addDefr c k m) :=
  have hne : ∀ {k'}, c.p.flag k' = false → k' ≠ k := fun hf' e => Bool.false_ne_true ((e ▸ hf').symm.trans hf)
  have hq : ∀ {k'}, quiet c k' → quiet (addDefr c k m) k' := fun hq => quiet_congr hq rfl rfl (upd_other _ _ _ _ (hne hq.flag))
  { h with
    defrFlag := fun k' hf' => (upd_other _ _ _ _ (hne hf')).trans (h.defrFlag k' hf')
    user := fun t => { h.user t with quietAt := fun k' hpc => hq ((h.user t).quietAt k' hpc) } }

/-- `hq`: no thread is finishing an unregistration of k (discipline: the submitter is the only user of k) -/
theorem inv1_addPend {c : Cfg} (k : Client) (m : MsgId) (h : Inv1 c)
    (hq : ∀ t, (c.uth t).pc ≠ .unregLock2 k ∧ (c.uth t).pc ≠ .unregWait k) : Inv1 (addPend c k m) :=
  { h with
    user := fun t => { h.user t with
      quietAt := fun k' hpc => quiet_congr ((h.user t).quietAt k' hpc) rfl
        (upd_other _ _ _ _ fun e => hpc.elim (fun hpc => (hq t).1 (e ▸ hpc)) fun hpc => (hq t).2 (e ▸ hpc.1)) } }

/-- `hn`: nobody serves k any more (the thread that did has just left) -/
theorem inv1_handBack {c : Cfg} (k : Client) (h : Inv1 c) (h0 : Inv0 c) (hn : ∀ T, ¬ serving c T k) (hfk : c.p.flag k = true) (hs : c.p.shut = false) :
    Inv1 (handBack c k) := by
  -- a client whose flag is down (a quiet one, say) is not `k`, so nothing changes for it
  have hu : ∀ {α : Type} (f : Client → α) (v : α) {k'}, c.p.flag k' = false → upd f k v k' = f k' := fun f v _ hf' =>
    upd_other f k v _ fun e => Bool.false_ne_true ((e ▸ hf').symm.trans hfk)
  have hs1 : ∀ T k', serving c T k' → upd c.p.flag k false k' = true := fun T k' hsv =>
    (upd_other _ _ _ _ fun (e : k' = k) => hn T (e ▸ hsv)).trans (h.servedFlag hs T k' hsv)
  refine handBack_cases (fun _ => h) (fun _ _ => ?_) fun _ hd => ?_
  · exact { h with
      servedFlag := fun _ => hs1
      -- the queues are swapped: `pend k` was empty since the flag was up
      defrFlag := fun k' hf' => by
        simp only [upd_apply] at hf' ⊢; split
        · exact h0.flagPend k hfk
        · next e => rw [if_neg e] at hf'; exact h.defrFlag k' hf'
      user := fun t => { h.user t with
        quietAt := fun k' hpc => have hq := (h.user t).quietAt k' hpc; quiet_congr hq (hu _ _ hq.flag) (hu _ _ hq.flag) (hu _ _ hq.flag) } }
  · exact { h with
      servedFlag := fun _ => hs1
      defrFlag := fun k' hf' => by
        simp only [upd_apply] at hf'; split at hf'
        · next e => exact e ▸ hd
        · exact h.defrFlag k' hf'
      user := fun t => { h.user t with quietAt := fun k' hpc => have hq := (h.user t).quietAt k' hpc; quiet_congr hq (hu _ _ hq.flag) } }

/-- no other registration is the woken waiter's own, since its program point names `k` -/
theorem inv1_wake {c : Cfg} (k : Client) (h : Inv1 c) : Inv1 (wake c k) :=
  wake_cases (fun _ => h) fun ho hk =>
    have hpc := (h.waiter k hk).1
    have h1 : Inv1 { c with p := { c.p with waitK := remKey c.p.waitK k } } :=
      { h with user := fun t => { h.user t with }, waiter := fun k' hk' => h.waiter k' (mem_remKey.1 hk').1 }
    h1.setUth rfl
      { h.user (c.p.waitT k) with
        quietAt := fun k' e => e.elim (fun e => absurd (hpc.symm.trans e) nofun) fun e =>
          UPc.unregWait.inj (hpc.symm.trans e.1) ▸ (outstanding_false_iff c k).1 ho
        notifWait := fun _ => ⟨k, hpc⟩ }
      fun k' hk' e => (mem_remKey.1 hk').2 (UPc.unregWait.inj ((h.waiter _ (mem_remKey.1 hk').1).1.symm.trans (e ▸ hpc)))

theorem inv1_fetch {c : Cfg} (T : PTid) (h : Inv1 c) : Inv1 (fetch c T).1 := by
  rw [fetch_eq]
  rcases fetched_shape (c.pth T) with ⟨pc, ib, hpc, e⟩ | ⟨k, ib, hc, -, e⟩ <;> rw [e]
  · exact h.setPth rfl fun k hk => hk.elim Or.inl fun e => absurd e (hpc k)
  · exact h.setPth rfl fun k' hk' => by
      rcases hk' with e | e <;> cases e
      exact Or.inl hc

theorem inv1_finPrefix {c : Cfg} (T : PTid) (k : Client) (h : Inv1 c) (h0 : Inv0 c) (hpc : (c.pth T).pc = .finLock k) (hs : c.p.shut = false) :
    Inv1 (finPrefix c T k) := by
  -- the thread at `finLock k` is the only one serving `k`, so once it has left the lock wait nobody does
  have hn : ∀ T', ¬ serving { c with pth := upd c.pth T { (c.pth T) with pc := .idle } } T' k := fun T' => by
    rw [serving_upd rfl]; split
    · rw [h0.finCur T k hpc]; rintro (e | e) <;> cases e
    · next hne => exact fun hsv => hne (h.oneServer T' T k hsv (Or.inr hpc))
  have hb := inv1_handBack k (h.setPth (T := T) (th' := { (c.pth T) with pc := .idle }) rfl fun _ hk => hk.elim Or.inl nofun) (inv0_setIdle T h0) hn
    (h.servedFlag hs T k (Or.inr hpc)) hs
  exact release_cases (fun _ => hb) fun _ => { hb with user := fun t => { hb.user t with } }

theorem inv1_sdNext {c : Cfg} (t : Tid) (b : Bool) (nA total n : Nat) (l : List PTid) (h : Inv1 c)
    (hpc : inShutdown (c.uth t).pc = true) : Inv1 (sdNext c t b nA total n l) := by
  obtain ⟨hn, hw⟩ := h.outside (t := t) fun k e => by rw [e] at hpc; cases hpc
  have h1 : Inv1 { c with pth := sendQuit c.pth l } := by
    cases l with
    | nil => exact h
    | cons T rest => exact h.setPth rfl fun _ hk => hk
  rw [sdNext_eq]
  exact h1.setUth rfl (.ofShutdown (sdNextPc_inShutdown ..) hn) hw

theorem inv1_sdFinal {c : Cfg} (h : Inv1 c) (hs : c.p.shut = true) : Inv1 (sdFinalCfg c) :=
  have hn := notifyAll_spec c.p.waitK c.p.waitT c.uth
  { h with
    regPtr := nofun
    servedFlag := fun hs' => absurd (hs.symm.trans hs') nofun
    defrFlag := fun _ _ => rfl
    user := fun t =>
      { regLockNew := fun _ _ => List.not_mem_nil
        regLockPtr := fun k e => by
          have e' := (hn t).1 ▸ e
          simp only [if_neg ((h.user t).regLockNew k e')]; exact (h.user t).regLockPtr k e'
        quietAt := fun _ _ => ⟨rfl, rfl, rfl⟩
        notifWait := fun hp => by
          rw [(hn t).1]
          rcases (hn t).2.2 hp with hp | ⟨k, hk, e⟩
          · exact (h.user t).notifWait hp
          · exact ⟨k, e ▸ (h.waiter k hk).1⟩ }
    waiter := nofun }

theorem Disc.sub_alone {c : Cfg} (hd : Disc c) (hw : ∀ t, (c.uth t).Wf) {t : Tid} {k : Client} {m : MsgId} (hpc : (c.uth t).pc = .subLock k m) (t' : Tid) :
    (c.uth t').pc ≠ .unregLock2 k ∧ (c.uth t').pc ≠ .unregWait k := by
  have hne : ∀ pc', mgClient pc' = some k → (c.uth t').pc = pc' → (c.uth t).pc ≠ pc' → False := fun pc' hm e hne =>
    hne (hd t t' k ((hw t).uses_of_subLock hpc) ((hw t').manages_of_mgClient (e ▸ hm)) ▸ e)
  exact ⟨fun e => hne _ rfl e (hpc ▸ nofun), fun e => hne _ rfl e (hpc ▸ nofun)⟩

theorem Disc.of_progSub {c c' : Cfg} (hd : Disc c) (hp : progSub c c') : Disc c' := by
  intro t t' k hu hm
  apply hd t t' k
  · obtain ⟨op, ho, hc⟩ := hu; exact ⟨op, hp t op ho, hc⟩
  · cases hm with
    | inl h => exact Or.inl (hp t' _ h)
    | inr h => exact Or.inr (hp t' _ h)

end Muscle.Conc.TP
