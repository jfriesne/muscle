import MuscleModel.Conc.ProofsRWBounded

/-!
# `ReaderWriterMutex`: the table of the machine, and every invariant along every schedule

An event of thread `t` is one of two things (`Step`): a critical section whose outcome `applyRes` installs, or a return
from `Wait()`.  What the invariants need to know of a critical section is the same for all six (`Sect`), so each
invariant is preserved by `Step` in two cases.
-/

namespace Muscle.Conc.RW
open Muscle.Conc

/-- Thread `t` of `c` runs a critical section of its call `op`, which leaves the shared state `s'` and the result `r`:
what the section does to the waiting tables and when it waits (for `stepEff_applyRes`), how it counts and what it can
return (for `CountsOk.applyRes`), that a try call returns (for `noTry_applyRes`), and that it leaves nobody executing
only with the hand-off done or with nothing changed for the favoured waiters (for `LiveInv.of_live`). -/
structure Sect (c : Cfg) (t : Tid) (op : Op) (s' : Mx) (r : Res) : Prop where
  call  : (c.th t).pc.call = some op
  mx    : MxInv c.mx → MxInv s'
  waitR : s'.waitR = requeue c.mx.waitR t (c.th t).pc.rWaiting (decide (r = .wait) && op.waitPc.rWaiting)
  waitW : s'.waitW = requeue c.mx.waitW t (c.th t).pc.wWaiting (decide (r = .wait) && op.waitPc.wWaiting)
  waits : CtlInv c → r = .wait → t ∉ c.mx.exec
  counted : MxInv c.mx → CtlInv c → Counted op t c.mx s' r
  /-- the untimed `LockReadOnly()` fails only by timing out, which it cannot -/
  retake  : ∀ st, r = .done st → op = .lockR .block → (c.th t).pc ≠ .rWoke .block false → st = .ok
  unlock  : MxInv c.mx → ∀ st, r = .done st → op = .unlockR → c.mx.ro t > 0 → st = .ok
  upg     : MxInv c.mx → ∀ n, r = .upgrade n → (c.th t).pc = .wStart op.mode ∧ n = c.mx.ro t ∧ n > 0 ∧ c.mx.rw t = 0
  mode    : (c.th t).pc.mode? ≠ some .try_ → op.mode = .try_ → ∃ st, r = .done st
  live    : MxInv c.mx → CtlInv c → s'.exec = [] → (c.mx.exec = [] ∧ Queued c.mx s' t ∧ ¬ Favoured s' t) ∨ Wakes s'

theorem sect_rStart {c : Cfg} {t : Tid} {m : Mode} (hpc : (c.th t).pc = .rStart m) :
    Sect c t (.lockR m) (lockRStart c.mx t m).1 (lockRStart c.mx t m).2 := by
  have hR : (c.th t).pc.rWaiting = false := by rw [hpc]; rfl
  have hW : (c.th t).pc.wWaiting = false := by rw [hpc]; rfl
  have hcases := lockRStart_cases c.mx t m
  refine {
    call := by rw [hpc]; rfl
    mx := fun h => h.lockRStart t m
    waitR := ?_
    waitW := ?_
    waits := fun _ hr => ?_
    counted := fun hm _ => lockRStart_counted hm t m
    retake := fun _ hr e _ => lockRStart_block_ok (Op.lockR.inj e ▸ hr)
    unlock := fun _ _ _ => nofun
    upg := fun _ _ hr => absurd hr (lockRStart_no_upgrade _ _ _ _)
    mode := fun _ hm => ?_
    live := fun hm hc he => ?_ }
  · rw [hR]; rcases hcases with ⟨_, e⟩ | ⟨_, e⟩ | ⟨_, e⟩ | ⟨_, e⟩ <;> simp [e, obtainWC, requeue, Op.waitPc, Pc.rWaiting]
  · rw [hW]; rcases hcases with ⟨_, e⟩ | ⟨_, e⟩ | ⟨_, e⟩ | ⟨_, e⟩ <;> simp [e, obtainWC, requeue, Op.waitPc, Pc.wWaiting]
  · rcases hcases with ⟨h, e⟩ | ⟨h, e⟩ | ⟨h, e⟩ | ⟨h, e⟩ <;> rw [e] at hr <;> simp [h] at hr ⊢
  · obtain rfl : m = .try_ := hm
    obtain ⟨st, hs, _⟩ := lockRStart_try c.mx t
    exact ⟨st, hs⟩
  -- nobody executes afterwards only if `t` was turned away: it changed nothing, or it queued behind a preferred writer
  · have tR := hc.not_waitR hR
    have tW := hc.not_waitW hW
    rcases hcases with ⟨ht, e⟩ | ⟨_, e⟩ | ⟨_, e⟩ | ⟨⟨_, hok, _⟩, e⟩ <;> rw [e] at he ⊢ <;> left
    · simp [show c.mx.exec = [] from he] at ht
    · simp at he
    · exact ⟨he, Queued.refl _ t, not_favoured_of_not_mem tR tW⟩
    · exact ⟨he, ⟨rfl, .inr rfl, .inl rfl, fun u hu => by simp [obtainWC, hu]⟩, not_favoured_reader hm he hok rfl rfl tW⟩

theorem sect_wStart {c : Cfg} {t : Tid} {m : Mode} (hpc : (c.th t).pc = .wStart m) :
    Sect c t (.lockW m) (lockWStart c.mx t m).1 (lockWStart c.mx t m).2 := by
  have hR : (c.th t).pc.rWaiting = false := by rw [hpc]; rfl
  have hW : (c.th t).pc.wWaiting = false := by rw [hpc]; rfl
  have hcases := lockWStart_cases c.mx t m
  refine {
    call := by rw [hpc]; rfl
    mx := fun h => h.lockWStart t m
    waitR := ?_
    waitW := ?_
    waits := fun _ hr => ?_
    counted := fun hm _ => lockWStart_counted hm t m
    retake := fun _ _ => nofun
    unlock := fun _ _ _ => nofun
    upg := fun hm n hr => ?_
    mode := fun _ hm => ?_
    live := fun _ hc he => ?_ }
  · rw [hR]; rcases hcases with ⟨_, e⟩ | ⟨_, e⟩ | ⟨_, e⟩ | ⟨_, e⟩ | ⟨_, e⟩ | ⟨_, e⟩ <;> simp [e, obtainWC, requeue, Op.waitPc, Pc.rWaiting]
  · rw [hW]; rcases hcases with ⟨_, e⟩ | ⟨_, e⟩ | ⟨_, e⟩ | ⟨_, e⟩ | ⟨_, e⟩ | ⟨_, e⟩ <;> simp [e, obtainWC, requeue, Op.waitPc, Pc.wWaiting]
  · rcases hcases with ⟨h, e⟩ | ⟨h, e⟩ | ⟨h, e⟩ | ⟨h, e⟩ | ⟨h, e⟩ | ⟨h, e⟩ <;> rw [e] at hr <;> simp [h] at hr ⊢
  · obtain ⟨rfl, hin, hw0, _⟩ := lockWStart_upgrade hr
    exact ⟨hpc, rfl, by have := (hm.mem t).1 hin; omega, hw0⟩
  · obtain rfl : m = .try_ := hm
    obtain ⟨st, hs, _⟩ := lockWStart_try c.mx t
    exact ⟨st, hs⟩
  · have tR := hc.not_waitR hR
    have tW := hc.not_waitW hW
    rcases hcases with ⟨⟨ht, _⟩, e⟩ | ⟨⟨ht, _⟩, e⟩ | ⟨⟨ht, _⟩, e⟩ | ⟨_, e⟩ | ⟨_, e⟩ | ⟨⟨_, hok, _⟩, e⟩ <;>
      rw [e] at he ⊢ <;> left
    · simp [show c.mx.exec = [] from he] at ht
    · simp [show c.mx.exec = [] from he] at ht
    · simp [show c.mx.exec = [] from he] at ht
    · simp at he
    · exact ⟨he, Queued.refl _ t, not_favoured_of_not_mem tR tW⟩
    · have he : c.mx.exec = [] := he
      have hne : c.mx.waitW ≠ [] := (not_okWriter_empty he hok).1
      refine ⟨he, ⟨rfl, .inl rfl, .inr ⟨rfl, hne⟩, fun u hu => by simp [obtainWC, hu]⟩, ?_⟩
      -- `t` is queued behind another writer, so it is not the first
      rintro (⟨hw, _⟩ | ⟨hr, _⟩)
      · have hw : (c.mx.waitW ++ [t]).head? = some t := hw
        obtain ⟨a, as, hcw⟩ := List.exists_cons_of_ne_nil hne
        rw [hcw] at hw tW
        simp at hw tW
        exact tW.1 hw.symm
      · exact tR hr

theorem sect_rWoke {c : Cfg} {t : Tid} {m : Mode} {b : Bool} (hpc : (c.th t).pc = .rWoke m b) :
    Sect c t (.lockR m) (lockRWoke c.mx t b).1 (lockRWoke c.mx t b).2 := by
  have hR : (c.th t).pc.rWaiting = true := by rw [hpc]; rfl
  have hW : (c.th t).pc.wWaiting = false := by rw [hpc]; rfl
  have hcases := lockRWoke_cases c.mx t b
  refine {
    call := by rw [hpc]; rfl
    mx := fun h => h.lockRWoke t b
    waitR := ?_
    waitW := ?_
    waits := fun hc _ => hc.notExec t (.inl hR)
    counted := fun hm hc => lockRWoke_counted hm (hc.notExec t (.inl hR)) m b
    retake := fun st hr e hne => ?_
    unlock := fun _ _ _ => nofun
    upg := fun _ _ hr => absurd hr (lockRWoke_no_upgrade _ _ _ _)
    mode := fun h e => absurd (by rw [hpc]; exact congrArg some e) h
    live := fun hm hc he => ?_ }
  · rw [hR]; rcases hcases with ⟨_, _, _, e⟩ | ⟨_, e⟩ | ⟨_, e⟩ <;> simp [e, releaseWC, requeue, Op.waitPc, Pc.rWaiting]
  · rw [hW]; rcases hcases with ⟨_, _, _, e⟩ | ⟨_, e⟩ | ⟨_, e⟩ <;> simp [e, releaseWC, requeue, Op.waitPc, Pc.wWaiting]
  · cases b with
    | true => exact lockRWoke_true_ok hr
    | false => exact absurd (Op.lockR.inj e ▸ hpc) hne
  -- a time-out hands off on its way out; an admission leaves `t` executing; back to `Wait()`: a writer is preferred
  · have tW := hc.not_waitW hW
    rcases hcases with ⟨rfl, _⟩ | ⟨_, e⟩ | ⟨⟨_, hok⟩, e⟩
    · rw [lockRWoke_timeout] at he ⊢
      refine .inr (wakes_timeout ?_ (fun h => (hc.ndR.mem_erase_iff.1 h).1 rfl) tW he)
      exact hm.frame rfl rfl rfl rfl
    · have : t ∈ (lockRWoke c.mx t b).1.exec := by rw [e]; exact (mem_addKey _ _ _).2 (.inr rfl)
      simp [he] at this
    · rw [e] at he ⊢; exact .inl ⟨he, Queued.refl _ t, not_favoured_reader hm he hok rfl rfl tW⟩

theorem sect_wWoke {c : Cfg} {t : Tid} {m : Mode} {b : Bool} (hpc : (c.th t).pc = .wWoke m b) :
    Sect c t (.lockW m) (lockWWoke c.mx t b).1 (lockWWoke c.mx t b).2 := by
  have hR : (c.th t).pc.rWaiting = false := by rw [hpc]; rfl
  have hW : (c.th t).pc.wWaiting = true := by rw [hpc]; rfl
  have hcases := lockWWoke_cases c.mx t b
  refine {
    call := by rw [hpc]; rfl
    mx := fun h => h.lockWWoke t b
    waitR := ?_
    waitW := ?_
    waits := fun hc _ => hc.notExec t (.inr hW)
    counted := fun hm hc => lockWWoke_counted hm (hc.notExec t (.inr hW)) m b
    retake := fun _ _ => nofun
    unlock := fun _ _ _ => nofun
    upg := fun _ _ hr => absurd hr (lockWWoke_no_upgrade _ _ _ _)
    mode := fun h e => absurd (by rw [hpc]; exact congrArg some e) h
    live := fun hm hc he => ?_ }
  · rw [hR]; rcases hcases with ⟨_, _, _, e⟩ | ⟨_, e⟩ | ⟨_, e⟩ <;> simp [e, releaseWC, requeue, Op.waitPc, Pc.rWaiting]
  · rw [hW]; rcases hcases with ⟨_, _, _, e⟩ | ⟨_, e⟩ | ⟨_, e⟩ <;> simp [e, releaseWC, requeue, Op.waitPc, Pc.wWaiting]
  -- as for a reader; back to `Wait()`: `t` is not the first writer in line
  · have tR := hc.not_waitR hR
    rcases hcases with ⟨rfl, _⟩ | ⟨_, e⟩ | ⟨⟨_, hok⟩, e⟩
    · rw [lockWWoke_timeout] at he ⊢
      refine .inr (wakes_timeout ?_ tR (fun h => (hc.ndW.mem_erase_iff.1 h).1 rfl) he)
      exact hm.frame rfl rfl rfl rfl
    · simp [e, releaseWC] at he
    · rw [e] at he ⊢
      refine .inl ⟨he, Queued.refl _ t, ?_⟩
      rintro (⟨hw, _⟩ | ⟨hr, _⟩)
      · exact (not_okWriter_empty he hok).2 hw
      · exact tR hr

theorem live_of_unlock {c : Cfg} {t : Tid} {s' : Mx} (hc : CtlInv c) (hR : (c.th t).pc.rWaiting = false)
    (hW : (c.th t).pc.wWaiting = false) (h : s' = c.mx ∨ Wakes s') (he : s'.exec = []) :
    (c.mx.exec = [] ∧ Queued c.mx s' t ∧ ¬ Favoured s' t) ∨ Wakes s' := by
  rcases h with rfl | h
  · exact .inl ⟨he, Queued.refl _ t, not_favoured_of_not_mem (hc.not_waitR hR) (hc.not_waitW hW)⟩
  · exact .inr h

theorem sect_uR {c : Cfg} {t : Tid} (hpc : (c.th t).pc = .uR) :
    Sect c t .unlockR (unlockR c.mx t).1 (.done (unlockR c.mx t).2) := by
  have hR : (c.th t).pc.rWaiting = false := by rw [hpc]; rfl
  have hW : (c.th t).pc.wWaiting = false := by rw [hpc]; rfl
  have hcases := unlockR_cases c.mx t
  refine {
    call := by rw [hpc]; rfl
    mx := fun h => h.unlockR t
    waitR := ?_
    waitW := ?_
    waits := fun _ => nofun
    counted := fun _ _ => unlockR_counted c.mx t
    retake := fun _ _ => nofun
    unlock := fun hm _ hr _ hpos => Res.done.inj hr ▸ (unlockR_ok_iff _ _).2 ⟨(hm.mem t).2 (by omega), hpos⟩
    upg := fun _ => nofun
    mode := fun _ _ => ⟨_, rfl⟩
    live := fun hm hc he => live_of_unlock hc hR hW (unlockR_wakes hm t he) he }
  · rcases hcases with ⟨_, e⟩ | ⟨_, _, _, _, e⟩ <;> simp [e, hR, requeue, dropRead]
  · rcases hcases with ⟨_, e⟩ | ⟨_, _, _, _, e⟩ <;> simp [e, hW, requeue, dropRead]

theorem sect_uW {c : Cfg} {t : Tid} (hpc : (c.th t).pc = .uW) :
    Sect c t .unlockW (unlockW c.mx t).1 (.done (unlockW c.mx t).2) := by
  have hR : (c.th t).pc.rWaiting = false := by rw [hpc]; rfl
  have hW : (c.th t).pc.wWaiting = false := by rw [hpc]; rfl
  have hcases := unlockW_cases c.mx t
  refine {
    call := by rw [hpc]; rfl
    mx := fun h => h.unlockW t
    waitR := ?_
    waitW := ?_
    waits := fun _ => nofun
    counted := fun _ _ => unlockW_counted c.mx t
    retake := fun _ _ => nofun
    unlock := fun _ _ _ => nofun
    upg := fun _ => nofun
    mode := fun _ _ => ⟨_, rfl⟩
    live := fun hm hc he => live_of_unlock hc hR hW (unlockW_wakes hm t he) he }
  · rcases hcases with ⟨_, e⟩ | ⟨_, _, _, _, e⟩ <;> simp [e, hR, requeue, dropWrite]
  · rcases hcases with ⟨_, e⟩ | ⟨_, _, _, _, e⟩ <;> simp [e, hW, requeue, dropWrite]

/-- `Wait()` returns, by notification or, for a timed one, by time-out: the thread stays in the wait loop of the same
call in the same mode and is now between wake-up and re-check -/
structure Woken (pc pc' : Pc) : Prop where
  call : pc'.call = pc.call
  rWaiting : pc'.rWaiting = pc.rWaiting
  wWaiting : pc'.wWaiting = pc.wWaiting
  mode : pc'.mode? = pc.mode?
  waiting : pc.rWaiting = true ∨ pc.wWaiting = true
  excl : ¬ (pc.rWaiting = true ∧ pc.wWaiting = true)
  ne_timedOut : pc' ≠ .rWoke .block false
  woke : (∃ m b, pc' = .rWoke m b) ∨ (∃ m b, pc' = .wWoke m b)

/-- `b = true ∨ m = .timed`: a blocking `LockReadOnly()` never leaves `Wait()` by time-out, so `rWoke .block false` is not
entered (`ne_timedOut`).  The counts rely on it: the re-take of an upgrade is an untimed `LockReadOnly()` and must not fail
(`Sect.retake`). -/
theorem Woken.r (m : Mode) (b : Bool) (h : b = true ∨ m = .timed) : Woken (.rWait m) (.rWoke m b) := by
  refine ⟨rfl, rfl, rfl, rfl, .inl rfl, by simp [Pc.rWaiting, Pc.wWaiting], ?_, .inl ⟨m, b, rfl⟩⟩
  rcases h with rfl | rfl <;> simp

theorem Woken.w (m : Mode) (b : Bool) : Woken (.wWait m) (.wWoke m b) :=
  ⟨rfl, rfl, rfl, rfl, .inr rfl, by simp [Pc.rWaiting, Pc.wWaiting], nofun, .inr ⟨m, b, rfl⟩⟩

/-- a return from `Wait()` changes nothing of the shared state but, at most, the notification count of `t` (flushed;
left alone by a time-out) -/
inductive Step (c : Cfg) (t : Tid) : Cfg → Prop
  | sect {op : Op} {s' : Mx} {r : Res} : Sect c t op s' r → Step c t (applyRes c t s' r op.waitPc op.mode).1
  | woken {pc' : Pc} {p : Tid → Nat} : Woken (c.th t).pc pc' → (∀ u, u ≠ t → p u = c.mx.pend u) →
      Step c t { mx := { c.mx with pend := p }, th := upd c.th t { c.th t with pc := pc' } }

theorem stepTimeout_table {c : Cfg} {t : Tid} {x : Cfg × Option St} (h : stepTimeout c t = some x) : Step c t x.1 := by
  obtain ⟨_, _, hmx, hcase⟩ := stepTimeout_spec (c' := x.1) (o := x.2) h
  have e : x.1 = { mx := c.mx, th := x.1.th } := by rw [← hmx]
  rw [e]
  rcases hcase with ⟨hpc, hth⟩ | ⟨hpc, hth⟩ <;> rw [hth]
  · exact .woken (p := c.mx.pend) (by rw [hpc]; exact .r .timed false (.inr rfl)) fun _ _ => rfl
  · exact .woken (p := c.mx.pend) (by rw [hpc]; exact .w .timed false) fun _ _ => rfl

theorem stepRun_table {c : Cfg} {t : Tid} {x : Cfg × Option St} (h : stepRun c t = some x) : Step c t x.1 := by
  rw [stepRun_eq h]
  cases hpc : (c.th t).pc <;> simp only
  case done => exact absurd hpc (stepRun_not_done h)
  case rStart m => exact .sect (sect_rStart hpc)
  case rWoke m b => exact .sect (sect_rWoke hpc)
  case wStart m => exact .sect (sect_wStart hpc)
  case wWoke m b => exact .sect (sect_wWoke hpc)
  case uR => exact .sect (sect_uR hpc)
  case uW => exact .sect (sect_uW hpc)
  case rWait m =>
    exact .woken (p := upd c.mx.pend t 0) (by rw [hpc]; exact .r m true (.inl rfl)) fun u hu => upd_other _ _ _ _ hu
  case wWait m =>
    exact .woken (p := upd c.mx.pend t 0) (by rw [hpc]; exact .w m true) fun u hu => upd_other _ _ _ _ hu

theorem step_table {c c' : Cfg} {e : Ev} {o : Option St} (h : step c e = some (c', o)) : ∃ t, Step c t c' := by
  cases e with
  | run t => exact ⟨t, stepRun_table (x := (c', o)) h⟩
  | timeout t => exact ⟨t, stepTimeout_table (x := (c', o)) h⟩

theorem Step.others {c c' : Cfg} {t : Tid} (h : Step c t c') {u : Tid} (hu : u ≠ t) : c'.th u = c.th u := by
  cases h with
  | sect _ => exact applyRes_others _ _ _ _ _ _ hu
  | woken _ _ => exact upd_other _ _ _ _ hu

theorem MxInv.step {c c' : Cfg} {t : Tid} (hi : MxInv c.mx) (h : Step c t c') : MxInv c'.mx := by
  cases h with
  | sect hs => rw [applyRes_mx]; exact hs.mx hi
  | woken _ _ => exact hi.frame rfl rfl rfl rfl

theorem Step.eff {c c' : Cfg} {t : Tid} (hm : MxInv c.mx) (hc : CtlInv c) (h : Step c t c') : StepEff c c' t := by
  cases h with
  | sect hs =>
    -- who executes is read off the counts
    have hcnt := hs.counted hm hc
    have hm' := hs.mx hm
    exact stepEff_applyRes (fun u hu => hcnt.exec_iff hm hm' (.inr hu)) hs.waitR hs.waitW
      fun hr => mt (hcnt.exec_iff hm hm' (.inl (by rw [hr]; nofun))).1 (hs.waits hc hr)
  | woken hw _ =>
    refine ⟨fun u hu => upd_other _ _ _ _ hu, fun u _ => .rfl, ?_, ?_, fun _ => .inr ⟨hw.waiting, .rfl⟩, ?_⟩
    · simp only [upd_same, hw.rWaiting]; cases (c.th t).pc.rWaiting <;> simp
    · simp only [upd_same, hw.wWaiting]; cases (c.th t).pc.wWaiting <;> simp
    · simp only [upd_same, hw.rWaiting, hw.wWaiting]; exact hw.excl

theorem ModeInv.step {c c' : Cfg} {t : Tid} (hi : ModeInv c) (h : Step c t c') : ModeInv c' := by
  intro u
  by_cases hu : u = t
  case neg => rw [h.others hu]; exact hi u
  subst hu
  cases h with
  | sect hs => exact noTry_applyRes (hi u) (hs.mode (hi u).1)
  | woken hw _ => simp only [upd_same]; exact ⟨by rw [hw.mode]; exact (hi u).1, (hi u).2⟩

theorem CountInv.step {c c' : Cfg} {t : Tid} (hm : MxInv c.mx) (hc : CtlInv c) (hi : CountInv c) (h : Step c t c') :
    CountInv c' := by
  intro u
  have hoth := h.others (u := u)
  cases h with
  | sect hs =>
    have hcnt := hs.counted hm hc
    rw [applyRes_mx] at *
    by_cases hu : u = t
    · subst hu
      exact (hi u).applyRes hs.call hcnt hs.retake (hs.unlock hm) (hs.upg hm)
    · rw [hoth hu, (hcnt.at_other hu).1, (hcnt.at_other hu).2]; exact hi u
  | woken hw _ =>
    show CountsOk (c.mx.ro u) (c.mx.rw u) (upd c.th t _ u)
    by_cases hu : u = t
    · subst hu; rw [upd_same]; exact (hi u).move rfl hw.call fun e => absurd e hw.ne_timedOut
    · rw [upd_other _ _ _ _ hu]; exact hi u

theorem LiveInv.step {c c' : Cfg} {t : Tid} (hm : MxInv c.mx) (hc : CtlInv c) (hl : LiveInv c) (h : Step c t c') :
    LiveInv c' := by
  have hoth := fun u => h.others (u := u)
  cases h with
  | sect hs => exact hl.of_live hoth (by rw [applyRes_mx]; exact hs.live hm hc)
  | woken hw hp =>
    -- the thread that woke is signalled by where it is; for the others nothing changed
    refine hl.frame hoth fun he => ⟨he, ⟨rfl, .inl rfl, .inl rfl, hp⟩, fun _ => ?_⟩
    unfold Signalled; simp only [upd_same]; exact .inr hw.woke

structure Inv (c : Cfg) : Prop where
  mx : MxInv c.mx
  ctl : CtlInv c
  live : LiveInv c
  count : CountInv c
  mode : ModeInv c

theorem Inv.step {c c' : Cfg} {t : Tid} (hi : Inv c) (h : Step c t c') : Inv c' :=
  ⟨hi.mx.step h, hi.ctl.step (h.eff hi.mx hi.ctl), hi.live.step hi.mx hi.ctl h, hi.count.step hi.mx hi.ctl h, hi.mode.step h⟩

theorem reach_inv_of {c₀ c : Cfg} (h0 : Inv c₀) (h : machine.Reach c₀ c) : Inv c :=
  Machine.Reach.invariant machine Inv h0 (fun _ _ _ _ hi hs => let ⟨_, h⟩ := step_table hs; hi.step h) h

theorem init_inv (p : Bool) (progs : List (List Op)) : Inv (Cfg.init p progs) :=
  ⟨MxInv.init p, init_ctlInv p progs, init_liveInv p progs, init_countInv p progs, init_modeInv p progs⟩

theorem reach_inv {p : Bool} {progs : List (List Op)} {c : Cfg} (h : machine.Reach (Cfg.init p progs) c) : Inv c :=
  reach_inv_of (init_inv p progs) h

end Muscle.Conc.RW
