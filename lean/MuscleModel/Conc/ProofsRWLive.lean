import MuscleModel.Conc.ProofsRWCtl

/-!
# `ReaderWriterMutex`: no lost wake-up, no deadlock

`LiveInv`: whenever nobody executes, the waiters favoured by the hand-off rule of `NotifySomeWaitingThreads()` are
signalled.  Kept by a step that leaves nobody executing only with the hand-off done (`Wakes`) or with nothing changed
for the favoured waiters (`Queued`): `LiveInv.of_live`.  Deadlock freedom follows from `MxInv`, `CtlInv` and `LiveInv`.
-/

namespace Muscle.Conc.RW
open Muscle.Conc

/-- thread `t` will get to re-check: it has a pending notification, or it is between wake-up and re-check -/
def Signalled (c : Cfg) (t : Tid) : Prop :=
  c.mx.pend t > 0 ∨ (∃ m b, (c.th t).pc = .rWoke m b) ∨ (∃ m b, (c.th t).pc = .wWoke m b)

/-- the waiters favoured by the hand-off rule -/
def Favoured (s : Mx) (u : Tid) : Prop :=
  (s.waitW.head? = some u ∧ (s.prefW = true ∨ s.waitR = [])) ∨ (u ∈ s.waitR ∧ (s.prefW = false ∨ s.waitW = []))

theorem Favoured.firstWriter {s : Mx} {u : Tid} {rest : List Tid} (hw : s.waitW = u :: rest) (hc : s.prefW = true ∨ s.waitR = []) :
    Favoured s u := .inl ⟨by simp [hw], hc⟩

theorem Favoured.reader {s : Mx} {u : Tid} (hr : u ∈ s.waitR) (hc : s.prefW = false ∨ s.waitW = []) : Favoured s u :=
  .inr ⟨hr, hc⟩

theorem Favoured.mem {s : Mx} {u : Tid} (h : Favoured s u) : u ∈ s.waitR ∨ u ∈ s.waitW := by
  rcases h with ⟨h, _⟩ | ⟨h, _⟩
  · exact .inr (List.mem_of_mem_head? h)
  · exact .inl h

theorem exists_favoured {s : Mx} (h : s.waitR ≠ [] ∨ s.waitW ≠ []) : ∃ u, Favoured s u := by
  by_cases hW : s.waitW = []
  · obtain ⟨r, hr⟩ := List.exists_mem_of_ne_nil _ (h.resolve_right (not_not_intro hW))
    exact ⟨r, .reader hr (.inr hW)⟩
  · by_cases hc : s.prefW = true ∨ s.waitR = []
    · obtain ⟨w, rest, hw⟩ := List.exists_cons_of_ne_nil hW
      exact ⟨w, .firstWriter hw hc⟩
    · obtain ⟨r, hr⟩ := List.exists_mem_of_ne_nil _ (mt Or.inr hc)
      exact ⟨r, .reader hr (.inl (by simpa using mt Or.inl hc))⟩

structure LiveInv (c : Cfg) : Prop where
  wake : c.mx.exec = [] → ∀ u, Favoured c.mx u → Signalled c u

theorem notifySome_wakes (s : Mx) (u : Tid) (h : Favoured s u) : (notifySome s).pend u > 0 := by
  unfold notifySome
  rcases h with ⟨hw, hc⟩ | ⟨hr, hc⟩
  · obtain ⟨rest, hw⟩ := List.head?_eq_some_iff.1 hw
    by_cases hr : s.waitR = []
    · simp [hr, notifyNextWriter, hw]
    · simp [hr, hc.resolve_right hr, notifyNextWriter, hw]
  · have hne : s.waitR ≠ [] := List.ne_nil_of_mem hr
    by_cases hw : s.waitW = []
    · simp [hw, hne, notifyAllReaders, hr]
    · simp [hw, hne, hc.resolve_right hw, notifyAllReaders, hr]

def Wakes (s : Mx) : Prop := ∀ u, Favoured s u → s.pend u > 0

theorem EqButPend.favoured {s s' : Mx} (e : EqButPend s' s) {u : Tid} : Favoured s' u ↔ Favoured s u := by
  obtain ⟨p, rfl⟩ := e; exact Iff.rfl

theorem Wakes.notifySome (s : Mx) : Wakes (notifySome s) :=
  fun u h => notifySome_wakes s u ((notifySome_eqButPend s).favoured.1 h)

theorem Wakes.maybeNotify {x : Mx} (he : x.exec = []) (ht : x.total = 0) : Wakes (maybeNotify x) := by
  unfold RW.maybeNotify; rw [if_pos ⟨ht, he⟩]; exact Wakes.notifySome x

theorem Wakes.releaseWC {y : Mx} (h : Wakes y) {t : Tid} (htR : t ∉ y.waitR) (htW : t ∉ y.waitW) : Wakes (releaseWC y t) := by
  intro u hu
  have hu' : Favoured y u := hu
  have hne : u ≠ t := fun e => (e ▸ hu'.mem).elim htR htW
  show upd y.pend t 0 u > 0
  rw [upd_other _ _ _ _ hne]; exact h u hu'

/-- a waiter that timed out, already erased from its table, performs the hand-off on its way out -/
theorem wakes_timeout {s : Mx} (h : MxInv s) {t : Tid} (tR : t ∉ s.waitR) (tW : t ∉ s.waitW)
    (he : (releaseWC (maybeNotify s) t).exec = []) : Wakes (releaseWC (maybeNotify s) t) := by
  obtain ⟨p, hc⟩ := maybeNotify_eqButPend s
  have he' : s.exec = [] := by rw [hc] at he; exact he
  refine (Wakes.maybeNotify he' (h.total_zero_of_empty he')).releaseWC ?_ ?_ <;> rw [hc]
  · exact tR
  · exact tW

theorem unlockR_wakes {s : Mx} (h : MxInv s) (t : Tid) (he : (unlockR s t).1.exec = []) :
    (unlockR s t).1 = s ∨ Wakes (unlockR s t).1 := by
  rcases unlockR_cases s t with ⟨_, e⟩ | ⟨ht, hro, _, p, e⟩
  · exact .inl (by rw [e])
  · have hem : (dropRead s t).exec = [] := by rw [e] at he; exact he
    have h0 := (h.dropRead t ht).total_zero_of_empty hem
    -- the entry went away, or `t` would still be executing
    have hz : s.ro t - 1 = 0 ∧ s.rw t = 0 := Classical.byContradiction fun hz => by
      simp [dropRead, hz, List.ne_nil_of_mem ht] at hem
    have : (unlockR s t).1 = maybeNotify (dropRead s t) := by
      simp [unlockR, dropRead, ht, Nat.ne_of_gt hro, hz]
    exact .inr (this ▸ Wakes.maybeNotify hem h0)

theorem unlockW_wakes {s : Mx} (h : MxInv s) (t : Tid) (he : (unlockW s t).1.exec = []) :
    (unlockW s t).1 = s ∨ Wakes (unlockW s t).1 := by
  rcases unlockW_cases s t with ⟨_, e⟩ | ⟨ht, hrw, _, p, e⟩
  · exact .inl (by rw [e])
  · have hd := h.dropWrite t ht hrw
    have hem : (dropWrite s t).exec = [] := by rw [e] at he; exact he
    have h0 := hd.total_zero_of_empty hem
    have hro : s.ro t = 0 := (hd.absent (t := t) (by simp [hem])).1
    have : (unlockW s t).1 = notifySome (dropWrite s t) := by
      simp [unlockW, ht, Nat.ne_of_gt hrw, h0, hro, hem]
    exact .inr (this ▸ Wakes.notifySome _)

/-- `s'` is `s` with, at most, thread `t` appended to a waiting list (never to an empty writers' list: a writer alone
with nobody executing is admitted at once) and `t`'s own wait condition changed -/
structure Queued (s s' : Mx) (t : Tid) : Prop where
  prefW : s'.prefW = s.prefW
  waitR : s'.waitR = s.waitR ∨ s'.waitR = s.waitR ++ [t]
  waitW : s'.waitW = s.waitW ∨ (s'.waitW = s.waitW ++ [t] ∧ s.waitW ≠ [])
  pend : ∀ u, u ≠ t → s'.pend u = s.pend u

theorem Queued.refl (s : Mx) (t : Tid) : Queued s s t := ⟨rfl, .inl rfl, .inl rfl, fun _ _ => rfl⟩

theorem Queued.favoured {s s' : Mx} {t u : Tid} (q : Queued s s' t) (hu : u ≠ t) (h : Favoured s' u) : Favoured s u := by
  have hRnil : s'.waitR = [] → s.waitR = [] := by rcases q.waitR with e | e <;> simp [e]
  have hWnil : s'.waitW = [] → s.waitW = [] := by rcases q.waitW with e | ⟨e, _⟩ <;> simp [e]
  rcases h with ⟨hw, hc⟩ | ⟨hr, hc⟩
  · refine .inl ⟨?_, q.prefW ▸ hc.imp_right hRnil⟩
    rcases q.waitW with e | ⟨e, hne⟩
    · exact e ▸ hw
    · obtain ⟨a, as, hcw⟩ := List.exists_cons_of_ne_nil hne
      rw [e, hcw] at hw; rw [hcw]; exact hw
  · refine .inr ⟨?_, q.prefW ▸ hc.imp_right hWnil⟩
    rcases q.waitR with e | e
    · exact e ▸ hr
    · simpa [e, hu] using hr

theorem LiveInv.frame {c c' : Cfg} {t : Tid} (hl : LiveInv c) (hth : ∀ u, u ≠ t → c'.th u = c.th u)
    (h : c'.mx.exec = [] → c.mx.exec = [] ∧ Queued c.mx c'.mx t ∧ (Favoured c'.mx t → Signalled c' t)) : LiveInv c' := by
  refine ⟨fun he u hu => ?_⟩
  obtain ⟨hex, q, ht⟩ := h he
  by_cases hut : u = t
  · exact hut ▸ ht (hut ▸ hu)
  · have := hl.wake hex u (q.favoured hut hu)
    unfold Signalled at this ⊢
    rwa [hth u hut, q.pend u hut]

theorem LiveInv.of_live {c c' : Cfg} {t : Tid} (hl : LiveInv c) (hth : ∀ u, u ≠ t → c'.th u = c.th u)
    (h : c'.mx.exec = [] → (c.mx.exec = [] ∧ Queued c.mx c'.mx t ∧ ¬ Favoured c'.mx t) ∨ Wakes c'.mx) : LiveInv c' :=
  ⟨fun he u hu => (h he).elim
    (fun hq => (hl.frame hth fun _ => hq.imp_right (.imp_right fun hn hf => absurd hf hn)).wake he u hu)
    fun hw => .inl (hw u hu)⟩

theorem not_favoured_of_not_mem {s : Mx} {t : Tid} (tR : t ∉ s.waitR) (tW : t ∉ s.waitW) : ¬ Favoured s t :=
  fun h => h.mem.elim tR tW

/-- with nobody executing, a failed reader admission test means: writers are preferred and one is waiting -/
theorem not_favoured_reader {s s' : Mx} {t : Tid} (h : MxInv s) (he : s.exec = []) (hok : okReaders s = false)
    (hp : s'.prefW = s.prefW) (hW : s'.waitW = s.waitW) (tW : t ∉ s.waitW) : ¬ Favoured s' t := by
  rintro (⟨hw, _⟩ | ⟨_, hc⟩)
  · exact tW (List.mem_of_mem_head? (hW ▸ hw))
  · rw [hp, hW] at hc
    simp [(okReaders_iff s).2 ⟨h.total_zero_of_empty he, hc⟩] at hok

theorem not_okWriter_empty {s : Mx} {t : Tid} (he : s.exec = []) (hok : okWriter s t = false) :
    s.waitW ≠ [] ∧ s.waitW.head? ≠ some t := by
  constructor <;> intro hn
  · simp [(okWriter_iff s t).2 ⟨he, .inl hn⟩] at hok
  · simp [(okWriter_iff s t).2 ⟨he, .inr hn⟩] at hok

theorem init_liveInv (p : Bool) (progs : List (List Op)) : LiveInv (Cfg.init p progs) :=
  ⟨fun _ u hu => by simpa [Cfg.init, Mx.init] using hu.mem⟩

theorem enabled_of_not_parked {c : Cfg} {t : Tid} (h1 : (c.th t).pc ≠ .done)
    (h2 : ∀ m, (c.th t).pc = .rWait m → c.mx.pend t > 0) (h3 : ∀ m, (c.th t).pc = .wWait m → c.mx.pend t > 0) :
    ∃ c' o, stepRun c t = some (c', o) := by
  unfold stepRun
  cases hpc : (c.th t).pc with
  | done => exact absurd hpc h1
  | rWait m => simp only [hpc]; rw [if_pos (h2 m hpc)]; exact ⟨_, _, rfl⟩
  | wWait m => simp only [hpc]; rw [if_pos (h3 m hpc)]; exact ⟨_, _, rfl⟩
  | _ => simp only [hpc]; exact ⟨_, _, rfl⟩

theorem enabled_of_signalled {c : Cfg} {t : Tid} (hd : (c.th t).pc ≠ .done) (hs : Signalled c t) :
    ∃ c' o, stepRun c t = some (c', o) := by
  apply enabled_of_not_parked hd <;> intro m hm <;> rcases hs with h | ⟨m', b, h⟩ | ⟨m', b, h⟩ <;> simp_all

/-- deadlock freedom: if some thread is unfinished and no finished thread holds the lock, some event is enabled -/
theorem no_deadlock {c : Cfg} (hm : MxInv c.mx) (hc : CtlInv c) (hl : LiveInv c) (t : Tid) (hunf : (c.th t).pc ≠ .done)
    (hcomp : ∀ u, (c.th u).pc = .done → c.mx.ro u + c.mx.rw u = 0) : ∃ e c' o, machine.step c e = some (c', o) := by
  have wrap : ∀ u, (∃ c' o, stepRun c u = some (c', o)) → ∃ e c' o, machine.step c e = some (c', o) :=
    fun u ⟨c', o, h⟩ => ⟨.run u, c', o, h⟩
  have waiting : ∀ u, u ∈ c.mx.waitR ∨ u ∈ c.mx.waitW → (c.th u).pc ≠ .done := by
    intro u hu hd
    rw [hc.inR, hc.inW, hd] at hu
    simp [Pc.rWaiting, Pc.wWaiting] at hu
  by_cases htw : t ∈ c.mx.waitR ∨ t ∈ c.mx.waitW
  · cases hex : c.mx.exec with
    | cons x xs =>
      -- somebody executes: that thread is unfinished (compliance) and not parked
      have hx : x ∈ c.mx.exec := by simp [hex]
      have hpos := (hm.mem x).1 hx
      apply wrap x
      apply enabled_of_not_parked
      · intro hd; have := hcomp x hd; omega
      · intro m hmx; exact absurd hx (hc.notExec x (.inl (by rw [hmx]; rfl)))
      · intro m hmx; exact absurd hx (hc.notExec x (.inr (by rw [hmx]; rfl)))
    | nil =>
      -- nobody executes: whoever the hand-off rule favours has been signalled
      obtain ⟨u, hu⟩ := exists_favoured (s := c.mx) (htw.imp List.ne_nil_of_mem List.ne_nil_of_mem)
      exact wrap u (enabled_of_signalled (waiting u hu.mem) (hl.wake hex u hu))
  · apply wrap t
    apply enabled_of_not_parked hunf <;> intro m hm <;> refine absurd ?_ htw
    · exact .inl ((hc.inR t).2 (by rw [hm]; rfl))
    · exact .inr ((hc.inW t).2 (by rw [hm]; rfl))

end Muscle.Conc.RW
