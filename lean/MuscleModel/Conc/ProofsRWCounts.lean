import MuscleModel.Conc.ProofsRWCtl

/-!
# `ReaderWriterMutex`: exact counting

Per critical section: the counts change exactly as the call says when it reports success, and not at all otherwise
(`Counted`).  Over whole executions: the executing-threads table holds, for every thread, exactly (successful read
acquisitions − successful read releases, successful write acquisitions − successful write releases) — with the
documented intermediate values while the thread is inside the upgrade path of `LockReadWriteAux` (`CountsOk`).
-/

namespace Muscle.Conc.RW
open Muscle.Conc

def Op.counts (op : Op) (t : Tid) (s : Mx) : (Tid → Nat) × (Tid → Nat) × Nat :=
  match op with
  | .lockR _ => (upd s.ro t (s.ro t + 1), s.rw, s.total)
  | .lockW _ => (s.ro, upd s.rw t (s.rw t + 1), s.total + 1)
  | .unlockR => (upd s.ro t (s.ro t - 1), s.rw, s.total)
  | .unlockW => (s.ro, upd s.rw t (s.rw t - 1), s.total - 1)

def Counted (op : Op) (t : Tid) (s s' : Mx) (r : Res) : Prop :=
  (s'.ro, s'.rw, s'.total) = if r = .done .ok then op.counts t s else (s.ro, s.rw, s.total)

def Op.delta (op : Op) (r w : Nat) : Nat × Nat :=
  match op with
  | .lockR _ => (r + 1, w) | .lockW _ => (r, w + 1) | .unlockR => (r - 1, w) | .unlockW => (r, w - 1)

theorem Counted.ok {op : Op} {t : Tid} {s s' : Mx} {r : Res} (h : Counted op t s s' r) (hr : r = .done .ok) :
    (s'.ro, s'.rw, s'.total) = op.counts t s :=
  h.trans (if_pos hr)

theorem Counted.at_self {op : Op} {t : Tid} {s s' : Mx} {r : Res} (h : Counted op t s s' r) :
    (s'.ro t, s'.rw t) = if r = .done .ok then op.delta (s.ro t) (s.rw t) else (s.ro t, s.rw t) := by
  unfold Counted at h
  cases op <;> split at h <;> simp_all [Op.counts, Op.delta]

theorem Counted.at_other {op : Op} {t u : Tid} {s s' : Mx} {r : Res} (h : Counted op t s s' r) (hu : u ≠ t) :
    s'.ro u = s.ro u ∧ s'.rw u = s.rw u := by
  unfold Counted at h
  cases op <;> split at h <;> simp_all [Op.counts]

/-- who executes is a function of the counts -/
theorem Counted.exec_iff {op : Op} {t u : Tid} {s s' : Mx} {r : Res} (h : Counted op t s s' r) (hm : MxInv s) (hm' : MxInv s')
    (hu : r ≠ .done .ok ∨ u ≠ t) : u ∈ s'.exec ↔ u ∈ s.exec := by
  rw [hm'.mem, hm.mem]
  by_cases hut : u = t
  · have hr : r ≠ .done .ok := hu.resolve_right (not_not_intro hut)
    obtain ⟨e1, e2⟩ := Prod.mk.inj (h.at_self.trans (if_neg hr))
    rw [hut, e1, e2]
  · rw [(h.at_other hut).1, (h.at_other hut).2]

theorem lockRStart_counted {s : Mx} (h : MxInv s) (t : Tid) (m : Mode) :
    Counted (.lockR m) t s (lockRStart s t m).1 (lockRStart s t m).2 := by
  have := h.absent (t := t)
  rcases lockRStart_cases s t m with ⟨_, e⟩ | ⟨_, e⟩ | ⟨_, e⟩ | ⟨_, e⟩ <;> simp_all [Counted, Op.counts, obtainWC]

theorem lockWStart_counted {s : Mx} (h : MxInv s) (t : Tid) (m : Mode) :
    Counted (.lockW m) t s (lockWStart s t m).1 (lockWStart s t m).2 := by
  have := h.absent (t := t)
  rcases lockWStart_cases s t m with ⟨_, e⟩ | ⟨_, e⟩ | ⟨_, e⟩ | ⟨_, e⟩ | ⟨_, e⟩ | ⟨_, e⟩ <;>
    simp_all [Counted, Op.counts, obtainWC]

/-- the executing entry is assigned the waiting entry's counts, 0/0 like those of any thread that is not executing -/
theorem lockRWoke_counted {s : Mx} (h : MxInv s) {t : Tid} (ht : t ∉ s.exec) (m : Mode) (b : Bool) :
    Counted (.lockR m) t s (lockRWoke s t b).1 (lockRWoke s t b).2 := by
  have := h.absent ht
  rcases lockRWoke_cases s t b with ⟨_, _, _, e⟩ | ⟨_, e⟩ | ⟨_, e⟩ <;> simp_all [Counted, Op.counts, releaseWC, upd_eq_self]

theorem lockWWoke_counted {s : Mx} (h : MxInv s) {t : Tid} (ht : t ∉ s.exec) (m : Mode) (b : Bool) :
    Counted (.lockW m) t s (lockWWoke s t b).1 (lockWWoke s t b).2 := by
  have := h.absent ht
  rcases lockWWoke_cases s t b with ⟨_, _, _, e⟩ | ⟨_, e⟩ | ⟨_, e⟩ <;> simp_all [Counted, Op.counts, releaseWC]

theorem unlockR_counted (s : Mx) (t : Tid) : Counted .unlockR t s (unlockR s t).1 (.done (unlockR s t).2) := by
  rcases unlockR_cases s t with ⟨_, e⟩ | ⟨_, _, hok, p, e⟩
  · simp [Counted, e]
  · simp [Counted, hok, Op.counts, e, dropRead]

theorem unlockW_counted (s : Mx) (t : Tid) : Counted .unlockW t s (unlockW s t).1 (.done (unlockW s t).2) := by
  rcases unlockW_cases s t with ⟨_, e⟩ | ⟨_, _, hok, p, e⟩
  · simp [Counted, e]
  · simp [Counted, hok, Op.counts, e, dropWrite]

def Pc.call : Pc → Option Op
  | .rStart m | .rWait m | .rWoke m _ => some (.lockR m)
  | .wStart m | .wWait m | .wWoke m _ => some (.lockW m)
  | .uR => some .unlockR
  | .uW => some .unlockW
  | .done => none

/-- thread `th` is inside one activation `u` of the upgrade path of its call `LockReadWrite(u.m)`: it held `u.n` read
locks and no write lock when the call began -/
structure Upgrading (th : Th) (u : Upg) : Prop where
  ctx : th.ctx = [u]
  hw : th.hw = 0
  hr : th.hr = u.n
  pos : u.n > 0
  cur : th.cur = .lockW u.m

/-- table counts `r`/`w` of a thread versus its ghost counters, by position in the upgrade path.  While the read
locks are re-taken the thread is never at `rWoke .block false`: an untimed `Wait()` returns only by notification, so
every `LockReadOnly()` of that stage succeeds. -/
inductive CountsOk (r w : Nat) (th : Th) : Prop
  | plain : th.ctx = [] → r = th.hr → w = th.hw → (∀ op, th.pc.call = some op → th.cur = op) → CountsOk r w th
  | drop {u k} : Upgrading th u → u.stage = .drop k → th.pc.call = some .unlockR → r = k → w = 0 → 1 ≤ k → k ≤ u.n →
      CountsOk r w th
  | lock {u} : Upgrading th u → u.stage = .lock → th.pc.call = some (.lockW u.m) → r = 0 → w = 0 → CountsOk r w th
  | retake {u k ret} : Upgrading th u → u.stage = .retake k ret → th.pc.call = some (.lockR .block) →
      th.pc ≠ .rWoke .block false → r + k = u.n → 1 ≤ k → w = (if ret = .ok then 1 else 0) → CountsOk r w th

theorem account_delta (th : Th) (st : St) :
    ((account th st).hr, (account th st).hw) = if Res.done st = .done .ok then th.cur.delta th.hr th.hw else (th.hr, th.hw) := by
  unfold account Op.delta; (repeat' split) <;> simp_all

theorem nextOp_call (th : Th) (op : Op) (h : (nextOp th).pc.call = some op) : (nextOp th).cur = op := by
  revert h; unfold nextOp; split
  · simp [Pc.call]
  · next o _ _ => cases o <;> simp [startPc, Pc.call]

theorem countsOk_nextOp {r w : Nat} {th : Th} (hctx : th.ctx = []) (hr : r = th.hr) (hw : w = th.hw) :
    CountsOk r w (nextOp th) :=
  .plain (by simp [hctx]) (by simp [hr]) (by simp [hw]) (nextOp_call th)

theorem countsOk_finish_nil {r' w' : Nat} {th : Th} {st : St}
    (h : (r', w') = if Res.done st = .done .ok then th.cur.delta th.hr th.hw else (th.hr, th.hw)) :
    CountsOk r' w' (finish [] th st).1 := by
  have had := Prod.mk.inj (h.trans (account_delta { th with ctx := [] } st).symm)
  exact countsOk_nextOp (by simp) had.1 had.2

theorem Upgrading.restage {th : Th} {u : Upg} (hu : Upgrading th u) (sg : UStage) (pc : Pc) :
    Upgrading { th with ctx := [{ u with stage := sg }], pc := pc } { u with stage := sg } :=
  ⟨rfl, hu.hw, hu.hr, hu.pos, hu.cur⟩

theorem Upgrading.repc {th : Th} {u : Upg} (hu : Upgrading th u) (pc : Pc) : Upgrading { th with pc := pc } u :=
  ⟨hu.ctx, hu.hw, hu.hr, hu.pos, hu.cur⟩

/-- The calls the upgrade path makes on its own account cannot fail: `UnlockReadOnly()` of a lock that is held, and the
untimed `LockReadOnly()`. -/
theorem CountsOk.returned {r w r' w' : Nat} {th : Th} {op : Op} {st : St} (hc : CountsOk r w th) (hk : th.pc.call = some op)
    (ha : (r', w') = if Res.done st = .done .ok then op.delta r w else (r, w))
    (hR : op = .lockR .block → th.pc ≠ .rWoke .block false → st = .ok) (hU : op = .unlockR → r > 0 → st = .ok) :
    CountsOk r' w' (finish th.ctx th st).1 := by
  cases hc with
  | plain hctx hr hw hcur =>
    rw [hctx]
    exact countsOk_finish_nil (by rw [hcur op hk, ← hr, ← hw]; exact ha)
  | @drop u k hu hsg hk' hr hw h1 h2 =>
    obtain rfl : Op.unlockR = op := Option.some.inj (hk'.symm.trans hk)
    obtain rfl := hU rfl (by omega)
    obtain ⟨rfl, rfl⟩ := Prod.mk.inj ha
    simp only [hu.ctx, finish, hsg, ne_eq, not_true_eq_false, if_false]
    split
    · exact .drop (hu.restage _ _) rfl rfl (by simp [hr]) hw (by omega) (by dsimp only; omega)
    · exact .lock (hu.restage _ _) rfl rfl (by omega) hw
  | @lock u hu hsg hk' hr hw =>
    obtain rfl : Op.lockW _ = op := Option.some.inj (hk'.symm.trans hk)
    simp only [hu.ctx, finish, hsg, if_neg (Nat.ne_of_gt hu.pos)]
    refine .retake (hu.restage _ _) rfl rfl (by simp) ?_ hu.pos ?_ <;>
      by_cases hs : st = .ok <;> simp [hs, Op.delta, hr, hw] at ha ⊢ <;> simp [ha]
  | @retake u k ret hu hsg hk' hnb hr h1 hw =>
    obtain rfl : Op.lockR .block = op := Option.some.inj (hk'.symm.trans hk)
    obtain rfl := hR rfl hnb
    obtain ⟨rfl, rfl⟩ := Prod.mk.inj ha
    simp only [hu.ctx, finish, hsg, ne_eq, not_true_eq_false, if_false]
    split
    · exact .retake (hu.restage _ _) rfl rfl (by simp) (by dsimp only; omega) (by omega) hw
    · -- the last read lock is back: `LockReadWrite(u.m)` itself returns `ret`
      refine countsOk_finish_nil ?_
      rw [hu.cur, hu.hr, hu.hw, hw]
      by_cases hret : ret = .ok <;> simp [hret, Op.delta] <;> omega

theorem CountsOk.move {r w r' w' : Nat} {th : Th} {pc' : Pc} (hc : CountsOk r w th) (he : (r', w') = (r, w))
    (hk : pc'.call = th.pc.call) (hnb : pc' = .rWoke .block false → th.pc = .rWoke .block false) :
    CountsOk r' w' { th with pc := pc' } := by
  obtain ⟨rfl, rfl⟩ := Prod.mk.inj he
  cases hc with
  | plain hctx hr hw hcur => exact .plain hctx hr hw fun op h => hcur op (hk ▸ h)
  | drop hu hsg hk' hr hw h1 h2 => exact .drop (hu.repc _) hsg (hk.trans hk') hr hw h1 h2
  | lock hu hsg hk' hr hw => exact .lock (hu.repc _) hsg (hk.trans hk') hr hw
  | retake hu hsg hk' hnb' hr h1 hw => exact .retake (hu.repc _) hsg (hk.trans hk') (fun e => hnb' (hnb e)) hr h1 hw

/-- `LockReadWriteAux` detects the read→write upgrade, which can only be outside the upgrade path: inside it the
thread is at `wStart` only after it has dropped its read locks -/
theorem CountsOk.upgrade {r w : Nat} {th : Th} {m : Mode} (hc : CountsOk r w th) (hpc : th.pc = .wStart m) (hw0 : w = 0)
    (hpos : r > 0) : CountsOk r w { th with ctx := { n := r, m := m, stage := .drop r } :: th.ctx, pc := .uR } := by
  cases hc with
  | plain hctx hr hw hcur =>
    exact .drop (u := { n := r, m := m, stage := .drop r }) ⟨by simp [hctx], hw.symm.trans hw0, hr.symm, hpos, hcur _ (by rw [hpc]; rfl)⟩
      rfl rfl rfl hw0 hpos (Nat.le_refl r)
  | drop _ _ hk => rw [hpc] at hk; cases hk
  | lock _ _ _ hr => omega
  | retake _ _ hk => rw [hpc] at hk; cases hk

theorem Op.waitPc_call (op : Op) : op.waitPc.call = some op := by cases op <;> rfl

theorem Op.waitPc_ne_timedOut (op : Op) : op.waitPc ≠ .rWoke .block false := by cases op <;> nofun

theorem CountsOk.applyRes {c : Cfg} {t : Tid} {s' : Mx} {r : Res} {op : Op}
    (hc : CountsOk (c.mx.ro t) (c.mx.rw t) (c.th t)) (hk : (c.th t).pc.call = some op) (hcnt : Counted op t c.mx s' r)
    (hR : ∀ st, r = .done st → op = .lockR .block → (c.th t).pc ≠ .rWoke .block false → st = .ok)
    (hU : ∀ st, r = .done st → op = .unlockR → c.mx.ro t > 0 → st = .ok)
    (hupg : ∀ n, r = .upgrade n → (c.th t).pc = .wStart op.mode ∧ n = c.mx.ro t ∧ n > 0 ∧ c.mx.rw t = 0) :
    CountsOk (s'.ro t) (s'.rw t) ((applyRes c t s' r op.waitPc op.mode).1.th t) := by
  rw [applyRes_self]
  cases r with
  | done st => exact hc.returned hk hcnt.at_self (hR st rfl) (hU st rfl)
  | wait => exact hc.move hcnt.at_self (op.waitPc_call.trans hk.symm) fun e => absurd e op.waitPc_ne_timedOut
  | upgrade n =>
    obtain ⟨hpc, rfl, hpos, hw0⟩ := hupg n rfl
    obtain ⟨e1, e2⟩ := Prod.mk.inj hcnt.at_self
    simp only [Nat.ne_of_gt hpos, if_false, e1, e2]
    exact hc.upgrade hpc hw0 hpos

def CountInv (c : Cfg) : Prop := ∀ t, CountsOk (c.mx.ro t) (c.mx.rw t) (c.th t)

theorem init_countInv (p : Bool) (progs : List (List Op)) : CountInv (Cfg.init p progs) := by
  intro t
  simp only [Cfg.init]
  split
  · exact countsOk_nextOp rfl rfl rfl
  · exact .plain rfl rfl rfl nofun

theorem CountInv.counts_plain {c : Cfg} (h : CountInv c) (t : Tid) (hctx : (c.th t).ctx = []) :
    c.mx.ro t = (c.th t).hr ∧ c.mx.rw t = (c.th t).hw := by
  cases h t with
  | plain _ hr hw => exact ⟨hr, hw⟩
  | drop hu | lock hu | retake hu => simp [hu.ctx] at hctx

end Muscle.Conc.RW
