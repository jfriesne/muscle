import MuscleModel.Conc.ProofsTPThreads

/-! # C19 proofs: what holds for ALL programs, disciplined or not (`InvBase`)

`Inv0`, `InvP`, the well-formedness of the user threads, and what the joins of `Shutdown` rely on (`JoinsEnding`).  An invariant that needs
`InvBase` is stacked on it in one of two ways: a bundle that extends it and re-runs `invBase_step` in its own step lemma (`InvAll`, `InvLive`: their
clauses are used together), or paired with it in one induction (`CoverInv`, `reach_cover`: nothing else needs it). -/

namespace Muscle.Conc.TP
open Muscle.Conc

def JoinsEnding (c : Cfg) : Prop := ∀ t b nA tot n T rest, (c.uth t).pc = .sdJoin b nA tot n T rest →
  T < c.p.idc ∧ (∀ T', T' ∈ rest → T' < c.p.idc) ∧ Ending (c.pth T)

theorem joinsEnding_of {c c' : Cfg} (h : JoinsEnding c) (hi : c.p.idc ≤ c'.p.idc) (he : ∀ T, T < c.p.idc → Ending (c.pth T) → Ending (c'.pth T))
    (hpc : ∀ t, (c'.uth t).pc = (c.uth t).pc ∨ joining (c'.uth t).pc = []) : JoinsEnding c' := by
  intro t b nA tot n T rest hp
  rcases hpc t with h1 | h1
  · obtain ⟨a1, a2, a3⟩ := h t b nA tot n T rest (h1 ▸ hp)
    exact ⟨Nat.lt_of_lt_of_le a1 hi, fun T' hT' => Nat.lt_of_lt_of_le (a2 T' hT') hi, he T a1 a3⟩
  · rw [hp] at h1; cases h1

theorem sendQuit_ending (pth : PTid → PTh) (l : List PTid) (T : PTid) (h : Ending (pth T)) : Ending (sendQuit pth l T) := by
  cases l with
  | nil => exact h
  | cons T0 r =>
    show Ending (upd pth T0 _ T)
    rw [upd_apply]; split
    · rename_i he; subst he; exact h.imp id (fun h => List.mem_append_left _ h)
    · exact h

/-- `l` is what is left of the table that `Shutdown` is working through -/
theorem joinsEnding_sdNext {c c1 : Cfg} (t : Tid) (b : Bool) (nA tot n : Nat) (l : List PTid) (h : JoinsEnding c) (hp : c1.pth = c.pth)
    (hi : c1.p.idc = c.p.idc) (hu : c1.uth = c.uth) (hl : ∀ T, T ∈ l → T < c.p.idc) : JoinsEnding (sdNext c1 t b nA tot n l) := by
  intro t' b' nA' tot' n' T rest hp'
  rw [sdNext_pool, hi]
  by_cases ht' : t' = t
  · subst ht'
    rw [sdNext_self] at hp'
    cases l with
    | nil => simp only [sdNextPc] at hp'; split at hp' <;> (try split at hp') <;> cases hp'
    | cons T0 r =>
      cases hp'
      refine ⟨hl _ (List.mem_cons_self ..), fun T' hT' => hl T' (List.mem_cons_of_mem _ hT'), Or.inr ?_⟩
      rw [sdNext_eq]
      show Item.quit ∈ (upd c1.pth T _ T).inbox
      rw [upd_same]; exact List.mem_append_right _ (List.mem_singleton.2 rfl)
  · have e : (sdNext c1 t b nA tot n l).uth t' = c.uth t' := by rw [sdNext_eq, ← hu]; exact upd_other _ _ _ _ ht'
    obtain ⟨a1, a2, a3⟩ := h t' b' nA' tot' n' T rest (e ▸ hp')
    refine ⟨a1, a2, ?_⟩
    rw [sdNext_eq]
    exact sendQuit_ending _ _ _ (hp ▸ a3)

theorem joinsEnding_ustep {c c' : Cfg} {t : Tid} (h : JoinsEnding c) (h0 : Inv0 c) (hs : UStep c t c') : JoinsEnding c' := by
  have hoth : ∀ t', t' ≠ t → (c'.uth t').pc = (c.uth t').pc := fun _ ht' => hs.outside.pc_other ht'
  by_cases hsd : callOf (c.uth t).pc = some .shutdown
  case neg =>
    have p1 := hs.outside.own.not_inShutdown hsd
    have p2 := hs.outside.keeps hsd
    refine joinsEnding_of h p2.idc p2.ending (fun t' => ?_)
    by_cases ht' : t' = t
    · exact Or.inr (joining_of_not_inShutdown (ht' ▸ p1))
    · exact Or.inl (hoth t' ht')
  case pos =>
    have hme : joining (c'.uth t).pc = [] → c'.pth = c.pth → c'.p.idc = c.p.idc → JoinsEnding c' := fun hj e1 e2 =>
      joinsEnding_of h (Nat.le_of_eq e2.symm) (fun T _ h => e1 ▸ h) (fun t' => by
        by_cases ht' : t' = t
        · exact Or.inr (ht' ▸ hj)
        · exact Or.inl (hoth t' ht'))
    cases hs.sd hsd with
    | sdBegin hpc => exact hme (by show joining (upd c.uth t _ t).pc = []; rw [upd_same]; rfl) rfl rfl
    | sdSwapActive hpc => exact joinsEnding_sdNext t true _ _ _ _ h rfl rfl rfl (fun T hT => h0.ltB T hT)
    | sdSwapAvail hpc => exact joinsEnding_sdNext t false _ _ _ _ h rfl rfl rfl (fun T hT => h0.ltA T (List.mem_reverse.1 hT))
    | sdJoined hpc hex => exact joinsEnding_sdNext t _ _ _ _ _ h rfl rfl rfl (h t _ _ _ _ _ _ hpc).2.1
    | sdFinish hpc =>
      refine hme ?_ rfl rfl
      show joining (upd _ t (advance _) t).pc = []
      rw [upd_same]; exact joining_of_not_inShutdown (advance_not_inShutdown _)

theorem joinsEnding_pstep {c c' : Cfg} {T : PTid} (h : JoinsEnding c) (hs : PStep c T c') (hlt : T < c.p.idc) : JoinsEnding c' :=
  have k := hs.outside.keeps hlt
  joinsEnding_of h k.idc k.ending (fun t => Or.inl (hs.outside.view.pc t))

structure InvBase (c : Cfg) : Prop where
  inv0 : Inv0 c
  sdShut : SdShut c
  invP : InvP c
  /-- the head of each program is the call in progress -/
  wf : ∀ t, (c.uth t).Wf
  /-- there are `nU` user threads -/
  beyond : ∀ t, c.nU ≤ t → (c.uth t).pc = .done
  joins : JoinsEnding c

theorem invBase_step {c c' : Cfg} {e : Ev} {o} (h : InvBase c) (hs : step c e = some (c', o)) : InvBase c' := by
  obtain ⟨h0, hsd, hp, hw, hb, hj⟩ := h
  rcases step_cases hs with ⟨t, ht, _, hu⟩ | ⟨_, _, hps⟩
  · have ho := hu.outside
    refine ⟨inv0_ustep h0 hu, sdShut_ustep hsd hu, invP_ustep hp h0 hsd hu, wf_ustep hw hu, fun t' ht' => ?_, joinsEnding_ustep hj h0 hu⟩
    rw [ho.nU] at ht'
    rw [ho.pc_other (Nat.ne_of_gt (Nat.lt_of_lt_of_le ht ht'))]
    exact hb t' ht'
  · have hv := hps.outside.view
    exact ⟨inv0_pstep h0 hps, sdShut_userView hsd hv, invP_pstep hp h0 hps, fun t => (hw t).congr (hv.pc t) (hv.prog t),
      fun t ht => by rw [hv.pc t]; exact hb t (hv.nU ▸ ht), joinsEnding_pstep hj hps (pstep_lt hp hps)⟩

theorem invBase_init (maxT : Nat) (regs : List Client) (progs : List (List Op)) : InvBase (Cfg.init maxT regs progs) := by
  have hu := init_uth_prog maxT regs progs
  refine ⟨inv0_init maxT regs progs, fun t hi => ?_, invP_init maxT regs progs, fun t => ?_, fun t ht => ?_, fun t b nA tot n T rest h => ?_⟩
  · rcases (hu t).2.2 with e | e <;> rw [e] at hi <;> cases hi
  · show (match progs[t]? with | some pr => UTh.ofProg pr | none => UTh.ofProg []).Wf
    split <;> exact wf_ofProg _
  · have : progs[t]? = none := by simpa [Cfg.init] using ht
    simp [Cfg.init, this, UTh.ofProg]
  · rcases (hu t).2.2 with h' | h' <;> (rw [h'] at h; cases h)

theorem reach_invBase {maxT regs progs c} (h : machine.Reach (Cfg.init maxT regs progs) c) : InvBase c :=
  Machine.Reach.invariant machine InvBase (invBase_init maxT regs progs) (fun _ _ _ _ hi hs => invBase_step hi hs) h

end Muscle.Conc.TP
