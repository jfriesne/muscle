import MuscleModel.Conc.Sem

/-!
# Model of `muscle::ThreadPool` (system/ThreadPool.{h,cpp}) as an interleaving machine

Threads.  *User threads* `0 … nU-1` run programs of API calls (`IThreadPoolClient::SendMessageToThreadPool`,
`IThreadPoolClient::SetThreadPool(pool)` = register, `SetThreadPool(NULL)` = unregister, `ThreadPool::Shutdown()`).
*Pool threads* are the internal threads of the `ThreadPoolThread` objects; pool thread with `_threadID = j` is
scheduler thread `nU + j` (the cooperative scheduler numbers adopted threads in creation order).

Granularity: one step = what a thread does from one park point of `harness/tp.cpp` to the next.  Park points:
* every `Lock(_poolLock)` — so each critical section of `_poolLock` (including `DispatchPendingMessagesUnsafe()`
  called inside it) is one atomic step; `_poolLock` is free whenever every thread is parked (no park point lies inside
  a critical section), so these steps are always enabled;
* the `WaitCondition::Wait()` of `UnregisterClient` (enabled iff a notification is pending);
* `Thread::WaitForInternalThreadToExit()` in `Shutdown` (enabled iff the target thread reached its end);
* the pool thread's start, its wait for the next Message from its owner, and one explicit yield *inside* the client's
  handler (the harness's `MessageReceivedFromThreadPool` logs "enter", yields, logs "exit");
* one explicit yield at the start of every API call of a user thread (the unlocked read of
  `IThreadPoolClient::_threadPool` happens in that step).

ASSUMPTION (property C11).  The pool thread's own inbox — `Thread::SendMessageToInternalThread` /
`WaitForNextMessageFromOwner`, i.e. queue + signalling socket — is abstracted as a FIFO with reliable wake-up: the
waiting pool thread is enabled iff its inbox is non-empty.  Under the cooperative scheduler this is exact (no park point
lies between `RemoveHead` failing and the `SIG_WAIT` hook, and every `AddTail` onto an empty queue signals); under
pre-emptive scheduling it is what property C11 establishes.

Representation.  A muscle `Hashtable` keeps insertion order; each table is a key list plus a value function that has
its default value outside the keys (every removal resets the value).  `_availableThreads` is kept REVERSED (`availR`,
head = the last-inserted = "hottest" thread that `GetLastValue()` picks).  Not modelled: allocation failures
(`B_OUT_OF_MEMORY` branches, `StartInternalThread` failing), `uint32` wrap of `_threadIDCounter`.
Ghost state (not in the C++ object): `submitted`, `handled`, `dropped` per client.
-/

namespace Muscle.Conc.TP
open Muscle.Conc

abbrev Client := Nat
abbrev MsgId := Nat
abbrev PTid := Nat

/-- the API calls of a user thread -/
inductive Op where
  | sub (c : Client) (m : MsgId)   -- `client[c].SendMessageToThreadPool(msg m)`
  | reg (c : Client)               -- `client[c].SetThreadPool(&pool)`
  | unreg (c : Client)             -- `client[c].SetThreadPool(NULL)`
  | shutdown                       -- `pool.Shutdown()` (what `~ThreadPool()` and `FlushCachedObjects()` call)
  deriving DecidableEq, Repr

/-- entries of a pool thread's inbox: the dummy Message that announces a batch, or the NULL ref = "go away" -/
inductive Item where
  | batch | quit
  deriving DecidableEq, Repr

/-- program counter of a pool thread (each constructor except `unborn`/`exited` = one park point) -/
inductive PPc where
  | unborn                 -- no such thread yet
  | start                  -- `THREAD_START`: created, has not run yet
  | idle                   -- in `WaitForNextMessageFromOwner`, inbox was empty
  | handler                -- inside `MessageReceivedFromThreadPool` for the head of `_internalQueue`
  | finLock (c : Client)   -- at `Lock(_poolLock)` of `ThreadFinishedProcessingClientMessages(_threadID, c)`
  | exited
  deriving DecidableEq, Repr

/-- a `ThreadPoolThread`: `_currentClient`, `_internalQueue`, and the inbox of its `Thread` base -/
structure PTh where
  pc : PPc
  cur : Option Client
  queue : List MsgId
  inbox : List Item
  deriving DecidableEq, Repr

/-- program counter of a user thread -/
inductive UPc where
  | opStart                                   -- yield before the next API call
  | subLock (c : Client) (m : MsgId)          -- at `Lock(_poolLock)` of `ThreadPool::SendMessageToThreadPool`
  | regLock (c : Client)                      -- at `Lock(_poolLock)` of `RegisterClient`
  | unregLock1 (c : Client)                   -- at the first `Lock(_poolLock)` of `UnregisterClient`
  | unregWait (c : Client)                    -- in `waitCondition.Wait()` of `UnregisterClient`
  | unregLock2 (c : Client)                   -- at the "final cleanup" `Lock(_poolLock)` of `UnregisterClient`
  | sdLock                                    -- at the first `Lock(_poolLock)` of `Shutdown`
  | sdSwap (second : Bool) (nA total : Nat)   -- at `Lock(_poolLock)` of `ShutdownThreadsInTableWithoutDeadlocking(second ? _activeThreads : _availableThreads)`
  | sdJoin (second : Bool) (nA total n : Nat) (T : PTid) (rest : List PTid)   -- in `WaitForInternalThreadToExit()` of pool thread T; `rest` = rest of `temp`, n = its size
  | sdFinal (total : Nat)                     -- at the last `Lock(_poolLock)` of `Shutdown`
  | done
  deriving DecidableEq, Repr

structure UTh where
  pc : UPc
  prog : List Op     -- calls still to make; the head is the call in progress
  notif : Nat        -- pending notifications of the `WaitCondition` on this thread's stack (`UnregisterClient`)
  deriving DecidableEq, Repr

/-- the member variables of `ThreadPool` guarded by `_poolLock` -/
structure Pool where
  maxT : Nat                    -- `_maxThreadCount`
  shut : Bool                   -- `_shuttingDown`
  idc : Nat                     -- `_threadIDCounter`
  availR : List PTid            -- keys of `_availableThreads`, last-inserted first
  active : List PTid            -- keys of `_activeThreads`
  regK : List Client            -- keys of `_registeredClients`
  flag : Client → Bool          -- its values ("a Thread is currently handling them"), false outside the keys
  pendK : List Client           -- keys of `_pendingMessages`
  pend : Client → List MsgId    -- its values, [] outside the keys
  defK : List Client            -- keys of `_deferredMessages`
  defr : Client → List MsgId
  waitK : List Client           -- keys of `_waitingForCompletion`
  waitT : Client → Tid          -- the user thread whose stack holds the registered `WaitCondition`

/-- what a step lets the harness observe -/
inductive Out where
  | subOk | subErr | regOk | regNoop | unregOk | unregNoop
  | shut (n : Nat)                    -- `Shutdown()` returned n
  | enter (c : Client) (m : MsgId)    -- handler of client c entered for Message m
  | exit (c : Client) (m : MsgId)
  | threadExit                        -- the pool thread's entry function returned
  deriving DecidableEq, Repr

structure Cfg where
  p : Pool
  pth : PTid → PTh
  uth : Tid → UTh
  cptr : Client → Bool                 -- `IThreadPoolClient::_threadPool != NULL`
  nU : Nat                             -- number of user threads
  submitted : Client → List MsgId      -- ghost: Messages accepted (`B_NO_ERROR`) per client, in order
  handled : Client → List MsgId        -- ghost: Messages whose handler call has returned
  dropped : Client → List MsgId        -- ghost: Messages removed unhandled (`Shutdown`, `UnregisterClient` cleanup)

/-- `Hashtable::GetOrPut` / `Put` on the key list -/
def addKey (l : List Nat) (k : Nat) : List Nat := if k ∈ l then l else l ++ [k]

/-- `Hashtable::Remove` on the key list (keys are unique) -/
def remKey (l : List Nat) (k : Nat) : List Nat := l.filter (fun x => x != k)

def PTh.fresh : PTh := { pc := .start, cur := none, queue := [], inbox := [] }
def PTh.absent : PTh := { pc := .unborn, cur := none, queue := [], inbox := [] }

/-- `DoesClientHaveMessagesOutstandingUnsafe(client)` -/
def outstanding (p : Pool) (k : Client) : Bool := p.flag k || !(p.pend k).isEmpty || !(p.defr k).isEmpty

/-- the demand-allocation branch of `DispatchPendingMessagesUnsafe` -/
def spawnIfNeeded (c : Cfg) : Cfg :=
  if c.p.availR = [] ∧ c.p.active.length < c.p.maxT then
    { c with p := { c.p with idc := c.p.idc + 1, availR := [c.p.idc] }, pth := upd c.pth c.p.idc PTh.fresh }
  else c

/-- hand client k's pending queue to pool thread T: `MoveToTable(…, _activeThreads)`, `SendMessagesToInternalThread`,
`*isBeingHandled = true`, `_pendingMessages.RemoveFirst()` (`rest` = the other available threads) -/
def assign (c : Cfg) (k : Client) (T : PTid) (rest : List PTid) : Cfg :=
  { c with p := { c.p with availR := rest, active := c.p.active ++ [T], flag := upd c.p.flag k true, pend := upd c.p.pend k [] },
           pth := upd c.pth T { (c.pth T) with cur := some k, queue := c.p.pend k, inbox := (c.pth T).inbox ++ [.batch] } }

/-- the `while(_pendingMessages.HasItems())` loop of `DispatchPendingMessagesUnsafe`, over the keys of `_pendingMessages` in table order -/
def dispatchLoop : List Client → Cfg → Cfg
  | [], c => { c with p := { c.p with pendK := [] } }
  | k :: ks, c =>
    if k ∈ c.p.regK ∧ c.p.pend k ≠ [] then
      match (spawnIfNeeded c).p.availR with
      | T :: rest => dispatchLoop ks (assign (spawnIfNeeded c) k T rest)
      | [] => { c with p := { c.p with pendK := k :: ks } }    -- all pool threads are busy: `break`
    else dispatchLoop ks { c with p := { c.p with pend := upd c.p.pend k [] } }   -- "nothing to do for this client!?"

/-- `DispatchPendingMessagesUnsafe()` -/
def dispatch (c : Cfg) : Cfg := if c.p.shut then c else dispatchLoop c.p.pendK c

/-- `_deferredMessages.GetOrPut(client)->AddTail(msg)` (+ ghost: the Message counts as submitted) -/
def addDefr (c : Cfg) (k : Client) (m : MsgId) : Cfg :=
  { c with p := { c.p with defK := addKey c.p.defK k, defr := upd c.p.defr k (c.p.defr k ++ [m]) },
           submitted := upd c.submitted k (c.submitted k ++ [m]) }

/-- `_pendingMessages.GetOrPut(client)->AddTail(msg)` (+ ghost: the Message counts as submitted) -/
def addPend (c : Cfg) (k : Client) (m : MsgId) : Cfg :=
  { c with p := { c.p with pendK := addKey c.p.pendK k, pend := upd c.p.pend k (c.p.pend k ++ [m]) },
           submitted := upd c.submitted k (c.submitted k ++ [m]) }

/-- critical section of `ThreadPool::SendMessageToThreadPool(client k, msg m)`; the Bool is "returned B_NO_ERROR" -/
def subCS (c : Cfg) (k : Client) (m : MsgId) : Cfg × Bool :=
  if k ∉ c.p.regK then (c, false)
  else if c.p.flag k then (addDefr c k m, true)
  else if c.p.pend k = [] then (dispatch (addPend c k m), true)   -- `mq->GetNumItems() == 1`
  else (addPend c k m, true)

/-- the hand-back part of `ThreadFinishedProcessingClientMessages`: clear the flag, promote the deferred queue
(`pendingMessages->SwapContents(*deferredMessages)`) -/
def handBack (c : Cfg) (k : Client) : Cfg :=
  if k ∈ c.p.regK then
    if c.p.defr k ≠ [] then
      { c with p := { c.p with flag := upd c.p.flag k false, pendK := addKey c.p.pendK k,
                               pend := upd c.p.pend k (c.p.defr k), defr := upd c.p.defr k (c.p.pend k) } }
    else { c with p := { c.p with flag := upd c.p.flag k false } }
  else c

/-- `_activeThreads.MoveToTable(threadID, _availableThreads)` -/
def release (c : Cfg) (T : PTid) : Cfg :=
  if T ∈ c.p.active then { c with p := { c.p with active := remKey c.p.active T, availR := T :: c.p.availR } } else c

/-- the tail of `ThreadFinishedProcessingClientMessages`: wake the user thread blocked in `UnregisterClient(k)` -/
def wake (c : Cfg) (k : Client) : Cfg :=
  if outstanding c.p k = false ∧ k ∈ c.p.waitK then
    { c with uth := upd c.uth (c.p.waitT k) { (c.uth (c.p.waitT k)) with notif := (c.uth (c.p.waitT k)).notif + 1 },
             p := { c.p with waitK := remKey c.p.waitK k } }
  else c

/-- critical section of `ThreadFinishedProcessingClientMessages(T, k)` -/
def finishCS (c : Cfg) (T : PTid) (k : Client) : Cfg :=
  if c.p.shut then c else wake (dispatch (release (handBack c k) T)) k

/-- the pool thread's loop from `WaitForNextMessageFromOwner` to its next park point:
`InternalThreadEntry` / `ThreadPoolThread::MessageReceivedFromOwner` -/
def fetch (c : Cfg) (T : PTid) : Cfg × List Out :=
  let th := c.pth T
  match th.inbox with
  | [] => ({ c with pth := upd c.pth T { th with pc := .idle } }, [])
  | .quit :: rest => ({ c with pth := upd c.pth T { th with pc := .exited, inbox := rest } }, [.threadExit])
  | .batch :: rest =>
    match th.cur, th.queue with
    | some k, m :: _ => ({ c with pth := upd c.pth T { th with pc := .handler, inbox := rest } }, [.enter k m])
    | some k, [] => ({ c with pth := upd c.pth T { th with pc := .finLock k, cur := none, inbox := rest } }, [])
    | none, _ => ({ c with pth := upd c.pth T { th with pc := .exited, inbox := rest } }, [])   -- MASSERT(_currentClient != NULL): never (theorem `Props.C19.massert_received_165`)

/-- one step of pool thread T -/
def stepPool (c : Cfg) (T : PTid) : Option (Cfg × List Out) :=
  let th := c.pth T
  match th.pc with
  | .unborn | .exited => none
  | .start => some (fetch c T)
  | .idle => if th.inbox = [] then none else some (fetch c T)
  | .handler =>
    match th.cur, th.queue with
    | some k, m :: m2 :: q =>   -- handler returns, `RemoveHead`, next handler call
      some ({ c with pth := upd c.pth T { th with queue := m2 :: q }, handled := upd c.handled k (c.handled k ++ [m]) }, [.exit k m, .enter k m2])
    | some k, [m] =>            -- last Message of the batch: `_currentClient = NULL`, on to `ThreadFinishedProcessingClientMessages`
      some ({ c with pth := upd c.pth T { th with queue := [], cur := none, pc := .finLock k }, handled := upd c.handled k (c.handled k ++ [m]) }, [.exit k m])
    | _, _ => none
  | .finLock k =>   -- the critical section, then straight on to the next `WaitForNextMessageFromOwner` (the thread has left the lock wait: pc is reset first; `finishCS` never reads it and `fetch` always overwrites it)
    some (fetch (finishCS { c with pth := upd c.pth T { th with pc := .idle } } T k) T)

/-- the call in progress returned: on to the next one -/
def advance (u : UTh) : UTh :=
  match u.prog.tail with
  | [] => { u with pc := .done, prog := [] }
  | r => { u with pc := .opStart, prog := r }

/-- the `for` loop of `ShutdownThreadsInTableWithoutDeadlocking` up to its next park point: `ShutdownInternalThread()`
sends the NULL ref and joins; after the last thread the caller goes on to the next table / round / the final section -/
def sdNext (c : Cfg) (t : Tid) (second : Bool) (nA total n : Nat) : List PTid → Cfg
  | T :: rest =>
    { c with pth := upd c.pth T { (c.pth T) with inbox := (c.pth T).inbox ++ [.quit] },
             uth := upd c.uth t { (c.uth t) with pc := .sdJoin second nA total n T rest } }
  | [] =>
    if second = false then { c with uth := upd c.uth t { (c.uth t) with pc := .sdSwap true n total } }
    else if nA > 0 ∨ n > 0 then { c with uth := upd c.uth t { (c.uth t) with pc := .sdSwap false 0 (total + nA + n) } }
    else { c with uth := upd c.uth t { (c.uth t) with pc := .sdFinal total } }

/-- `iter.GetValue()->Notify()` for every entry of `_waitingForCompletion` -/
def notifyAll : List Client → (Client → Tid) → (Tid → UTh) → (Tid → UTh)
  | [], _, u => u
  | k :: ks, w, u => notifyAll ks w (upd u (w k) { (u (w k)) with notif := (u (w k)).notif + 1 })

/-- ghost: everything still queued counts as dropped -/
def dropAll (p : Pool) (d : Client → List MsgId) : Client → List MsgId :=
  fun k => d k ++ p.pend k ++ p.defr k

/-- one step of user thread t -/
def stepUser (c : Cfg) (t : Tid) : Option (Cfg × List Out) :=
  let u := c.uth t
  match u.pc with
  | .done => none
  | .opStart =>
    match u.prog with
    | [] => none
    | .sub k m :: _ =>
      if c.cptr k then some ({ c with uth := upd c.uth t { u with pc := .subLock k m } }, [])
      else some ({ c with uth := upd c.uth t (advance u) }, [.subErr])              -- `B_BAD_OBJECT`
    | .reg k :: _ =>
      if c.cptr k then some ({ c with uth := upd c.uth t (advance u) }, [.regNoop])
      else some ({ c with cptr := upd c.cptr k true, uth := upd c.uth t { u with pc := .regLock k } }, [])   -- `_threadPool = tp` precedes `RegisterClient`
    | .unreg k :: _ =>
      if c.cptr k then some ({ c with uth := upd c.uth t { u with pc := .unregLock1 k } }, [])
      else some ({ c with uth := upd c.uth t (advance u) }, [.unregNoop])
    | .shutdown :: _ => some ({ c with uth := upd c.uth t { u with pc := .sdLock } }, [])
  | .subLock k m =>
    let r := subCS c k m
    some ({ r.1 with uth := upd r.1.uth t (advance u) }, [if r.2 then .subOk else .subErr])
  | .regLock k =>     -- `RegisterClient`: `_registeredClients.Put(client, false)`
    some ({ c with p := { c.p with regK := addKey c.p.regK k, flag := upd c.p.flag k false }, uth := upd c.uth t (advance u) }, [.regOk])
  | .unregLock1 k =>
    if outstanding c.p k then
      some ({ c with p := { c.p with waitK := addKey c.p.waitK k, waitT := upd c.p.waitT k t }, uth := upd c.uth t { u with pc := .unregWait k } }, [])
    else some ({ c with uth := upd c.uth t { u with pc := .unregLock2 k } }, [])
  | .unregWait k =>
    if u.notif > 0 then some ({ c with uth := upd c.uth t { u with pc := .unregLock2 k, notif := 0 } }, []) else none
  | .unregLock2 k =>  -- "final cleanup", then `_threadPool = NULL` in `SetThreadPool`
    some ({ c with p := { c.p with regK := remKey c.p.regK k, flag := upd c.p.flag k false,
                                    pendK := remKey c.p.pendK k, pend := upd c.p.pend k [],
                                    defK := remKey c.p.defK k, defr := upd c.p.defr k [],
                                    waitK := remKey c.p.waitK k },
                    cptr := upd c.cptr k false,
                    dropped := upd c.dropped k (c.dropped k ++ c.p.pend k ++ c.p.defr k),
                    uth := upd c.uth t (advance u) }, [.unregOk])
  | .sdLock => some ({ c with p := { c.p with shut := true }, uth := upd c.uth t { u with pc := .sdSwap false 0 0 } }, [])
  | .sdSwap second nA total =>
    if second then
      some (sdNext { c with p := { c.p with active := [] } } t true nA total c.p.active.length c.p.active, [])
    else
      some (sdNext { c with p := { c.p with availR := [] } } t false nA total c.p.availR.length c.p.availR.reverse, [])
  | .sdJoin second nA total n T rest =>
    if (c.pth T).pc = .exited then some (sdNext c t second nA total n rest, []) else none
  | .sdFinal total =>
    let ret := total + c.p.regK.length + c.p.pendK.length + c.p.defK.length + c.p.waitK.length
    some ({ c with cptr := fun k => if k ∈ c.p.regK then false else c.cptr k,
                    dropped := dropAll c.p c.dropped,
                    p := { c.p with availR := [], active := [], regK := [], flag := fun _ => false, pendK := [], pend := fun _ => [],
                                    defK := [], defr := fun _ => [], waitK := [] },
                    uth := upd (notifyAll c.p.waitK c.p.waitT c.uth) t (advance (notifyAll c.p.waitK c.p.waitT c.uth t)) }, [.shut ret])

/-- scheduler thread i: user thread i, or pool thread i - nU -/
def step (c : Cfg) : Ev → Option (Cfg × List Out)
  | .run i => if i < c.nU then stepUser c i else stepPool c (i - c.nU)
  | .timeout _ => none      -- no timed wait in this engine

def machine : Machine := { C := Cfg, O := List Out, step := step }

def UTh.ofProg (prog : List Op) : UTh := { pc := if prog = [] then .done else .opStart, prog := prog, notif := 0 }

def Pool.init (maxT : Nat) (regs : List Client) : Pool :=
  { maxT := maxT, shut := false, idc := 0, availR := [], active := [], regK := regs.foldl addKey [], flag := fun _ => false,
    pendK := [], pend := fun _ => [], defK := [], defr := fun _ => [], waitK := [], waitT := fun _ => 0 }

/-- initial configuration: a fresh `ThreadPool(maxT)`, the clients in `regs` registered (sequentially, before any
thread starts), user thread i about to run `progs[i]` -/
def Cfg.init (maxT : Nat) (regs : List Client) (progs : List (List Op)) : Cfg :=
  { p := Pool.init maxT regs, pth := fun _ => PTh.absent,
    uth := fun t => match progs[t]? with | some pr => UTh.ofProg pr | none => UTh.ofProg [],
    cptr := fun k => decide (k ∈ regs), nU := progs.length,
    submitted := fun _ => [], handled := fun _ => [], dropped := fun _ => [] }

end Muscle.Conc.TP
