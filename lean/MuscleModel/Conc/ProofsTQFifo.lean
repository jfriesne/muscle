import MuscleModel.Conc.ProofsTQStep

/-! # C11 lemmas: exactly once and in order (`received ++ queued = sent`, per direction) -/

namespace Muscle.Conc.TQ
open Muscle.Conc

def Chan.Fifo (c : Chan) : Prop := c.recvd ++ c.queue = c.sent

def Sh.Fifo (s : Sh) : Prop := s.ci.Fifo ∧ s.co.Fifo

theorem fifo_push {c : Chan} (h : c.Fifo) (it : Item) : (c.push it).Fifo := by
  simp only [Chan.Fifo, Chan.push] at *; rw [← h, List.append_assoc]

theorem fifo_pop {c : Chan} {it : Item} {rest : List Item} (h : c.Fifo) (hq : c.queue = it :: rest) : (c.pop it rest).Fifo := by
  simp only [Chan.Fifo, Chan.pop] at *; rw [← h, hq, List.append_assoc]; rfl

theorem fifo_setSig {s : Sh} (h : s.Fifo) (d : Dir) (n : Nat) : (s.setSig d n).Fifo := by cases d <;> exact h

theorem fifo_signal {s : Sh} (h : s.Fifo) (d : Dir) : (signal s d).Fifo := by
  rw [signal_eq]; exact fifo_setSig h d _

theorem fifo_drain {s : Sh} (h : s.Fifo) (d : Dir) : (drain s d).Fifo := by
  rw [drain_eq]; exact fifo_setSig h d _

theorem fifo_spawn {s : Sh} (h : s.Fifo) : (spawn s).Fifo := by unfold spawn; split <;> exact h

/-- the queue-changing events are the two pushes and the pop; all others touch at most signal counts and flags -/
theorem fifo_ustep {s s' : Sh} {i i' : IPc} {th v : UTh} {o : Out} (h : s.Fifo) : UStep s i th s' v i' o → s'.Fifo
  | .sendFirst .. | .sendMore .. => ⟨fifo_push h.1 _, h.2⟩
  | .recvGot _ hq => ⟨h.1, fifo_pop h.2 hq⟩
  | .startSig .. | .started .. => fifo_spawn h
  | .sendSig .. | .startSigDone .. => fifo_signal h _
  | .toRecv .. | .wakeSock .. => fifo_drain h _
  | .wakeCond .. => fifo_setSig h _ 0
  | .finish .. | .toSend .. | .startErr .. | .toShutdown .. | .shutdownNoop .. | .toJoin .. | .recvNone .. | .recvBad ..
  | .recvBlock .. | .joinErr .. | .joinOk .. | .timeout .. => h

theorem fifo_istep {s s' : Sh} {i i' : IPc} {o : Out} (h : s.Fifo) : IStep s i s' i' o → s'.Fifo
  | .exit hq | .recvReply hq _ => ⟨fifo_pop h.1 hq, h.2⟩
  | .recvLast hq _ => fifo_drain (s := { s with ci := _ }) ⟨fifo_pop h.1 hq, h.2⟩ _
  | .replyFirst .. | .replyNext .. => ⟨h.1, fifo_push h.2 _⟩
  | .replyLast (id := id) (j := j) .. => fifo_drain (s := { s with co := s.co.push (some (replyMsg id j)) }) ⟨h.1, fifo_push h.2 _⟩ _
  | .entrySig .. | .sigLast .. => fifo_drain (fifo_signal h _) _
  | .sigNext .. => fifo_signal h _
  | .entryNone .. | .pollNone .. | .wakeSock .. => fifo_drain h _
  | .wakeCond .. => fifo_setSig h _ 0
  | .start .. | .entryFound .. | .block .. => h

theorem fifo_step {c c' : Cfg} {e : Ev} {o : Out} (h : c.sh.Fifo) (hs : step c e = some (c', o)) : c'.sh.Fifo := by
  rcases step_some hs with ⟨t, s', v, i', _, hu, rfl⟩ | ⟨s', i', hi, rfl⟩
  · exact fifo_ustep h hu
  · exact fifo_istep h hi

theorem fifo_init (mode : Mode) (progs : List (List Op)) : (Cfg.init mode progs).sh.Fifo := ⟨rfl, rfl⟩

theorem reach_fifo {mode : Mode} {progs : List (List Op)} {c : Cfg} (h : machine.Reach (Cfg.init mode progs) c) : c.sh.Fifo :=
  Machine.Reach.invariant machine (fun c => c.sh.Fifo) (fifo_init mode progs) (fun _ _ _ _ hp hs => fifo_step hp hs) h

end Muscle.Conc.TQ
