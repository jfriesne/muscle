import MuscleModel.Conc.ProofsRWLive
import MuscleModel.Conc.ProofsRWCounts

/-!
# `ReaderWriterMutex`: which try/timed calls are bounded and which are not (finding F13, timed variant)

In the clock-free model "bounded" means: the calling thread never depends on another thread to get out of the call —
in every reachable configuration it has an enabled event of its own (a step, or the time-out of its timed wait).
Result: every `TryLock…`/timed call is bounded in this sense EXCEPT inside the re-take stage of a *failed timed
read→write upgrade* (`LockReadWriteAux` re-takes the read locks with the untimed `LockReadOnly()`), and that exception
is real (witness schedule in `Props/C18.lean`).

Two parts: first the invariant this needs, `ModeInv` (no wait loop runs with time-out 0), with its lemma at the level of
`applyRes`, which `ProofsRWTable` uses; then the classification itself, which rests on all of `MxInv`, `CtlInv`, `CountInv`,
`ModeInv` in one configuration and on no step. -/

namespace Muscle.Conc.RW
open Muscle.Conc

def Pc.mode? : Pc → Option Mode
  | .rWait m => some m | .rWoke m _ => some m | .wWait m => some m | .wWoke m _ => some m | _ => none

/-- no wait loop and no upgrade activation ever runs with time-out 0 (`TryLock…` returns from its first critical section) -/
def NoTry (th : Th) : Prop := th.pc.mode? ≠ some .try_ ∧ ∀ u, u ∈ th.ctx → u.m ≠ .try_

def ModeInv (c : Cfg) : Prop := ∀ t, NoTry (c.th t)

theorem noTry_nextOp {th : Th} (hctx : th.ctx = []) : NoTry (nextOp th) := by
  refine ⟨?_, by simp [hctx]⟩
  unfold nextOp; split
  · simp [Pc.mode?]
  · next op _ _ => cases op <;> simp [startPc, Pc.mode?]

theorem noTry_finish {th : Th} (h : NoTry th) (st : St) : NoTry (finish th.ctx th st).1 := by
  rcases finish_cases th.ctx th st with ⟨st', e⟩ | ⟨u, rest, sg, pc, hs, hpc, e⟩ <;> rw [e]
  · exact noTry_nextOp (by simp)
  · have hsub := fun v hv => h.2 v (hs.subset hv)
    exact ⟨by rcases hpc with rfl | rfl | rfl <;> simp [Pc.mode?],
      List.forall_mem_cons.2 ⟨hsub u (List.mem_cons_self ..), fun v hv => hsub v (List.mem_cons_of_mem _ hv)⟩⟩

theorem Op.waitPc_mode {op : Op} {m : Mode} (h : op.waitPc.mode? = some m) : op.mode = m := by
  cases op <;> simp_all [Op.waitPc, Pc.mode?, Op.mode]

theorem noTry_applyRes {c : Cfg} {t : Tid} {s' : Mx} {r : Res} {op : Op} (h : NoTry (c.th t))
    (hm : op.mode = .try_ → ∃ st, r = .done st) : NoTry ((applyRes c t s' r op.waitPc op.mode).1.th t) := by
  rw [applyRes_self]
  cases r with
  | done st => exact noTry_finish h st
  | wait => exact ⟨fun e => (nomatch hm (Op.waitPc_mode e)), h.2⟩
  | upgrade n =>
    have hm : op.mode ≠ .try_ := fun e => nomatch hm e
    simp only
    split <;> exact ⟨by simp [Pc.mode?], List.forall_mem_cons.2 ⟨hm, h.2⟩⟩

theorem init_modeInv (p : Bool) (progs : List (List Op)) : ModeInv (Cfg.init p progs) := by
  intro t
  simp only [Cfg.init]
  split
  · exact noTry_nextOp rfl
  · exact ⟨by simp [Th.idle, Pc.mode?], by simp [Th.idle]⟩

/-- the current call is a try or a timed lock call: anything but `MUSCLE_TIME_NEVER`.  (A timed call can still wait, up to its
time-out; "non-blocking" is meant as "bounded".) -/
def NonBlockingCall (th : Th) : Prop := ∃ m, m ≠ .block ∧ (th.cur = .lockR m ∨ th.cur = .lockW m)

/-- the thread is in the re-take stage of an upgrade whose `LockReadWriteAux` did not succeed -/
def InFailedRetake (th : Th) : Prop := ∃ u k ret, th.ctx = [u] ∧ u.stage = .retake k ret ∧ ret ≠ .ok

theorem parked_mode_timed {c : Cfg} (hm : MxInv c.mx) (hc : CtlInv c) (hn : CountInv c) (hmo : ModeInv c) {t : Tid}
    (hnb : NonBlockingCall (c.th t)) (hnot : ¬ InFailedRetake (c.th t)) {m : Mode}
    (hpc : (c.th t).pc = .rWait m ∨ (c.th t).pc = .wWait m) : m = .timed := by
  have hnt : m ≠ .try_ := fun e => (hmo t).1 (by rcases hpc with h | h <;> (rw [h, e]; rfl))
  suffices hb : m ≠ .block by cases m <;> simp_all
  obtain ⟨m0, hm0, hcur⟩ := hnb
  -- the call the thread waits in is the call in progress, or the `LockReadWriteAux(u.m)` of its upgrade
  have inCall : ∀ op, (c.th t).pc.call = some op → (c.th t).cur = op → m ≠ .block := by
    intro op hk e
    rcases hpc with h | h <;> rw [h] at hk <;> obtain rfl := Option.some.inj hk <;> rcases hcur with e' | e' <;>
      rw [e] at e' <;> cases e' <;> exact hm0
  cases hn t with
  | plain _ _ _ hcur' =>
    obtain ⟨op, hk⟩ : ∃ op, (c.th t).pc.call = some op := by rcases hpc with h | h <;> exact ⟨_, by rw [h]; rfl⟩
    exact inCall op hk (hcur' op hk)
  | drop _ _ hk => rcases hpc with h | h <;> rw [h] at hk <;> cases hk
  | lock hu _ hk => exact inCall _ hk hu.cur
  | @retake u k ret hu hsg _ _ _ _ hw =>
    -- the upgrade was granted: the thread holds the write lock, so it is executing and cannot be parked
    have hret : ret = .ok := Classical.byContradiction fun hne => hnot ⟨u, k, ret, hu.ctx, hsg, hne⟩
    have hwait : (c.th t).pc.rWaiting = true ∨ (c.th t).pc.wWaiting = true := by
      rcases hpc with h | h <;> rw [h] <;> simp [Pc.rWaiting, Pc.wWaiting]
    have := (hm.absent (hc.notExec t hwait)).2
    rw [hw, if_pos hret] at this; cases this

/-- **Bounded calls.**  A thread inside a try/timed acquisition that is not in the re-take stage of a failed upgrade has an
enabled event of its own: it can take a step, or its time-out can fire. -/
theorem nonblocking_call_proceeds {c : Cfg} (hm : MxInv c.mx) (hc : CtlInv c) (hn : CountInv c) (hmo : ModeInv c) {t : Tid}
    (hunf : (c.th t).pc ≠ .done) (hnb : NonBlockingCall (c.th t)) (hnot : ¬ InFailedRetake (c.th t)) :
    (∃ c' o, stepRun c t = some (c', o)) ∨ (∃ c' o, stepTimeout c t = some (c', o)) := by
  by_cases hp : c.mx.pend t > 0
  · exact .inl (enabled_of_not_parked hunf (fun _ _ => hp) (fun _ _ => hp))
  have hp0 : c.mx.pend t = 0 := by omega
  by_cases hr : ∃ m, (c.th t).pc = .rWait m
  · obtain ⟨m, hpc⟩ := hr
    obtain rfl := parked_mode_timed hm hc hn hmo hnb hnot (.inl hpc)
    right; unfold stepTimeout; simp only [hpc]; rw [if_pos hp0]; exact ⟨_, _, rfl⟩
  by_cases hw : ∃ m, (c.th t).pc = .wWait m
  · obtain ⟨m, hpc⟩ := hw
    obtain rfl := parked_mode_timed hm hc hn hmo hnb hnot (.inr hpc)
    right; unfold stepTimeout; simp only [hpc]; rw [if_pos hp0]; exact ⟨_, _, rfl⟩
  exact .inl (enabled_of_not_parked hunf (fun m h => (hr ⟨m, h⟩).elim) (fun m h => (hw ⟨m, h⟩).elim))

/-- **The only unbounded call.**  If a thread inside a try/timed acquisition has no enabled event of its own, then the call
is a *timed* `LockReadWrite()` (read→write upgrade) whose inner write-lock attempt failed, and the thread is parked in the
untimed `Wait()` of the `LockReadOnly()` that re-takes its read locks. -/
theorem stuck_call_is_failed_timed_upgrade {c : Cfg} (hm : MxInv c.mx) (hc : CtlInv c) (hn : CountInv c) (hmo : ModeInv c) {t : Tid}
    (hunf : (c.th t).pc ≠ .done) (hnb : NonBlockingCall (c.th t))
    (hstuck : stepRun c t = none ∧ stepTimeout c t = none) :
    ∃ u k ret, (c.th t).ctx = [u] ∧ u.stage = .retake k ret ∧ ret ≠ .ok ∧ u.m = .timed ∧
      (c.th t).cur = .lockW .timed ∧ (c.th t).pc = .rWait .block ∧ c.mx.pend t = 0 := by
  have parked : (∃ m, (c.th t).pc = .rWait m ∨ (c.th t).pc = .wWait m) ∧ c.mx.pend t = 0 := by
    refine Classical.byContradiction fun hn' => ?_
    obtain ⟨_, _, h⟩ := enabled_of_not_parked (c := c) (t := t) hunf
      (fun m e => Nat.pos_of_ne_zero fun h0 => hn' ⟨⟨m, .inl e⟩, h0⟩) (fun m e => Nat.pos_of_ne_zero fun h0 => hn' ⟨⟨m, .inr e⟩, h0⟩)
    rw [hstuck.1] at h; cases h
  have hin : InFailedRetake (c.th t) := Classical.byContradiction fun hnot => by
    rcases nonblocking_call_proceeds hm hc hn hmo hunf hnb hnot with ⟨_, _, h⟩ | ⟨_, _, h⟩
    · rw [hstuck.1] at h; cases h
    · rw [hstuck.2] at h; cases h
  obtain ⟨u, k, ret, hctx, hsg, hret⟩ := hin
  obtain ⟨m0, hm0, hcur⟩ := hnb
  cases hn t with
  | plain hctx' => rw [hctx] at hctx'; cases hctx'
  | drop hu hsg' | lock hu hsg' => obtain rfl := List.cons.inj (hctx.symm.trans hu.ctx) |>.1; rw [hsg] at hsg'; cases hsg'
  | retake hu _ hk =>
    obtain rfl := List.cons.inj (hctx.symm.trans hu.ctx) |>.1
    have hum : u.m = .timed := by
      have hnt : u.m ≠ .try_ := (hmo t).2 u (by simp [hctx])
      have hnbk : u.m ≠ .block := by rcases hcur with e | e <;> rw [hu.cur] at e <;> cases e; exact hm0
      cases hmm : u.m <;> simp_all
    refine ⟨u, k, ret, hctx, hsg, hret, hum, by rw [hu.cur, hum], ?_, parked.2⟩
    obtain ⟨⟨m, hpc | hpc⟩, _⟩ := parked <;> rw [hpc] at hk <;> cases hk
    exact hpc

end Muscle.Conc.RW
