import MuscleModel.Conc.Pool
import MuscleModel.Base.Adds

/-!
# Invariant of the `ObjectPool` bookkeeping (lemmas for C10)

`PoolInv p`: every listed slab has `N` nodes, its free list (the chain of `_nextIndex` from `_firstFreeNodeIndex`) is a
duplicate-free list of exactly the nodes that are not handed out, its length plus `_numNodesInUse` is `N`; slab
identities are distinct and older than `nextSlab`; `_curPoolSize` is the number of free nodes of the listed slabs.
-/

namespace Muscle.Conc.Pool

/-- `Chain nodes first fl`: following `_nextIndex` from `first` visits exactly the list `fl` and ends in INVALID -/
def Chain (nodes : List Node) : Option Nat → List Nat → Prop
  | first, [] => first = none
  | first, i :: rest => first = some i ∧ ∃ nd, nodes[i]? = some nd ∧ Chain nodes nd.next rest

def outCount : List Node → Nat
  | [] => 0
  | nd :: r => (if nd.out then 1 else 0) + outCount r

structure SlabOK (N : Nat) (s : Slab) : Prop where
  len : s.nodes.length = N
  cnt : s.inUse = outCount s.nodes
  fl : ∃ fl : List Nat, Chain s.nodes s.first fl ∧ fl.Nodup ∧ (∀ i, i ∈ fl ↔ ∃ nd, s.nodes[i]? = some nd ∧ nd.out = false) ∧
        fl.length + s.inUse = N

def freeCount (N : Nat) : List Slab → Nat
  | [] => 0
  | s :: r => (N - s.inUse) + freeCount N r

structure PoolInv (p : PoolSt) : Prop where
  npos : 0 < p.N
  slabs : ∀ s ∈ p.slabs, SlabOK p.N s
  ids : (p.slabs.map (·.id)).Nodup
  old : ∀ s ∈ p.slabs, s.id < p.nextSlab
  cur : p.cur = freeCount p.N p.slabs

theorem init_poolInv (N maxPool : Nat) (hN : 0 < N) : PoolInv (PoolSt.init N maxPool) :=
  ⟨hN, by simp [PoolSt.init], by simp [PoolSt.init], by simp [PoolSt.init], by simp [PoolSt.init, freeCount]⟩

theorem adds_outCount : Adds (fun nd : Node => if nd.out then 1 else 0) outCount := ⟨rfl, fun _ _ => rfl⟩

theorem adds_freeCount (N : Nat) : Adds (fun s : Slab => N - s.inUse) (freeCount N) := ⟨rfl, fun _ _ => rfl⟩

theorem outCount_set {l : List Node} {i : Nat} {nd x : Node} (h : l[i]? = some nd) :
    outCount (l.set i x) + (if nd.out then 1 else 0) = outCount l + (if x.out then 1 else 0) :=
  adds_outCount.set h x

theorem outCount_zero {l : List Node} (h : outCount l = 0) {i : Nat} {nd : Node} (hi : l[i]? = some nd) : nd.out = false := by
  have := adds_outCount.le_of_mem (List.mem_of_getElem? hi)
  rw [h] at this
  cases hn : nd.out with
  | false => rfl
  | true => rw [hn] at this; cases this

theorem chain_set {nodes : List Node} {first : Option Nat} {fl : List Nat} {i : Nat} {x : Node} (hi : i ∉ fl)
    (h : Chain nodes first fl) : Chain (nodes.set i x) first fl := by
  induction fl generalizing first with
  | nil => exact h
  | cons j rest ih =>
    obtain ⟨h1, nd, h2, h3⟩ := h
    simp only [List.mem_cons, not_or] at hi
    refine ⟨h1, nd, ?_, ih hi.2 h3⟩
    rw [List.getElem?_set]; simp [hi.1, h2]

/-- the free list of a fresh slab: N-1, N-2, …, 0 -/
def down : Nat → List Nat
  | 0 => []
  | n + 1 => n :: down n

theorem mem_down {n i : Nat} : i ∈ down n ↔ i < n := by
  induction n with
  | zero => simp [down]
  | succ n ih => simp [down, ih]; omega

theorem nodup_down (n : Nat) : (down n).Nodup := by
  induction n with
  | zero => simp [down]
  | succ n ih => simp only [down, List.nodup_cons]; exact ⟨by rw [mem_down]; omega, ih⟩

theorem length_down (n : Nat) : (down n).length = n := by
  induction n with
  | zero => rfl
  | succ n ih => simp [down, ih]

theorem newSlab_get {N i : Nat} (id : Nat) (h : i < N) :
    (newSlab N id).nodes[i]? = some { next := if i = 0 then none else some (i - 1), out := false } := by
  simp [newSlab, List.getElem?_map, List.getElem?_range h]

theorem newSlab_out {N id i : Nat} {nd : Node} (h : (newSlab N id).nodes[i]? = some nd) : nd.out = false ∧ i < N := by
  simp only [newSlab, List.getElem?_map] at h
  cases hr : (List.range N)[i]? with
  | none => rw [hr] at h; cases h
  | some j =>
    rw [hr] at h; simp at h; subst h
    have : i < (List.range N).length := by
      rcases List.getElem?_eq_some_iff.mp hr with ⟨hl, _⟩; exact hl
    exact ⟨rfl, by simpa using this⟩

theorem chain_newSlab (N id : Nat) : ∀ k, k ≤ N → Chain (newSlab N id).nodes (if k = 0 then none else some (k - 1)) (down k) := by
  intro k
  induction k with
  | zero => intro _; rfl
  | succ k ih =>
    intro hk
    refine ⟨by simp, _, newSlab_get id (by omega), ?_⟩
    simpa using ih (by omega)

theorem outCount_newSlab (N id : Nat) : outCount (newSlab N id).nodes = 0 :=
  adds_outCount.eq_zero fun nd hnd => by
    obtain ⟨i, _, rfl⟩ := List.mem_map.mp hnd; rfl

theorem newSlab_ok (N id : Nat) : SlabOK N (newSlab N id) := by
  refine ⟨by simp [newSlab], (outCount_newSlab N id).symm, down N, chain_newSlab N id N (Nat.le_refl _), nodup_down N, ?_,
    by simp [newSlab, length_down]⟩
  intro i
  rw [mem_down]
  constructor
  · intro hi; exact ⟨_, newSlab_get id hi, rfl⟩
  · rintro ⟨nd, h1, _⟩; exact (newSlab_out h1).2

structure Popped (N : Nat) (s s' : Slab) (i : Nat) : Prop where
  ok : SlabOK N s'
  inUse : s'.inUse = s.inUse + 1
  room : s.inUse < N
  idx : i < N
  id : s'.id = s.id
  nodes : s'.nodes = s.nodes.set i ⟨none, true⟩
  wasFree : ∃ nd, s.nodes[i]? = some nd ∧ nd.out = false

theorem pop_ok {N : Nat} {s s' : Slab} {i : Nat} (h : SlabOK N s) (hp : s.pop = some (i, s')) : Popped N s s' i := by
  obtain ⟨hlen, hcnt, fl, hch, hnd, hiff, hl⟩ := h
  unfold Slab.pop at hp
  cases hf : s.first with
  | none => rw [hf] at hp; cases hp
  | some j =>
    rw [hf] at hp
    simp only [Option.some.injEq, Prod.mk.injEq] at hp
    obtain ⟨rfl, rfl⟩ := hp
    cases fl with
    | nil => simp [Chain, hf] at hch
    | cons k rest =>
      obtain ⟨h1, nd, h2, h3⟩ := hch
      rw [hf] at h1; cases h1
      have hjn : j < N := by
        rcases List.getElem?_eq_some_iff.mp h2 with ⟨hl', _⟩; omega
      have hout : nd.out = false := by
        obtain ⟨nd', h4, h5⟩ := (hiff j).mp (by simp)
        rw [h2] at h4; cases h4; exact h5
      have hjr : j ∉ rest := (List.nodup_cons.mp hnd).1
      have hgd : (s.nodes.getD j ⟨none, false⟩).next = nd.next := by simp [List.getD_eq_getElem?_getD, h2]
      simp only [List.length_cons] at hl
      refine ⟨⟨by simp [hlen], ?_, rest, ?_, (List.nodup_cons.mp hnd).2, ?_, by simp only; omega⟩, rfl, by omega, hjn, rfl, rfl, nd, h2, hout⟩
      · have := outCount_set (x := ⟨none, true⟩) h2
        simp only [hout] at this; simp at this; simp only; omega
      · simp only [hgd]; exact chain_set hjr h3
      · intro m
        simp only [List.getElem?_set]
        by_cases hm : j = m
        · subst hm; simp [hjr, show j < s.nodes.length by omega]
        · have := hiff m
          simp only [List.mem_cons] at this
          simp only [hm, if_false]
          rw [← this]; constructor
          · intro h; exact Or.inr h
          · rintro (h | h)
            · exact absurd h.symm hm
            · exact h

theorem pop_none {N : Nat} {s : Slab} (h : SlabOK N s) (hp : s.pop = none) : s.inUse = N := by
  obtain ⟨hlen, hcnt, fl, hch, hnd, hiff, hl⟩ := h
  unfold Slab.pop at hp
  cases hf : s.first with
  | some j => rw [hf] at hp; cases hp
  | none =>
    cases fl with
    | nil => simpa using hl
    | cons k rest => obtain ⟨h1, _⟩ := hch; rw [hf] at h1; cases h1

theorem push_ok {N : Nat} {s : Slab} {i : Nat} {nd : Node} (h : SlabOK N s) (hi : s.nodes[i]? = some nd) (ho : nd.out = true) :
    SlabOK N (s.push i) ∧ (s.push i).inUse + 1 = s.inUse ∧ s.inUse ≤ N := by
  obtain ⟨hlen, hcnt, fl, hch, hnd, hiff, hl⟩ := h
  have hif : i ∉ fl := by
    intro hm; obtain ⟨nd', h1, h2⟩ := (hiff i).mp hm
    rw [hi] at h1; cases h1; rw [ho] at h2; cases h2
  have hoc := outCount_set (x := ⟨s.first, false⟩) hi
  simp only [ho] at hoc; simp at hoc
  have hilt : i < s.nodes.length := by
    rcases List.getElem?_eq_some_iff.mp hi with ⟨hl', _⟩; exact hl'
  refine ⟨⟨by simp [Slab.push, hlen], by simp only [Slab.push]; omega, i :: fl, ?_, List.nodup_cons.mpr ⟨hif, hnd⟩, ?_, by simp only [Slab.push, List.length_cons]; omega⟩,
    by simp only [Slab.push]; omega, by omega⟩
  · refine ⟨rfl, ⟨s.first, false⟩, by simp [Slab.push, hilt], ?_⟩
    exact chain_set hif hch
  · intro m
    simp only [Slab.push, List.getElem?_set, List.mem_cons]
    by_cases hm : i = m
    · subst hm; simp [hilt]
    · simp only [hm, if_false]
      rw [← hiff m]; constructor
      · rintro (h | h)
        · exact absurd h.symm hm
        · exact h
      · intro h; exact Or.inr h

end Muscle.Conc.Pool
