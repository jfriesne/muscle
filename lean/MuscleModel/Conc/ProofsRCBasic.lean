import MuscleModel.Conc.RefCount
import MuscleModel.Conc.ProofsPoolSpec

/-!
# Counting references (lemmas for C10)

`refs c o` counts the references to `o`: reference-counting `Ref` slots of every thread, global slots, pending
decrements (a pending `Act.dec o` / `Act.decNoDel o` is a reference the C++ code still holds) and the `next` members of
other objects (`Cfg.links`).
-/

namespace Muscle.Conc.RC
open Muscle.Conc Muscle.Conc.Pool

def b2n (b : Bool) : Nat := if b then 1 else 0

@[simp] theorem b2n_true : b2n true = 1 := rfl
@[simp] theorem b2n_false : b2n false = 0 := rfl

def cntS : List Slot → Oid → Nat
  | [], _ => 0
  | x :: r, o => (if x = some (o, true) then 1 else 0) + cntS r o

def cntDec : List Act → Oid → Nat
  | [], _ => 0
  | .dec x :: r, o => (if x = o then 1 else 0) + cntDec r o
  | .decNoDel x :: r, o => (if x = o then 1 else 0) + cntDec r o
  | _ :: r, o => cntDec r o

/-- number of pending `ReleaseObject(o)` critical sections -/
def cntRel : List Act → Oid → Nat
  | [], _ => 0
  | .release x :: r, o => (if x = o then 1 else 0) + cntRel r o
  | _ :: r, o => cntRel r o

def Th.refs (th : Th) (o : Oid) : Nat := cntS th.slots o + cntDec th.todo o

def sumT (f : Th → Nat) : List Th → Nat
  | [] => 0
  | x :: r => f x + sumT f r

def cntL : List (Oid × Oid) → Oid → Nat
  | [], _ => 0
  | p :: r, o => (if p.2 = o then 1 else 0) + cntL r o

def refs (c : Cfg) (o : Oid) : Nat := sumT (fun th => th.refs o) c.ths + cntS c.glob o + cntL c.links o

def pendRel (c : Cfg) (o : Oid) : Nat := sumT (fun th => cntRel th.todo o) c.ths

def outBitO (p : PoolSt) : Oid → Bool
  | .heap _ => false
  | .node s i => outBit p s i

/-- 1 for a pool node that is alive, 0 otherwise (heap objects never go through the pool) -/
def aliveN (f : Oid → Obj) : Oid → Nat
  | .heap _ => 0
  | .node s i => b2n (f (.node s i)).alive

theorem adds_cntS (o : Oid) : Adds (fun x : Slot => if x = some (o, true) then 1 else 0) (cntS · o) := ⟨rfl, fun _ _ => rfl⟩
theorem adds_cntL (o : Oid) : Adds (fun p : Oid × Oid => if p.2 = o then 1 else 0) (cntL · o) := ⟨rfl, fun _ _ => rfl⟩
theorem adds_sumT (f : Th → Nat) : Adds f (sumT f) := ⟨rfl, fun _ _ => rfl⟩
theorem adds_cntDec (o : Oid) : Adds (fun a => cntDec [a] o) (cntDec · o) := ⟨rfl, fun a _ => by cases a <;> simp [cntDec]⟩
theorem adds_cntRel (o : Oid) : Adds (fun a => cntRel [a] o) (cntRel · o) := ⟨rfl, fun a _ => by cases a <;> simp [cntRel]⟩

theorem cntS_set {l : List Slot} {a : Nat} {x y : Slot} {o : Oid} (h : l[a]? = some x) :
    cntS (l.set a y) o + (if x = some (o, true) then 1 else 0) = cntS l o + (if y = some (o, true) then 1 else 0) :=
  (adds_cntS o).set h y

/-- the weight of `cntS` in the form in which `cntDec` states it -/
theorem slot_counting_inj {o x : Oid} : ((some (o, true) : Slot) = some (x, true)) ↔ o = x := by simp

theorem cntS_set_oob {l : List Slot} {a : Nat} {y : Slot} (h : l[a]? = none) : l.set a y = l :=
  List.set_eq_of_length_le (List.getElem?_eq_none_iff.mp h)

theorem cntS_replicate_none (n : Nat) (o : Oid) : cntS (List.replicate n none) o = 0 :=
  (adds_cntS o).eq_zero fun x hx => by rw [List.eq_of_mem_replicate hx]; rfl

theorem cntS_pos {l : List Slot} {a : Nat} {o : Oid} (h : l[a]? = some (some (o, true))) : 0 < cntS l o :=
  Nat.lt_of_lt_of_le (by simp) ((adds_cntS o).le_of_mem (List.mem_of_getElem? h))

theorem cntL_pos {l : List (Oid × Oid)} {x n : Oid} (h : (x, n) ∈ l) : 0 < cntL l n :=
  Nat.lt_of_lt_of_le (by simp) ((adds_cntL n).le_of_mem h)

theorem cntDec_append (l r : List Act) (o : Oid) : cntDec (l ++ r) o = cntDec l o + cntDec r o := (adds_cntDec o).append l r
theorem cntRel_append (l r : List Act) (o : Oid) : cntRel (l ++ r) o = cntRel l o + cntRel r o := (adds_cntRel o).append l r
theorem cntDec_cons (a : Act) (l : List Act) (o : Oid) : cntDec (a :: l) o = cntDec [a] o + cntDec l o := (adds_cntDec o).cons a l
theorem cntRel_cons (a : Act) (l : List Act) (o : Oid) : cntRel (a :: l) o = cntRel [a] o + cntRel l o := (adds_cntRel o).cons a l

theorem sumT_set {f : Th → Nat} {l : List Th} {t : Nat} {th th' : Th} (h : l[t]? = some th) :
    sumT f (l.set t th') + f th = sumT f l + f th' :=
  (adds_sumT f).set h th'

theorem sumT_zero {f : Th → Nat} {l : List Th} (h : ∀ th ∈ l, f th = 0) : sumT f l = 0 := (adds_sumT f).eq_zero h

theorem sumT_pos_mem {f : Th → Nat} {l : List Th} (h : 0 < sumT f l) : ∃ th ∈ l, 0 < f th := (adds_sumT f).pos_mem h

theorem sumT_ge_mem {f : Th → Nat} {l : List Th} {th : Th} (h : th ∈ l) : f th ≤ sumT f l := (adds_sumT f).le_of_mem h

theorem slots_get_of_lt {th : Th} {a : Nat} (ha : a < th.slots.length) : th.slots[a]? = some (slotOf th a) := by
  simp [slotOf, List.getElem?_eq_getElem ha]

theorem slot_get {th : Th} {a : Nat} {v : Oid × Bool} (hs : slotOf th a = some v) : th.slots[a]? = some (some v) := by
  unfold slotOf at hs
  cases hx : th.slots[a]? with
  | none => rw [hx] at hs; simp at hs
  | some y => rw [hx] at hs; simp at hs; rw [hs]

theorem slot_lt {th : Th} {a : Nat} {v : Oid × Bool} (hs : slotOf th a = some v) : a < th.slots.length := by
  rcases List.getElem?_eq_some_iff.mp (slot_get hs) with ⟨hl, _⟩; exact hl

theorem countsElsewhere_spec {th : Th} {a : Nat} {o : Oid} (h : countsElsewhere th a o = true) : ∃ b, b ≠ a ∧ slotOf th b = some (o, true) := by
  simp only [countsElsewhere, List.any_eq_true, List.mem_range, decide_eq_true_eq] at h
  obtain ⟨b, _, h1, h2⟩ := h
  exact ⟨b, h1, h2⟩

theorem mem_dropKey {l : List (Oid × Oid)} {x : Oid} {p : Oid × Oid} : p ∈ dropKey l x ↔ p ∈ l ∧ p.1 ≠ x := by
  simp [dropKey, List.mem_filter]

theorem nodup_dropKey {l : List (Oid × Oid)} (h : (l.map (·.1)).Nodup) (x : Oid) : ((dropKey l x).map (·.1)).Nodup :=
  List.Nodup.sublist (List.Sublist.map _ List.filter_sublist) h

theorem nodup_cons_dropKey {l : List (Oid × Oid)} (h : (l.map (·.1)).Nodup) (x n : Oid) : (((x, n) :: dropKey l x).map (·.1)).Nodup := by
  simp only [List.map_cons, List.nodup_cons]
  refine ⟨?_, nodup_dropKey h x⟩
  intro hm; obtain ⟨p, hp, he⟩ := List.mem_map.mp hm
  exact (mem_dropKey.mp hp).2 he

theorem nextOf_mem {l : List (Oid × Oid)} {x n : Oid} (h : nextOf l x = some n) : (x, n) ∈ l := by
  simp only [nextOf] at h
  cases hf : l.find? (fun p => p.1 = x) with
  | none => rw [hf] at h; cases h
  | some p =>
    rw [hf] at h; simp at h
    have h1 := List.mem_of_find?_eq_some hf
    have h2 : p.1 = x := by simpa using List.find?_some hf
    have : p = (x, n) := by cases p; simp at h2 h; rw [h2, h]
    rw [← this]; exact h1

theorem cntL_dropKey {l : List (Oid × Oid)} (hnd : (l.map (·.1)).Nodup) (x o : Oid) :
    cntL (dropKey l x) o + (if nextOf l x = some o then 1 else 0) = cntL l o := by
  rw [← (adds_cntL o).filter_key (·.1) hnd x, dropKey, nextOf]
  cases l.find? (fun p => p.1 = x) <;> simp

theorem cntDec_decOld (x : Slot) (o : Oid) : cntDec (decOld x) o = if x = some (o, true) then 1 else 0 := by
  unfold decOld
  split
  · rename_i o'; simp [cntDec]
  · rename_i hx
    have : ¬ x = some (o, true) := fun e => hx o e
    simp [cntDec, this]

theorem cntRel_decOld (x : Slot) (o : Oid) : cntRel (decOld x) o = 0 := by
  unfold decOld; split <;> simp [cntRel]

theorem cntDec_decNext (x : Option Oid) (o : Oid) : cntDec (decNext x) o = if x = some o then 1 else 0 := by
  cases x <;> simp [decNext, cntDec]

theorem cntRel_decNext (x : Option Oid) (o : Oid) : cntRel (decNext x) o = 0 := by
  cases x <;> simp [decNext, cntRel]

theorem setObj_self (f : Oid → Obj) (o : Oid) : setObj f o (f o) = f := by
  funext x; by_cases hx : x = o
  · subst hx; simp
  · simp [setObj, hx]

theorem aliveN_setObj (f : Oid → Obj) (o : Oid) (v : Obj) (x : Oid) :
    aliveN (setObj f o v) x = if o = x then aliveN (fun _ => v) x else aliveN f x := by
  split
  · next h => subst h; cases o <;> simp [aliveN]
  · next h => cases x <;> simp [aliveN, setObj, Ne.symm h]

theorem aliveN_setObj_alive (f : Oid → Obj) (o : Oid) (v : Obj) (hv : v.alive = (f o).alive) (x : Oid) :
    aliveN (setObj f o v) x = aliveN f x := by
  rw [aliveN_setObj]
  split
  · next h => subst h; cases o <;> simp [aliveN, hv]
  · rfl

theorem outBitO_other {p p' : PoolSt} {sid i : Nat} (h : ∀ s j, ¬(s = sid ∧ j = i) → outBit p' s j = outBit p s j) {x : Oid}
    (hx : Oid.node sid i ≠ x) : outBitO p' x = outBitO p x := by
  cases x with
  | heap k => rfl
  | node s j => exact h s j fun ⟨h1, h2⟩ => hx (by rw [h1, h2])

end Muscle.Conc.RC
