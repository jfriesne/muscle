import MuscleModel.Conc.RWMutex
import MuscleModel.Base.Adds

/-!
# `ReaderWriterMutex`: the safety invariant of the shared state

`MxInv` mentions only `exec`, `ro`, `rw`, `total`; notifications and the waiting lists are a frame.  Each critical
section gets a case lemma (`lockRStart_cases` … `unlockW_cases`: guard, new state and result of every branch), from which
this file and the later ones read their facts.
-/

namespace Muscle.Conc.RW
open Muscle.Conc

/-- the executing-threads table is consistent, a writer is alone, and the total is that writer's count -/
structure MxInv (s : Mx) : Prop where
  nodup : s.exec.Nodup
  mem   : ∀ t, t ∈ s.exec ↔ s.ro t + s.rw t > 0
  excl  : ∀ t, s.rw t > 0 → s.exec = [t]
  tot1  : ∀ t, s.rw t > 0 → s.total = s.rw t
  tot0  : s.total > 0 → ∃ t, s.rw t > 0

theorem MxInv.init (p : Bool) : MxInv (Mx.init p) := by
  constructor <;> simp [Mx.init]

theorem MxInv.frame {s s' : Mx} (h : MxInv s) (he : s'.exec = s.exec) (hro : s'.ro = s.ro) (hrw : s'.rw = s.rw)
    (ht : s'.total = s.total) : MxInv s' := by
  refine ⟨?_, ?_, ?_, ?_, ?_⟩
  · rw [he]; exact h.nodup
  · rw [he, hro, hrw]; exact h.mem
  · rw [he, hrw]; exact h.excl
  · rw [ht, hrw]; exact h.tot1
  · rw [ht, hrw]; exact h.tot0

theorem MxInv.noWriter {s : Mx} (h : MxInv s) (h0 : s.total = 0) (t : Tid) : s.rw t = 0 :=
  Nat.eq_zero_of_not_pos fun hp => by have := h.tot1 t hp; omega

theorem MxInv.total_zero_of_empty {s : Mx} (h : MxInv s) (he : s.exec = []) : s.total = 0 :=
  Nat.eq_zero_of_not_pos fun hp => by
    obtain ⟨t, hw⟩ := h.tot0 hp
    have := (h.mem t).2 (by omega)
    simp [he] at this

theorem MxInv.absent {s : Mx} (h : MxInv s) {t : Tid} (ht : t ∉ s.exec) : s.ro t = 0 ∧ s.rw t = 0 := by
  have := mt (h.mem t).2 ht
  omega

theorem MxInv.sole {s : Mx} (h : MxInv s) {t : Tid} (ht : t ∈ s.exec ∨ s.total = 0) :
    (∀ u, u ≠ t → s.rw u = 0) ∧ s.total = s.rw t := by
  have hs : ∀ u, u ≠ t → s.rw u = 0 := fun u hu => Nat.eq_zero_of_not_pos fun hp => by
    rcases ht with ht | ht
    · rw [h.excl u hp] at ht; exact hu (List.mem_singleton.1 ht).symm
    · have := h.tot1 u hp; omega
  refine ⟨hs, ?_⟩
  rcases Nat.eq_zero_or_pos (s.rw t) with h0 | hp
  · refine h0 ▸ Nat.eq_zero_of_not_pos fun hp => ?_
    obtain ⟨u, hu⟩ := h.tot0 hp
    by_cases hut : u = t
    · rw [hut] at hu; omega
    · have := hs u hut; omega
  · exact h.tot1 t hp

theorem MxInv.update {s s' : Mx} (h : MxInv s) {t : Tid} (ht : t ∈ s.exec ∨ s.total = 0) (hnd : s'.exec.Nodup)
    (hoth : ∀ u, u ≠ t → s'.ro u = s.ro u ∧ s'.rw u = s.rw u ∧ (u ∈ s'.exec ↔ u ∈ s.exec))
    (hself : t ∈ s'.exec ↔ s'.ro t + s'.rw t > 0) (htot : s'.total = s'.rw t) (hexcl : s'.rw t > 0 → s'.exec = [t]) :
    MxInv s' := by
  have hs := (h.sole ht).1
  have only : ∀ u, s'.rw u > 0 → u = t := fun u hu => Classical.byContradiction fun hut => by
    rw [(hoth u hut).2.1, hs u hut] at hu; omega
  refine ⟨hnd, fun u => ?_, fun u hu => ?_, fun u hu => ?_, fun hp => ⟨t, by omega⟩⟩
  · by_cases hu : u = t
    · rw [hu]; exact hself
    · rw [(hoth u hu).2.2, (hoth u hu).1, (hoth u hu).2.1]; exact h.mem u
  · obtain rfl := only u hu; exact hexcl hu
  · obtain rfl := only u hu; exact htot

def EqButPend (s' s : Mx) : Prop := ∃ p, s' = { s with pend := p }

@[simp] theorem EqButPend.refl (s : Mx) : EqButPend s s := ⟨s.pend, rfl⟩

@[simp] theorem notifyAllReaders_eqButPend (s : Mx) : EqButPend (notifyAllReaders s) s := ⟨_, rfl⟩

@[simp] theorem notifyNextWriter_eqButPend (s : Mx) : EqButPend (notifyNextWriter s) s := by
  unfold notifyNextWriter; split
  · exact .refl s
  · exact ⟨_, rfl⟩

@[simp] theorem notifySome_eqButPend (s : Mx) : EqButPend (notifySome s) s := by
  unfold notifySome; (repeat' split) <;> simp

@[simp] theorem maybeNotify_eqButPend (s : Mx) : EqButPend (maybeNotify s) s := by
  unfold maybeNotify; split <;> simp

theorem MxInv.eqButPend {s s' : Mx} (h : MxInv s) (e : EqButPend s' s) : MxInv s' := by
  obtain ⟨p, rfl⟩ := e
  exact h.frame rfl rfl rfl rfl

theorem addKey_of_mem {l : List Tid} {t : Tid} (h : t ∈ l) : addKey l t = l := by simp [addKey, h]
theorem addKey_of_not_mem {l : List Tid} {t : Tid} (h : t ∉ l) : addKey l t = l ++ [t] := by simp [addKey, h]

theorem mem_addKey (l : List Tid) (t u : Tid) : u ∈ addKey l t ↔ (u ∈ l ∨ u = t) := by
  unfold addKey; split <;> simp_all

theorem nodup_addKey {l : List Tid} (h : l.Nodup) (t : Tid) : (addKey l t).Nodup := by
  unfold addKey; split
  · exact h
  · next hn => exact List.nodup_append.2 ⟨h, by simp, by simp; exact fun a ha e => hn (e ▸ ha)⟩

theorem okReaders_iff (s : Mx) : okReaders s = true ↔ s.total = 0 ∧ (s.prefW = false ∨ s.waitW = []) := by simp [okReaders]
theorem okWriter_iff (s : Mx) (t : Tid) : okWriter s t = true ↔ s.exec = [] ∧ (s.waitW = [] ∨ s.waitW.head? = some t) := by simp [okWriter]

/-- `LockReadOnlyAux`, first critical section: recursion, admission, failed try, or start to wait -/
theorem lockRStart_cases (s : Mx) (t : Tid) (m : Mode) :
    (t ∈ s.exec ∧ lockRStart s t m = ({ s with ro := upd s.ro t (s.ro t + 1) }, .done .ok)) ∨
    ((t ∉ s.exec ∧ okReaders s = true) ∧
      lockRStart s t m = ({ s with exec := s.exec ++ [t], ro := upd s.ro t 1 }, .done .ok)) ∨
    ((t ∉ s.exec ∧ okReaders s = false ∧ m = .try_) ∧ lockRStart s t m = (s, .done .timedOut)) ∨
    ((t ∉ s.exec ∧ okReaders s = false ∧ m ≠ .try_) ∧
      lockRStart s t m = (obtainWC { s with waitR := s.waitR ++ [t] } t, .wait)) := by
  unfold lockRStart; (repeat' split) <;> simp_all

/-- `LockReadWriteAux`, first critical section: recursion or sole reader, failed try / upgrade when other readers
execute, admission, failed try, or start to wait -/
theorem lockWStart_cases (s : Mx) (t : Tid) (m : Mode) :
    ((t ∈ s.exec ∧ (s.rw t > 0 ∨ s.exec.length = 1)) ∧
      lockWStart s t m = ({ s with rw := upd s.rw t (s.rw t + 1), total := s.total + 1 }, .done .ok)) ∨
    ((t ∈ s.exec ∧ s.rw t = 0 ∧ s.exec.length ≠ 1 ∧ m = .try_) ∧ lockWStart s t m = (s, .done .timedOut)) ∨
    ((t ∈ s.exec ∧ s.rw t = 0 ∧ s.exec.length ≠ 1 ∧ m ≠ .try_) ∧ lockWStart s t m = (s, .upgrade (s.ro t))) ∨
    ((t ∉ s.exec ∧ okWriter s t = true) ∧
      lockWStart s t m = ({ s with exec := s.exec ++ [t], rw := upd s.rw t 1, total := s.total + 1 }, .done .ok)) ∨
    ((t ∉ s.exec ∧ okWriter s t = false ∧ m = .try_) ∧ lockWStart s t m = (s, .done .timedOut)) ∨
    ((t ∉ s.exec ∧ okWriter s t = false ∧ m ≠ .try_) ∧
      lockWStart s t m = (obtainWC { s with waitW := s.waitW ++ [t] } t, .wait)) := by
  unfold lockWStart; (repeat' split) <;> simp_all <;> omega

/-- `LockReadOnlyAux` after `Wait()`: timed out (the exact state is `lockRWoke_timeout`), admitted, or back to `Wait()` -/
theorem lockRWoke_cases (s : Mx) (t : Tid) (b : Bool) :
    (b = false ∧ ∃ p q, lockRWoke s t b = ({ s with waitR := s.waitR.erase t, pend := p, pool := q }, .done .timedOut)) ∨
    ((b = true ∧ okReaders s = true) ∧ lockRWoke s t b =
      (releaseWC { s with exec := addKey s.exec t, ro := upd s.ro t 1, rw := upd s.rw t 0, waitR := s.waitR.erase t } t,
       .done .ok)) ∨
    ((b = true ∧ okReaders s = false) ∧ lockRWoke s t b = (s, .wait)) := by
  obtain ⟨p, e⟩ := maybeNotify_eqButPend { s with waitR := s.waitR.erase t }
  unfold lockRWoke; (repeat' split) <;> simp_all [releaseWC]

theorem lockWWoke_cases (s : Mx) (t : Tid) (b : Bool) :
    (b = false ∧ ∃ p q, lockWWoke s t b = ({ s with waitW := s.waitW.erase t, pend := p, pool := q }, .done .timedOut)) ∨
    ((b = true ∧ okWriter s t = true) ∧ lockWWoke s t b =
      (releaseWC { s with exec := s.exec ++ [t], rw := upd s.rw t 1, total := s.total + 1, waitW := s.waitW.erase t } t,
       .done .ok)) ∨
    ((b = true ∧ okWriter s t = false) ∧ lockWWoke s t b = (s, .wait)) := by
  obtain ⟨p, e⟩ := maybeNotify_eqButPend { s with waitW := s.waitW.erase t }
  unfold lockWWoke; (repeat' split) <;> simp_all [releaseWC]

/-- the exact state after a time-out, of which the first case above keeps only what the invariants need -/
theorem lockRWoke_timeout (s : Mx) (t : Tid) :
    lockRWoke s t false = (releaseWC (maybeNotify { s with waitR := s.waitR.erase t }) t, .done .timedOut) := by
  simp [lockRWoke]

theorem lockWWoke_timeout (s : Mx) (t : Tid) :
    lockWWoke s t false = (releaseWC (maybeNotify { s with waitW := s.waitW.erase t }) t, .done .timedOut) := by
  simp [lockWWoke]

theorem MxInv.addRead {s : Mx} (h : MxInv s) (t : Tid) (v : Nat) (hv : v > 0) (hw : t ∉ s.exec → s.total = 0) :
    MxInv { s with exec := addKey s.exec t, ro := upd s.ro t v } := by
  have ht : t ∈ s.exec ∨ s.total = 0 := (Classical.em (t ∈ s.exec)).imp_right hw
  refine h.update ht (nodup_addKey h.nodup t) (fun u hu => by simp [mem_addKey, hu]) (by simp [mem_addKey]; omega)
    (h.sole ht).2 fun hp => ?_
  -- a writer is alone in the table, so `t` is in it already
  have := h.excl t hp
  simp [this, addKey]

theorem MxInv.lockRStart {s : Mx} (h : MxInv s) (t : Tid) (m : Mode) : MxInv (lockRStart s t m).1 := by
  rcases lockRStart_cases s t m with ⟨ht, e⟩ | ⟨⟨ht, hok⟩, e⟩ | ⟨_, e⟩ | ⟨_, e⟩ <;> rw [e]
  · simpa [addKey_of_mem ht] using h.addRead t (s.ro t + 1) (by omega) (absurd ht)
  · simpa [addKey_of_not_mem ht] using h.addRead t 1 (by omega) fun _ => ((okReaders_iff s).1 hok).1
  · exact h
  · exact h.frame rfl rfl rfl rfl

theorem MxInv.lockRWoke {s : Mx} (h : MxInv s) (t : Tid) (b : Bool) : MxInv (lockRWoke s t b).1 := by
  rcases lockRWoke_cases s t b with ⟨_, p, q, e⟩ | ⟨⟨_, hok⟩, e⟩ | ⟨_, e⟩ <;> rw [e]
  · exact h.frame rfl rfl rfl rfl
  · have h0 := ((okReaders_iff s).1 hok).1
    exact (h.addRead t 1 (by omega) fun _ => h0).frame rfl rfl (upd_eq_self (h.noWriter h0 t)) rfl
  · exact h

theorem MxInv.addWrite {s : Mx} (h : MxInv s) (t : Tid) (hsole : s.exec = [t] ∨ s.exec = []) :
    MxInv { s with exec := addKey s.exec t, rw := upd s.rw t (s.rw t + 1), total := s.total + 1 } := by
  have ht : t ∈ s.exec ∨ s.total = 0 := hsole.imp (by simp +contextual) h.total_zero_of_empty
  refine h.update ht (nodup_addKey h.nodup t) (fun u hu => by simp [mem_addKey, hu]) (by simp [mem_addKey]; omega)
    (by simp [(h.sole ht).2]) fun _ => ?_
  rcases hsole with he | he <;> simp [addKey, he]

theorem MxInv.lockWStart {s : Mx} (h : MxInv s) (t : Tid) (m : Mode) : MxInv (lockWStart s t m).1 := by
  rcases lockWStart_cases s t m with ⟨⟨ht, hc⟩, e⟩ | ⟨_, e⟩ | ⟨_, e⟩ | ⟨⟨ht, hok⟩, e⟩ | ⟨_, e⟩ | ⟨_, e⟩ <;> rw [e]
  · have hsole : s.exec = [t] := by
      rcases hc with hw | hl
      · exact h.excl t hw
      · match hs : s.exec, hl, ht with
        | [a], _, ht' => simp at ht'; rw [ht']
    simpa [addKey_of_mem ht] using h.addWrite t (.inl hsole)
  · exact h
  · exact h
  · simpa [addKey_of_not_mem ht, (h.absent ht).2] using h.addWrite t (.inr ((okWriter_iff s t).1 hok).1)
  · exact h
  · exact h.frame rfl rfl rfl rfl

theorem MxInv.lockWWoke {s : Mx} (h : MxInv s) (t : Tid) (b : Bool) : MxInv (lockWWoke s t b).1 := by
  rcases lockWWoke_cases s t b with ⟨_, p, q, e⟩ | ⟨⟨_, hok⟩, e⟩ | ⟨_, e⟩ <;> rw [e]
  · exact h.frame rfl rfl rfl rfl
  · have he := ((okWriter_iff s t).1 hok).1
    have ht : t ∉ s.exec := by simp [he]
    have := h.addWrite t (.inr he)
    rw [addKey_of_not_mem ht, (h.absent ht).2] at this
    exact this.frame rfl rfl rfl rfl
  · exact h

/-- the count updates of `UnlockReadOnlyAux()`.  The model's `unlockR` writes them inline in its two branches (`unlockR_cases`
is the bridge); `dropWrite` is the model's own twin. -/
def dropRead (s : Mx) (t : Tid) : Mx :=
  { s with ro := upd s.ro t (s.ro t - 1), exec := if s.ro t - 1 = 0 ∧ s.rw t = 0 then s.exec.erase t else s.exec }

theorem unlockR_cases (s : Mx) (t : Tid) :
    ((t ∉ s.exec ∨ s.ro t = 0) ∧ unlockR s t = (s, .failed)) ∨
    (t ∈ s.exec ∧ s.ro t > 0 ∧ (unlockR s t).2 = .ok ∧ EqButPend (unlockR s t).1 (dropRead s t)) := by
  unfold unlockR dropRead
  by_cases hc : t ∉ s.exec ∨ s.ro t = 0
  · exact .inl ⟨hc, if_pos hc⟩
  · rw [if_neg hc]
    refine .inr ⟨Classical.byContradiction fun h => hc (.inl h), Nat.pos_of_ne_zero fun h => hc (.inr h), ?_, ?_⟩ <;>
      split <;> simp [*]

theorem unlockW_cases (s : Mx) (t : Tid) :
    ((t ∉ s.exec ∨ s.rw t = 0) ∧ unlockW s t = (s, .failed)) ∨
    (t ∈ s.exec ∧ s.rw t > 0 ∧ (unlockW s t).2 = .ok ∧ EqButPend (unlockW s t).1 (dropWrite s t)) := by
  unfold unlockW
  by_cases hc : t ∉ s.exec ∨ s.rw t = 0
  · exact .inl ⟨hc, if_pos hc⟩
  · rw [if_neg hc]
    refine .inr ⟨Classical.byContradiction fun h => hc (.inl h), Nat.pos_of_ne_zero fun h => hc (.inr h), ?_, ?_⟩ <;>
      (repeat' split) <;> simp

theorem nodup_eraseIf {l : List Tid} (h : l.Nodup) (p : Prop) [Decidable p] (t : Tid) : (if p then l.erase t else l).Nodup := by
  split
  · exact h.erase t
  · exact h

theorem mem_eraseIf (l : List Tid) (p : Prop) [Decidable p] {t u : Tid} (hu : u ≠ t) :
    u ∈ (if p then l.erase t else l) ↔ u ∈ l := by
  split
  · exact List.mem_erase_of_ne hu
  · rfl

theorem mem_of_mem_eraseIf {l : List Tid} {p : Prop} [Decidable p] {t u : Tid} (h : u ∈ (if p then l.erase t else l)) : u ∈ l := by
  split at h
  · exact List.mem_of_mem_erase h
  · exact h

theorem MxInv.dropRead {s : Mx} (h : MxInv s) (t : Tid) (ht : t ∈ s.exec) : MxInv (dropRead s t) := by
  refine h.update (.inl ht) (nodup_eraseIf h.nodup _ t) (fun u hu => ⟨upd_other _ _ _ _ hu, rfl, mem_eraseIf _ _ hu⟩) ?_
    (h.sole (.inl ht)).2 fun hp => ?_ <;> simp only [RW.dropRead, upd_same]
  · split
    · simp [h.nodup.mem_erase_iff]; omega
    · simp [ht]; omega
  · have hp : s.rw t > 0 := hp
    rw [if_neg (by omega)]; exact h.excl t hp

theorem MxInv.unlockR {s : Mx} (h : MxInv s) (t : Tid) : MxInv (unlockR s t).1 := by
  rcases unlockR_cases s t with ⟨_, e⟩ | ⟨ht, _, _, e⟩
  · rw [e]; exact h
  · exact (h.dropRead t ht).eqButPend e

theorem MxInv.dropWrite {s : Mx} (h : MxInv s) (t : Tid) (ht : t ∈ s.exec) (hrw : s.rw t > 0) :
    MxInv (dropWrite s t) := by
  have hex := h.excl t hrw
  refine h.update (.inl ht) (nodup_eraseIf h.nodup _ t) (fun u hu => ⟨rfl, upd_other _ _ _ _ hu, mem_eraseIf _ _ hu⟩) ?_ ?_
    fun hp => ?_ <;> simp only [RW.dropWrite, upd_same]
  -- the writer is alone: it stays in the table iff it still holds something, and while it writes it stays alone
  · split <;> simp [hex] <;> omega
  · rw [(h.sole (.inl ht)).2]
  · simp only [RW.dropWrite, upd_same] at hp
    rw [if_neg (by omega)]; exact hex

theorem MxInv.unlockW {s : Mx} (h : MxInv s) (t : Tid) : MxInv (unlockW s t).1 := by
  rcases unlockW_cases s t with ⟨_, e⟩ | ⟨ht, hrw, _, e⟩
  · rw [e]; exact h
  · exact (h.dropWrite t ht hrw).eqButPend e

def sumRw (s : Mx) : Nat := (s.exec.map s.rw).sum

theorem MxInv.total_eq_sum {s : Mx} (h : MxInv s) : s.total = sumRw s := by
  unfold sumRw
  by_cases hz : s.total = 0
  · rw [hz, sum_map_zero _ _ fun u _ => h.noWriter hz u]
  · obtain ⟨t, ht⟩ := h.tot0 (by omega)
    simp [h.excl t ht, h.tot1 t ht]

end Muscle.Conc.RW
