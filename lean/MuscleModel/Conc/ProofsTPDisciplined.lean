import MuscleModel.Conc.ProofsTPCrit

/-! # C19 proofs: what holds for disciplined programs (`InvAll`), step by step -/

namespace Muscle.Conc.TP
open Muscle.Conc

structure InvAll (c : Cfg) : Prop extends InvBase c where
  inv1 : Inv1 c
  disc : Disc c
  invH : InvH c
  settled : Settled c

theorem InvAll.crit {c : Cfg} (h : InvAll c) : Crit c := ⟨h.inv0, h.inv1, h.invH, h.invP, h.settled.flagged⟩

theorem invAll_sub {c : Cfg} {t : Tid} {k : Client} {m : MsgId} (h : InvAll c) (hpc : (c.uth t).pc = .subLock k m) :
    Inv1 { (subCS c k m).1 with uth := upd (subCS c k m).1.uth t (advance (c.uth t)) } ∧
    InvH { (subCS c k m).1 with uth := upd (subCS c k m).1.uth t (advance (c.uth t)) } ∧
    Settled { (subCS c k m).1 with uth := upd (subCS c k m).1.uth t (advance (c.uth t)) } := by
  obtain ⟨a, b⟩ := crit_subCS k m h.crit h.settled (h.disc.sub_alone h.wf hpc)
  obtain ⟨hn, hwt⟩ := h.inv1.outside (t := t) (hpc ▸ nofun)
  have hu := disp_subCS c k m
  exact ⟨a.inv1.setUth rfl (.ofAdvance hn) (hu.waitK ▸ hu.waitT ▸ hwt), { a.invH with }, b.congr⟩

theorem inv1_ustep {c c' : Cfg} {t : Tid} (ha : InvAll c) (hs : UStep c t c') : Inv1 c' := by
  have h := ha.inv1
  have hb := ha.toInvBase
  have hd := ha.disc
  have h0 := ha.inv0
  -- discipline: once the thread that manages `k` has returned from its call, no program point is about `k`
  have hoth₁ : ∀ {k}, manages (c.uth t) k → ∀ t', mgClient (upd c.uth t (advance (c.uth t)) t').pc ≠ some k := fun hm t' => by
    rw [upd_apply]; split
    · rw [mgClient_advance]; nofun
    · next hne => exact fun e => hne (hd t' t _ (manages_uses ((hb.wf t').manages_of_mgClient e)) hm)
  cases hs with
  | skip hpc =>
    obtain ⟨hn, hwt⟩ := h.outside (t := t) (hpc ▸ nofun)
    exact h.setUth rfl (.ofAdvance hn) hwt
  | subStart hpc | unregStart hpc | sdStart hpc =>
    obtain ⟨hn, hwt⟩ := h.outside (t := t) (hpc ▸ nofun)
    exact h.setUth rfl (.of_notif_zero hn nofun nofun) hwt
  | @regStart k _ hpc _ hc =>
    obtain ⟨hn, hwt⟩ := h.outside (t := t) (hpc ▸ nofun)
    have h1 : Inv1 { c with cptr := upd c.cptr k true } :=
      { h with regPtr := fun k' hk' => upd_true (h.regPtr k' hk')
               user := fun t' => { h.user t' with regLockPtr := fun k' e => upd_true ((h.user t').regLockPtr k' e) } }
    exact h1.setUth rfl (.of_notif_zero hn
      (fun _ e => by cases e; exact ⟨fun hk => Bool.false_ne_true (hc.symm.trans (h.regPtr k hk)), upd_same ..⟩) nofun) hwt
  | sub hpc => exact (invAll_sub ha hpc).1
  | @reg k hpc =>
    obtain ⟨hn, hwt⟩ := h.outside (t := t) (hpc ▸ nofun)
    have hnr := (h.user t).regLockNew k hpc
    -- `k` was not registered, so its flag is down already
    rw [upd_eq_self (h0.wfFlag k hnr)]
    have h1 := h.setUth (c' := { c with uth := upd c.uth t (advance (c.uth t)) }) rfl (.ofAdvance hn) hwt
    exact { h1 with
      regPtr := fun k' hk' => (mem_addKey.1 hk').elim (h.regPtr k') fun e => e ▸ (h.user t).regLockPtr k hpc
      user := fun t' => { h1.user t' with
        regLockNew := fun k' e hm => (mem_addKey.1 hm).elim ((h1.user t').regLockNew k' e) fun ek =>
          hoth₁ ((hb.wf t).manages_of_mgClient (k := k) (by rw [hpc]; rfl)) t' (by rw [e, ek]; rfl) } }
  | @unregBlock k hpc =>
    obtain ⟨hn, hwt⟩ := h.outside (t := t) (hpc ▸ nofun)
    have h1 := h.setUth (c' := { c with uth := upd c.uth t { (c.uth t) with pc := .unregWait k } }) rfl
      (.of_notif_zero hn nofun nofun) hwt
    exact { h1 with
      user := fun t' => { h1.user t' with }
      waiter := fun k' hk' => by
        by_cases e : k' = k
        · subst e; simp only [upd_same]; exact ⟨trivial, hn⟩
        · simp only [upd_other _ _ _ _ e]; exact h1.waiter k' ((mem_addKey.1 hk').resolve_right e) }
  | @unregPass k hpc ho =>
    obtain ⟨hn, hwt⟩ := h.outside (t := t) (hpc ▸ nofun)
    exact h.setUth rfl (.of_notif_zero hn nofun fun _ e => by cases e; exact (outstanding_false_iff c k).1 ho) hwt
  | @unregWoken k hpc hn =>
    exact h.setUth rfl (.of_notif_zero rfl nofun fun _ e => by cases e; exact (h.user t).quietAt k (Or.inr ⟨hpc, hn⟩)) fun k' hk' e => Nat.lt_irrefl 0 ((e ▸ (h.waiter k' hk').2) ▸ hn)
  | @unreg k hpc =>
    obtain ⟨hn, hwt⟩ := h.outside (t := t) (hpc ▸ nofun)
    -- nothing is outstanding for `k`, so clearing its flag and queues changes nothing
    have hq := (h.user t).quietAt k (Or.inl hpc)
    rw [upd_eq_self hq.flag, upd_eq_self hq.pend, upd_eq_self hq.defr]
    have h1 := h.setUth (c' := { c with uth := upd c.uth t (advance (c.uth t)) }) rfl (.ofAdvance hn) hwt
    exact { h1 with
      regPtr := fun k' hk' => (upd_other _ _ _ _ (mem_remKey.1 hk').2).trans (h.regPtr k' (mem_remKey.1 hk').1)
      user := fun t' => { h1.user t' with
        regLockNew := fun k' e hm => (h1.user t').regLockNew k' e (mem_remKey.1 hm).1
        regLockPtr := fun k' e => (upd_other _ _ _ _ fun ek => hoth₁ ((hb.wf t).manages_of_mgClient (k := k) (by rw [hpc]; rfl)) t' (by rw [e, ek]; rfl)).trans ((h1.user t').regLockPtr k' e) }
      waiter := fun k' hk' => h1.waiter k' (mem_remKey.1 hk').1 }
  | shutdown hsd =>
    cases hsd with
    | sdBegin hpc =>
      obtain ⟨hn, hwt⟩ := h.outside (t := t) (hpc ▸ nofun)
      have h1 : Inv1 { c with p := { c.p with shut := true } } := { h with servedFlag := nofun, user := fun t' => { h.user t' with } }
      exact h1.setUth rfl (.ofShutdown rfl hn) hwt
    | sdSwapActive hpc | sdSwapAvail hpc => exact inv1_sdNext _ _ _ _ _ _ { h with user := fun t' => { h.user t' with } } (hpc ▸ rfl)
    | sdJoined hpc => exact inv1_sdNext _ _ _ _ _ _ h (hpc ▸ rfl)
    | sdFinish hpc =>
      have h1 := inv1_sdFinal h (hb.sdShut t (hpc ▸ rfl))
      have hpc' : ∀ k, (notifyAll c.p.waitK c.p.waitT c.uth t).pc ≠ .unregWait k := fun k e =>
        absurd (hpc.symm.trans ((notifyAll_spec ..).1.symm.trans e)) nofun
      exact h1.setUth rfl (.ofAdvance (h1.outside hpc').1) nofun

theorem invH_ustep {c c' : Cfg} {t : Tid} (ha : InvAll c) (hs : UStep c t c') : InvH c' := by
  have h := ha.invH
  have h1 := ha.inv1
  cases hs with
  | sub hpc => exact (invAll_sub ha hpc).2.1
  | @unreg k hpc =>
    -- nothing is outstanding for `k`: nothing is dropped
    have hq := (h1.user t).quietAt k (Or.inl hpc)
    have hdr : c.dropped k = c.dropped k ++ c.p.pend k ++ c.p.defr k := by rw [hq.pend, hq.defr, List.append_nil, List.append_nil]
    rw [upd_eq_self hq.pend, upd_eq_self hq.defr, upd_eq_self hdr]
    exact { h with }
  | shutdown hsd =>
    cases hsd with
    | sdBegin => exact { h with noDrop := nofun }
    | sdSwapActive | sdSwapAvail => exact invH_sdNext _ _ _ _ _ _ { h with }
    | sdJoined => exact invH_sdNext _ _ _ _ _ _ h
    | sdFinish hpc =>
      have hsh := ha.sdShut t (hpc ▸ rfl)
      -- a client of which nothing was dropped had nothing queued
      have hnil : ∀ {k}, dropAll c.p c.dropped k = [] → c.dropped k = [] ∧ c.p.pend k = [] ∧ c.p.defr k = [] := fun hd => by
        simpa only [dropAll, List.append_eq_nil_iff, and_assoc] using hd
      exact { h with
        acctServed := fun k T hd hk => by have := h.acctServed k T (hnil hd).1 hk; rwa [(hnil hd).2.1, (hnil hd).2.2] at this
        acctUnserved := fun k hd hn => by have := h.acctUnserved k (hnil hd).1 hn; rwa [(hnil hd).2.1, (hnil hd).2.2] at this
        noDrop := fun hs => absurd (hsh.symm.trans hs) nofun }
  | _ => exact { h with }

theorem settled_ustep {c c' : Cfg} {t : Tid} (ha : InvAll c) (hs : UStep c t c') : Settled c' := by
  have h := ha.settled
  have h1 := ha.inv1
  -- inside `Shutdown`, where `_shuttingDown` is set, only the tables of pool threads change
  have hsd : ∀ (c1 : Cfg) b nA tot n l, inShutdown (c.uth t).pc = true → c1.p.shut = c.p.shut → WaitersOutstanding c1 →
      Settled (sdNext c1 t b nA tot n l) := fun c1 b nA tot n l hi es ho =>
    Settled.of_shut (by rw [sdNext_pool, es]; exact ha.sdShut t hi) (by unfold WaitersOutstanding; rw [sdNext_pool]; exact ho)
  cases hs with
  | sub hpc => exact (invAll_sub ha hpc).2.2
  | @reg k hpc =>
    exact h.congr (h3 := upd_eq_self (ha.inv0.wfFlag k ((h1.user t).regLockNew k hpc)))
  | unregBlock hpc ho =>
    refine ⟨h.flagged, h.full, fun k' hk' => ?_⟩
    rcases mem_addKey.1 hk' with h' | h'
    · exact h.waiters k' h'
    · exact h' ▸ ho
  | @unreg k hpc =>
    have hq := (h1.user t).quietAt k (Or.inl hpc)
    rw [upd_eq_self hq.flag, upd_eq_self hq.pend, upd_eq_self hq.defr]
    exact ⟨h.flagged, h.full, fun k' hk' => h.waiters k' (mem_remKey.1 hk').1⟩
  | shutdown hsd =>
    cases hsd with
    | sdBegin hpc => exact Settled.of_shut rfl h.waiters
    | sdSwapActive hpc | sdSwapAvail hpc | sdJoined hpc => exact hsd _ _ _ _ _ _ (by rw [hpc]; rfl) rfl h.waiters
    | sdFinish hpc => exact Settled.of_shut (ha.sdShut t (by rw [hpc]; rfl)) (fun k' hk' => absurd hk' List.not_mem_nil)
  | _ => exact h.congr

theorem invAll_pstep {c c' : Cfg} {T : PTid} (ha : InvAll c) (hs : PStep c T c') : Inv1 c' ∧ InvH c' ∧ Settled c' := by
  have h1 := ha.inv1
  have hh := ha.invH
  have h := ha.settled
  cases hs with
  | look hpc => exact ⟨inv1_fetch T h1, invH_fetch T hh, settled_fetch T h fun k he => by rw [he] at hpc; simp at hpc⟩
  | next hpc hc hq =>
    exact ⟨h1.setPth rfl fun _ hk => hk, hh.handlerDone h1 hc hq (Or.inl hc),
      h.setPth rfl rfl fun k hk => Or.inl (hk.resolve_right (by rw [hpc]; nofun))⟩
  | last hpc hc hq =>
    refine ⟨h1.setPth rfl fun k' hk' => ?_, hh.handlerDone h1 hc hq (Or.inr ⟨rfl, rfl⟩), h.setPth rfl rfl fun k hk => Or.inr ?_⟩
    · rcases hk' with e | e <;> cases e
      exact Or.inl hc
    · have := hk.resolve_right (by rw [hpc]; nofun)
      rw [hc] at this; cases this; rfl
  | finishShut hpc hs =>
    exact ⟨inv1_fetch T (h1.setPth rfl fun _ hk => hk.elim Or.inl nofun),
      invH_fetch T (hh.setPth rfl (fun _ e => ⟨e, rfl⟩) fun _ e => Or.inl e),
      settled_fetch T (Settled.of_shut hs h.waiters) (by simp [upd_same])⟩
  | finish hpc hsh =>
    have hf := crit_finish ha.crit h.waiters (pstep_lt ha.invP (.finish hpc hsh)) hpc hsh
    exact ⟨hf.1.inv1, hf.1.invH, hf.2⟩

theorem invAll_step {c c' : Cfg} {e : Ev} {o} (h : InvAll c) (hs : step c e = some (c', o)) : InvAll c' := by
  have hb' := invBase_step h.toInvBase hs
  rcases step_cases hs with ⟨_, _, _, hu⟩ | ⟨_, _, hp⟩
  · exact ⟨hb', inv1_ustep h hu, h.disc.of_progSub (ustep_progSub hu), invH_ustep h hu, settled_ustep h hu⟩
  · have hp' := invAll_pstep h hp
    exact ⟨hb', hp'.1, h.disc.of_progSub (pstep_progSub hp), hp'.2.1, hp'.2.2⟩

theorem invAll_init (maxT : Nat) (regs : List Client) (progs : List (List Op)) (hd : Disciplined progs) : InvAll (Cfg.init maxT regs progs) := by
  have hu := init_uth_prog maxT regs progs
  have hok : ∀ t, UserOk (Cfg.init maxT regs progs) ((Cfg.init maxT regs progs).uth t) := fun t => .idle (hu t).2.2 (hu t).2.1
  refine ⟨invBase_init maxT regs progs, ?_, ?_, ?_, ?_, ?_, ?_⟩
  · exact {
      user := hok
      regPtr := fun k hk => by
        have : k ∈ regs := by simpa [Cfg.init, Pool.init, mem_foldl_addKey] using hk
        simp [Cfg.init, this]
      servedFlag := fun _ T k h => by simp [serving, Cfg.init, PTh.absent] at h
      oneServer := fun T T' k h => by simp [serving, Cfg.init, PTh.absent] at h
      defrFlag := fun _ _ => rfl, waiter := nofun }
  · intro t t' k hus hm
    apply hd t t' k
    · obtain ⟨op, ho, hc⟩ := hus; exact ⟨op, by rw [← (hu t).1]; exact ho, hc⟩
    · unfold manages at hm; rw [(hu t').1] at hm; exact hm
  · exact ⟨fun k T _ h => by simp [Cfg.init, PTh.absent] at h, fun _ _ _ => rfl, fun _ _ => rfl⟩
  · intro _ k hf; simp [Cfg.init, Pool.init] at hf
  · intro _ k hp; simp [Cfg.init, Pool.init] at hp
  · intro k hk; simp [Cfg.init, Pool.init] at hk

theorem reach_invAll {maxT regs progs c} (hd : Disciplined progs) (h : machine.Reach (Cfg.init maxT regs progs) c) : InvAll c :=
  Machine.Reach.invariant machine InvAll (invAll_init maxT regs progs hd) (fun _ _ _ _ hi hs => invAll_step hi hs) h

end Muscle.Conc.TP
