import MuscleModel.Conc.ProofsTPThreads

/-! # C19 proofs: a ranking function for the shutdown phase

Once `_shuttingDown` is set nothing is dispatched any more, so every thread only consumes: user threads their programs, pool
threads their inbox and batch, `Shutdown()` the thread tables.  `rank` adds this up. -/

namespace Muscle.Conc.TP
open Muscle.Conc

def sumTo : Nat → (Nat → Nat) → Nat
  | 0, _ => 0
  | n + 1, f => sumTo n f + f n

theorem sumTo_le {n : Nat} {f g : Nat → Nat} (h : ∀ i, i < n → f i ≤ g i) : sumTo n f ≤ sumTo n g := by
  induction n with
  | zero => exact Nat.le_refl _
  | succ n ih =>
    simp only [sumTo]
    exact Nat.add_le_add (ih (fun i hi => h i (Nat.lt_succ_of_lt hi))) (h n (Nat.lt_succ_self n))

theorem sumTo_slack {n : Nat} {f g : Nat → Nat} (h : ∀ i, i < n → f i ≤ g i) (j d : Nat) (hj : j < n) (hd : f j + d ≤ g j) :
    sumTo n f + d ≤ sumTo n g := by
  induction n with
  | zero => cases hj
  | succ n ih =>
    simp only [sumTo]
    by_cases hjn : j = n
    · subst hjn
      have := sumTo_le (n := j) (fun i hi => h i (Nat.lt_succ_of_lt hi))
      omega
    · have hj' : j < n := by omega
      have := ih (fun i hi => h i (Nat.lt_succ_of_lt hi)) hj'
      have := h n (Nat.lt_succ_self n)
      omega

theorem sumTo_grow {n : Nat} {f g : Nat → Nat} (j d : Nat) (h : ∀ i, i < n → i ≠ j → g i ≤ f i) (hj : g j ≤ f j + d) :
    sumTo n g ≤ sumTo n f + d := by
  induction n with
  | zero => simp [sumTo]
  | succ n ih =>
    simp only [sumTo]
    have h1 := ih (fun i hi hne => h i (Nat.lt_succ_of_lt hi) hne)
    by_cases hjn : n = j
    · subst hjn
      have h2 : sumTo n g ≤ sumTo n f := sumTo_le (fun i hi => h i (Nat.lt_succ_of_lt hi) (by omega))
      omega
    · have := h n (Nat.lt_succ_self n) hjn
      omega

/- The weights of `poolRank`.  Taking an entry out of the inbox (4) must pay for the program counter the thread moves to
(`handler` or `finLock`, 1 each): 4 > 1.  A Message of the batch (2) pays for `handler → finLock` (1 → 1); `start` (2)
and `finLock` (1) pay for the step that finds the inbox empty and goes idle (0).  The 4 per inbox entry reappears
below: the quit Message that `Shutdown` sends raises `poolRank` by 4, and the stage `Shutdown` moves to must be cheaper
by more than that. -/
def poolRank (th : PTh) : Nat :=
  4 * th.inbox.length + 2 * th.queue.length +
    (match th.pc with | .start => 2 | .handler => 1 | .finLock _ => 1 | _ => 0)

/- An upper bound for the steps of one API call, stage by stage.  `sub`, `reg`, `unreg`: 6 (call) > 3 (`unregLock1`) > 2
(`unregWait`) > 1 (the last lock) > 0.  `Shutdown`, with `S` pool threads in the two tables: 20·S + 40 (call) > + 30
(`sdLock`) > + 8 (`sdSwap false`) > + 4 (`sdSwap true`) > 2 (`sdFinal`).  Emptying a table into the join list leaves
`S + rest.length` one smaller than `S` was, and the first thread gets its quit Message (4 more in `poolRank`); so a
thread in a table must weigh more than the join stage and the quit Message less the swap stage:
20 > 18 + 4 − 4.  Each join after that takes one thread off `rest`: 20 > 4.  After the last join of a table comes
`sdSwap true` with `nA > 0` (4 + 12), or `sdSwap false`, or `sdFinal`: 18 > 16.  The 12 is there because with `nA > 0`
and an empty active table `Shutdown` goes round again through `sdSwap false`: 4 + 12 > 8.  The tables only shrink
while `_shuttingDown` is set, so the other threads' ranks, which grow with `S`, do not rise. -/
/-- S = number of pool threads still in the tables -/
def cost (S : Nat) : Op → Nat
  | .shutdown => 20 * S + 40
  | _ => 6

def stagePc (S : Nat) (prog : List Op) : UPc → Nat
  | .done => 0
  | .opStart => (match prog with | op :: _ => cost S op | [] => 0)
  | .subLock _ _ => 1 | .regLock _ => 1 | .unregLock1 _ => 3 | .unregWait _ => 2 | .unregLock2 _ => 1
  | .sdLock => 20 * S + 30
  | .sdSwap false _ _ => 20 * S + 8
  | .sdSwap true nA _ => 20 * S + 4 + (if nA > 0 then 12 else 0)
  | .sdJoin _ _ _ _ _ rest => 20 * (S + rest.length) + 18
  | .sdFinal _ => 2

def stage (S : Nat) (u : UTh) : Nat := stagePc S u.prog u.pc

def costs (S : Nat) : List Op → Nat
  | [] => 0
  | op :: r => cost S op + costs S r

def userRank (S : Nat) (u : UTh) : Nat := costs S u.prog.tail + stage S u

def tableSize (c : Cfg) : Nat := c.p.availR.length + c.p.active.length

def rank (c : Cfg) : Nat := sumTo c.nU (fun t => userRank (tableSize c) (c.uth t)) + sumTo c.p.idc (fun T => poolRank (c.pth T))

theorem cost_mono {S S' : Nat} (h : S' ≤ S) (op : Op) : cost S' op ≤ cost S op := by
  cases op <;> simp only [cost] <;> omega

theorem costs_mono {S S' : Nat} (h : S' ≤ S) (l : List Op) : costs S' l ≤ costs S l := by
  induction l with
  | nil => exact Nat.le_refl _
  | cons a r ih => simp only [costs]; exact Nat.add_le_add (cost_mono h a) ih

theorem stage_mono {S S' : Nat} (h : S' ≤ S) (u : UTh) : stage S' u ≤ stage S u := by
  unfold stage
  cases u.pc with
  | opStart => simp only [stagePc]; split <;> first | exact cost_mono h _ | exact Nat.le_refl _
  | sdSwap b nA tot => cases b <;> simp only [stagePc] <;> omega
  | sdJoin b nA tot n T rest => simp only [stagePc]; omega
  | sdLock => simp only [stagePc]; omega
  | _ => simp only [stagePc]; exact Nat.le_refl _

theorem userRank_mono {S S' : Nat} (h : S' ≤ S) (u : UTh) : userRank S' u ≤ userRank S u :=
  Nat.add_le_add (costs_mono h _) (stage_mono h u)

theorem userRank_congr (S : Nat) {u u' : UTh} (h1 : u'.pc = u.pc) (h2 : u'.prog = u.prog) : userRank S u' = userRank S u := by
  simp only [userRank, stage, h1, h2]

theorem userRank_advance (S : Nat) (u : UTh) : userRank S (advance u) = costs S u.prog.tail := by
  unfold advance
  split
  · rename_i h; rw [h]; simp [userRank, stage, stagePc, costs]
  · rename_i r hr
    cases hr' : u.prog.tail with
    | nil => simp [userRank, stage, stagePc, costs]
    | cons a r2 => simp [userRank, stage, stagePc, costs, Nat.add_comm]

theorem userRank_stage_lt (S : Nat) {u u' : UTh} (hprog : u'.prog = u.prog) (h : stage S u' < stage S u) :
    userRank S u' < userRank S u := by
  unfold userRank; rw [hprog]; exact Nat.add_lt_add_left h _

theorem PcNext.stage_lt {pc pc' : UPc} (h : PcNext pc pc') (hpl : callOf pc ≠ some .shutdown) (S : Nat) (prog : List Op) :
    stagePc S prog pc' < stagePc S prog pc := by
  cases h with
  | block | pass | woken => simp [stagePc]
  | _ => exact absurd rfl hpl

theorem ULocal.rank_lt {u u' : UTh} (h : ULocal u u') (hpl : callOf u.pc ≠ some .shutdown) (S : Nat) : userRank S u' < userRank S u := by
  cases h with
  | @enter op _ hpc hp => exact userRank_stage_lt S rfl (by cases op <;> simp [stage, stagePc, cost, firstPc, hpc, hp])
  | stay hnx => exact userRank_stage_lt S rfl (hnx.stage_lt hpl S u.prog)
  | @ret v hnd hne hpc hprog =>
    rw [userRank_advance, hprog]
    refine Nat.lt_add_of_pos_right ?_
    unfold stage
    cases e : u.pc with
    | done => exact absurd e hnd
    | opStart =>
      cases hp : u.prog with
      | nil => exact absurd hp (hne e)
      | cons op r => cases op <;> simp [stagePc, cost]
    | sdSwap b nA tot => cases b <;> simp only [stagePc] <;> omega
    | _ => simp [stagePc]

theorem fetched_rank_le (th : PTh) :
    poolRank (fetched th) + 3 ≤ 4 * th.inbox.length + 2 * th.queue.length ∨
    (th.inbox = [] ∧ poolRank (fetched th) = 2 * th.queue.length) := by
  rcases fetched_cases th with ⟨h, e⟩ | ⟨_, h, e⟩ | ⟨_, h, ⟨_, _, _, _, _, e⟩ | ⟨_, _, _, e⟩ | ⟨_, e⟩⟩ <;> rw [e]
  · right; simp [poolRank, h]
  all_goals left; simp [poolRank, h]; omega

theorem pstep_rank {c c' : Cfg} {T : PTid} (hs : PStep c T c') (hsh : c.p.shut = true) :
    poolRank (c'.pth T) < poolRank (c.pth T) := by
  have hf : ∀ (f : PTid → PTh) (th : PTh), poolRank (upd f T (fetched th) T) = poolRank (fetched th) := fun f th => by rw [upd_same]
  cases hs with
  | look hpc =>
    rw [fetch_eq]
    have := fetched_rank_le (c.pth T)
    rw [hf]
    rcases hpc with hpc | ⟨hpc, hin⟩
    · simp only [poolRank, hpc] at this ⊢; omega
    · have hl := List.length_pos_iff.2 hin
      simp only [poolRank, hpc] at this ⊢
      rcases this with h | ⟨h, _⟩
      · omega
      · exact absurd h hin
  | next hpc hc hq => simp [upd_same, poolRank, hpc, hq]
  | last hpc hc hq => simp [upd_same, poolRank, hpc, hq]
  | finishShut hpc hs =>
    rw [fetch_eq, hf]
    have := fetched_rank_le (upd c.pth T { (c.pth T) with pc := .idle } T)
    simp only [upd_same] at this ⊢
    simp only [poolRank, hpc] at this ⊢
    omega
  | finish hpc hs => exact absurd (hsh.symm.trans hs) nofun

theorem rank_user {c c' : Cfg} (t : Tid) (ht : t < c.nU) (δ : Nat)
    (hn : c'.nU = c.nU) (hi : c'.p.idc = c.p.idc) (hS : tableSize c' ≤ tableSize c)
    (hoth : ∀ t', t' ≠ t → (c'.uth t').pc = (c.uth t').pc ∧ (c'.uth t').prog = (c.uth t').prog)
    (hpool : sumTo c.p.idc (fun T => poolRank (c'.pth T)) ≤ sumTo c.p.idc (fun T => poolRank (c.pth T)) + δ)
    (hme : userRank (tableSize c') (c'.uth t) + δ < userRank (tableSize c) (c.uth t)) : rank c' < rank c := by
  unfold rank
  rw [hn, hi]
  have h1 := sumTo_slack (n := c.nU) (f := fun t => userRank (tableSize c') (c'.uth t)) (g := fun t => userRank (tableSize c) (c.uth t))
    (fun i _ => by
      by_cases hit : i = t
      · subst hit; exact Nat.le_of_lt (Nat.lt_of_le_of_lt (Nat.le_add_right _ _) hme)
      · show userRank (tableSize c') (c'.uth i) ≤ userRank (tableSize c) (c.uth i)
        rw [userRank_congr _ (hoth i hit).1 (hoth i hit).2]; exact userRank_mono hS _)
    t (δ + 1) ht (by show userRank (tableSize c') (c'.uth t) + (δ + 1) ≤ userRank (tableSize c) (c.uth t); omega)
  omega

theorem rank_local {c c' : Cfg} (t : Tid) (ht : t < c.nU) (hn : c'.nU = c.nU) (e : SameThreads c c')
    (hoth : ∀ t', t' ≠ t → (c'.uth t').pc = (c.uth t').pc ∧ (c'.uth t').prog = (c.uth t').prog)
    (hme : userRank (tableSize c) (c'.uth t) < userRank (tableSize c) (c.uth t)) : rank c' < rank c := by
  have hS : tableSize c' = tableSize c := by simp [tableSize, e.availR, e.active]
  exact rank_user t ht 0 hn e.idc (Nat.le_of_eq hS) hoth (by rw [e.pth]; exact Nat.le_refl _) (by rw [hS]; exact hme)

theorem sendQuit_rank (pth : PTid → PTh) (l : List PTid) (n : Nat) :
    sumTo n (fun T => poolRank (sendQuit pth l T)) ≤ sumTo n (fun T => poolRank (pth T)) + (if l = [] then 0 else 4) := by
  cases l with
  | nil => exact Nat.le_refl _
  | cons T rest =>
    rw [if_neg (List.cons_ne_nil _ _)]
    apply sumTo_grow T 4
    · intro i _ hne; simp [sendQuit, upd_other, hne]
    · simp [sendQuit, upd_same, poolRank]; omega

theorem rank_sd {c c1 : Cfg} (t : Tid) (ht : t < c.nU) (b : Bool) (nA tot n : Nat) (l : List PTid)
    (h1 : c1.nU = c.nU) (h2 : c1.p.idc = c.p.idc) (h3 : c1.pth = c.pth) (h4 : c1.uth = c.uth) (hS : tableSize c1 ≤ tableSize c)
    (hst : stagePc (tableSize c1) (c.uth t).prog (sdNextPc b nA tot n l) + (if l = [] then 0 else 4) < stage (tableSize c) (c.uth t)) :
    rank (sdNext c1 t b nA tot n l) < rank c := by
  have hS1 : tableSize (sdNext c1 t b nA tot n l) = tableSize c1 := by unfold tableSize; rw [sdNext_pool]
  refine rank_user t ht (if l = [] then 0 else 4) (by rw [sdNext_eq]; exact h1) (by rw [sdNext_pool, h2]) (by rw [hS1]; exact hS)
    (fun t' ht' => ?_) ?_ ?_
  · have e : (sdNext c1 t b nA tot n l).uth t' = c.uth t' := by rw [sdNext_eq, ← h4]; exact upd_other _ _ _ _ ht'
    rw [e]; exact ⟨rfl, rfl⟩
  · rw [sdNext_eq, ← h3]; exact sendQuit_rank ..
  · rw [hS1, sdNext_self, h4]
    have hc := costs_mono hS (c.uth t).prog.tail
    simp only [userRank, stage] at hst ⊢
    omega

attribute [local simp] stage stagePc cost in
theorem ustep_rank {c c' : Cfg} {t : Tid} (hs : UStep c t c') (hsh : c.p.shut = true) (ht : t < c.nU) : rank c' < rank c := by
  have hoth : ∀ t', t' ≠ t → (c'.uth t').pc = (c.uth t').pc ∧ (c'.uth t').prog = (c.uth t').prog :=
    fun _ ht' => ⟨hs.outside.pc_other ht', hs.outside.prog_other ht'⟩
  by_cases hsd : callOf (c.uth t).pc = some .shutdown
  case neg =>
    exact rank_local t ht hs.outside.nU (hs.outside.idle hsd hsh) hoth (hs.outside.own.rank_lt hsd _)
  case pos =>
    cases hs.sd hsd with
    | sdBegin hpc =>
      refine rank_local t ht rfl ⟨rfl, rfl, rfl, rfl⟩ hoth ?_
      show userRank _ (upd c.uth t _ t) < _
      rw [upd_same]; exact userRank_stage_lt _ rfl (by simp [hpc])
    | @sdSwapActive nA tot hpc =>
      refine rank_sd t ht true nA tot _ _ rfl rfl rfl rfl (by simp [tableSize]) ?_
      cases hact : c.p.active with
      | nil => by_cases hnA : nA > 0 <;> simp [sdNextPc, hpc, tableSize, hact, hnA]
      | cons T rest => simp [sdNextPc, hpc, tableSize, hact]; omega
    | @sdSwapAvail nA tot hpc =>
      refine rank_sd t ht false nA tot _ _ rfl rfl rfl rfl (by simp [tableSize]) ?_
      have hlen : c.p.availR.reverse.length = c.p.availR.length := List.length_reverse
      cases hact : c.p.availR.reverse with
      | nil => rw [hact] at hlen; simp [sdNextPc, hpc, tableSize, ← hlen]
      | cons T rest => rw [hact] at hlen; simp [sdNextPc, hpc, tableSize, ← hlen]; omega
    | @sdJoined b nA tot n T r hpc hex =>
      refine rank_sd t ht b nA tot n r rfl rfl rfl rfl (Nat.le_refl _) ?_
      cases r with
      | nil =>
        cases b with
        | false => simp [sdNextPc, hpc]; split <;> omega
        | true => by_cases hc : nA > 0 ∨ n > 0 <;> simp [sdNextPc, hpc, hc]
      | cons T2 r2 => simp [sdNextPc, hpc]; omega
    | sdFinish hpc =>
      refine rank_user t ht 0 rfl rfl (by simp [tableSize]) hoth (Nat.le_refl _) ?_
      have hna := notifyAll_spec c.p.waitK c.p.waitT c.uth t
      show userRank _ (upd _ t (advance (notifyAll c.p.waitK c.p.waitT c.uth t)) t) + 0 < _
      rw [upd_same, userRank_advance, hna.2.1]
      have := costs_mono (Nat.zero_le (c.p.availR.length + c.p.active.length)) (c.uth t).prog.tail
      simp only [tableSize, List.length_nil, Nat.add_zero, userRank, stage, stagePc, hpc]
      omega

theorem rank_pool {c c' : Cfg} (T : PTid) (hT : T < c.p.idc) (a : OnlyThread c T c') (hme : poolRank (c'.pth T) < poolRank (c.pth T)) : rank c' < rank c := by
  unfold rank tableSize
  rw [a.uth, a.nU, a.p]
  have := sumTo_slack (n := c.p.idc) (f := fun T => poolRank (c'.pth T)) (g := fun T => poolRank (c.pth T))
    (fun j _ => by
      by_cases hj : j = T
      · subst hj; exact Nat.le_of_lt hme
      · show poolRank (c'.pth j) ≤ poolRank (c.pth j)
        rw [a.others j hj]; exact Nat.le_refl _)
    T 1 hT hme
  omega

theorem rank_decreases {c c' : Cfg} {e : Ev} {o} (hp : InvP c) (hsh : c.p.shut = true) (hs : step c e = some (c', o)) :
    rank c' < rank c ∧ c'.p.shut = true := by
  rcases step_cases hs with ⟨t, ht, _, hu⟩ | ⟨T, _, hps⟩
  · exact ⟨ustep_rank hu hsh ht, hu.outside.shut.2 (Or.inl hsh)⟩
  · have a := hps.outside.shut hsh
    exact ⟨rank_pool T (pstep_lt hp hps) a (pstep_rank hps hsh), a.p ▸ hsh⟩

end Muscle.Conc.TP
