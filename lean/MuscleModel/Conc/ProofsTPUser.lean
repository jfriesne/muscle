import MuscleModel.Conc.ProofsTPHandled

/-! # C19 proofs: the user side of progress (the waiters of `UnregisterClient`, who owns the shutdown phase) -/

namespace Muscle.Conc.TP
open Muscle.Conc

/-- The user side of who is enabled: a thread blocked in `UnregisterClient` is registered as a waiter, so that somebody owes it the wake-up. -/
structure InvU (c : Cfg) : Prop where
  /-- nobody registers with a pool that is, or is going to be, shut down -/
  noReg : (∃ t0, Op.shutdown ∈ (c.uth t0).prog) ∨ c.p.shut = true → ∀ t k, Op.reg k ∉ (c.uth t).prog
  /-- a thread blocked in `UnregisterClient` is in the table of waiters -/
  waiter : ∀ t k, (c.uth t).pc = .unregWait k → (c.uth t).notif = 0 → k ∈ c.p.waitK ∧ c.p.waitT k = t

/-- only `unregBlock` enters the wait, and only `unreg` (of a client nobody else waits for, by the discipline) and the last
section of `Shutdown` (which notifies everybody) shrink the table -/
theorem invU_waiter_ustep {c c' : Cfg} {t : Tid} (h : InvU c) (hb : InvBase c) (hd : Disc c) (hs : UStep c t c') :
    ∀ t' k, (c'.uth t').pc = .unregWait k → (c'.uth t').notif = 0 → k ∈ c'.p.waitK ∧ c'.p.waitT k = t' := by
  have hold : ∀ t' k, t' ≠ t → (c'.uth t').pc = .unregWait k → (c'.uth t').notif = 0 → k ∈ c.p.waitK ∧ c.p.waitT k = t' :=
    fun t' k ht' hp hn => by
      have ho := hs.outside.others t' ht'
      exact h.waiter t' k (ho.1 ▸ hp) (Nat.le_zero.1 (hn ▸ ho.2.2))
  have hsame : c'.p.waitK = c.p.waitK → c'.p.waitT = c.p.waitT → (∀ k, (c'.uth t).pc ≠ .unregWait k) →
      ∀ t' k, (c'.uth t').pc = .unregWait k → (c'.uth t').notif = 0 → k ∈ c'.p.waitK ∧ c'.p.waitT k = t' :=
    fun e1 e2 hme t' k hp hn => by
      by_cases ht' : t' = t
      · subst ht'; exact absurd hp (hme k)
      · rw [e1, e2]; exact hold t' k ht' hp hn
  have hset : ∀ (f : Tid → UTh) (u' : UTh), (∀ k, u'.pc ≠ .unregWait k) → ∀ k, (upd f t u' t).pc ≠ .unregWait k :=
    fun f u' h => by rw [upd_same]; exact h
  have hadv : ∀ u : UTh, ∀ k, (advance u).pc ≠ .unregWait k :=
    fun u k he => by rcases (advance_spec u).1 with h | h <;> rw [h] at he <;> cases he
  have hsd : ∀ b nA tot n l k, sdNextPc b nA tot n l ≠ .unregWait k := fun b nA tot n l k he => by
    have := sdNextPc_inShutdown b nA tot n l; rw [he] at this; cases this
  -- a client whose registration `t` is changing is nobody else's
  have hmine : ∀ k, mgClient (c.uth t).pc = some k → ∀ t' k', t' ≠ t → (c'.uth t').pc = .unregWait k' → k' ≠ k :=
    fun k hk t' k' ht' hp he => by
      rw [hs.outside.pc_other ht'] at hp
      exact ht' (hd t' t k (manages_uses ((hb.wf t').manages_of_mgClient (by rw [hp, he]; rfl))) ((hb.wf t).manages_of_mgClient hk))
  cases hs with
  | sub hpc => exact hsame (disp_subCS c _ _).waitK (disp_subCS c _ _).waitT (hset _ _ (hadv _))
  | @unregBlock k hpc ho =>
    intro t' k' hp hn
    show k' ∈ addKey c.p.waitK k ∧ upd c.p.waitT k t k' = t'
    by_cases ht' : t' = t
    · subst ht'
      have hk : k' = k := by simpa [upd_same] using hp.symm
      subst hk
      exact ⟨mem_addKey.2 (Or.inr rfl), upd_same ..⟩
    · obtain ⟨a, b⟩ := hold t' k' ht' hp hn
      exact ⟨mem_addKey.2 (Or.inl a), by
        rw [upd_other _ _ _ _ (hmine _ (by rw [hpc]; rfl) t' k' ht' hp)]; exact b⟩
  | unreg hpc =>
    intro t' k' hp hn
    by_cases ht' : t' = t
    · subst ht'; exact absurd hp (hset _ _ (hadv _) k')
    · obtain ⟨a, b⟩ := hold t' k' ht' hp hn
      exact ⟨mem_remKey.2 ⟨a, hmine _ (by rw [hpc]; rfl) t' k' ht' hp⟩, b⟩
  | shutdown hsd =>
    cases hsd with
    | sdFinish hpc =>
      intro t' k' hp hn
      by_cases ht' : t' = t
      · subst ht'; exact absurd hp (hset _ _ (hadv _) k')
      · obtain ⟨a, b⟩ := hold t' k' ht' hp hn
        have hpos := notifyAll_pos c.p.waitK c.p.waitT c.uth a
        rw [b] at hpos
        have : (upd (notifyAll c.p.waitK c.p.waitT c.uth) t (advance (notifyAll c.p.waitK c.p.waitT c.uth t)) t').notif = 0 := hn
        rw [upd_other _ _ _ _ ht'] at this
        omega
    | sdSwapActive | sdSwapAvail | sdJoined =>
      exact hsame (by rw [sdNext_pool]) (by rw [sdNext_pool]) (fun k => by rw [sdNext_self]; exact hsd _ _ _ _ _ k)
    | _ => exact hsame rfl rfl (hset _ _ (fun k => nofun))
  | skip hpc hp => exact hsame rfl rfl (hset _ _ (hadv _))
  | reg hpc => exact hsame rfl rfl (hset _ _ (hadv _))
  | _ => exact hsame rfl rfl (hset _ _ (fun k => nofun))

theorem invU_ustep {c c' : Cfg} {t : Tid} (h : InvU c) (hb : InvBase c) (hd : Disc c) (hu : UStep c t c') : InvU c' := by
  have hsub := ustep_progSub hu
  refine ⟨fun hh t' k hr => ?_, invU_waiter_ustep h hb hd hu⟩
  refine h.noReg ?_ t' k (hsub t' _ hr)
  rcases hh with ⟨t0, h0⟩ | hsh
  · exact Or.inl ⟨t0, hsub t0 _ h0⟩
  · exact (hu.outside.shut.1 hsh).imp_right (fun hpc => ⟨t, (hb.wf t).mem (by rw [hpc]; rfl)⟩) |>.symm

theorem invU_userView {c c' : Cfg} (h : InvU c) (hv : UserView c c') : InvU c' := by
  refine ⟨fun hh t k => ?_, fun t k hp hn => ?_⟩
  · rw [hv.prog t]
    refine h.noReg ?_ t k
    rcases hh with ⟨t0, h0⟩ | hsh
    · exact Or.inl ⟨t0, hv.prog t0 ▸ h0⟩
    · exact Or.inr (hv.shut ▸ hsh)
  · rw [hv.pc t] at hp
    rw [hv.waitT]
    rcases hv.woken with ⟨e1, e2⟩ | ⟨k0, hk0, e1, e2⟩
    · rw [e2]; exact h.waiter t k hp (e1 ▸ hn)
    · have hne : t ≠ c.p.waitT k0 := by
        intro he; rw [e1, he, upd_same] at hn; cases hn
      rw [e1, upd_other _ _ _ _ hne] at hn
      obtain ⟨a, b⟩ := h.waiter t k hp hn
      exact ⟨e2 ▸ mem_remKey.2 ⟨a, fun he => hne (by rw [← b, he])⟩, b⟩

/-- once `_shuttingDown` is set, some thread is still inside `Shutdown` (and will notify every waiter in its last section), or that section
has run and no client or waiter is left -/
def ShutdownOwned (c : Cfg) : Prop := c.p.shut = true → (∃ t, inShutdown (c.uth t).pc = true) ∨ (c.p.regK = [] ∧ c.p.waitK = [])

theorem shutdownOwned_ustep {c c' : Cfg} {t : Tid} (h : ShutdownOwned c) (hu : InvU c) (hb : InvBase c) (hs : UStep c t c') : ShutdownOwned c' := by
  have h0 := hb.inv0
  have hplain : callOf (c.uth t).pc ≠ some .shutdown →
      (c.p.shut = true → c.p.regK = [] → c.p.waitK = [] → c'.p.regK = [] ∧ c'.p.waitK = []) → ShutdownOwned c' := fun hpl hk hsh' => by
    have hsh : c.p.shut = true := (hs.outside.shut.1 hsh').resolve_right (fun hpc => hpl (by rw [hpc]; rfl))
    rcases h hsh with ⟨t0, ht0⟩ | ⟨a, b⟩
    · have hne : t0 ≠ t := fun he => by subst he; exact hpl (callOf_of_inShutdown ht0)
      exact Or.inl ⟨t0, by rw [hs.outside.pc_other hne]; exact ht0⟩
    · exact Or.inr (hk hsh a b)
  have hin : inShutdown (c'.uth t).pc = true → ShutdownOwned c' := fun hi _ => Or.inl ⟨t, hi⟩
  have hset : ∀ (f : Tid → UTh) (u' : UTh), inShutdown u'.pc = true → inShutdown (upd f t u' t).pc = true :=
    fun f u' h => by rw [upd_same]; exact h
  cases hs with
  | sub hpc => exact hplain (by rw [hpc]; nofun) (fun _ a b => ⟨(disp_subCS c _ _).regK.trans a, (disp_subCS c _ _).waitK.trans b⟩)
  | @reg k hpc =>
    refine hplain (by rw [hpc]; nofun) (fun hsh _ _ => ?_)
    exact absurd ((hb.wf t).mem (by rw [hpc]; rfl)) (hu.noReg (Or.inr hsh) t k)
  | @unregBlock k hpc ho =>
    refine hplain (by rw [hpc]; nofun) (fun _ a _ => ?_)
    have hk : k ∉ c.p.regK := by rw [a]; exact List.not_mem_nil
    exact absurd ((outstanding_false_iff c k).2 ⟨h0.wfFlag k hk, h0.wfQ k hk⟩) (by rw [ho]; nofun)
  | unreg hpc =>
    refine hplain (by rw [hpc]; nofun) (fun _ a b => ?_)
    show remKey c.p.regK _ = [] ∧ remKey c.p.waitK _ = []
    rw [a, b]; exact ⟨rfl, rfl⟩
  | shutdown hsd =>
    cases hsd with
    | sdBegin hpc => exact hin (hset _ _ rfl)
    | sdSwapActive | sdSwapAvail | sdJoined => exact hin (by rw [sdNext_self]; exact sdNextPc_inShutdown ..)
    | sdFinish hpc => exact fun _ => Or.inr ⟨rfl, rfl⟩
  | _ => exact hplain (by rw [‹(c.uth t).pc = _›]; nofun) (fun _ a b => ⟨a, b⟩)

theorem shutdownOwned_userView {c c' : Cfg} (h : ShutdownOwned c) (hv : UserView c c') : ShutdownOwned c' := by
  intro hs
  refine (h (hv.shut ▸ hs)).imp (fun ⟨t0, h0⟩ => ⟨t0, by rw [hv.pc t0]; exact h0⟩) (fun ⟨a, b⟩ => ⟨hv.regK.trans a, ?_⟩)
  rcases hv.woken with ⟨_, e2⟩ | ⟨k, _, _, e2⟩
  · exact e2.trans b
  · rw [e2, b]; rfl

end Muscle.Conc.TP
