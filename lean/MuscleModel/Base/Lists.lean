/-! What the proofs need about `List`, `Option` and `if` beyond Lean's core library.  Nothing here
mentions the model. -/

namespace Muscle

theorem ite_pred {α : Sort _} {P : α → Prop} {c : Prop} [Decidable c] {x y : α} (hx : P x) (hy : P y) :
    P (if c then x else y) := by
  split
  · exact hx
  · exact hy

theorem foldl_inv {α β} (P : β → Prop) (g : β → α → β) (h : ∀ b a, P b → P (g b a)) (l : List α) (b : β) (hb : P b) :
    P (l.foldl g b) :=
  List.foldlRecOn l g hb fun b hb a _ => h b a hb

theorem foldl_rel {α β} {R : β → β → Prop} (hr : ∀ b, R b b) (ht : ∀ {a b c}, R a b → R b c → R a c) (g : β → α → β)
    (l : List α) (h : ∀ b, ∀ a ∈ l, R b (g b a)) (b : β) : R b (l.foldl g b) :=
  List.foldlRecOn (motive := fun x => R b x) l g (hr b) fun x hx a ha => ht hx (h x a ha)

theorem foldl_rel_inv {α β} {R : β → β → Prop} {I : β → Prop} (hr : ∀ b, R b b) (ht : ∀ {a b c}, R a b → R b c → R a c)
    (g : β → α → β) (l : List α) (hg : ∀ b a, a ∈ l → I b → R b (g b a) ∧ I (g b a)) (b : β) (hb : I b) :
    R b (l.foldl g b) ∧ I (l.foldl g b) :=
  List.foldlRecOn (motive := fun x => R b x ∧ I x) l g ⟨hr b, hb⟩ fun x hx a ha =>
    ⟨ht hx.1 (hg x a ha hx.2).1, (hg x a ha hx.2).2⟩

theorem foldl_last_some {α} (ds : List α) (d : α) (v : Option α) : (ds ++ [d]).foldl (fun _ x => some x) v = some d := by
  rw [List.foldl_append]; rfl

theorem find_of_mem {α κ} [DecidableEq κ] {key : α → κ} {l : List α} (hn : (l.map key).Nodup) {x : α} (hx : x ∈ l) :
    l.find? (fun y => key y = key x) = some x := by
  induction l with
  | nil => cases hx
  | cons a r ih =>
    rw [List.map_cons, List.nodup_cons] at hn
    rcases List.mem_cons.mp hx with rfl | hr
    · exact List.find?_cons_of_pos (p := fun y => decide (key y = key x)) (decide_eq_true rfl)
    · have hne : ¬ key a = key x := fun e => hn.1 (e ▸ List.mem_map_of_mem hr)
      rw [List.find?_cons_of_neg (p := fun y => decide (key y = key x)) (by simpa using hne)]
      exact ih hn.2 hr

theorem mem_keys_inj {α κ} [DecidableEq κ] {key : α → κ} {l : List α} (hn : (l.map key).Nodup) {x y : α} (hx : x ∈ l)
    (hy : y ∈ l) (hk : key x = key y) : x = y := by
  have h := find_of_mem hn hx
  rw [hk, find_of_mem hn hy] at h
  exact (Option.some.inj h).symm

/-- in a list with pairwise distinct keys, selecting the key `k` yields at most one element -/
theorem filterMap_key {κ β γ} [DecidableEq κ] {l : List (κ × β)} (h : (l.map (·.1)).Nodup) (k : κ) (X : Option γ) :
    l.filterMap (fun p => if p.1 = k then X else none) = if l.any (fun p => p.1 = k) then X.toList else [] := by
  induction l with
  | nil => rfl
  | cons a r ih =>
    rw [List.map_cons, List.nodup_cons] at h
    rw [List.filterMap_cons, List.any_cons, ih h.2]
    by_cases hk : a.1 = k
    · have hr : r.any (fun p => p.1 = k) = false :=
        List.any_eq_false.2 fun p hp hpk => h.1 (by
          rw [hk, ← of_decide_eq_true hpk]; exact List.mem_map_of_mem (f := (·.1)) hp)
      cases X <;> simp [hk, hr]
    · rw [if_neg hk]
      simp only [decide_eq_false hk, Bool.false_or]

theorem nodup_map_of_pairwise {α β γ} {l : List α} {f : α → β} {g : α → γ} (h : (l.map f).Nodup)
    (hfg : ∀ x ∈ l, ∀ y ∈ l, g x = g y → f x = f y) : (l.map g).Nodup := by
  show List.Pairwise (· ≠ ·) _
  rw [List.pairwise_map]
  refine List.Pairwise.imp_of_mem ?_ (List.pairwise_map.1 h)
  intro a b ha hb hab hg
  exact hab (hfg a ha b hb hg)

theorem nodup_getElem?_ne {α} {l : List α} (h : l.Nodup) {x : α} {i j : Nat} (hi : l[i]? = some x) (hij : i ≠ j) :
    l[j]? ≠ some x := fun hj =>
  hij ((List.getElem?_inj (List.getElem?_eq_some_iff.mp hi).1 h).mp (hi.trans hj.symm))

/-- in a duplicate-free list an entry among the first `m` does not occur again from `m` on -/
theorem nodup_take_ne {α} {l : List α} (h : l.Nodup) {x : α} {m : Nat} (hx : x ∈ l.take m) (j : Nat) (hj : m ≤ j) :
    l[j]? ≠ some x := by
  obtain ⟨k, hk⟩ := List.mem_iff_getElem?.mp hx
  rw [List.getElem?_take] at hk
  split at hk
  · exact nodup_getElem?_ne h hk (by omega)
  · cases hk

theorem not_mem_eraseIdx_of_nodup {α} {xs : List α} {i : Nat} {k : α} (h : xs.Nodup) (hk : xs[i]? = some k) :
    k ∉ xs.eraseIdx i := fun hm => by
  obtain ⟨j, hj, he⟩ := List.mem_eraseIdx_iff_getElem?.mp hm
  exact nodup_getElem?_ne h hk (Ne.symm hj) he

theorem nodup_middle_not_mem {α} {x y : List α} {k : α} (hn : (x ++ k :: y).Nodup) : k ∉ x ∧ k ∉ y := by
  have h := List.nodup_append.mp hn
  exact ⟨fun hm => h.2.2 k hm k List.mem_cons_self rfl, (List.nodup_cons.mp h.2.1).1⟩

theorem filter_ne_of_not_mem {α} [DecidableEq α] {l : List α} {k : α} (h : k ∉ l) : l.filter (fun x => x ≠ k) = l :=
  List.filter_eq_self.mpr fun _ hx => decide_eq_true fun e => h (e ▸ hx)

theorem filter_ne_middle {α} [DecidableEq α] {x y : List α} {k : α} (hn : (x ++ k :: y).Nodup) :
    (x ++ k :: y).filter (fun a => a ≠ k) = x ++ y := by
  obtain ⟨hx, hy⟩ := nodup_middle_not_mem hn
  rw [List.filter_append, List.filter_cons_of_neg (by simp), filter_ne_of_not_mem hx, filter_ne_of_not_mem hy]

theorem filter_ne_cons {α} [DecidableEq α] {t : List α} {k : α} (hn : (k :: t).Nodup) :
    (k :: t).filter (fun a => a ≠ k) = t :=
  filter_ne_middle (x := []) hn

theorem nodup_subset_erase_length {α} [DecidableEq α] {l1 l2 : List α} {c : α} (hn : l1.Nodup) (hc : c ∈ l2)
    (hs : ∀ x ∈ l1, x ∈ l2 ∧ x ≠ c) : l1.length < l2.length := by
  have := hn.length_le_of_subset (l₂ := l2.erase c) fun x hx => (List.mem_erase_of_ne (hs x hx).2).mpr (hs x hx).1
  rw [List.length_erase_of_mem hc] at this
  have := List.length_pos_of_mem hc
  omega

theorem mem_takeWhile_imp {α} {p : α → Bool} {l : List α} {x : α} (h : x ∈ l.takeWhile p) : p x = true :=
  List.all_eq_true.mp List.all_takeWhile x h

theorem takeWhile_rev_split {α} (p : α → Bool) (l : List α) :
    (l.reverse.dropWhile p).reverse ++ (l.reverse.takeWhile p).reverse = l := by
  rw [← List.reverse_append, List.takeWhile_append_dropWhile, List.reverse_reverse]

theorem isEmpty_take {α} (v : List α) (n : Nat) : (v.take n).isEmpty = (v.isEmpty || n == 0) := by
  cases v <;> cases n <;> rfl

theorem length_take_drop {α} (m : List α) (a n : Nat) (h : a + n ≤ m.length) : ((m.drop a).take n).length = n := by
  rw [List.length_take_of_le]; rw [List.length_drop]; omega

/-- inserting at a position clipped to the length is inserting at the position: `n` is the length after the insertion -/
theorem take_drop_min {α} {l : List α} {n : Nat} (hl : l.length + 1 = n) (x : α) (i : Nat) :
    l.take (min i (n - 1)) ++ x :: l.drop (min i (n - 1)) = l.take i ++ x :: l.drop i := by
  subst hl
  rw [Nat.add_sub_cancel]
  rcases Nat.le_total i l.length with h | h
  · rw [Nat.min_eq_left h]
  · rw [Nat.min_eq_right h, List.take_of_length_le h, List.drop_of_length_le h, List.take_length, List.drop_length]

theorem head_erase_ne {α} [BEq α] [LawfulBEq α] {c : α} {l : List α} (h : l.head? ≠ some c) :
    (l.erase c).head? = l.head? := by
  cases l with
  | nil => rfl
  | cons a r =>
    have : ¬ (a == c) = true := by simpa using fun e : a = c => h (by simp [e])
    rw [List.erase_cons_tail this]; rfl

theorem flatten_dropWhile_empty {α} (l : List (List α)) : (l.dropWhile (fun c => c.isEmpty)).flatten = l.flatten := by
  induction l with
  | nil => rfl
  | cons c cs ih =>
    rw [List.dropWhile_cons]
    cases hc : c.isEmpty with
    | true => simp [ih, List.isEmpty_iff.mp hc]
    | false => simp

theorem lookup_mem_snd {α β} [BEq α] : ∀ (l : List (α × β)) (k : α) (v : β), l.lookup k = some v → v ∈ l.map Prod.snd
  | [], _, _, h => by cases h
  | (a, b) :: r, k, v, h => by
    rw [List.lookup_cons] at h
    rw [List.map_cons, List.mem_cons]
    cases hk : k == a with
    | true => rw [hk] at h; exact .inl (Option.some.inj h).symm
    | false => rw [hk] at h; exact .inr (lookup_mem_snd r k v h)

theorem getD_set' {α} (l : List α) (j k : Nat) (v d : α) :
    (l.set j v).getD k d = if j = k ∧ k < l.length then v else l.getD k d := by
  simp only [List.getD_eq_getElem?_getD, List.getElem?_set]
  by_cases h : j = k
  · subst h
    by_cases h2 : j < l.length <;> simp [h2]
  · simp [h]

theorem set_getD_self {α} (l : List α) (i : Nat) (d : α) : l.set i (l.getD i d) = l := by
  by_cases h : i < l.length
  · rw [List.getD_eq_getElem?_getD, List.getElem?_eq_getElem h, Option.getD_some, List.set_getElem_self]
  · exact List.set_eq_of_length_le (Nat.le_of_not_lt h)

theorem take_succ_set {α} (l : List α) (w : Nat) (x : α) (hw : w < l.length) :
    (l.set w x).take (w + 1) = l.take w ++ [x] := by
  rw [List.take_add_one, List.take_set_of_le (Nat.le_refl w), List.getElem?_set_self hw]; rfl

theorem all_of_getD {α} (l : List α) (d d' : α) (h : ∀ j, j < l.length → l.getD j d' = d) : ∀ x ∈ l, x = d := by
  intro x hx
  obtain ⟨j, hj, rfl⟩ := List.mem_iff_getElem.1 hx
  have := h j hj
  rwa [List.getD_eq_getElem?_getD, List.getElem?_eq_getElem hj, Option.getD_some] at this

theorem cut3 {α} (l : List α) {a b : Nat} (hab : a ≤ b) : l = l.take a ++ ((l.drop a).take (b - a) ++ l.drop b) := by
  have e : (l.drop a).drop (b - a) = l.drop b := by rw [List.drop_drop, Nat.add_sub_of_le hab]
  rw [← e, List.take_append_drop, List.take_append_drop]

theorem cut3_take {α} (l : List α) {a b : Nat} (hab : a ≤ b) : l.take a ++ (l.drop a).take (b - a) = l.take b := by
  rw [← List.take_add, Nat.add_sub_of_le hab]

theorem exists_snoc {α} {l : List α} (h : l ≠ []) : ∃ m y, l = m ++ [y] :=
  ⟨_, _, (List.dropLast_concat_getLast h).symm⟩

theorem snoc_induction {α} {motive : List α → Prop} (nil : motive []) (snoc : ∀ l x, motive l → motive (l ++ [x])) (l : List α) :
    motive l := by
  rw [← List.reverse_reverse l]
  induction l.reverse with
  | nil => exact nil
  | cons x t ih => rw [List.reverse_cons]; exact snoc _ _ ih

theorem not_two_prefix_one {α} (a b c : α) : ¬ [a, b] <+: [c] := fun h => by
  have := h.length_le
  simp at this

theorem not_prefix_of_other {α} {p q l : List α} (hl : p.length = q.length) (hne : q ≠ p) (hq : q <+: l) :
    ¬ p <+: l := by
  intro hp
  rw [List.prefix_iff_eq_take] at hp hq
  apply hne
  rw [hp, hq, hl]

theorem prefix_dropLast {α} {p l : List α} (h : p <+: l) (hl : p.length < l.length) : p <+: l.dropLast := by
  obtain ⟨t, rfl⟩ := h
  have : t ≠ [] := by
    intro e; subst e; simp at hl
  rw [List.dropLast_append_of_ne_nil this]
  exact List.prefix_append _ _

theorem idxOf_append_lt {α} [BEq α] [LawfulBEq α] {l r : List α} {a b : α} (ha : a ∈ l) (hb : b ∉ l) :
    (l ++ r).idxOf a < (l ++ r).idxOf b := by
  rw [List.idxOf_append, List.idxOf_append]
  have := List.idxOf_lt_length_of_mem ha
  simp only [ha, hb, if_true, if_false]
  omega

section
variable {α} [BEq α] [LawfulBEq α]

theorem contains_filter_keep {l : List α} {p : α → Bool} {m : α} (h : p m = true) :
    (l.filter p).contains m = l.contains m := by
  rw [Bool.eq_iff_iff, List.contains_iff_mem, List.contains_iff_mem, List.mem_filter]
  exact ⟨And.left, fun h1 => ⟨h1, h⟩⟩

theorem contains_add {l : List α} {n m : α} (h : m ≠ n) :
    (if l.contains n then l else l ++ [n]).contains m = l.contains m := by
  split
  · rfl
  · rw [Bool.eq_iff_iff, List.contains_iff_mem, List.contains_iff_mem, List.mem_append, List.mem_singleton]
    exact ⟨fun h1 => h1.resolve_right h, Or.inl⟩

theorem contains_add_self (l : List α) (n : α) : (if l.contains n then l else l ++ [n]).contains n = true := by
  split
  · assumption
  · rw [List.contains_iff_mem]; exact List.mem_append_right _ (List.mem_singleton_self n)

variable [DecidableEq α]

theorem contains_filter_ne {l : List α} {n m : α} (h : m ≠ n) : (l.filter (· ≠ n)).contains m = l.contains m :=
  contains_filter_keep (decide_eq_true h)

theorem contains_filter_ne_self (l : List α) (n : α) : (l.filter (· ≠ n)).contains n = false := by
  rw [Bool.eq_false_iff]
  intro h
  rw [List.contains_iff_mem, List.mem_filter] at h
  exact of_decide_eq_true h.2 rfl

end

theorem find?_congr' {α} (l : List α) (p p' : α → Bool) (h : ∀ k, k ∈ l → p k = p' k) : l.find? p = l.find? p' := by
  induction l with
  | nil => rfl
  | cons a t ih =>
    rw [List.find?_cons, List.find?_cons, h a List.mem_cons_self, ih fun k hk => h k (List.mem_cons_of_mem _ hk)]

theorem find?_map_pred {α} (g : α → α) (p : α → Bool) (hp : ∀ x, p (g x) = p x) (l : List α) :
    (l.map g).find? p = (l.find? p).map g := by
  rw [List.find?_map, show p ∘ g = p from funext hp]

theorem find?_filter_of_imp {α} (p q : α → Bool) (h : ∀ x, p x = true → q x = true) (l : List α) :
    (l.filter q).find? p = l.find? p := by
  rw [List.find?_filter]
  exact find?_congr' l _ p fun a _ => by cases hp : p a <;> simp [hp, h a]

theorem flatMap_congr_mem {α β} {l : List α} {f g : α → List β} (h : ∀ x ∈ l, f x = g x) : l.flatMap f = l.flatMap g := by
  rw [List.flatMap_def, List.flatMap_def, List.map_congr_left h]

theorem filter_ne_map_set {κ β} [DecidableEq κ] (l : List (κ × β)) (k : κ) (g : κ × β → κ × β)
    (h1 : ∀ x, x.1 = k → (g x).1 = k) (h2 : ∀ x, x.1 ≠ k → g x = x) :
    (l.map g).filter (fun p => p.1 ≠ k) = l.filter (fun p => p.1 ≠ k) := by
  induction l with
  | nil => rfl
  | cons a r ih =>
    by_cases h : a.1 = k
    · have := h1 a h
      simp only [List.map_cons, List.filter_cons, ih]
      simp [h, this]
    · have := h2 a h
      simp only [List.map_cons, List.filter_cons, ih, this]

/-- `List.filter_cons_of_pos` for a threshold test, in the form `rw` can use without being told the predicate -/
theorem filter_le_cons_pos {α} (g : α → Nat) (k : Nat) (a : α) (l : List α) (h : g a ≤ k) :
    (a :: l).filter (fun x => decide (g x ≤ k)) = a :: l.filter (fun x => decide (g x ≤ k)) :=
  List.filter_cons_of_pos (decide_eq_true h)

theorem filter_le_cons_neg {α} (g : α → Nat) (k : Nat) (a : α) (l : List α) (h : ¬ g a ≤ k) :
    (a :: l).filter (fun x => decide (g x ≤ k)) = l.filter (fun x => decide (g x ≤ k)) :=
  List.filter_cons_of_neg (by simpa using h)

theorem count_eq_length_iff_all (l : List Bool) : l.count true = l.length ↔ l.all id = true := by
  rw [List.count_eq_length, List.all_eq_true]
  exact ⟨fun h b hb => (h b hb).symm, fun h b hb => (h b hb).symm⟩

theorem count_pos_iff_any (l : List Bool) : 0 < l.count true ↔ l.any id = true := by
  rw [List.count_pos_iff, List.any_eq_true]
  exact ⟨fun h => ⟨true, h, rfl⟩, fun ⟨x, hx, e⟩ => (show x = true from e) ▸ hx⟩

theorem filter_tagged_self {σ α} [DecidableEq σ] (s : σ) (bs : List α) :
    (bs.map (fun b => (s, b))).filter (fun d => decide (d.1 = s)) = bs.map (fun b => (s, b)) :=
  List.filter_eq_self.mpr fun d hd => by obtain ⟨b, _, rfl⟩ := List.mem_map.mp hd; exact decide_eq_true rfl

theorem filter_tagged_other {σ α} [DecidableEq σ] (s' s : σ) (h : s' ≠ s) (bs : List α) :
    (bs.map (fun b => (s', b))).filter (fun d => decide (d.1 = s)) = [] :=
  List.filter_eq_nil_iff.mpr fun d hd => by obtain ⟨b, _, rfl⟩ := List.mem_map.mp hd; simpa using h

end Muscle
