/-!
# Bytes, little-endian words, reader combinators

`Bytes := List UInt8`.  Readers are in "value and rest" style:
`rd32 : Bytes → Option (Nat × Bytes)`; every reader combinator comes with a
round-trip lemma against its writer, stated in simp-normal form (the hex and token conversions of the driver, at the end, have none).
Core Lean only (no Mathlib) so that the driver links as a `lean_exe`.
-/

namespace Muscle

abbrev Bytes := List UInt8

/-- little-endian encoding of `n` in `k` bytes (value taken modulo `256^k`) -/
def leN : Nat → Nat → Bytes
  | 0, _ => []
  | k+1, n => UInt8.ofNat (n % 256) :: leN k (n / 256)

/-- little-endian value of a byte list -/
def leVal : Bytes → Nat
  | [] => 0
  | b :: r => b.toNat + 256 * leVal r

@[simp] theorem leN_length (k n : Nat) : (leN k n).length = k := by
  induction k generalizing n with
  | zero => rfl
  | succ k ih => simp [leN, ih]

theorem leVal_leN (k n : Nat) (h : n < 256 ^ k) : leVal (leN k n) = n := by
  induction k generalizing n with
  | zero => simp [leN, leVal]; simp at h; omega
  | succ k ih =>
    have h2 : n / 256 < 256 ^ k := by
      rw [Nat.pow_succ] at h
      exact Nat.div_lt_of_lt_mul (by rw [Nat.mul_comm]; exact h)
    simp [leN, leVal, ih _ h2, UInt8.toNat_ofNat']
    omega

theorem leVal_lt (b : Bytes) : leVal b < 256 ^ b.length := by
  induction b with
  | nil => simp [leVal]
  | cons a r ih =>
    have := a.toNat_lt
    simp only [leVal, List.length_cons, Nat.pow_succ]
    omega

theorem leN_leVal (b : Bytes) : leN b.length (leVal b) = b := by
  induction b with
  | nil => rfl
  | cons a r ih =>
    have ha := a.toNat_lt
    simp only [List.length_cons, leN, leVal]
    have h1 : (a.toNat + 256 * leVal r) % 256 = a.toNat := by omega
    have h2 : (a.toNat + 256 * leVal r) / 256 = leVal r := by omega
    rw [h1, h2, ih]
    simp

def le16 (n : Nat) : Bytes := leN 2 n
def le32 (n : Nat) : Bytes := leN 4 n
def le64 (n : Nat) : Bytes := leN 8 n

@[simp] theorem le32_length (n : Nat) : (le32 n).length = 4 := by simp [le32]

/-- split off exactly `n` bytes, or fail -/
def takeN (n : Nat) (b : Bytes) : Option (Bytes × Bytes) :=
  if n ≤ b.length then some (b.take n, b.drop n) else none

@[simp] theorem takeN_append (a r : Bytes) : takeN a.length (a ++ r) = some (a, r) := by
  simp [takeN]

theorem takeN_append' (a r : Bytes) (n : Nat) (h : n = a.length) : takeN n (a ++ r) = some (a, r) := by
  subst h; simp

theorem takeN_some {n : Nat} {b x r : Bytes} (h : takeN n b = some (x, r)) :
    b = x ++ r ∧ x.length = n := by
  unfold takeN at h
  split at h
  · cases h
    constructor
    · simp
    · simp; omega
  · cases h

/-- read a little-endian `k`-byte word -/
def rdN (k : Nat) (b : Bytes) : Option (Nat × Bytes) :=
  match takeN k b with
  | some (x, r) => some (leVal x, r)
  | none => none

def rd32 (b : Bytes) : Option (Nat × Bytes) := rdN 4 b

theorem rdN_leN (k n : Nat) (r : Bytes) (h : n < 256 ^ k) : rdN k (leN k n ++ r) = some (n, r) := by
  have := takeN_append' (leN k n) r k (by simp)
  simp [rdN, this, leVal_leN k n h]

@[simp] theorem rd32_le32 (n : Nat) (r : Bytes) (h : n < 4294967296) : rd32 (le32 n ++ r) = some (n, r) := by
  exact rdN_leN 4 n r (by simpa using h)

theorem rd32_some {b r : Bytes} {n : Nat} (h : rd32 b = some (n, r)) :
    b = le32 n ++ r ∧ n < 4294967296 := by
  unfold rd32 rdN at h
  split at h
  · rename_i x r' ht
    cases h
    obtain ⟨hb, hl⟩ := takeN_some ht
    constructor
    · rw [hb, le32, ← hl, leN_leVal]
    · have := leVal_lt x
      rw [hl] at this
      simpa using this
  · cases h

theorem rd32_length {b r : Bytes} {n : Nat} (h : rd32 b = some (n, r)) : b.length = r.length + 4 := by
  obtain ⟨hb, _⟩ := rd32_some h
  rw [hb]; simp; omega

theorem rd32_append {x x1 : Bytes} {v : Nat} (t : Bytes) (h : rd32 x = some (v, x1)) :
    rd32 (x ++ t) = some (v, x1 ++ t) := by
  obtain ⟨rfl, hv⟩ := rd32_some h
  rw [List.append_assoc, rd32_le32 _ _ hv]

theorem takeN_length {n : Nat} {b x r : Bytes} (h : takeN n b = some (x, r)) :
    b.length = r.length + n ∧ x.length = n := by
  obtain ⟨hb, hl⟩ := takeN_some h
  rw [hb, List.length_append, hl]
  exact ⟨Nat.add_comm _ _, rfl⟩

theorem takeN_eq_none {n : Nat} {b : Bytes} : takeN n b = none ↔ b.length < n := by
  unfold takeN
  by_cases h : n ≤ b.length
  · rw [if_pos h]; simp; omega
  · rw [if_neg h]; simp; omega

theorem rd32_eq_none {b : Bytes} : rd32 b = none ↔ b.length < 4 := by
  rw [← takeN_eq_none]
  unfold rd32 rdN
  cases takeN 4 b <;> simp

/-! ## hex -/

def hexDigit (n : Nat) : Char :=
  if n < 10 then Char.ofNat (48 + n) else Char.ofNat (87 + n)

def hexOfBytes (b : Bytes) : String :=
  String.ofList (b.foldr (fun x acc => hexDigit (x.toNat / 16) :: hexDigit (x.toNat % 16) :: acc) [])

def hexVal (c : Char) : Option Nat :=
  if '0' ≤ c ∧ c ≤ '9' then some (c.toNat - 48)
  else if 'a' ≤ c ∧ c ≤ 'f' then some (c.toNat - 87)
  else if 'A' ≤ c ∧ c ≤ 'F' then some (c.toNat - 55)
  else none

def bytesOfHexChars : List Char → Option Bytes
  | [] => some []
  | a :: b :: r => do
      let x ← hexVal a
      let y ← hexVal b
      let t ← bytesOfHexChars r
      pure (UInt8.ofNat (16 * x + y) :: t)
  | [_] => none

/-- op-line token for a byte string: `x` followed by hex digits (so the empty string is `x`) -/
def tokOfBytes (b : Bytes) : String := "x" ++ hexOfBytes b

def bytesOfTok (s : String) : Option Bytes :=
  match s.toList with
  | 'x' :: r => bytesOfHexChars r
  | _ => none

end Muscle
