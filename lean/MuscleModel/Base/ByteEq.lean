/-! Shortcuts: every `beq_iff_eq`, `eq_of_beq`, `beq_eq_false_iff_ne`, `beq_self_eq_true` about bytes needs one of
these two instances, and the search for them is slow (they are found again at every use). -/

instance : LawfulBEq UInt8 := inferInstance
instance : ReflBEq UInt8 := inferInstance
